/-
The hand-model images of the Rust frame header and frame: `hdrOfGen` (the enum maps of C02Hdr, field by field) and `frameOfGen`.
The theorems that relate generated code on frames to the hand model are stated with them (writer, verifier, decoder, encoder;
the parser part has its own copy `C16Gen.frOfGen` of `frameOfGen`). With them: the header of the examples, and the
generated counting ranges with step 1 as `List.range`.
-/
import FlacVerif.Gen.Writer
import FlacVerif.Theorems.C02Hdr
namespace FlacVerif.C08Gen
open FlacVerif.Gen.Writer

theorem countUp_one (a b : Nat) : countUp a b 1 = List.range' a (b - a) := by
  simp [countUp, List.range'_eq_map_range]

theorem countUp_zero_one (b : Nat) : countUp 0 b 1 = List.range b := by
  rw [countUp_one, Nat.sub_zero, List.range_eq_range']

/-- The hand-model image of a Rust frame header (enum maps of C02Hdr; the sample-size code is `into_tag`). -/
def hdrOfGen (g : Gen.Writer.FrameHeader) : FrameHeader :=
  { isVariable := g.variable_block_size
    blockSizeSpec := C02Hdr.bsOfGen g.block_size_spec
    assignment := C02Hdr.caOfGen g.channel_assignment
    sampleSizeTag := Gen.Headers.SampleSizeSpec.into_tag g.sample_size_spec
    sampleRateSpec := C02Hdr.srOfGen g.sample_rate_spec
    frameNumber := g.frame_number
    startSample := g.start_sample_number }

/-- The Rust-side value of the frame header of the C08 examples (fixed blocking, frame 300, 8-sample block coded
in an extra byte, left/side stereo, 16 bit, 44.1 kHz). -/
def exHeader : Gen.Writer.FrameHeader := ⟨false, .ExtraByte 7, .LeftSide, .B16, .R44_1kHz, 300, 0⟩

/-- The hand-model image of a Rust frame (its precomputed bitstream, if any, is not part of the model value). -/
def frameOfGen (g : Gen.Writer.Frame) : Frame := ⟨hdrOfGen g.header, g.subframes⟩

end FlacVerif.C08Gen
