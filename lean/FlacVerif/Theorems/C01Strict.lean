/-
C01 / C02, end to end — what the functional encoder (`Model/Encode.lean`) emits is accepted by the
independent strict RFC 9639 decoder (`Model/Rfc.lean`) and decodes to exactly the input, for every
configuration, every input block and EVERY oracle log (the float-derived quantised LPC parameters and
entropy estimates) whose quantised parameter sets satisfy the invariants of the integer tail of
`quantize_parameters` (`OEvent.Ok`).  There is NO hypothesis on the LPC residual: `compute_error`
reports whether every error value is a FLAC residual, and `estimated_qlpc` drops the candidate otherwise
(`C01_computeError`: with flag `true` the stored values are the exact residual).  `C01_flag_needed` is the
negative control: on its witness the flag is `false`, and encoding the stored (wrapped) values regardless
— what `estimated_qlpc` did before the commit "fix: drop an LPC candidate whose prediction error is not a valid
FLAC residual" of the repository — yields a sub-frame the strict decoder rejects.
-/
import FlacVerif.Lemmas.ExampleInputs
import FlacVerif.Lemmas.StrictStream
import FlacVerif.Model.RepoParser
namespace FlacVerif
open Strict

/-- **C01/C02, residual.** `Residual::write` of a well-formed residual that satisfies the extra conditions
of RFC 9639 (`Strict.Residual.Strict`: `(block size >> partition order)` is LARGER than the predictor order,
section 9.2.7 — `Residual.WF` allows equality —; and, section 9.2.7.3, for every coded position
`warmup ≤ t < blockSize` the folded value `q·2^p + rem` is below `2^32` and the decoded value is not
`-2^31`) is accepted by the strict reader, which consumes exactly these bits and returns the partition
order, the Rice parameters and the decoded signal after the warm-up. -/
theorem C01_residual_strict (r : Residual) (n w : Nat) (hwf : r.WF) (hn : r.blockSize = n) (hw : r.warmup = w)
    (hs : Strict.Residual.Strict r) (k : Bits) :
    Rfc.readResidual n w (r.bits ++ k) = .ok (⟨r.order, r.params, r.signal.drop w⟩, k) :=
  hn ▸ hw ▸ readResidual_bits r hwf hs k

/-- **C01/C02, residual, encoder side.** For prediction errors strictly inside `(-2^31, 2^31)` and any
choice `(o, ps)` of the search space whose partition length `n >> o` is larger than the predictor order
`w`, the component `encode_residual_with_prc_parameter` builds is well-formed, accepted, and decodes to
exactly the errors after the warm-up. -/
theorem C01_residual_ofErrors (errors : List Int) (w o : Nat) (ps : List Nat) (n : Nat)
    (hn : errors.length = n) (hpos : 0 < n) (ho : o ≤ 15) (hps : ps.length = 2 ^ o) (hdvd : 2 ^ o ∣ n)
    (hw : w < n >>> o) (hp : ∀ p ∈ ps, p ≤ 14)
    (herr : ∀ e ∈ errors, -(2 ^ 31 : Int) < e ∧ e < (2 ^ 31 : Int)) (k : Bits) :
    (Residual.ofErrors errors w o ps).WF ∧
    Rfc.readResidual n w ((Residual.ofErrors errors w o ps).bits ++ k) = .ok (⟨o, ps, errors.drop w⟩, k) :=
  hn ▸ ⟨ofErrors_wf errors w o ps (hn ▸ hpos) ho hps (hn ▸ hdvd) (by subst hn; omega) hp,
    readResidual_ofErrors errors w o ps ho hps (hn ▸ hdvd) (hn ▸ hw) hp herr k⟩

/-- The search only considers partition orders with `n >> order ≥ max(MIN_PARTITION_SIZE, warm-up)`,
`MIN_PARTITION_SIZE = 64` (and fails on `i32::MIN`).  (`hn` is not used by the proof.) -/
theorem C01_search_partition (errors : List Int) (warm maxP : Nat) (prc : PrcParameter)
    (hfit : ∀ e ∈ errors, fitsI32 e = true) (hn : max 64 warm ≤ errors.length) (hlen : errors.length < 2 ^ 16)
    (hmax : maxP ≤ 14) (h : search errors warm maxP = some prc) :
    (∀ e ∈ errors, -(2 ^ 31 : Int) < e ∧ e < (2 ^ 31 : Int)) ∧ prc.order ≤ 15 ∧
    prc.ps.length = 2 ^ prc.order ∧ 2 ^ prc.order ∣ errors.length ∧
    max 64 warm ≤ errors.length >>> prc.order ∧ ∀ p ∈ prc.ps, p ≤ 14 :=
  ⟨search_range errors warm maxP prc hfit h, search_space errors warm maxP prc hfit hlen hmax h⟩

/-- … in particular after a successful parameter search with a predictor order below 64 (the encoder's
fixed orders are at most 4, its LPC orders at most 24): every partition then holds at least 64 values, more
than the predictor order. For `warm ≥ 64` the search can return `n >> order = warm` (e.g. `n = warm = 64`,
partition order 0), which the strict reader rejects; the encoder never calls it that way.  (`hn` is not used by the
proof: a successful search implies it.) -/
theorem C01_residual_search (errors : List Int) (warm maxP : Nat) (prc : PrcParameter)
    (hfit : ∀ e ∈ errors, fitsI32 e = true) (hn : max 64 warm ≤ errors.length) (hlen : errors.length < 2 ^ 16)
    (hmax : maxP ≤ 14) (hw64 : warm < 64) (h : search errors warm maxP = some prc) (k : Bits) :
    (Residual.ofErrors errors warm prc.order prc.ps).WF ∧
    Rfc.readResidual errors.length warm ((Residual.ofErrors errors warm prc.order prc.ps).bits ++ k) =
      .ok (⟨prc.order, prc.ps, errors.drop warm⟩, k) :=
  ⟨residual_wf_of_search errors warm maxP prc hfit hlen hmax h,
    readResidual_of_search errors warm maxP prc hfit hlen hmax hw64 h k⟩

/-- The encoder's wrapping `i32` differences never wrap for samples of at most 25 bits and order at
most 4, stay strictly inside `(-2^31, 2^31)`, and from position `k` on are the RFC's fixed-predictor
residual. No oracle hypothesis. -/
theorem C01_diffs_fixed (bps : Nat) (hb : 1 ≤ bps ∧ bps ≤ 25) (xs : List Int)
    (hx : ∀ x ∈ xs, SubFrame.inRange bps x = true) (k : Nat) (hk : k ≤ 4) (hl : k ≤ xs.length) :
    (diffs k xs).length = xs.length ∧
    (∀ e ∈ diffs k xs, -(2 ^ 31 : Int) < e ∧ e < (2 ^ 31 : Int)) ∧
    (diffs k xs).drop k = fixedResidual k xs :=
  diffs_fixed bps hb xs hx k hk hl

/-- `compute_error`, for ANY coefficients, shift and signal: whenever it returns the flag `true` (the
`i32` path panics on overflow — which `C07_computeError32_total` excludes —, the `i64` path reports values
outside `-(2^31-1) ..= 2^31-1` with the flag `false`), all entries are `i32`s and the entries after the
warm-up are the EXACT LPC residual. No oracle hypothesis. -/
theorem C01_computeError (coefs : List Int) (shift : Nat) (xs errors : List Int)
    (h : computeError coefs shift xs = some (errors, true)) :
    errors.length = xs.length ∧ (∀ e ∈ errors, fitsI32 e = true) ∧
    errors.drop coefs.length = lpcResidual coefs shift xs :=
  computeError_spec coefs shift xs errors h

/-- The flag of the `i64` path, spelled out: it is `true` iff every value of the exact LPC residual lies in
`-(2^31-1) ..= 2^31-1`. -/
theorem C01_fitsResidual64 (coefs : List Int) (shift : Nat) (xs : List Int) :
    fitsResidual64 coefs shift xs = true ↔ ∀ e ∈ lpcResidual coefs shift xs, e.natAbs ≤ 2 ^ 31 - 1 :=
  fitsResidual64_iff_residual coefs shift xs

/-- **C01/C02, sub-frame (strongest form).** For every sub-frame configuration with `maxP ≤ 14`,
every block of `1 ≤ n < 2^16` samples of width `1 ≤ bps ≤ 25`, and EVERY oracle log whose quantised
LPC parameter sets satisfy the invariants of the integer tail of `quantize_parameters` (`OEvent.Ok`)
— no hypothesis on the residual —: if `encode_subframe` returns a sub-frame `s` (which it does whenever
the log has the right shape, `C07_subframe_total`), then the strict RFC 9639 reader accepts `s.bits`
followed by anything, consumes exactly `s.bits`, and reconstructs exactly the input; moreover `s` is
well-formed. -/
theorem C01_subframe_strict' (cfg : SubCfg) (xs : List Int) (bps : Nat) (log log' : List OEvent) (s : SubFrame)
    (hn : 1 ≤ xs.length) (hlen : xs.length < 2 ^ 16) (hb : 1 ≤ bps ∧ bps ≤ 25)
    (hx : ∀ x ∈ xs, SubFrame.inRange bps x = true) (hmax : cfg.maxP ≤ 14)
    (hlog : ∀ e ∈ log, e.Ok)
    (h : encodeSubframe cfg xs bps log = some (s, log')) (k : Bits) :
    ∃ rep, Rfc.readSubframe xs.length bps (s.bits ++ k) = .ok (rep, k) ∧ rep.samples = xs ∧
      rep.bitLen = s.bits.length ∧ s.WF :=
  have ⟨hwf, hrd⟩ := (encodeSubframe_outcome cfg xs bps log log' s hlen hb hx hmax hlog h).strict hn
  (hrd.read k).imp fun _ hr => ⟨hr.1, hr.2.1, hr.2.2, hwf⟩

/-- **C01/C02, sub-frame**, with the hypotheses as they hold in the encoder (`bps ≥ 4`,
`fixedMaxOrder ≤ 4`; neither is needed by the proof). -/
theorem C01_subframe_strict (cfg : SubCfg) (xs : List Int) (bps : Nat) (log log' : List OEvent) (s : SubFrame)
    (hn : 1 ≤ xs.length) (hlen : xs.length < 2 ^ 16) (hb : 4 ≤ bps ∧ bps ≤ 25)
    (hx : ∀ x ∈ xs, SubFrame.inRange bps x = true)
    (hcfg : cfg.fixedMaxOrder ≤ 4 ∧ cfg.maxP ≤ 14)
    (hlog : ∀ e ∈ log, e.Ok)
    (h : encodeSubframe cfg xs bps log = some (s, log')) (k : Bits) :
    ∃ rep, Rfc.readSubframe xs.length bps (s.bits ++ k) = .ok (rep, k) ∧ rep.samples = xs ∧
      rep.bitLen = s.bits.length ∧ s.WF :=
  C01_subframe_strict' cfg xs bps log log' s hn hlen ⟨by omega, hb.2⟩ hx hcfg.2 hlog h k

/-- Without LPC (or whenever the log holds no `qlpc` event) no oracle hypothesis is left at all (`OEvent.Ok`
is trivial for `est` events). -/
theorem C01_subframe_strict_nolpc (cfg : SubCfg) (xs : List Int) (bps : Nat) (log log' : List OEvent) (s : SubFrame)
    (hn : 1 ≤ xs.length) (hlen : xs.length < 2 ^ 16) (hb : 1 ≤ bps ∧ bps ≤ 25)
    (hx : ∀ x ∈ xs, SubFrame.inRange bps x = true) (hmax : cfg.maxP ≤ 14)
    (hlog : ∀ e ∈ log, ∃ o b, e = .est o b)
    (h : encodeSubframe cfg xs bps log = some (s, log')) (k : Bits) :
    ∃ rep, Rfc.readSubframe xs.length bps (s.bits ++ k) = .ok (rep, k) ∧ rep.samples = xs ∧
      rep.bitLen = s.bits.length ∧ s.WF := by
  refine C01_subframe_strict' cfg xs bps log log' s hn hlen hb hx hmax ?_ h k
  intro e he
  obtain ⟨o, b, rfl⟩ := hlog e he
  trivial

/-! ### frame level

`Rfc.readFrame` is used exactly as written in `Model/Rfc.lean` (its `for … in [0:nch]` loop included):
`Strict.readFrame_eq` (by `rfl`) cuts it into pieces and `Strict.frameLoop_eq` identifies the loop with
the structurally recursive `Strict.readSubframes`. -/

/-- **C01/C02, frame.** For every sub-frame and stereo configuration (`maxP ≤ 14`), every block of
1 to 8 channels of equal length `1 ≤ n < 2^16` with samples of width `1 ≤ bps ≤ 24` (a side channel is
one bit wider), every sample rate, every frame number below `2^31` and EVERY oracle log satisfying
`OEvent.Ok`: if `encode_frame` returns a frame `f`, then `Frame::write` succeeds, and the
strict RFC 9639 frame reader — given any STREAMINFO with the same rate, channel count and sample
width, the expected frame number, and the frame's bytes followed by arbitrary further bytes — accepts
(sync code, code tables, canonical UTF-8 number, CRC-8, every sub-frame, zero padding, CRC-16, sample
ranges), consumes exactly the frame, and returns exactly the input channels. -/
theorem C01_frame_strict (cfg : SubCfg) (st : StereoCfg) (chans : List (List Int)) (bps rate number n : Nat)
    (log log' : List OEvent) (f : Frame)
    (hch : 1 ≤ chans.length ∧ chans.length ≤ 8) (hlen : ∀ c ∈ chans, c.length = n) (hn : 1 ≤ n ∧ n < 2 ^ 16)
    (hb : 1 ≤ bps ∧ bps ≤ 24) (hx : ∀ c ∈ chans, ∀ x ∈ c, SubFrame.inRange bps x = true)
    (hnum : number < 2 ^ 31) (hmax : cfg.maxP ≤ 14)
    (hlog : ∀ e ∈ log, e.Ok)
    (h : encodeFrame cfg st chans bps rate number log = some (f, log'))
    (info : Rfc.Info) (hinfo : info.rate = rate ∧ info.channels = chans.length ∧ info.bps = bps) (more : List Nat) :
    ∃ fb rep, f.bits rfcCrc8 rfcCrc16 = some fb ∧
      Rfc.readFrame info number (packBytes fb ++ more) (fb ++ bytesToBits more) = .ok (rep, more, bytesToBits more) ∧
      rep.channels = chans ∧ rep.blockSize = n ∧ rep.number = number ∧ rep.byteLen * 8 = fb.length := by
  obtain ⟨_, _, fo⟩ := encodeFrame_outcome cfg st chans bps rate number n log log' f hch hlen hn hb hx hmax hlog h
  obtain ⟨fb, h1, _, h2⟩ := fo.strict hnum info hinfo
  obtain ⟨rep, h3⟩ := h2.read more
  exact ⟨fb, rep, h1, h3⟩

/-- Without LPC (no `qlpc` event in the log) no oracle hypothesis is left at all. -/
theorem C01_frame_strict_nolpc (cfg : SubCfg) (st : StereoCfg) (chans : List (List Int)) (bps rate number n : Nat)
    (log log' : List OEvent) (f : Frame)
    (hch : 1 ≤ chans.length ∧ chans.length ≤ 8) (hlen : ∀ c ∈ chans, c.length = n) (hn : 1 ≤ n ∧ n < 2 ^ 16)
    (hb : 1 ≤ bps ∧ bps ≤ 24) (hx : ∀ c ∈ chans, ∀ x ∈ c, SubFrame.inRange bps x = true)
    (hnum : number < 2 ^ 31) (hmax : cfg.maxP ≤ 14)
    (hlog : ∀ e ∈ log, ∃ o b, e = .est o b)
    (h : encodeFrame cfg st chans bps rate number log = some (f, log'))
    (info : Rfc.Info) (hinfo : info.rate = rate ∧ info.channels = chans.length ∧ info.bps = bps) (more : List Nat) :
    ∃ fb rep, f.bits rfcCrc8 rfcCrc16 = some fb ∧
      Rfc.readFrame info number (packBytes fb ++ more) (fb ++ bytesToBits more) = .ok (rep, more, bytesToBits more) ∧
      rep.channels = chans ∧ rep.blockSize = n ∧ rep.number = number ∧ rep.byteLen * 8 = fb.length :=
  C01_frame_strict cfg st chans bps rate number n log log' f hch hlen hn hb hx hnum hmax
    (fun e he => by obtain ⟨o, b, rfl⟩ := hlog e he; trivial) h info hinfo more

/-- The strict decoder of the coded frame number inverts the encoder (canonical form enforced), whatever follows.
Stated for the frame numbers `readFrame` accepts (`v < 2^31`); the bound is not used:
`Strict.decodeUtf8like_encodeUtf8like` is the statement without it. -/
theorem C02_utf8_strict (v : Nat) (hv : v < 2 ^ 31) (bs rest : List Nat) (he : encodeUtf8like v = some bs) :
    decodeUtf8like (bs ++ rest) = some (v, bs.length) :=
  decodeUtf8like_encodeUtf8like v bs rest he

/-! ### stream level

`encodeStream` (`Model/EncodeStream.lean`) is the functional view of `encode_with_fixed_block_size`.
The stream theorems speak of `Rfc.analyzeRec` (`Model/RfcRec.lean`), the structurally recursive twin of
`Rfc.analyze`: the same text with the two `while` loops (metadata blocks, frames) replaced by
`skipMetadata` / `readFrames` over the same fuel. No theorem here relates the two;
`Validation/AnalyzeRecVsAnalyze.lean` runs both on five emitted streams with every truncation, three
single-byte corruptions of every byte and trailing garbage, and counts the disagreements. -/

/-- **C01/C02, stream.** For every configuration (`maxP ≤ 14`), block size `16 ≤ bs < 2^16`, 1 to 8
channels of equal length `total < 2^36` (with at most `2^31` blocks), sample width `4 ≤ bps ≤ 24`,
rate `1 ≤ rate < 2^20`, every MD5 function producing 16 bytes, and EVERY oracle log satisfying
`OEvent.Ok`: if `encode_with_fixed_block_size` returns a stream, then `Stream::write`
succeeds and the strict RFC 9639 stream analyser accepts its bytes — marker, STREAMINFO (block-size and
frame-size bounds, rate, width), every frame in sequence, the fixed-block-size discipline, the frame-size
bounds, the total sample count and the MD5 signature — and returns exactly the input audio, with
STREAMINFO stating the true format, sample count and signature. -/
theorem C01_stream_strict (md5 : List Nat → List Nat) (cfg : SubCfg) (st : StereoCfg) (bs : Nat)
    (chans : List (List Int)) (bps rate : Nat) (log log' : List OEvent) (s : Stream) (total : Nat)
    (hmd5 : ∀ x, (md5 x).length = 16 ∧ ∀ b ∈ md5 x, b < 256)
    (hch : 1 ≤ chans.length ∧ chans.length ≤ 8) (hlen : ∀ c ∈ chans, c.length = total) (htot : total < 2 ^ 36)
    (hbs : 16 ≤ bs ∧ bs < 2 ^ 16) (hb : 4 ≤ bps ∧ bps ≤ 24) (hrate : 1 ≤ rate ∧ rate < 2 ^ 20)
    (hx : ∀ c ∈ chans, ∀ x ∈ c, SubFrame.inRange bps x = true) (hmax : cfg.maxP ≤ 14)
    (hnb : (total + bs - 1) / bs ≤ 2 ^ 31)
    (hlog : ∀ e ∈ log, e.Ok)
    (h : encodeStream md5 cfg st bs chans bps rate log = some (s, log')) :
    ∃ sb rep, s.bits rfcCrc8 rfcCrc16 = some sb ∧ Rfc.analyzeRec md5 (packBytes sb) = .ok rep ∧
      rep.audio = chans ∧ rep.info.rate = rate ∧ rep.info.channels = chans.length ∧ rep.info.bps = bps ∧
      rep.info.total = total ∧ rep.info.md5 = md5 (md5Input bps (Rfc.interleave chans)) ∧
      rep.info.minBlock = bs ∧ rep.info.maxBlock = bs ∧ rep.metadataBlocks = 0 ∧
      rep.frames.length = (total + bs - 1) / bs :=
  stream_strict md5 cfg st bs chans bps rate log log' s total hmd5 hch hlen htot hbs hb hrate hx hmax hnb hlog h

/-- Without LPC (no `qlpc` event in the log) no oracle hypothesis is left at all. -/
theorem C01_stream_strict_nolpc (md5 : List Nat → List Nat) (cfg : SubCfg) (st : StereoCfg) (bs : Nat)
    (chans : List (List Int)) (bps rate : Nat) (log log' : List OEvent) (s : Stream) (total : Nat)
    (hmd5 : ∀ x, (md5 x).length = 16 ∧ ∀ b ∈ md5 x, b < 256)
    (hch : 1 ≤ chans.length ∧ chans.length ≤ 8) (hlen : ∀ c ∈ chans, c.length = total) (htot : total < 2 ^ 36)
    (hbs : 16 ≤ bs ∧ bs < 2 ^ 16) (hb : 4 ≤ bps ∧ bps ≤ 24) (hrate : 1 ≤ rate ∧ rate < 2 ^ 20)
    (hx : ∀ c ∈ chans, ∀ x ∈ c, SubFrame.inRange bps x = true) (hmax : cfg.maxP ≤ 14)
    (hnb : (total + bs - 1) / bs ≤ 2 ^ 31)
    (hlog : ∀ e ∈ log, ∃ o b, e = .est o b)
    (h : encodeStream md5 cfg st bs chans bps rate log = some (s, log')) :
    ∃ sb rep, s.bits rfcCrc8 rfcCrc16 = some sb ∧ Rfc.analyzeRec md5 (packBytes sb) = .ok rep ∧
      rep.audio = chans ∧ rep.info.rate = rate ∧ rep.info.channels = chans.length ∧ rep.info.bps = bps ∧
      rep.info.total = total ∧ rep.info.md5 = md5 (md5Input bps (Rfc.interleave chans)) ∧
      rep.info.minBlock = bs ∧ rep.info.maxBlock = bs ∧ rep.metadataBlocks = 0 ∧
      rep.frames.length = (total + bs - 1) / bs :=
  stream_strict md5 cfg st bs chans bps rate log log' s total hmd5 hch hlen htot hbs hb hrate hx hmax hnb
    (fun e he => by obtain ⟨o, b, rfl⟩ := hlog e he; trivial) h

namespace C01StrictEx

/-- A residual of block size 8 in two partitions of 4 with predictor order 4: `Residual.WF` holds
(`4 ≤ 8 >> 1`), RFC 9639 section 9.2.7 forbids it (`8 >> 1` is not larger than 4). -/
def eqPart : Residual := Residual.ofErrors [0, 0, 0, 0, 1, -1, 2, -2] 4 1 [0, 2]

set_option maxRecDepth 100000 in
/-- **Negative control for the partition rule**: a residual whose first partition is exactly as long as the
predictor order is REJECTED by the strict reader, as a residual and inside a well-formed fixed sub-frame —
while the repository's own (lenient) decoder reconstructs the samples —; with predictor order 3 the same
partitioning is accepted. -/
example : eqPart.WF ∧ (SubFrame.fixed [5, 6, 7, 8] eqPart 16).WF ∧
    (match Rfc.readResidual 8 4 eqPart.bits with | .error e => e | .ok _ => "ok")
      = "residual: first partition not longer than the predictor order" ∧
    (match Rfc.readSubframe 8 16 (SubFrame.fixed [5, 6, 7, 8] eqPart 16).bits with | .error e => e | .ok _ => "ok")
      = "residual: first partition not longer than the predictor order" ∧
    Repo.decodeSubframe false (SubFrame.fixed [5, 6, 7, 8] eqPart 16) = .ok [5, 6, 7, 8, 10, 13, 19, 28] ∧
    (Rfc.readResidual 8 3 (Residual.ofErrors [0, 0, 0, 1, 1, -1, 2, -2] 3 1 [0, 2]).bits).toOption.map (·.1.values)
      = some [1, 1, -1, 2, -2] := by
  decide +kernel

/-- A constant and a verbatim block (too short for prediction), evaluated by the kernel. -/
example : ((encodeSubframe ⟨true, true, false, 4, true, 14⟩ [5, 5, 5, 5] 16 []).map fun r =>
    (Rfc.readSubframe 4 16 r.1.bits).toOption.map (·.1.samples)) = some (some [5, 5, 5, 5]) := by decide

example : ((encodeSubframe ⟨true, true, false, 4, true, 14⟩ [1, -2, 3, 4] 16 []).map fun r =>
    (Rfc.readSubframe 4 16 r.1.bits).toOption.map (·.1.samples)) = some (some [1, -2, 3, 4]) := by decide

set_option maxRecDepth 100000 in
/-- The fixed-predictor path with entropy estimates from the log (`ApproxEnt`): order 2 is chosen,
and the strict decoder returns the input. -/
example : ((encodeSubframe ⟨true, true, false, 4, false, 14⟩ smooth64 16
      [.est 0 900, .est 1 700, .est 2 300, .est 3 400, .est 4 500]).map fun r =>
    ((match r.1 with | .fixed w _ _ => w.length | _ => 99),
     (Rfc.readSubframe 64 16 r.1.bits).toOption.map (·.1.samples))) = some (2, some smooth64) := by decide +kernel

set_option maxRecDepth 100000 in
/-- The LPC path: the oracle supplies a quantised parameter set, an LPC sub-frame is emitted and the
strict decoder returns the input. -/
example : ((encodeSubframe ⟨true, false, true, 4, true, 14⟩ smooth64 16 [.qlpc [2, -1] 0 3]).map fun r =>
    ((match r.1 with | .lpc _ _ _ _ _ _ => true | _ => false),
     (Rfc.readSubframe 64 16 r.1.bits).toOption.map (·.1.samples))) = some (true, some smooth64) := by decide +kernel

set_option maxRecDepth 100000 in
/-- … and the oracle hypothesis of `C01_subframe_strict` holds for that log, so the theorem applies to it. -/
example : ∃ s log' rep, encodeSubframe ⟨true, false, true, 4, true, 14⟩ smooth64 16 [.qlpc [2, -1] 0 3] = some (s, log') ∧
    Rfc.readSubframe 64 16 (s.bits ++ [true, false]) = .ok (rep, [true, false]) ∧ rep.samples = smooth64 := by
  cases h : encodeSubframe ⟨true, false, true, 4, true, 14⟩ smooth64 16 [.qlpc [2, -1] 0 3] with
  | none => exact absurd h (by decide +kernel)
  | some p =>
    obtain ⟨s, log'⟩ := p
    obtain ⟨rep, h1, h2, _⟩ := C01_subframe_strict _ smooth64 16 [.qlpc [2, -1] 0 3] log' s (by decide) (by decide)
      (by decide) (by decide +kernel) (by decide) (by decide) h [true, false]
    exact ⟨s, log', rep, rfl, h1, h2⟩

/-- 64 samples alternating between `2^18` and `2^19` (24-bit audio). -/
def wrapBlock : List Int := (List.range 64).map fun (t : Nat) => (2 ^ 18 : Int) * ((t : Int) % 2 + 1)

/-- **The flag of `compute_error` is needed (negative control).** For the
parameter set `coefs = [-16384, 1]`, `shift = 0`, `precision = 15` (which satisfies `OEvent.Ok`) and
`wrapBlock`, `compute_error` takes the `i64` path, the exact residual is `2^33, 2^32, …`, its wrap to 32
bits is all zeros.
* The code with the flag: it is `false`, the LPC candidate is dropped, `encode_subframe` emits the verbatim
  sub-frame, and the strict decoder returns the input.
* A variant without the flag (the repository before its commit "fix: drop an LPC candidate whose prediction
  error is not a valid FLAC residual": the stored, wrapped values are encoded regardless): a 167-bit LPC
  sub-frame (far below the verbatim size, so the one emitted), which the strict decoder REJECTS with "subframe:
  reconstructed sample outside the sample width" (the exact prediction leaves the sample width). A decoder that
  wraps at 32 bits would reconstruct the input.
The real `quantize_parameters` never produces such a set for such a signal; the functional model with an
arbitrary oracle does. -/
theorem C01_flag_needed :
    (∀ x ∈ wrapBlock, SubFrame.inRange 24 x = true) ∧ OEvent.Ok (.qlpc [-16384, 1] 0 15) ∧
    Strict.lpcWide [-16384, 1] wrapBlock ∧ (lpcResidual [-16384, 1] 0 wrapBlock).take 2 = [2 ^ 33, 2 ^ 32] ∧
    -- the fixed code
    (computeError [-16384, 1] 0 wrapBlock).map (fun r => (r.1.take 4, r.2)) = some ([0, 0, 0, 0], false) ∧
    ((encodeSubframe ⟨true, false, true, 4, true, 14⟩ wrapBlock 24 [.qlpc [-16384, 1] 0 15]).map fun r =>
      ((match r.1 with | .verbatim _ _ => true | _ => false), r.2,
       (Rfc.readSubframe 64 24 r.1.bits).toOption.map (·.1.samples))) = some (true, [], some wrapBlock) ∧
    -- the code before the fix: the stored buffer is encoded whatever the flag says
    (((computeError [-16384, 1] 0 wrapBlock).bind fun r => encodeResidual 14 r.1 2).map fun res =>
      let s := SubFrame.lpc (wrapBlock.take 2) [-16384, 1] 0 15 res 24
      (s.count, decide (s.bits.length < verbatimBits 64 24),
       (Rfc.readSubframe 64 24 s.bits).toOption.isNone)) = some (some 167, true, true) := by
  decide +kernel

/-! ### non-vacuity (frame level)

`packBytes` is defined by well-founded recursion, so the kernel cannot evaluate the conclusion directly;
instead all hypotheses of `C01_frame_strict` are discharged on concrete data and the theorem is applied. -/

set_option maxRecDepth 100000 in
/-- Two channels of three samples (verbatim sub-frames, all stereo modes enabled). -/
example : ∃ f log' fb rep,
    encodeFrame ⟨true, true, false, 4, true, 14⟩ ⟨true, true, true⟩ [[1, -2, 3], [4, 5, 6]] 16 44100 5 [] = some (f, log') ∧
    f.bits rfcCrc8 rfcCrc16 = some fb ∧
    Rfc.readFrame ⟨16, 4096, 0, 0, 44100, 2, 16, 0, []⟩ 5 (packBytes fb ++ [9]) (fb ++ bytesToBits [9]) =
      .ok (rep, [9], bytesToBits [9]) ∧ rep.channels = [[1, -2, 3], [4, 5, 6]] := by
  cases h : encodeFrame ⟨true, true, false, 4, true, 14⟩ ⟨true, true, true⟩ [[1, -2, 3], [4, 5, 6]] 16 44100 5 [] with
  | none => exact absurd h (by decide +kernel)
  | some p =>
    obtain ⟨f, log'⟩ := p
    obtain ⟨fb, rep, h1, h2, h3, _⟩ := C01_frame_strict_nolpc _ _ _ 16 44100 5 3 [] log' f (by decide) (by decide)
      (by decide) (by decide) (by decide) (by decide) (by decide) (by intro e he; cases he) h
      ⟨16, 4096, 0, 0, 44100, 2, 16, 0, []⟩ (by decide) [9]
    exact ⟨f, log', fb, rep, rfl, h1, h2, h3⟩

/-- Two correlated 64-sample channels. -/
def stereoL : List Int := (List.range 64).map fun (t : Nat) => ((t : Int) * 7919 % 2001) - 1000 + (t : Int) / 9
def stereoR : List Int := (List.range 64).map fun (t : Nat) => ((t : Int) * 7919 % 2001) - 1000

/-- On these two channels `encode_frame` returns, through the fixed predictors and the stereo selection, a
left/side frame (evaluated once by the kernel; the examples here and in `C01Wrap.lean` start from it). -/
theorem stereoFrame_leftSide :
    (encodeFrame ⟨true, true, false, 4, true, 14⟩ ⟨true, true, true⟩ [stereoL, stereoR] 16 44100 70000 []).map
      (fun r => r.1.header.assignment) = some .leftSide := by
  decide +kernel

set_option maxRecDepth 100000 in
/-- … through the fixed predictors and the stereo selection (the hypotheses of `C01_frame_strict` hold,
`encode_frame` returns). -/
example : ∃ f log' fb rep,
    encodeFrame ⟨true, true, false, 4, true, 14⟩ ⟨true, true, true⟩ [stereoL, stereoR] 16 44100 70000 [] = some (f, log') ∧
    f.bits rfcCrc8 rfcCrc16 = some fb ∧
    Rfc.readFrame ⟨16, 4096, 0, 0, 44100, 2, 16, 0, []⟩ 70000 (packBytes fb ++ []) (fb ++ bytesToBits []) =
      .ok (rep, [], bytesToBits []) ∧ rep.channels = [stereoL, stereoR] := by
  obtain ⟨⟨f, log'⟩, h, _⟩ := Option.map_eq_some_iff.1 stereoFrame_leftSide
  obtain ⟨fb, rep, h1, h2, h3, _⟩ := C01_frame_strict_nolpc _ _ _ 16 44100 70000 64 [] log' f (by decide) (by decide)
    (by decide) (by decide) (by decide +kernel) (by decide) (by decide) (by intro e he; cases he) h
    ⟨16, 4096, 0, 0, 44100, 2, 16, 0, []⟩ (by decide) []
  exact ⟨f, log', fb, rep, h, h1, h2, h3⟩

set_option maxRecDepth 100000 in
/-- Two channels of 40 samples in blocks of 16 (three frames, the last one short): the hypotheses of
`C01_stream_strict` hold and the encoder returns. -/
example : ∃ s log' sb rep,
    encodeStream toyMd5 ⟨true, true, false, 4, true, 14⟩ ⟨true, true, true⟩ 16 [streamL, streamR] 16 44100 [] = some (s, log') ∧
    s.bits rfcCrc8 rfcCrc16 = some sb ∧ Rfc.analyzeRec toyMd5 (packBytes sb) = .ok rep ∧
    rep.audio = [streamL, streamR] ∧ rep.info.total = 40 ∧ rep.frames.length = 3 := by
  cases h : encodeStream toyMd5 ⟨true, true, false, 4, true, 14⟩ ⟨true, true, true⟩ 16 [streamL, streamR] 16 44100 [] with
  | none => exact absurd h (by decide +kernel)
  | some p =>
    obtain ⟨s, log'⟩ := p
    obtain ⟨sb, rep, h1, h2, h3, _, _, _, h7, _, _, _, _, h12⟩ := C01_stream_strict_nolpc toyMd5 _ _ 16
      [streamL, streamR] 16 44100 [] log' s 40
      (fun x => ⟨by simp [toyMd5], fun b hb => by
        rw [toyMd5] at hb
        rw [List.eq_of_mem_replicate hb]
        exact Nat.mod_lt _ (by decide)⟩)
      (by decide) (by decide) (by decide) (by decide) (by decide) (by decide) (by decide +kernel) (by decide) (by decide)
      (by intro e he; cases he) h
    exact ⟨s, log', sb, rep, rfl, h1, h2, h3, h7, h12⟩

end C01StrictEx

end FlacVerif
