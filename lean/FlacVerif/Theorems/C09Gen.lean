/-
C09Gen — the encoder's decision logic as GENERATED from src/coding.rs (Gen/Coding.lean, translator part `coding`,
tools/translate_coding.py) equals the hand-written model (Model/Encode.lean), on which C09 / C01 / C07 rest.

Sub-frame level: `encode_residual`, `select_order_and_encode_residual` (both selectors), `fixed_lpc`, `estimated_qlpc`,
`encode_subframe` = `encodeResidual`, (the candidate selection inside) `fixedCandidate`, `lpcCandidate`, `encodeSubframe`.
Frame level: `encode_frame_impl` = `encodeChannels` under the header `implHeader`; `try_stereo_coding` = the stereo branch
(`midSide`, `chooseStereo`, `selectChannels`); `encode_frame` = `encodeFrame` as an equation (`encode_frame_eq`: the value returned is
`genFrame` of the model's frame, whose image under `C08Gen.frameOfGen` is that frame again); `encode_fixed_size_frame` on every
input (`encode_fixed_size_frame_eq`).

Every theorem is stated for ALL argument values; where the generated function tracks a panic site of the Rust code
that the hand model does not have (an `assert!`, `usize` overflow, an index, a slice bound, a `heapless::Vec`
capacity, `count_bits` underflow) the hypothesis excludes exactly that point, and a lemma shows that it is one
(`fixed_lpc_panics_wide`, `encode_subframe_panics_empty`) or a comment says so.  (The capacity 24 of the LPC warm-up vector is a
panic site of the hand model too — `maxLpcOrder`, `maxLpcOrder_gen`, `estimated_qlpc_capacity` — so `estimated_qlpc` needs no hypothesis.)  `*_valid`
and the frame-level theorems discharge these hypotheses on the input domain of C09 / C01Strict / C07Total.
-/
import FlacVerif.Lemmas.CodingM
import FlacVerif.Lemmas.GenCfg
import FlacVerif.Lemmas.TotalLpc
import FlacVerif.Lemmas.EncodeFrameShape
import FlacVerif.Lemmas.ScratchVec
import FlacVerif.Lemmas.RiceSearchOpt
import FlacVerif.Theorems.C09
import FlacVerif.Theorems.GenFrame
import FlacVerif.Lemmas.EncoderShape
namespace FlacVerif
namespace C09Gen
open Gen.Coding Total Strict CodingM

theorem req_apply {α : Type} (c : Bool) (rest : M α) (log : List OEvent) :
    req c rest log = if c then rest log else none := rfl

theorem pureM_apply {α : Type} (a : α) (log : List OEvent) : pureM a log = some (a, log) := rfl

theorem minByKey_eq {α : Type} (key : α → Nat) (l : List α) : minByKey key l = firstMinBy key l := by
  cases l <;> rfl

/-- **`encode_residual`** = `encodeResidual`, for all arguments (the log is not touched). -/
theorem C09G_encode_residual (c : Gen.Prc) (errors : List Int) (warm : Nat) (log : List OEvent) :
    encode_residual c errors warm log = (encodeResidual c.max_parameter errors warm).map (·, log) := by
  unfold encode_residual encodeResidual
  rw [bindM_apply, liftO_apply]
  cases search errors warm c.max_parameter <;> rfl

def sig64 : List Int := (List.range 64).map fun (i : Nat) => ((i * i : Nat) : Int) % 23 - 11

example : encode_residual ⟨14⟩ sig64 2 [.est 0 5] = (encodeResidual 14 sig64 2).map (·, [.est 0 5]) :=
  C09G_encode_residual _ _ _ _

/-- the candidates of the `BitCount` selector, as `fixedCandidate` builds them (for error signals `d k`) -/
def bitCands (d : Nat → List Int) (maxP bps n : Nat) : Option (List (Nat × PrcParameter × Nat)) :=
  (List.range n).mapM fun k => do
    let prc ← search (d k) k maxP
    some (k, prc, bps * k + prc.codeBits)

theorem bitCands_mem {d : Nat → List Int} {maxP bps n : Nat} {cs : List (Nat × PrcParameter × Nat)}
    (h : bitCands d maxP bps n = some cs) {c : Nat × PrcParameter × Nat} (hc : c ∈ cs) : c.1 < n := by
  obtain ⟨k, prc, bits⟩ := c
  obtain ⟨x, hx, hF⟩ := mapM_mem _ _ _ h _ hc
  rw [List.mem_range] at hx
  cases hs : search (d x) x maxP with
  | none => simp [hs] at hF
  | some p =>
    simp [hs] at hF
    omega

/-- **`select_order_and_encode_residual`, `OrderSel::BitCount`**, on the error signals `(k, d k)`, `k < n`: the candidates,
the FIRST minimum of `bits_per_sample * order + code_bits`, accepted iff strictly below the baseline.  `hov` excludes
the `usize` overflow of that key (a panic site the hand model does not have). -/
theorem C09G_select_bitCount (prc : Gen.Prc) (d : Nat → List Int) (bps baseline n : Nat) (log : List OEvent)
    (hov : ∀ k, k < n → ∀ p, search (d k) k prc.max_parameter = some p → bps * k + p.codeBits < 2 ^ 64) :
    select_order_and_encode_residual .BitCount prc ((List.range n).map fun k => (k, d k)) bps baseline log =
      (bitCands d prc.max_parameter bps n).map fun cands =>
        ((firstMinBy (fun c => c.2.2) cands).bind fun c =>
          if c.2.2 < baseline then some (c.1, Residual.ofErrors (d c.1) c.1 c.2.1.order c.2.1.ps) else none, log) := by
  unfold select_order_and_encode_residual
  simp only [mapMM_map, bindM_apply]
  rw [mapMM_liftO _ (fun k => (search (d k) k prc.max_parameter).map fun p => (k, d k, p, bps * k + p.codeBits)), liftO_apply]
  · have hg : (fun x => Option.map (fun p => (x, d x, p, bps * x + p.codeBits)) (search (d x) x prc.max_parameter)) =
        fun x => ((do let prc ← search (d x) x prc.max_parameter; some (x, prc, bps * x + prc.codeBits)) :
          Option (Nat × PrcParameter × Nat)).map fun c => (c.1, d c.1, c.2.1, c.2.2) := by
      funext x
      cases search (d x) x prc.max_parameter <;> rfl
    rw [hg, mapM_map_comm]
    unfold bitCands
    generalize List.mapM (m := Option) _ (List.range n) = cs
    cases cs with
    | none => rfl
    | some cands =>
      simp only [Option.map_some, Option.bind_some, pureM_apply, minByKey_eq, firstMinBy_map]
      cases firstMinBy (fun c : Nat × PrcParameter × Nat => c.2.2) cands with
      | none => rfl
      | some c => simp
  · -- a candidate does not touch the log; the key does not overflow by `hov`
    intro k hk
    funext log
    rw [List.mem_range] at hk
    rw [bindM_apply, liftO_apply, liftO_apply]
    cases h : search (d k) k prc.max_parameter with
    | none => rfl
    | some p =>
      have := hov k hk p h
      have h1 : bps * k < 18446744073709551616 := by omega
      have h2 : bps * k + p.codeBits < 18446744073709551616 := by omega
      simp only [Option.map_some, Option.bind_some, req_apply, h1, h2, decide_true, Bool.and_self, if_true, pureM_apply]

/-- the closure the `ApproxEnt` arm of `select_order_and_encode_residual` maps over the orders, spelled as Gen/Coding.lean spells
it: `mapMM_est` must match it after `unfold` -/
abbrev estStep (bps : Nat) : Nat × List Int → M (Nat × List Int × Nat) := fun x =>
  bindM (oracleEst x.1) fun t =>
    req (decide (bps * x.1 < 18446744073709551616) && decide (t + bps * x.1 < 18446744073709551616))
      (pureM (x.1, x.2, t + bps * x.1))

theorem mapMM_est (d : Nat → List Int) (bps : Nat) : ∀ (n s : Nat) (log : List OEvent),
    (∀ i, i < n → ∀ o b, log[i]? = some (.est o b) → b + bps * (s + i) < 2 ^ 64) →
    mapMM (estStep bps) ((List.range' s n).map fun k => (k, d k)) log =
      (takeEsts n log).map fun r =>
        ((List.range n).map (fun i => (s + i, d (s + i), r.1.getD i 0 + bps * (s + i))), r.2)
  | 0, s, log, _ => rfl
  | n + 1, s, [], _ => rfl
  | n + 1, s, .qlpc _ _ _ :: l, _ => rfl
  | n + 1, s, .est o b :: l, h => by
    have h0 := h 0 (by omega) o b rfl
    rw [Nat.add_zero] at h0
    have ih := mapMM_est d bps n (s + 1) l (fun i hi o' b' hl => by
      have := h (i + 1) (by omega) o' b' (by simpa using hl)
      rwa [show s + (i + 1) = s + 1 + i by omega] at this)
    simp only [List.range'_succ, List.map_cons, mapMM, bindM_apply, oracleEst, Option.bind_some]
    have h1 : bps * s < 18446744073709551616 := by omega
    have h2 : b + bps * s < 18446744073709551616 := by omega
    simp only [req_apply, h1, h2, decide_true, Bool.and_self, if_true, pureM_apply, Option.bind_some]
    rw [ih, takeEsts]
    cases takeEsts n l with
    | none => rfl
    | some r =>
      simp only [Option.map_some, Option.bind_some, List.range_succ_eq_map, List.map_cons, List.map_map]
      have e : ∀ i, s + 1 + i = s + Nat.succ i := by intro i; omega
      simp only [e, Nat.add_zero, List.getD_cons_zero]
      rfl

/-- **`select_order_and_encode_residual`, `OrderSel::ApproxEnt`**, on the error signals `(k, d k)`, `k < n`: one `est` event
per candidate order, in order; the FIRST minimum of `estimate + bits_per_sample * order`; accepted iff strictly below the
baseline, and only then is the residual encoded.  `hov` excludes the `usize` overflow of the key. -/
theorem C09G_select_approxEnt (partitions : Nat) (prc : Gen.Prc) (d : Nat → List Int) (bps baseline n : Nat)
    (log : List OEvent)
    (hov : ∀ i, i < n → ∀ o b, log[i]? = some (.est o b) → b + bps * i < 2 ^ 64) :
    select_order_and_encode_residual (.ApproxEnt partitions) prc ((List.range n).map fun k => (k, d k)) bps baseline log =
      (takeEsts n log).bind fun r =>
        match firstMinBy (fun c => c.2) ((List.range n).map fun k => (k, r.1.getD k 0 + bps * k)) with
        | none => some (none, r.2)
        | some c =>
          if c.2 < baseline then
            (encodeResidual prc.max_parameter (d c.1) c.1).map fun res => (some (c.1, res), r.2)
          else some (none, r.2) := by
  unfold select_order_and_encode_residual
  simp only [bindM_apply]
  have := mapMM_est d bps n 0 log (by simpa using hov)
  simp only [← List.range_eq_range', Nat.zero_add] at this
  rw [show mapMM _ _ log = _ from this]
  cases takeEsts n log with
  | none => rfl
  | some r =>
    simp only [Option.map_some, Option.bind_some, minByKey_eq]
    have hl : (List.range n).map (fun i => (i, d i, r.1.getD i 0 + bps * i)) =
        ((List.range n).map fun k => (k, r.1.getD k 0 + bps * k)).map fun c => (c.1, d c.1, c.2) := by
      simp [List.map_map, Function.comp]
    rw [hl, firstMinBy_map]
    cases firstMinBy (fun c : Nat × Nat => c.2) ((List.range n).map fun k => (k, r.1.getD k 0 + bps * k)) with
    | none => rfl
    | some c =>
      simp only [Option.map_some, optAndThenM, boolThenM]
      by_cases hc : c.2 < baseline
      · simp only [hc, decide_true, if_true, bindM_apply, C09G_encode_residual]
        cases encodeResidual prc.max_parameter (d c.1) c.1 <;> rfl
      · simp only [hc, decide_false, if_false, Bool.false_eq_true]
        rfl

theorem enumerate_take_map {α : Type} (f : Nat → α) (m N : Nat) :
    enumerate (List.take m ((List.range N).map f)) = (List.range (min m N)).map fun k => (k, f k) := by
  unfold enumerate
  rw [← List.map_take, List.take_range]
  simp only [List.length_map, List.length_range]
  apply List.ext_getElem
  · simp
  · intro i h1 h2
    simp

/-- `MAX_FIXED_LPC_ORDER + 1` error signals are computed: the `5` of the hand model. -/
theorem fixed_orders : Gen.Const.fixed_MAX_LPC_ORDER + 1 = 5 := by decide

/-- The overflow sites of the order selection (not in the hand model): the key `bits_per_sample * order + code_bits`
resp. `estimate + bits_per_sample * order` must fit `usize`. -/
def SelectFits (c : Gen.SubFrameCoding) (xs : List Int) (bps : Nat) (log : List OEvent) : Prop :=
  match c.fixed.order_sel with
  | .BitCount => ∀ k, k < 5 → ∀ p, search (diffs k xs) k c.prc.max_parameter = some p → bps * k + p.codeBits < 2 ^ 64
  | .ApproxEnt _ => ∀ i, i < 5 → ∀ o b, log[i]? = some (.est o b) → b + bps * i < 2 ^ 64

/-- the last step of `fixed_lpc`: the two checks of the warm-up copy `signal[0..order]` pass for an order of at most 4 -/
theorem fixed_of_order (xs : List Int) (bps k : Nat) (res : Residual) (log : List OEvent) (h4 : k ≤ 4) (hl : k ≤ xs.length) :
    optMapM (some (k, res)) (fun x2 =>
      req (decide (x2.1 ≤ xs.length)) <| req (decide ((List.take x2.1 xs).length ≤ 4)) <|
      pureM (SubFrame.fixed (List.take x2.1 xs) x2.2 bps)) log = some (some (SubFrame.fixed (List.take k xs) res bps), log) := by
  have h2 : (List.take k xs).length ≤ 4 := by rw [List.length_take]; exact Nat.le_trans (Nat.min_le_left _ _) h4
  simp only [optMapM, bindM_apply, req_apply, decide_eq_true hl, decide_eq_true h2, if_true, pureM_apply, Option.bind_some]

/-- For both selectors: `select_order_and_encode_residual` is the model's selection (`C09G_select_*`); the order it picks is
one of the at most five candidates, hence `≤ 4`, which is what the warm-up copy needs (`fixed_of_order`). -/
theorem C09G_fixed_lpc (stale : List (List Int)) (c : Gen.SubFrameCoding) (xs : List Int) (bps baseline : Nat)
    (log : List OEvent)
    (hb : bps < 30) (hmo : c.fixed.max_order + 1 < 2 ^ 64) (hlen : 4 ≤ xs.length) (hov : SelectFits c xs bps log) :
    fixed_lpc stale c xs bps baseline log = fixedCandidate (subCfgOf c) xs bps baseline log := by
  unfold fixed_lpc
  have hmo' : c.fixed.max_order + 1 < 18446744073709551616 := hmo
  simp only [req_apply, hb, hmo', decide_true, if_true, fixed_orders, enumerate_take_map, bindM_apply]
  unfold SelectFits at hov
  unfold fixedCandidate subCfgOf
  simp only []
  cases hsel : c.fixed.order_sel with
  | BitCount =>
    rw [hsel] at hov
    simp only [if_true]
    rw [C09G_select_bitCount c.prc (fun k => diffs k xs) bps baseline _ log (fun k hk => hov k (by omega))]
    unfold bitCands
    generalize hc : List.mapM (m := Option) _ (List.range (min (c.fixed.max_order + 1) 5)) = cs
    cases cs with
    | none => rfl
    | some cands =>
      simp only [Option.map_some, Option.bind_eq_bind, Option.bind_some]
      cases hm : firstMinBy (fun c : Nat × PrcParameter × Nat => c.2.2) cands with
      | none => rfl
      | some cnd =>
        obtain ⟨k, prc, bits⟩ := cnd
        have hk : k < 5 := Nat.lt_of_lt_of_le (bitCands_mem (d := fun k => diffs k xs) hc (firstMinBy_mem _ _ _ hm)) (Nat.min_le_right _ _)
        by_cases hbits : bits < baseline
        · simp only [Option.bind_some, hbits, if_true, fixed_of_order xs bps k _ log (by omega) (by omega)]
        · simp only [Option.bind_some, hbits, if_false]
          rfl
  | ApproxEnt partitions =>
    rw [hsel] at hov
    simp only [Bool.false_eq_true, if_false]
    rw [C09G_select_approxEnt partitions c.prc (fun k => diffs k xs) bps baseline _ log (fun i hi => hov i (by omega))]
    cases takeEsts (min (c.fixed.max_order + 1) 5) log with
    | none => rfl
    | some r =>
      simp only [Option.bind_eq_bind, Option.bind_some]
      cases hm : firstMinBy (fun c : Nat × Nat => c.2)
          (List.map (fun k => (k, r.1.getD k 0 + bps * k)) (List.range (min (c.fixed.max_order + 1) 5))) with
      | none => rfl
      | some cnd =>
        obtain ⟨k, hk, rfl⟩ := firstMinBy_range _ _ _ _ hm
        by_cases hbits : r.1.getD k 0 + bps * k < baseline
        · simp only [hbits, if_true]
          cases encodeResidual c.prc.max_parameter (diffs k xs) k with
          | none => rfl
          | some res =>
            simp only [Option.map_some, Option.bind_some, fixed_of_order xs bps k res r.2 (by omega) (by omega)]
        · simp only [hbits, if_false]
          rfl

/-- The `assert!(bits_per_sample < 30)` of `fixed_lpc` is not in the hand model: there `fixedCandidate` goes on. -/
theorem fixed_lpc_panics_wide (stale : List (List Int)) (c : Gen.SubFrameCoding) (xs : List Int) (bps baseline : Nat)
    (log : List OEvent) (hb : 30 ≤ bps) : fixed_lpc stale c xs bps baseline log = none := by
  unfold fixed_lpc
  have : ¬ bps < 30 := by omega
  simp [req_apply, this]

/-- `Gen.Coding.vecResize` is the generated copy of `Scratch.vecResize`; the two unfold to the same term -/
theorem vecResize_length {α : Type} (v : List α) (n : Nat) (x : α) : (vecResize v n x).length = n :=
  Scratch.vecResize_length v n x

/-- The model's capacity of the LPC warm-up vector is the constant generated from constant.rs (`qlpc::MAX_ORDER`): a
changed constant breaks this proof. -/
theorem maxLpcOrder_gen : maxLpcOrder = Gen.Const.qlpc_MAX_ORDER := rfl

/-- **`estimated_qlpc`** = `lpcCandidate`, for ALL arguments: no hypothesis is left: the capacity check is a panic site of
both sides (`estimated_qlpc_capacity`).  The slice bound `signal[0..order]` needs no hypothesis: a successful parameter search implies it. -/
theorem C09G_estimated_qlpc (stale : List Int) (c : Gen.SubFrameCoding) (xs : List Int) (bps : Nat) (log : List OEvent) :
    estimated_qlpc stale c xs bps log = lpcCandidate (subCfgOf c) xs bps log := by
  unfold estimated_qlpc lpcCandidate
  match log with
  | [] => rfl
  | .est _ _ :: _ => rfl
  | .qlpc cs sh pr :: l =>
    simp only [bindM_apply, oracleQlpc, Option.bind_some, req_apply, vecResize_length, decide_true, if_true,
      liftO_apply]
    cases hce : computeError cs sh.toNat xs with
    | none => rfl
    | some r =>
      obtain ⟨errors, flag⟩ := r
      have hel := (computeError_fits cs sh.toNat xs errors hce).1
      simp only [Option.map_some, Option.bind_some, boolThenM]
      cases flag with
      | false => rfl
      | true =>
        simp only [if_true, bindM_apply, C09G_encode_residual, subCfgOf]
        cases her : encodeResidual c.prc.max_parameter errors cs.length with
        | none => rfl
        | some res =>
          have hle : cs.length ≤ xs.length := by
            obtain ⟨prc, hs, _⟩ := encodeResidual_some her
            rw [← hel]; exact Nat.le_trans (Nat.le_max_right _ _) (RiceSearch.search_some_le _ _ _ _ hs)
          -- the slice `signal[0..order]` is in bounds and has `order` elements; its capacity check is the model's
          have htk : (List.take cs.length xs).length = cs.length := by rw [List.length_take, Nat.min_eq_left hle]
          simp only [Option.map_some, Option.bind_some, optTry, req_apply, decide_eq_true hle, htk, decide_true, if_true,
            ← maxLpcOrder_gen, pureM_apply]
          by_cases h24 : cs.length ≤ maxLpcOrder
          · rw [if_pos h24, decide_eq_true h24]; rfl
          · rw [if_neg h24, decide_eq_false h24]; rfl

/-- `.filter(|x| x.count_bits() < limit)`: equals `keepBelow` unless `count_bits` panics (usize underflow), where the hand
model silently drops the candidate. -/
theorem filter_count (so : Option SubFrame) (limit : Nat) (l : List OEvent) (h : ∀ s, so = some s → s.count ≠ none) :
    optFilterM so (fun x => bindM (liftO (SubFrame.count x)) fun t => pureM (decide (t < limit))) l =
      some (keepBelow limit so, l) := by
  cases so with
  | none => rfl
  | some s =>
    obtain ⟨n, hc⟩ := Option.ne_none_iff_exists'.mp (h s rfl)
    simp only [optFilterM, hc, bindM_some, bindM_pure, pureM_apply, keepBelow, Option.filter]

theorem mapOr_count (so : Option SubFrame) (baseline : Nat) (l : List OEvent) (h : ∀ s, so = some s → s.count ≠ none) :
    optMapOrM so baseline (fun x => bindM (liftO (SubFrame.count x)) fun t => pureM (min baseline t)) l =
      some (baselineAfter baseline so, l) := by
  cases so with
  | none => rfl
  | some s =>
    obtain ⟨n, hc⟩ := Option.ne_none_iff_exists'.mp (h s rfl)
    simp only [optMapOrM, hc, bindM_some, pureM_apply, baselineAfter, Option.bind_some]

/-- a prediction stage of `encode_subframe`, generated and in the model (`stage` is `fixedStage ..` or `lpcStage ..`, which
unfold to the `if` of `hstage`): for a block long enough and an enabled predictor, the candidate (`gen` = `cand` there),
kept only if its `count_bits` is below `limit` -/
theorem stage_eq (flag : Bool) (n limit : Nat) (gen : M (Option SubFrame))
    (cand stage : Option (Option SubFrame × List OEvent)) (log : List OEvent)
    (hstage : stage = if !(decide (n < minBlockForPrediction)) && flag then cand.map fun (c, log) => (keepBelow limit c, log)
      else some (none, log))
    (hgen : ¬ n < minBlockForPrediction → flag = true → gen log = cand)
    (hcnt : ∀ s l', cand = some (some s, l') → s.count ≠ none) :
    (if (¬ (decide (n < minBlockForPrediction) = true) ∧ flag = true) then
        bindM gen fun t => optFilterM t fun x => bindM (liftO (SubFrame.count x)) fun t' => pureM (decide (t' < limit))
      else pureM none) log = stage := by
  rw [hstage]
  by_cases hcond : ¬ n < minBlockForPrediction ∧ flag = true
  · rw [if_pos (by simpa using hcond), if_pos (by simpa using hcond), bindM_apply, hgen hcond.1 hcond.2]
    cases hc : cand with
    | none => rfl
    | some r => exact filter_count r.1 _ r.2 (fun s hs => hcnt s r.2 (by rw [hc, ← hs]))
  · rw [if_neg (by simpa using hcond), if_neg (by simpa using hcond)]
    rfl

/-- **`encode_subframe`** (generated from coding.rs) = `encodeSubframe` (the hand model C09 / C01 / C07 are proved about), for
all arguments outside the panic sites the hand model does not have:
* `hne`  `samples[0]` of the constant branch (`is_constant` of an empty slice is `true`; the model takes `headD 0`);
* `hvb`  `usize` overflow of `Verbatim::count_bits_from_metadata`;
* `hb`   the `assert!(bits_per_sample < 30)` of `fixed_lpc`;
* `hmo`  `max_order + 1`; `hov` the keys of the order selection (`SelectFits`);
* `hcf`, `hcl`  `count_bits()` of a candidate must not underflow (the model's `keepBelow` drops such a candidate). -/
theorem C09G_encode_subframe (s1 : List (List Int)) (s2 : List Int) (c : Gen.SubFrameCoding) (xs : List Int) (bps : Nat)
    (log : List OEvent)
    (hne : (c.use_constant && isConstant xs) = true → xs ≠ [])
    (hvb : 8 + xs.length * bps < 2 ^ 64)
    (hb : c.use_fixed = true → 64 ≤ xs.length → bps < 30)
    (hmo : c.fixed.max_order + 1 < 2 ^ 64)
    (hov : SelectFits c xs bps log)
    (hcf : ∀ b l s l', fixedCandidate (subCfgOf c) xs bps b l = some (some s, l') → s.count ≠ none)
    (hcl : ∀ l s l', lpcCandidate (subCfgOf c) xs bps l = some (some s, l') → s.count ≠ none) :
    encode_subframe s1 s2 c xs bps log = encodeSubframe (subCfgOf c) xs bps log := by
  unfold encode_subframe encodeSubframe
  by_cases hc : (c.use_constant && isConstant xs) = true
  · have hc' : ((subCfgOf c).useConstant && isConstant xs) = true := hc
    have hpos : 0 < xs.length := List.length_pos_iff.2 (hne hc)
    rw [Bool.and_eq_true] at hc
    rw [if_pos hc', if_pos hc]
    simp only [req_apply, hpos, decide_true, if_true, pureM_apply, getD_zero_eq_headD]
  · have hc' : ¬ (((subCfgOf c).useConstant && isConstant xs) = true) := hc
    rw [Bool.and_eq_true] at hc
    rw [if_neg hc, if_neg hc']
    have hex : Gen.Writer.Verbatim.count_bits_from_metadata_exact xs.length bps = true := by
      have h1 : xs.length * bps < 18446744073709551616 := by omega
      have h2 : 8 + xs.length * bps < 18446744073709551616 := hvb
      simp [Gen.Writer.Verbatim.count_bits_from_metadata_exact, h1, h2]
    have hbl : Gen.Writer.Verbatim.count_bits_from_metadata xs.length bps = verbatimBits xs.length bps := rfl
    have h64 : Gen.Const.MIN_BLOCK_SIZE_FOR_PREDICTION = minBlockForPrediction := rfl
    simp only [req_apply, hex, if_true, hbl, h64, bindM_apply]
    rw [stage_eq c.use_fixed xs.length _ _ (fixedCandidate (subCfgOf c) xs bps (verbatimBits xs.length bps) log)
      (fixedStage (subCfgOf c) xs bps (verbatimBits xs.length bps) log) log rfl
      (fun hl hf => C09G_fixed_lpc s1 c xs bps _ log (hb hf (Nat.le_of_not_lt hl)) hmo
        (Nat.le_trans (by decide) (Nat.le_of_not_lt hl)) hov)
      (fun s l' h => hcf _ _ s l' h)]
    cases hfs : fixedStage (subCfgOf c) xs bps (verbatimBits xs.length bps) log with
    | none => rfl
    | some r =>
      obtain ⟨fixed, l1⟩ := r
      have hfc : ∀ s, fixed = some s → s.count ≠ none := by
        intro s hs
        obtain ⟨n, hn, _⟩ := C09.fixedStage_some _ _ _ _ _ _ s (hs ▸ hfs)
        rw [hn]; exact Option.some_ne_none n
      simp only [Option.bind_some, mapOr_count fixed _ l1 hfc]
      rw [stage_eq c.use_lpc xs.length _ _ (lpcCandidate (subCfgOf c) xs bps l1)
        (lpcStage (subCfgOf c) xs bps (baselineAfter (verbatimBits xs.length bps) fixed) l1) l1 rfl
        (fun _ _ => C09G_estimated_qlpc s2 c xs bps l1) (fun s l' h => hcl _ s l' h)]
      cases lpcStage (subCfgOf c) xs bps (baselineAfter (verbatimBits xs.length bps) fixed) l1 <;> rfl

/-! ### valid inputs: none of the excluded panic sites is reached -/

theorem fixedCandidate_count (cfg : SubCfg) (xs : List Int) (bps b : Nat) (l l' : List OEvent) (s : SubFrame)
    (hlen : xs.length < 2 ^ 16) (hb : 1 ≤ bps ∧ bps ≤ 25) (hx : ∀ x ∈ xs, SubFrame.inRange bps x = true)
    (hmax : cfg.maxP ≤ 14) (h : fixedCandidate cfg xs bps b l = some (some s, l')) : s.count ≠ none := by
  obtain ⟨k, prc, hk, hs, rfl⟩ := (fixedCandidate_spec cfg xs bps b l l' (some s) h).2 s rfl
  have h64 := RiceSearch.search_some_le _ _ _ _ hs
  by_cases hkl : k ≤ xs.length
  · obtain ⟨hdl, hdr, _⟩ := diffs_fixed bps hb xs hx k hk hkl
    have hwf := residual_wf_of_search (diffs k xs) k cfg.maxP prc (fits_of_range _ hdr) (by rw [hdl]; exact hlen) hmax hs
    simp [SubFrame.count, Count.residual_count _ hwf]
  · exfalso
    have := diffs_length k xs
    omega

theorem lpcCandidate_count (cfg : SubCfg) (xs : List Int) (bps : Nat) (l l' : List OEvent) (s : SubFrame)
    (hlen : xs.length < 2 ^ 16) (hmax : cfg.maxP ≤ 14) (h : lpcCandidate cfg xs bps l = some (some s, l')) :
    s.count ≠ none := by
  obtain ⟨coefs, shift, precision, errors, prc, _, he, hs, rfl⟩ := (lpcCandidate_spec cfg xs bps l l' _ h).2 s rfl
  obtain ⟨hel, hef⟩ := computeError_fits coefs shift.toNat xs errors he
  have hwf := residual_wf_of_search errors coefs.length cfg.maxP prc hef (by rw [hel]; exact hlen) hmax hs
  simp [SubFrame.count, Count.residual_count _ hwf]

/-- **`encode_subframe` = `encodeSubframe` on valid inputs**: a block of `1 ≤ n < 2^16` samples of `1 ≤ bps ≤ 25` bits, a
Rice parameter limit `≤ 14`, an oracle whose entropy estimates are below `2^63` — the domain of C09 / C01Strict / C07Total
(nothing is asked of the parameter sets: beyond 24 coefficients both sides panic). -/
theorem C09G_encode_subframe_valid (s1 : List (List Int)) (s2 : List Int) (c : Gen.SubFrameCoding) (xs : List Int)
    (bps : Nat) (log : List OEvent)
    (hn : 1 ≤ xs.length) (hlen : xs.length < 2 ^ 16) (hb : 1 ≤ bps ∧ bps ≤ 25)
    (hx : ∀ x ∈ xs, SubFrame.inRange bps x = true) (hmax : c.prc.max_parameter ≤ 14)
    (hmo : c.fixed.max_order + 1 < 2 ^ 64)
    (hest : ∀ o b, OEvent.est o b ∈ log → b < 2 ^ 63) :
    encode_subframe s1 s2 c xs bps log = encodeSubframe (subCfgOf c) xs bps log := by
  apply C09G_encode_subframe s1 s2 c xs bps log
  · intro _ h; rw [h] at hn; simp at hn
  · have : xs.length * bps ≤ 2 ^ 16 * 25 := Nat.mul_le_mul (by omega) hb.2
    omega
  · intro _ _; omega
  · exact hmo
  · unfold SelectFits
    split
    · intro k hk p hs
      have h64 := RiceSearch.search_some_le _ _ _ _ hs
      have hdl0 := diffs_length k xs
      obtain ⟨hdl, hdr, _⟩ := diffs_fixed bps hb xs hx k (by omega) (by omega)
      have := RiceSearch.search_codeBits_le _ _ _ p hdr (by rw [hdl]; exact hlen) hs
      have : bps * k ≤ 25 * 4 := Nat.mul_le_mul hb.2 (by omega)
      omega
    · intro i hi o b hl
      have := hest o b (List.mem_of_getElem? hl)
      have : bps * i ≤ 25 * 4 := Nat.mul_le_mul hb.2 (by omega)
      omega
  · intro b l s l' h
    exact fixedCandidate_count _ xs bps b l l' s hlen hb hx hmax h
  · intro l s l' h
    exact lpcCandidate_count _ xs bps l l' s hlen hmax h

def cfgDefault : Gen.SubFrameCoding := Gen.SubFrameCoding.default true
def cfgBitCount : Gen.SubFrameCoding := { cfgDefault with fixed := { cfgDefault.fixed with order_sel := .BitCount } }

def log64 : List OEvent := [.est 0 300, .est 1 280, .est 2 280, .est 3 310, .est 4 330, .qlpc [3, -1] 1 4]

example : select_order_and_encode_residual .BitCount ⟨14⟩ ((List.range 5).map fun k => (k, diffs k sig64)) 16 1032 log64 =
    (bitCands (fun k => diffs k sig64) 14 16 5).map fun cands =>
      ((firstMinBy (fun c => c.2.2) cands).bind fun c =>
        if c.2.2 < 1032 then some (c.1, Residual.ofErrors (diffs c.1 sig64) c.1 c.2.1.order c.2.1.ps) else none, log64) :=
  C09G_select_bitCount ⟨14⟩ _ 16 1032 5 log64 (fun k hk p hs => by
    have hx : ∀ x ∈ sig64, SubFrame.inRange 16 x = true := by decide
    have h64 : sig64.length = 64 := by decide
    obtain ⟨hdl, hdr, _⟩ := diffs_fixed 16 (by decide) sig64 hx k (by omega) (by omega)
    have := RiceSearch.search_codeBits_le _ _ _ p hdr (by rw [hdl]; decide) hs
    have : 16 * k ≤ 16 * 4 := Nat.mul_le_mul (Nat.le_refl _) (by omega)
    omega)

example : fixed_lpc [] cfgDefault sig64 16 1032 log64 = fixedCandidate (subCfgOf cfgDefault) sig64 16 1032 log64 :=
  C09G_fixed_lpc [] cfgDefault sig64 16 1032 log64 (by decide) (by decide) (by decide) (by
    unfold SelectFits
    show ∀ i, i < 5 → ∀ o b, log64[i]? = some (.est o b) → b + 16 * i < 2 ^ 64
    intro i hi o b h
    have : i = 0 ∨ i = 1 ∨ i = 2 ∨ i = 3 ∨ i = 4 := by omega
    rcases this with rfl | rfl | rfl | rfl | rfl <;> (simp [log64] at h; omega))

example : estimated_qlpc [7, 7, 7] cfgDefault sig64 16 (log64.drop 5) =
    lpcCandidate (subCfgOf cfgDefault) sig64 16 (log64.drop 5) :=
  C09G_estimated_qlpc _ cfgDefault sig64 16 _

theorem sig64_valid : (1 ≤ sig64.length ∧ sig64.length < 2 ^ 16) ∧ ∀ x ∈ sig64, SubFrame.inRange 16 x = true := by decide

example : encode_subframe [] [1, 2, 3] cfgDefault sig64 16 log64 = encodeSubframe (subCfgOf cfgDefault) sig64 16 log64 :=
  C09G_encode_subframe_valid _ _ cfgDefault sig64 16 log64 sig64_valid.1.1 sig64_valid.1.2 (by decide) sig64_valid.2
    (by decide) (by decide)
    (by intro o b h; simp [log64] at h; omega)

example : encode_subframe [] [] cfgBitCount sig64 16 (log64.drop 5) =
    encodeSubframe (subCfgOf cfgBitCount) sig64 16 (log64.drop 5) :=
  C09G_encode_subframe_valid _ _ cfgBitCount sig64 16 _ sig64_valid.1.1 sig64_valid.1.2 (by decide) sig64_valid.2
    (by decide) (by decide)
    (by intro o b h; simp [log64] at h)

/-- Excluded point `hne`: `is_constant` of an empty slice is `true`, then `samples[0]` panics; the hand model returns a
constant sub-frame of block size 0. (Never reached: `encode_fixed_size_frame` rejects an empty frame buffer.) -/
theorem encode_subframe_panics_empty (s1 : List (List Int)) (s2 : List Int) (c : Gen.SubFrameCoding) (bps : Nat)
    (log : List OEvent) (h : c.use_constant = true) :
    encode_subframe s1 s2 c [] bps log = none ∧
      encodeSubframe (subCfgOf c) [] bps log = some (.constant 0 0 bps, log) := by
  constructor
  · unfold encode_subframe
    simp [h, isConstant, req_apply]
  · unfold encodeSubframe
    have : (subCfgOf c).useConstant = true := h
    simp [this, isConstant]

/-- The capacity of the LPC warm-up vector, a panic site of BOTH sides: a parameter set of more than 24 coefficients whose
error signal `compute_error` accepts panics — in `encode_residual`, or else at `expect("LPC order exceeded the maximum")` —
in the generated code and in the hand model (`maxLpcOrder`).  `OEvent.Ok` (at most 24 coefficients) excludes it. -/
theorem estimated_qlpc_capacity (stale : List Int) (c : Gen.SubFrameCoding) (xs : List Int) (bps : Nat) (l : List OEvent)
    (cs : List Int) (sh : Int) (pr : Nat) (errors : List Int) (h25 : 24 < cs.length)
    (hce : computeError cs sh.toNat xs = some (errors, true)) :
    estimated_qlpc stale c xs bps (.qlpc cs sh pr :: l) = none ∧
      lpcCandidate (subCfgOf c) xs bps (.qlpc cs sh pr :: l) = none := by
  have hm : lpcCandidate (subCfgOf c) xs bps (.qlpc cs sh pr :: l) = none := by
    have h1 : ¬ cs.length ≤ maxLpcOrder := by unfold maxLpcOrder; omega
    simp [lpcCandidate, hce, h1]
  exact ⟨(C09G_estimated_qlpc stale c xs bps _).trans hm, hm⟩

/-- … and without an encodable residual (`compute_error` reports a value outside the FLAC range) the same parameter set is
dropped before that site is reached, on both sides. -/
theorem estimated_qlpc_dropped (stale : List Int) (c : Gen.SubFrameCoding) (xs : List Int) (bps : Nat) (l : List OEvent)
    (cs : List Int) (sh : Int) (pr : Nat) (errors : List Int)
    (hce : computeError cs sh.toNat xs = some (errors, false)) :
    estimated_qlpc stale c xs bps (.qlpc cs sh pr :: l) = some (none, l) ∧
      lpcCandidate (subCfgOf c) xs bps (.qlpc cs sh pr :: l) = some (none, l) := by
  have hm : lpcCandidate (subCfgOf c) xs bps (.qlpc cs sh pr :: l) = some (none, l) := by
    simp [lpcCandidate, hce]
  exact ⟨(C09G_estimated_qlpc stale c xs bps _).trans hm, hm⟩

/-- the filled part of channel `ch` of a frame buffer (`FrameBuf::channel_slice`) -/
def chanOf (fb : FrameBuf) (ch : Nat) : List Int := (fb.samples.drop (ch * fb.size)).take fb.filled_size

/-- the planar view of a frame buffer of `n` channels: what the hand model takes as `chans` -/
def chansOf (fb : FrameBuf) (n : Nat) : List (List Int) := (List.range n).map (chanOf fb)

/-- a frame buffer that holds at least `n` channels (of the Rust invariant `samples.len() = size * channels`,
`filled_size ≤ size` only what the slices of channels `< n` need) -/
def FbOk (fb : FrameBuf) (n : Nat) : Prop :=
  n * fb.size ≤ fb.samples.length ∧ fb.filled_size ≤ fb.size ∧ fb.samples.length < 2 ^ 64

instance (fb : FrameBuf) (n : Nat) : Decidable (FbOk fb n) := by unfold FbOk; infer_instance

theorem chanOf_length (fb : FrameBuf) (n ch : Nat) (h : FbOk fb n) (hch : ch < n) : (chanOf fb ch).length = fb.filled_size := by
  obtain ⟨h1, h2, _⟩ := h
  unfold chanOf
  rw [List.length_take, List.length_drop]
  have : (ch + 1) * fb.size ≤ n * fb.size := Nat.mul_le_mul_right _ hch
  rw [Nat.add_mul] at this
  omega

theorem forall_chansOf (fb : FrameBuf) (n : Nat) (P : List Int → Prop) (h : ∀ k, k < n → P (chanOf fb k)) :
    ∀ ch ∈ chansOf fb n, P ch := by
  intro ch hc
  obtain ⟨k, hk, rfl⟩ := List.mem_map.mp hc
  exact h k (List.mem_range.mp hk)

theorem chansOf_length (fb : FrameBuf) (n : Nat) (h : FbOk fb n) : ∀ ch ∈ chansOf fb n, ch.length = fb.filled_size :=
  forall_chansOf fb n _ (fun k hk => chanOf_length fb n k h hk)

theorem channel_slice_eq (fb : FrameBuf) (n ch : Nat) (h : FbOk fb n) (hch : ch < n) :
    FrameBuf.channel_slice fb ch = pureM (chanOf fb ch) := by
  funext log
  obtain ⟨h1, h2, h3⟩ := h
  have : (ch + 1) * fb.size ≤ n * fb.size := Nat.mul_le_mul_right _ hch
  rw [Nat.add_mul] at this
  have ha : ch * fb.size < 18446744073709551616 := by omega
  have hb : ch * fb.size + fb.filled_size < 18446744073709551616 := by omega
  have hc : ch * fb.size + fb.filled_size ≤ fb.samples.length := by omega
  simp [FrameBuf.channel_slice, req_apply, pureM_apply, ha, hb, hc, chanOf]

/-- the oracle log as far as the generated code constrains it beyond the hand model: entropy estimates below `2^63` (the
`usize` sum of the selection key).  The sub-frame theorems above spell it out (`hest`). -/
def LogFits (log : List OEvent) : Prop :=
  ∀ o b, OEvent.est o b ∈ log → b < 2 ^ 63

theorem LogFits.sub {l l' : List OEvent} (h : LogFits l) (hs : ∀ e ∈ l', e ∈ l) : LogFits l' :=
  fun o b hm => h o b (hs _ hm)

theorem add_subframe_apply (frame : Gen.Writer.Frame) (sf : SubFrame) (log : List OEvent)
    (h : frame.subframes.length + 1 ≤ 8) :
    Frame.add_subframe frame sf log =
      some ({ frame with precomputed_bitstream := none, subframes := frame.subframes ++ [sf] }, log) := by
  have h8 : Gen.Const.MAX_CHANNELS = 8 := by decide
  simp [Frame.add_subframe, req_apply, pureM_apply, h8, h]

/-- the per-channel loop of `encode_frame_impl` = `encodeChannels` (valid channels of `filled_size` samples each) -/
theorem forMS_channels (s1 : List (List Int)) (s2 : List Int) (c : Gen.Encoder) (fb : FrameBuf)
    (asg : Gen.Headers.ChannelAssignment) (bps N : Nat) (hn : 1 ≤ fb.filled_size ∧ fb.filled_size < 2 ^ 16) (hfb : FbOk fb N)
    (hmax : c.subframe_coding.prc.max_parameter ≤ 14)
    (hmo : c.subframe_coding.fixed.max_order + 1 < 2 ^ 64) :
    ∀ (k s : Nat) (frame : Gen.Writer.Frame) (log : List OEvent),
      s + k ≤ N → frame.subframes.length + k ≤ 8 → frame.precomputed_bitstream = none →
      (∀ ch, s ≤ ch → ch < s + k → 1 ≤ bps + (C02Hdr.caOfGen asg).bpsOffset ch ∧ bps + (C02Hdr.caOfGen asg).bpsOffset ch ≤ 25 ∧
        ∀ x ∈ chanOf fb ch, SubFrame.inRange (bps + (C02Hdr.caOfGen asg).bpsOffset ch) x = true) →
      LogFits log →
      forMS (List.range' s k) frame (fun ch frame =>
          bindM (FrameBuf.channel_slice fb ch) fun t8 =>
          req (decide (bps + (Gen.Headers.ChannelAssignment.bits_per_sample_offset asg ch) < 18446744073709551616)) <|
          bindM (encode_subframe s1 s2 c.subframe_coding t8
            ((bps + (Gen.Headers.ChannelAssignment.bits_per_sample_offset asg ch)) % 256)) fun t11 =>
          Frame.add_subframe frame t11) log =
        (encodeChannels (subCfgOf c.subframe_coding) (C02Hdr.caOfGen asg) bps ((List.range' s k).map (chanOf fb)) s log).map
          fun r => ({ frame with subframes := frame.subframes ++ r.1 }, r.2) := by
  intro k
  induction k with
  | zero =>
    intro s frame log _ _ _ _ _
    simp [forMS, pureM_apply, encodeChannels]
  | succ k ih =>
    intro s frame log hsN hcap hpre hok hlog
    have hoff := C02Hdr.bps_offset_eq asg s
    obtain ⟨hb1, hb25, hx⟩ := hok s (Nat.le_refl _) (by omega)
    have hlen := chanOf_length fb N s hfb (by omega)
    have h1 : bps + (C02Hdr.caOfGen asg).bpsOffset s < 18446744073709551616 := by omega
    have h2 : (bps + (C02Hdr.caOfGen asg).bpsOffset s) % 256 = bps + (C02Hdr.caOfGen asg).bpsOffset s := Nat.mod_eq_of_lt (by omega)
    simp only [List.range'_succ, List.map_cons, forMS, encodeChannels, channel_slice_eq fb N s hfb (by omega), bindM_pure,
      bindM_apply, hoff, req_apply, h1, decide_true, if_true, h2]
    rw [C09G_encode_subframe_valid s1 s2 c.subframe_coding (chanOf fb s) _ log (by omega) (by omega) ⟨hb1, hb25⟩ hx hmax hmo
      hlog]
    cases hes : encodeSubframe (subCfgOf c.subframe_coding) (chanOf fb s) (bps + (C02Hdr.caOfGen asg).bpsOffset s) log with
    | none => rfl
    | some r =>
      obtain ⟨sf, l1⟩ := r
      have hsub := encodeSubframe_sub _ _ _ _ _ _ hes
      have hcap' : frame.subframes.length + 1 ≤ 8 := by omega
      simp only [Option.bind_some, Option.bind_eq_bind]
      rw [add_subframe_apply _ _ _ hcap']
      simp only [Option.bind_some]
      have := ih (s + 1) { frame with precomputed_bitstream := none, subframes := frame.subframes ++ [sf] } l1 (by omega)
        (by simp; omega) rfl (fun ch h1 h2 => hok ch (by omega) (by omega)) (hlog.sub hsub)
      rw [this]
      cases encodeChannels (subCfgOf c.subframe_coding) (C02Hdr.caOfGen asg) bps ((List.range' (s + 1) k).map (chanOf fb)) (s + 1) l1 with
      | none => rfl
      | some r2 => simp [hpre]

/-- the header `encode_frame_impl` builds: `Frame::new_empty(..)` then `set_frame_offset(FrameOffset::StartSample(offset))` -/
def implHeader (fb : FrameBuf) (info : StreamInfo) (asg : Gen.Headers.ChannelAssignment) (offset : Nat) :
    Gen.Writer.FrameHeader :=
  Gen.Verify.FrameHeader.set_frame_offset
    (FrameHeader.from_specs (Gen.Headers.BlockSizeSpec.from_size (fb.filled_size % 65536)) asg
      ((Gen.Headers.SampleSizeSpec.from_bits (info.bps % 256)).getD .Unspecified)
      ((Gen.Headers.SampleRateSpec.from_freq (info.rate % 4294967296)).getD .Unspecified))
    (.StartSample offset)

theorem implHeader_channel_assignment (fb : FrameBuf) (info : StreamInfo) (asg : Gen.Headers.ChannelAssignment) (offset : Nat) :
    (implHeader fb info asg offset).channel_assignment = asg := rfl

/-- **`encode_frame_impl`** = the per-channel loop `encodeChannels` of the hand model (sub-frame `ch` is coded at
`bits_per_sample + bits_per_sample_offset(ch)` bits) under the header `implHeader`, for a frame buffer of
`stream_info.channels() ≤ 8` valid channels of `1 ≤ n < 2^16` samples. -/
theorem C09G_encode_frame_impl (s1 : List (List Int)) (s2 : List Int) (c : Gen.Encoder) (fb : FrameBuf) (offset : Nat)
    (info : StreamInfo) (asg : Gen.Headers.ChannelAssignment) (log : List OEvent)
    (hn : 1 ≤ fb.filled_size ∧ fb.filled_size < 2 ^ 16) (hfb : FbOk fb info.channels) (hch : info.channels ≤ 8)
    (hmax : c.subframe_coding.prc.max_parameter ≤ 14) (hmo : c.subframe_coding.fixed.max_order + 1 < 2 ^ 64)
    (hok : ∀ ch, ch < info.channels → 1 ≤ info.bps + (C02Hdr.caOfGen asg).bpsOffset ch ∧
      info.bps + (C02Hdr.caOfGen asg).bpsOffset ch ≤ 25 ∧
      ∀ x ∈ chanOf fb ch, SubFrame.inRange (info.bps + (C02Hdr.caOfGen asg).bpsOffset ch) x = true)
    (hlog : LogFits log) :
    encode_frame_impl s1 s2 c fb offset info asg log =
      (encodeChannels (subCfgOf c.subframe_coding) (C02Hdr.caOfGen asg) info.bps (chansOf fb info.channels) 0 log).map
        fun r => (⟨implHeader fb info asg offset, r.1, none⟩, r.2) := by
  unfold encode_frame_impl
  have hmod : fb.filled_size % 65536 = fb.filled_size := Nat.mod_eq_of_lt (by omega)
  have hex : Gen.Headers.BlockSizeSpec.from_size_exact (fb.filled_size % 65536) = true := by
    rw [hmod]
    exact (C02Hdr.C02H_blockSize_fromSize_exact _ (by omega)).2 (by omega)
  simp only [req_apply, hex, if_true, List.range_eq_range']
  rw [forMS_channels s1 s2 c fb asg info.bps info.channels hn hfb hmax hmo info.channels 0 _ log
    (by omega) (by simp [Frame.new_empty]; omega) (by simp [Frame.new_empty])
    (fun ch _ h2 => hok ch (by omega)) hlog]
  unfold chansOf
  rw [List.range_eq_range']
  cases encodeChannels (subCfgOf c.subframe_coding) (C02Hdr.caOfGen asg) info.bps
      ((List.range' 0 info.channels).map (chanOf fb)) 0 log with
  | none => rfl
  | some r => simp [Frame.new_empty, implHeader]

/-- the invariant of the `MSFRAMEBUF` storage: a buffer of two channels (`FrameBuf::new_stereo_buffer`, kept by `resize`) -/
def StereoBuf (fb : FrameBuf) : Prop := fb.size ≠ 0 ∧ fb.samples.length / fb.size = 2

instance (fb : FrameBuf) : Decidable (StereoBuf fb) := by unfold StereoBuf; infer_instance

theorem resize_apply (stale : FrameBuf) (n : Nat) (h : StereoBuf stale) (hn : n * 2 < 2 ^ 64) :
    FrameBuf.resize stale n = pureM { stale with size := n, samples := vecResize stale.samples (n * 2) 0 } := by
  funext log
  obtain ⟨h1, h2⟩ := h
  have hn' : n * 2 < 18446744073709551616 := hn
  simp [FrameBuf.resize, FrameBuf.channels, bindM_apply, req_apply, pureM_apply, h1, h2, hn']

theorem fillStereo_spec (fb : FrameBuf) (it : List (Int × Int)) (hlen : fb.samples.length = 2 * fb.size)
    (hit : it.length ≤ fb.size) :
    (fillStereo fb it).filled_size = it.length ∧ (fillStereo fb it).size = fb.size ∧
      (fillStereo fb it).samples.length = 2 * fb.size ∧
      chanOf (fillStereo fb it) 0 = it.map (·.1) ∧ chanOf (fillStereo fb it) 1 = it.map (·.2) := by
  have hk : min it.length (min fb.size (fb.samples.length - fb.size)) = it.length := by
    rw [hlen, Nat.two_mul, Nat.add_sub_cancel, Nat.min_self, Nat.min_eq_left hit]
  have htk : it.take it.length = it := List.take_length
  have h1 : (List.map (fun x => x.1) it ++ List.drop it.length (List.take fb.size fb.samples)).length = fb.size := by
    rw [List.length_append, List.length_map, List.length_drop, List.length_take, Nat.min_eq_left (by omega)]
    omega
  refine ⟨?_, ?_, ?_, ?_, ?_⟩
  · simp [fillStereo, hk]
  · simp [fillStereo]
  · simp only [fillStereo, hk, htk]
    rw [List.length_append, List.length_append, h1, List.length_map, List.length_drop]
    omega
  · simp only [chanOf, fillStereo, hk, htk, Nat.zero_mul, List.drop_zero, List.append_assoc]
    rw [List.take_append_of_le_length (by simp)]
    exact List.take_of_length_le (by simp)
  · simp only [chanOf, fillStereo, hk, htk, Nat.one_mul]
    rw [List.append_assoc (List.map (fun x => x.1) it ++ List.drop it.length (List.take fb.size fb.samples)),
      List.drop_append_of_le_length (Nat.le_of_eq h1.symm), List.drop_of_length_le (Nat.le_of_eq h1), List.nil_append,
      List.take_append_of_le_length (by simp)]
    exact List.take_of_length_le (by simp)

/-- one iteration of the selection loop of `try_stereo_coding`, as generated (up to the numbers in the names of the bound variables) -/
abbrev stereoStep (s24 : Nat × Gen.Headers.ChannelAssignment) (x23 : Gen.Headers.ChannelAssignment × Nat) :
    Nat × Gen.Headers.ChannelAssignment :=
  let ch_info := x23.1
  let bits := x23.2
  let min_bits := s24.1
  let min_ch_info := s24.2
  let t25 :=
    if (bits < min_bits) then
      let min_bits := bits
      let min_ch_info := ch_info
      (min_bits, min_ch_info)
    else (min_bits, min_ch_info)
  let min_bits := t25.1
  let min_ch_info := t25.2
  (min_bits, min_ch_info)

theorem stereo_fold_gen (bl br bm bs : Nat) : ∀ (combos : List (Option ChannelAssignment)) (best : ChannelAssignment),
    List.foldl stereoStep (stereoCost bl br bm bs best, C02Hdr.caToGen best)
        (List.filterMap id (combos.map (Option.map fun a => (C02Hdr.caToGen a, stereoCost bl br bm bs a)))) =
      (stereoCost bl br bm bs (combos.foldl (fun best c =>
          match c with
          | some a => if stereoCost bl br bm bs a < stereoCost bl br bm bs best then a else best
          | none => best) best),
       C02Hdr.caToGen (combos.foldl (fun best c =>
          match c with
          | some a => if stereoCost bl br bm bs a < stereoCost bl br bm bs best then a else best
          | none => best) best))
  | [], best => rfl
  | none :: cs, best => by
    simp only [List.map_cons, Option.map_none, List.filterMap_cons, id_eq, List.foldl_cons]
    exact stereo_fold_gen bl br bm bs cs best
  | some a :: cs, best => by
    simp only [List.map_cons, Option.map_some, List.filterMap_cons, id_eq, List.foldl_cons, stereoStep]
    by_cases h : stereoCost bl br bm bs a < stereoCost bl br bm bs best
    · simp only [h, if_true]
      exact stereo_fold_gen bl br bm bs cs a
    · simp only [h, if_false]
      exact stereo_fold_gen bl br bm bs cs best

/-- the selection loop of `try_stereo_coding` (start from left+right; a recombination replaces the current best only if
STRICTLY cheaper) = `chooseStereo`, together with the cost of the choice -/
theorem stereo_fold (st : Gen.StereoCoding) (bl br bm bs : Nat) :
    List.foldl stereoStep (bl + br, Gen.Headers.ChannelAssignment.Independent 2)
      (List.filterMap id [(if st.use_leftside then some (Gen.Headers.ChannelAssignment.LeftSide, (bl + bs)) else none),
        (if st.use_rightside then some (Gen.Headers.ChannelAssignment.RightSide, (br + bs)) else none),
        (if st.use_midside then some (Gen.Headers.ChannelAssignment.MidSide, (bm + bs)) else none)]) =
      (stereoCost bl br bm bs (chooseStereo (stereoCfgOf st) bl br bm bs),
        C02Hdr.caToGen (chooseStereo (stereoCfgOf st) bl br bm bs)) := by
  have := stereo_fold_gen bl br bm bs
    [if st.use_leftside then some .leftSide else none, if st.use_rightside then some .rightSide else none,
     if st.use_midside then some .midSide else none] (.independent 2)
  refine Eq.trans ?_ this
  obtain ⟨uL, uR, uM⟩ := st
  cases uL <;> cases uR <;> cases uM <;> rfl

/-- a verbatim sub-frame of a block takes fewer than `2^32` bits, so the sums of two sub-frame sizes fit `usize` -/
theorem verbatimBits_lt (n b : Nat) (hn : n < 2 ^ 16) (hb : b ≤ 25) : verbatimBits n b < 2 ^ 32 := by
  have : n * b ≤ 2 ^ 16 * 25 := Nat.mul_le_mul (Nat.le_of_lt hn) hb
  unfold verbatimBits; omega

theorem add_fits (a b : Nat) (ha : a < 2 ^ 32) (hb : b < 2 ^ 32) : decide (a + b < 18446744073709551616) = true := by
  rw [decide_eq_true_eq]; omega

/-- **`try_stereo_coding`**: mid/side signals, their two sub-frames (`encodeChannels` under `MidSide`: the side channel is one
bit wider), the selection among left+right / left+side / right+side / mid+side (`chooseStereo`: strict `<`, in this order),
the recombined frame (`selectChannels`).  `sl`, `sr` are the sub-frames of the independent coding, with their sizes. -/
theorem C09G_try_stereo_coding (stale : FrameBuf) (s1 : List (List Int)) (s2 : List Int) (c : Gen.Encoder) (fb : FrameBuf)
    (hI : Gen.Writer.FrameHeader) (sl sr : SubFrame) (pre : Option (List Nat)) (offset : Nat) (info : StreamInfo)
    (log : List OEvent) (cl cr : Nat)
    (hst : StereoBuf stale) (hfb : FbOk fb 2) (hn : 1 ≤ fb.filled_size ∧ fb.filled_size < 2 ^ 16) (hch : info.channels = 2)
    (hb : 1 ≤ info.bps ∧ info.bps ≤ 24)
    (hx : ∀ ch, ch < 2 → ∀ x ∈ chanOf fb ch, SubFrame.inRange info.bps x = true)
    (hmax : c.subframe_coding.prc.max_parameter ≤ 14) (hmo : c.subframe_coding.fixed.max_order + 1 < 2 ^ 64)
    (hlog : LogFits log) (hcl : sl.count = some cl ∧ cl < 2 ^ 32) (hcr : sr.count = some cr ∧ cr < 2 ^ 32) :
    try_stereo_coding stale s1 s2 c fb ⟨hI, [sl, sr], pre⟩ offset info log =
      (encodeChannels (subCfgOf c.subframe_coding) .midSide info.bps
          [(List.zipWith midSide (chanOf fb 0) (chanOf fb 1)).map (·.1),
           (List.zipWith midSide (chanOf fb 0) (chanOf fb 1)).map (·.2)] 0 log).bind fun r =>
        match r.1 with
        | [sm, ss] =>
          let asg := chooseStereo (stereoCfgOf c.stereo_coding) (cnt sl) (cnt sr) (cnt sm) (cnt ss)
          let pick := selectChannels sl sr sm ss asg
          some (⟨{ implHeader fb info .MidSide offset with channel_assignment := C02Hdr.caToGen asg }, [pick.1, pick.2], none⟩, r.2)
        | _ => none := by
  have hl0 := chanOf_length fb 2 0 hfb (by omega)
  have hl1 := chanOf_length fb 2 1 hfb (by omega)
  have hsz0 : fb.size ≠ 0 := Nat.ne_of_gt (Nat.lt_of_lt_of_le hn.1 hfb.2.1)
  have hsz2 : fb.size * 2 < 2 ^ 64 := Nat.mul_comm 2 fb.size ▸ Nat.lt_of_le_of_lt hfb.1 hfb.2.2
  have hzl : (List.zipWith midSide (chanOf fb 0) (chanOf fb 1)).length = fb.filled_size := by
    rw [List.length_zipWith, hl0, hl1, Nat.min_self]
  have htake : List.take fb.size (List.zip (chanOf fb 0) (chanOf fb 1)) = List.zip (chanOf fb 0) (chanOf fb 1) :=
    List.take_of_length_le (by rw [List.length_zip, hl0, hl1, Nat.min_self]; exact hfb.2.1)
  have hpre : (vecResize stale.samples (fb.size * 2) 0).length / fb.size = 2 := by
    rw [vecResize_length]; exact Nat.mul_div_cancel_left 2 (Nat.pos_of_ne_zero hsz0)
  -- the generated statements in program order: `resize`, the two channel slices, the mid/side map, `fill_stereo_with_iter`,
  -- `encode_frame_impl` on the filled buffer, the four bit counts, the selection fold, the recombination
  unfold try_stereo_coding
  simp only [resize_apply stale fb.size hst hsz2, channel_slice_eq fb 2 0 hfb (by omega),
    channel_slice_eq fb 2 1 hfb (by omega), bindM_pure, htake]
  rw [mapMM_pure _ (Function.uncurry midSide), List.map_uncurry_zip_eq_zipWith]
  rotate_left
  · -- the two sample-wise sums do not overflow `i32` for samples of at most 31 bits
    intro x hmem
    have h1 := inRange_bound _ 30 (by omega) x.1 (hx 0 (by omega) x.1 (List.of_mem_zip hmem).1)
    have h2 := inRange_bound _ 30 (by omega) x.2 (hx 1 (by omega) x.2 (List.of_mem_zip hmem).2)
    have a : (-2147483648 : Int) ≤ x.1 + x.2 ∧ x.1 + x.2 < 2147483648 := by omega
    have b : (-2147483648 : Int) ≤ x.1 - x.2 ∧ x.1 - x.2 < 2147483648 := by omega
    rw [decide_eq_true a, decide_eq_true b]
    rfl
  simp only [bindM_pure, hsz0, hpre, ne_eq, not_false_eq_true, decide_true, Bool.and_self, req_true]
  obtain ⟨hmidr, hsider⟩ := midSide_range info.bps hb.1 (chanOf fb 0) (chanOf fb 1) (hx 0 (by omega)) (hx 1 (by omega))
  obtain ⟨hf1, hf2, hf3, hf4, hf5⟩ := fillStereo_spec
    { samples := vecResize stale.samples (fb.size * 2) 0, size := fb.size, filled_size := stale.filled_size,
      readbuf := stale.readbuf } (List.zipWith midSide (chanOf fb 0) (chanOf fb 1))
    (by rw [vecResize_length, Nat.mul_comm]) (by rw [hzl]; exact hfb.2.1)
  simp only [] at hf1 hf2 hf3 hf4 hf5
  generalize fillStereo
    { samples := vecResize stale.samples (fb.size * 2) 0, size := fb.size, filled_size := stale.filled_size,
      readbuf := stale.readbuf } (List.zipWith midSide (chanOf fb 0) (chanOf fb 1)) = ms at hf1 hf2 hf3 hf4 hf5 ⊢
  rw [hzl] at hf1
  have hoff0 : info.bps + (C02Hdr.caOfGen Gen.Headers.ChannelAssignment.MidSide).bpsOffset 0 = info.bps := rfl
  have hoff1 : info.bps + (C02Hdr.caOfGen Gen.Headers.ChannelAssignment.MidSide).bpsOffset 1 = info.bps + 1 := rfl
  have hchans : chansOf ms info.channels = [List.map (fun x => x.1) (List.zipWith midSide (chanOf fb 0) (chanOf fb 1)),
      List.map (fun x => x.2) (List.zipWith midSide (chanOf fb 0) (chanOf fb 1))] := by
    rw [hch, ← hf4, ← hf5]; rfl
  rw [bindM_apply, C09G_encode_frame_impl s1 s2 c ms offset info .MidSide log (hf1 ▸ hn)
    ⟨by rw [hch, hf3, hf2]; exact Nat.le_refl _, by rw [hf1, hf2]; exact hfb.2.1, by rw [hf3, Nat.mul_comm]; exact hsz2⟩
    (hch ▸ by decide) hmax hmo (by
      intro ch hc
      obtain rfl | rfl : ch = 0 ∨ ch = 1 := by omega
      · rw [hoff0, hf4]; exact ⟨hb.1, Nat.le_trans hb.2 (by decide), hmidr⟩
      · rw [hoff1, hf5]; exact ⟨Nat.le_add_left 1 _, Nat.succ_le_succ hb.2, hsider⟩) hlog, hchans]
  rw [show C02Hdr.caOfGen Gen.Headers.ChannelAssignment.MidSide = ChannelAssignment.midSide from rfl]
  cases hec : encodeChannels (subCfgOf c.subframe_coding) ChannelAssignment.midSide info.bps
      [List.map (fun x => x.1) (List.zipWith midSide (chanOf fb 0) (chanOf fb 1)),
       List.map (fun x => x.2) (List.zipWith midSide (chanOf fb 0) (chanOf fb 1))] 0 log with
  | none => rfl
  | some r =>
    obtain ⟨subs, l2⟩ := r
    obtain ⟨hlen2, hcnt⟩ := C09.encodeChannels_bound _ .midSide info.bps fb.filled_size hn.1 _ 0 log l2 subs (by
      intro c hc
      simp only [List.mem_cons, List.not_mem_nil, or_false] at hc
      rcases hc with rfl | rfl <;> rw [List.length_map, hzl]) hec
    match subs, hlen2, hcnt with
    | [sm, ss], _, hcnt =>
      obtain ⟨cm, hcm, hcmb⟩ := hcnt 0 (Nat.zero_lt_succ _)
      obtain ⟨cs, hcs, hcsb⟩ := hcnt 1 (Nat.succ_lt_succ (Nat.zero_lt_succ _))
      simp only [List.getElem_cons_zero, List.getElem_cons_succ] at hcm hcs
      have hcm32 : cm < 2 ^ 32 := Nat.lt_of_le_of_lt hcmb (verbatimBits_lt _ _ hn.2 (Nat.le_trans hb.2 (by decide)))
      have hcs32 : cs < 2 ^ 32 := Nat.lt_of_le_of_lt hcsb (verbatimBits_lt _ _ hn.2 (Nat.succ_le_succ hb.2))
      have hsel : ∀ a : ChannelAssignment, ChannelAssignment.select_channels (C02Hdr.caToGen a) sl sr sm ss =
          selectChannels sl sr sm ss a := by
        intro a; cases a <;> rfl
      simp only [Option.map_some, Option.bind_some, Frame.subframe, List.getElem?_cons_zero,
        List.getElem?_cons_succ, hcl.1, hcr.1, hcm, hcs, bindM_some, add_fits _ _ hcl.2 hcs32,
        add_fits _ _ hcr.2 hcs32, add_fits _ _ hcm32 hcs32, add_fits _ _ hcl.2 hcr.2, req_true, cnt, Option.getD_some]
      rw [show List.foldl _ (cl + cr, Gen.Headers.ChannelAssignment.Independent 2) _ = _ from
        stereo_fold c.stereo_coding cl cr cm cs]
      simp only [recombine_stereo_frame, intoStereo, bindM_some, pureM_apply,
        FrameHeader.reset_channel_assignment, hsel, Frame.from_parts, implHeader, hf1]

/-- the frame-number assignment of `encode_fixed_size_frame`: `set_frame_offset(FrameOffset::Frame(frame_number as u32))` -/
def withNumber (f : Gen.Writer.Frame) (number : Nat) : Gen.Writer.Frame :=
  { f with header := Gen.Verify.FrameHeader.set_frame_offset f.header (.Frame (number % 4294967296)) }

theorem withNumber_start_sample_number (f : Gen.Writer.Frame) (n : Nat) :
    (withNumber f n).header.start_sample_number = f.header.start_sample_number := rfl

theorem withNumber_block_size (f : Gen.Writer.Frame) (n : Nat) :
    Gen.Verify.FrameHeader.block_size (withNumber f n).header = Gen.Verify.FrameHeader.block_size f.header := rfl

theorem withNumber_block_size_exact (f : Gen.Writer.Frame) (n : Nat) :
    Gen.Verify.FrameHeader.block_size_exact (withNumber f n).header = Gen.Verify.FrameHeader.block_size_exact f.header := rfl

theorem headerFor_eq (asg : ChannelAssignment) (n bps rate number : Nat) (hn : 1 ≤ n ∧ n < 2 ^ 16) :
    headerFor asg n bps rate number =
      some ⟨false, C02Hdr.bsOfGen (Gen.Headers.BlockSizeSpec.from_size n), asg, sampleSizeTag bps,
        (SampleRateSpec.fromFreq rate).getD .unspecified, number, 0⟩ := by
  unfold headerFor
  rw [C02Hdr.C02H_blockSize_fromSize_some _ (by omega) (by omega)]
  rfl

/-- the hand model's `headerFor` is the image of the header the generated code builds (offset 0, then the frame number) -/
theorem headerFor_gen (fb : FrameBuf) (info : StreamInfo) (X : Gen.Headers.ChannelAssignment) (asg : ChannelAssignment)
    (number : Nat) (hn : 1 ≤ fb.filled_size ∧ fb.filled_size < 2 ^ 16) (hb : info.bps < 256) (hrate : info.rate < 2 ^ 32)
    (hnum : number < 2 ^ 32) :
    headerFor asg fb.filled_size info.bps info.rate number =
      some (C08Gen.hdrOfGen (Gen.Verify.FrameHeader.set_frame_offset
        { implHeader fb info X 0 with channel_assignment := C02Hdr.caToGen asg } (.Frame (number % 4294967296)))) := by
  rw [headerFor_eq asg _ info.bps info.rate number hn]
  have hm1 : fb.filled_size % 65536 = fb.filled_size := Nat.mod_eq_of_lt (by omega)
  have hm2 : info.bps % 256 = info.bps := Nat.mod_eq_of_lt hb
  have hm3 : info.rate % 4294967296 = info.rate := Nat.mod_eq_of_lt hrate
  have hm4 : number % 4294967296 = number := Nat.mod_eq_of_lt hnum
  have hsr : (SampleRateSpec.fromFreq info.rate).getD .unspecified =
      C02Hdr.srOfGen ((Gen.Headers.SampleRateSpec.from_freq info.rate).getD .Unspecified) := by
    rw [C02Hdr.C02H_sampleRate_fromFreq _ hrate]
    cases Gen.Headers.SampleRateSpec.from_freq info.rate <;> rfl
  simp only [C08Gen.hdrOfGen, implHeader, Gen.Verify.FrameHeader.set_frame_offset,
    Gen.Verify.FrameHeader.set_frame_number, Gen.Verify.FrameHeader.set_start_sample_number, FrameHeader.from_specs,
    hm1, hm2, hm3, hm4, C02Hdr.caOfGen_toGen, C02Hdr.C02H_sampleSizeTag _ hb, hsr]

theorem chansOf_headD_length (fb : FrameBuf) (n : Nat) (hfb : FbOk fb n) (hn : 1 ≤ n) :
    ((chansOf fb n).headD []).length = fb.filled_size := by
  unfold chansOf
  cases hc : n with
  | zero => omega
  | succ k =>
    simp only [List.range_succ_eq_map, List.map_cons, List.headD_cons]
    exact chanOf_length fb (k + 1) 0 (hc ▸ hfb) (by omega)

/-- the frame `encode_frame` returns at offset 0, rebuilt from its model image: the header `implHeader` under the image's channel
assignment, the image's sub-frames, no precomputed bitstream -/
def genFrame (fb : FrameBuf) (info : StreamInfo) (f : Frame) : Gen.Writer.Frame :=
  ⟨implHeader fb info (C02Hdr.caToGen f.header.assignment) 0, f.subframes, none⟩

/-- **`encode_frame`** (offset 0, as `encode_fixed_size_frame` calls it) = `encodeFrame`, for a frame buffer of `1..8` valid
channels of `1 ≤ n < 2^16` samples of `1 ≤ bps ≤ 24` bits: the independent coding, for two channels the stereo trial and the
selection, the header.  The value returned is `genFrame` of the model's frame (whatever 32-bit number the model's header
carries: `encode_frame` leaves the frame number 0). -/
theorem encode_frame_eq (s1 : List (List Int)) (s2 : List Int) (s3 : FrameBuf) (c : Gen.Encoder) (fb : FrameBuf)
    (info : StreamInfo) (number : Nat) (log : List OEvent)
    (hst : StereoBuf s3) (hfb : FbOk fb info.channels) (hn : 1 ≤ fb.filled_size ∧ fb.filled_size < 2 ^ 16)
    (hch : 1 ≤ info.channels ∧ info.channels ≤ 8) (hb : 1 ≤ info.bps ∧ info.bps ≤ 24)
    (hx : ∀ ch, ch < info.channels → ∀ x ∈ chanOf fb ch, SubFrame.inRange info.bps x = true)
    (hmax : c.subframe_coding.prc.max_parameter ≤ 14) (hmo : c.subframe_coding.fixed.max_order + 1 < 2 ^ 64)
    (hlog : LogFits log) :
    encode_frame s1 s2 s3 c fb 0 info log =
      (encodeFrame (subCfgOf c.subframe_coding) (stereoCfgOf c.stereo_coding) (chansOf fb info.channels) info.bps info.rate
        number log).map fun r => (genFrame fb info r.1, r.2) := by
  unfold encode_frame encodeFrame
  have hm : info.channels % 256 = info.channels := Nat.mod_eq_of_lt (by omega)
  have hca : C02Hdr.caOfGen (Gen.Headers.ChannelAssignment.Independent info.channels) = .independent info.channels := rfl
  have hclen : (chansOf fb info.channels).length = info.channels := by simp [chansOf]
  have hhead := chansOf_headD_length fb info.channels hfb hch.1
  simp only [bindM_apply, hm, hclen, hhead]
  rw [C09G_encode_frame_impl s1 s2 c fb 0 info (.Independent info.channels) log hn hfb hch.2 hmax hmo
    (fun ch hc => ⟨hb.1, Nat.le_trans hb.2 (by decide), hx ch hc⟩) hlog, hca]
  cases hec : encodeChannels (subCfgOf c.subframe_coding) (.independent info.channels) info.bps (chansOf fb info.channels) 0 log with
  | none => rfl
  | some r =>
    obtain ⟨indep, l1⟩ := r
    obtain ⟨hilen, hicnt⟩ := C09.encodeChannels_bound _ (.independent info.channels) info.bps fb.filled_size hn.1 _ 0 log l1
      indep (chansOf_length fb _ hfb) hec
    have hsub := encodeChannels_sub _ _ _ _ _ _ _ _ hec
    simp only [Option.map_some, Option.bind_some]
    by_cases h2 : info.channels = 2
    · rw [if_pos h2]
      have hchans : chansOf fb info.channels = [chanOf fb 0, chanOf fb 1] := by rw [h2]; simp [chansOf, List.range_succ]
      rw [hclen, h2] at hilen
      match indep, hilen, hicnt with
      | [sl, sr], _, hicnt =>
        obtain ⟨cl, hcl, hclb⟩ := hicnt 0 (Nat.zero_lt_succ _)
        obtain ⟨cr, hcr, hcrb⟩ := hicnt 1 (Nat.succ_lt_succ (Nat.zero_lt_succ _))
        simp only [List.getElem_cons_zero, List.getElem_cons_succ, ChannelAssignment.bpsOffset, Nat.add_zero] at hcl hcr hclb hcrb
        have hvb := verbatimBits_lt fb.filled_size info.bps hn.2 (Nat.le_trans hb.2 (by decide))
        rw [C09G_try_stereo_coding s3 s1 s2 c fb _ sl sr none 0 info l1 cl cr hst (h2 ▸ hfb) hn h2 hb
          (fun ch hc => hx ch (h2 ▸ hc)) hmax hmo (hlog.sub hsub) ⟨hcl, Nat.lt_of_le_of_lt hclb hvb⟩
          ⟨hcr, Nat.lt_of_le_of_lt hcrb hvb⟩]
        rw [hchans]
        simp only []
        cases encodeChannels (subCfgOf c.subframe_coding) .midSide info.bps
            [(List.zipWith midSide (chanOf fb 0) (chanOf fb 1)).map (·.1),
             (List.zipWith midSide (chanOf fb 0) (chanOf fb 1)).map (·.2)] 0 l1 with
        | none => rfl
        | some r2 =>
          obtain ⟨msSubs, l2⟩ := r2
          simp only [Option.bind_some]
          match msSubs with
          | [] => rfl
          | [_] => rfl
          | _ :: _ :: _ :: _ => rfl
          | [sm, ss] =>
            simp only [Option.map_some, headerFor_eq _ _ _ _ _ hn, genFrame]
            rfl
    · rw [if_neg h2]
      split
      · exfalso
        rename_i heq
        rw [heq] at hclen
        simp at hclen
        omega
      · simp only [if_neg h2, pureM_apply, Option.map_some, headerFor_eq _ _ _ _ _ hn, genFrame]
        rfl


/-- the model's frame is the image of the frame the generated code returns for it: `headerFor` of its own channel assignment
is the image of `implHeader` under that assignment and the frame number (`headerFor_gen`) -/
theorem frameOfGen_genFrame {cfg : SubCfg} {st : StereoCfg} (fb : FrameBuf) (info : StreamInfo) (number : Nat) {log l : List OEvent}
    {f : Frame} (hfb : FbOk fb info.channels) (hn : 1 ≤ fb.filled_size ∧ fb.filled_size < 2 ^ 16) (hch : 1 ≤ info.channels)
    (hb : info.bps ≤ 24) (hrate : info.rate < 2 ^ 32) (hnum : number < 2 ^ 32)
    (h : encodeFrame cfg st (chansOf fb info.channels) info.bps info.rate number log = some (f, l)) :
    C08Gen.frameOfGen (withNumber (genFrame fb info f) number) = f := by
  obtain ⟨hdr, subs⟩ := f
  obtain ⟨_, asg, _, _, hhdr, _⟩ := encodeFrame_shape _ _ _ _ _ _ _ _ _ h
  rw [chansOf_headD_length fb info.channels hfb hch,
    headerFor_gen fb info (C02Hdr.caToGen asg) asg number hn (by omega) hrate hnum] at hhdr
  cases hhdr
  simp only [genFrame, C08Gen.frameOfGen, withNumber, C08Gen.hdrOfGen,
    Gen.Verify.FrameHeader.set_frame_offset, Gen.Verify.FrameHeader.set_frame_number, implHeader_channel_assignment,
    C02Hdr.caOfGen_toGen]

/-- **`encode_frame`** (followed by the frame-number assignment of `encode_fixed_size_frame`, which calls it with offset 0)
= `encodeFrame`, for a frame buffer of `1..8` valid channels of `1 ≤ n < 2^16` samples of `1 ≤ bps ≤ 24` bits: the
independent coding, for two channels the stereo trial and the selection, the header.  The generated frame is related to the
hand model's by `C08Gen.frameOfGen` (enum maps of C02Hdr). -/
theorem C09G_encode_frame (s1 : List (List Int)) (s2 : List Int) (s3 : FrameBuf) (c : Gen.Encoder) (fb : FrameBuf)
    (info : StreamInfo) (number : Nat) (log : List OEvent)
    (hst : StereoBuf s3) (hfb : FbOk fb info.channels) (hn : 1 ≤ fb.filled_size ∧ fb.filled_size < 2 ^ 16)
    (hch : 1 ≤ info.channels ∧ info.channels ≤ 8) (hb : 1 ≤ info.bps ∧ info.bps ≤ 24)
    (hx : ∀ ch, ch < info.channels → ∀ x ∈ chanOf fb ch, SubFrame.inRange info.bps x = true)
    (hmax : c.subframe_coding.prc.max_parameter ≤ 14) (hmo : c.subframe_coding.fixed.max_order + 1 < 2 ^ 64)
    (hrate : info.rate < 2 ^ 32) (hnum : number < 2 ^ 32) (hlog : LogFits log) :
    (encode_frame s1 s2 s3 c fb 0 info log).map (fun r => (C08Gen.frameOfGen (withNumber r.1 number), r.2)) =
      encodeFrame (subCfgOf c.subframe_coding) (stereoCfgOf c.stereo_coding) (chansOf fb info.channels) info.bps info.rate
        number log := by
  rw [encode_frame_eq s1 s2 s3 c fb info number log hst hfb hn hch hb hx hmax hmo hlog, Option.map_map]
  cases h : encodeFrame (subCfgOf c.subframe_coding) (stereoCfgOf c.stereo_coding) (chansOf fb info.channels) info.bps info.rate
      number log with
  | none => rfl
  | some r => simp only [Option.map_some, Function.comp_apply, frameOfGen_genFrame fb info number hfb hn hch.1 hb.2 hrate hnum h]

/-- a stereo frame buffer of 64 samples per channel, its stream info, the `MSFRAMEBUF` storage as `new_stereo_buffer` makes it -/
def fb2 : FrameBuf := ⟨sig64 ++ sig64.map (fun x => x / 2 + 3), 64, 64, []⟩
def info2 : StreamInfo := ⟨64, 64, 0, 0, 44100, 2, 16, 0, List.replicate 16 0⟩
def msStale : FrameBuf := ⟨List.replicate 512 0, 256, 0, []⟩
def cfgEnc : Gen.Encoder := Gen.Encoder.default true
def log4 : List OEvent := log64 ++ log64 ++ log64 ++ log64

theorem log4_fits : LogFits log4 := by
  intro o b h
  simp [log4, log64] at h
  omega

theorem msStale_ok : StereoBuf msStale := by
  unfold StereoBuf msStale
  simp only [List.length_replicate]
  decide

theorem fb2_valid : FbOk fb2 info2.channels ∧ (1 ≤ fb2.filled_size ∧ fb2.filled_size < 2 ^ 16) ∧
    ∀ ch, ch < info2.channels → ∀ x ∈ chanOf fb2 ch, SubFrame.inRange info2.bps x = true := by
  refine ⟨by simp [FbOk, fb2, sig64, info2], by simp [fb2], ?_⟩
  intro ch hc
  have : ch = 0 ∨ ch = 1 := by
    have : info2.channels = 2 := rfl
    omega
  rcases this with rfl | rfl <;> decide

example : (encode_frame [] [] msStale cfgEnc fb2 0 info2 log4).map (fun r => (C08Gen.frameOfGen (withNumber r.1 7), r.2)) =
    encodeFrame (subCfgOf cfgEnc.subframe_coding) (stereoCfgOf cfgEnc.stereo_coding) (chansOf fb2 2) 16 44100 7 log4 :=
  C09G_encode_frame [] [] msStale cfgEnc fb2 info2 7 log4 msStale_ok fb2_valid.1 fb2_valid.2.1 (by decide) (by decide)
    fb2_valid.2.2 (by decide) (by decide) (by decide) (by decide) log4_fits

example : try_stereo_coding msStale [] [] cfgEnc fb2 ⟨implHeader fb2 info2 (.Independent 2) 0, [.verbatim (chanOf fb2 0) 16,
      .verbatim (chanOf fb2 1) 16], none⟩ 0 info2 log4 =
    (encodeChannels (subCfgOf cfgEnc.subframe_coding) .midSide 16
        [(List.zipWith midSide (chanOf fb2 0) (chanOf fb2 1)).map (·.1),
         (List.zipWith midSide (chanOf fb2 0) (chanOf fb2 1)).map (·.2)] 0 log4).bind fun r =>
      match r.1 with
      | [sm, ss] =>
        let asg := chooseStereo (stereoCfgOf cfgEnc.stereo_coding) 1032 1032 (cnt sm) (cnt ss)
        let pick := selectChannels (.verbatim (chanOf fb2 0) 16) (.verbatim (chanOf fb2 1) 16) sm ss asg
        some (⟨{ implHeader fb2 info2 .MidSide 0 with channel_assignment := C02Hdr.caToGen asg }, [pick.1, pick.2], none⟩, r.2)
      | _ => none :=
  C09G_try_stereo_coding msStale [] [] cfgEnc fb2 _ _ _ none 0 info2 log4 1032 1032 msStale_ok fb2_valid.1 fb2_valid.2.1 rfl
    (by decide) fb2_valid.2.2 (by decide) (by decide) log4_fits ⟨by decide, by decide⟩ ⟨by decide, by decide⟩

/-- `encode_fixed_size_frame` on every input: the three argument checks, each an `Err` that leaves the log alone (`FrameBuf::channels`
divides by `size`: a panic for `size = 0`), then `encode_frame` at offset 0 and the frame number stored in its header. -/
theorem encode_fixed_size_frame_eq (vs : FrameBuf → Nat → Gen.Verify.VR) (s1 : List (List Int)) (s2 : List Int)
    (s3 : FrameBuf) (c : Gen.Encoder) (fb : FrameBuf) (number : Nat) (info : StreamInfo) (log : List OEvent) :
    encode_fixed_size_frame vs s1 s2 s3 c fb number info log =
      if 2 ^ 31 ≤ number then some (none, log) else
      if fb.size = 0 then none else
      if fb.samples.length / fb.size = info.channels ∧ 0 < fb.filled_size then
        match vs fb info.bps with
        | none => none
        | some false => some (none, log)
        | some true => (encode_frame s1 s2 s3 c fb 0 info log).map fun r => (some (withNumber r.1 number), r.2)
      else some (none, log) := by
  unfold encode_fixed_size_frame
  have e : (1 <<< 31) % 18446744073709551616 = 2 ^ 31 := by decide
  simp only [e, vrTry, Gen.Verify.verify_macro_impl, bindM_apply, FrameBuf.channels, req_apply]
  by_cases h1 : 2 ^ 31 ≤ number
  · simp [h1, Nat.not_lt.2 h1]
  have hlt := Nat.lt_of_not_le h1
  by_cases h2 : fb.size = 0
  · simp [h1, hlt, h2]
  by_cases h3 : fb.samples.length / fb.size = info.channels ∧ 0 < fb.filled_size
  · rcases hv : vs fb info.bps with _ | _ | _ <;>
      simp only [hlt, h1, h2, h3, pureM_apply, decide_true, ne_eq, not_false_eq_true, not_true_eq_false, if_true, if_false,
        Option.bind_some, and_self]
    cases encode_frame s1 s2 s3 c fb 0 info log <;> rfl
  · simp only [h1, hlt, h2, pureM_apply, decide_true, ne_eq, not_false_eq_true, not_true_eq_false, if_true, if_false,
      Option.bind_some]
    simp [h3]

/-- what `encode_fixed_size_frame` returns when the three argument checks pass: the frame `genFrame` rebuilds from the model's,
under the frame number -/
theorem encode_fixed_size_frame_value (vs : FrameBuf → Nat → Gen.Verify.VR) (s1 : List (List Int)) (s2 : List Int)
    (s3 : FrameBuf) (c : Gen.Encoder) (fb : FrameBuf) (number : Nat) (info : StreamInfo) (log : List OEvent)
    (hst : StereoBuf s3) (hfb : FbOk fb info.channels) (hn : 1 ≤ fb.filled_size ∧ fb.filled_size < 2 ^ 16)
    (hch : 1 ≤ info.channels ∧ info.channels ≤ 8) (hb : 1 ≤ info.bps ∧ info.bps ≤ 24)
    (hx : ∀ ch, ch < info.channels → ∀ x ∈ chanOf fb ch, SubFrame.inRange info.bps x = true)
    (hmax : c.subframe_coding.prc.max_parameter ≤ 14) (hmo : c.subframe_coding.fixed.max_order + 1 < 2 ^ 64)
    (hlog : LogFits log)
    (hnum : number < 2 ^ 31) (hcn : fb.samples.length / fb.size = info.channels) (hvs : vs fb info.bps = some true) :
    encode_fixed_size_frame vs s1 s2 s3 c fb number info log =
      (encodeFrame (subCfgOf c.subframe_coding) (stereoCfgOf c.stereo_coding) (chansOf fb info.channels) info.bps info.rate
        number log).map fun r => (some (withNumber (genFrame fb info r.1) number), r.2) := by
  rw [encode_fixed_size_frame_eq, if_neg (by omega), if_neg (by have := hfb.2.1; omega), if_pos ⟨hcn, by omega⟩, hvs,
    encode_frame_eq s1 s2 s3 c fb info number log hst hfb hn hch hb hx hmax hmo hlog, Option.map_map]
  rfl

/-- **`encode_fixed_size_frame`**: when the three argument checks pass — `frame_number < 2^31`, the buffer has
`stream_info.channels()` channels and is not empty, `verify_samples` (external: the parameter `vs`) accepts — the result is
`Ok` of the frame `encodeFrame` describes (related by `C08Gen.frameOfGen`). -/
theorem C09G_encode_fixed_size_frame (vs : FrameBuf → Nat → Gen.Verify.VR) (s1 : List (List Int)) (s2 : List Int)
    (s3 : FrameBuf) (c : Gen.Encoder) (fb : FrameBuf) (number : Nat) (info : StreamInfo) (log : List OEvent)
    (hst : StereoBuf s3) (hfb : FbOk fb info.channels) (hn : 1 ≤ fb.filled_size ∧ fb.filled_size < 2 ^ 16)
    (hch : 1 ≤ info.channels ∧ info.channels ≤ 8) (hb : 1 ≤ info.bps ∧ info.bps ≤ 24)
    (hx : ∀ ch, ch < info.channels → ∀ x ∈ chanOf fb ch, SubFrame.inRange info.bps x = true)
    (hmax : c.subframe_coding.prc.max_parameter ≤ 14) (hmo : c.subframe_coding.fixed.max_order + 1 < 2 ^ 64)
    (hrate : info.rate < 2 ^ 32) (hlog : LogFits log)
    (hnum : number < 2 ^ 31) (hcn : fb.samples.length / fb.size = info.channels) (hvs : vs fb info.bps = some true) :
    (encode_fixed_size_frame vs s1 s2 s3 c fb number info log).map (fun r => (r.1.map C08Gen.frameOfGen, r.2)) =
      (encodeFrame (subCfgOf c.subframe_coding) (stereoCfgOf c.stereo_coding) (chansOf fb info.channels) info.bps info.rate
        number log).map fun r => (some r.1, r.2) := by
  rw [encode_fixed_size_frame_value vs s1 s2 s3 c fb number info log hst hfb hn hch hb hx hmax hmo hlog hnum hcn hvs, Option.map_map]
  cases h : encodeFrame (subCfgOf c.subframe_coding) (stereoCfgOf c.stereo_coding) (chansOf fb info.channels) info.bps info.rate
      number log with
  | none => rfl
  | some r =>
    simp only [Option.map_some, Function.comp_apply, frameOfGen_genFrame fb info number hfb hn hch.1 hb.2 hrate (by omega) h]

/-- a frame number outside 31 bits is rejected (`Err`), whatever the other arguments are -/
theorem encode_fixed_size_frame_rejects (vs : FrameBuf → Nat → Gen.Verify.VR) (s1 : List (List Int)) (s2 : List Int)
    (s3 : FrameBuf) (c : Gen.Encoder) (fb : FrameBuf) (number : Nat) (info : StreamInfo) (log : List OEvent)
    (h : 2 ^ 31 ≤ number) : encode_fixed_size_frame vs s1 s2 s3 c fb number info log = some (none, log) := by
  rw [encode_fixed_size_frame_eq, if_pos h]

/-- an empty frame buffer, or one whose number of channels differs from `stream_info`, is rejected (`Err`) -/
theorem encode_fixed_size_frame_rejects_buffer (vs : FrameBuf → Nat → Gen.Verify.VR) (s1 : List (List Int)) (s2 : List Int)
    (s3 : FrameBuf) (c : Gen.Encoder) (fb : FrameBuf) (number : Nat) (info : StreamInfo) (log : List OEvent)
    (hnum : number < 2 ^ 31) (hsz : fb.size ≠ 0)
    (h : fb.filled_size = 0 ∨ fb.samples.length / fb.size ≠ info.channels) :
    encode_fixed_size_frame vs s1 s2 s3 c fb number info log = some (none, log) := by
  rw [encode_fixed_size_frame_eq, if_neg (by omega), if_neg hsz, if_neg (by omega)]

example : (encode_fixed_size_frame (fun _ _ => some true) [] [] msStale cfgEnc fb2 7 info2 log4).map
      (fun r => (r.1.map C08Gen.frameOfGen, r.2)) =
    (encodeFrame (subCfgOf cfgEnc.subframe_coding) (stereoCfgOf cfgEnc.stereo_coding) (chansOf fb2 2) 16 44100 7 log4).map
      fun r => (some r.1, r.2) :=
  C09G_encode_fixed_size_frame _ [] [] msStale cfgEnc fb2 7 info2 log4 msStale_ok fb2_valid.1 fb2_valid.2.1 (by decide) (by decide)
    fb2_valid.2.2 (by decide) (by decide) (by decide) log4_fits (by decide) (by simp [fb2, sig64, info2]) rfl

end C09Gen
end FlacVerif
