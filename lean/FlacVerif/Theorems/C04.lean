/-
C04 — STREAMINFO block-size and frame-size bounds are valid and exact.
-/
import FlacVerif.Model.Encoder
import FlacVerif.Lemmas.ListFacts
namespace FlacVerif.C04

def lens (frames : List (Nat × Nat)) : List Nat := frames.map fun f => f.2 / 8

/-- Invariant of the `add_frame` fold: the frame-size bounds are the min / max over the frames
added so far (starting from the initial `u32::MAX` / `0`). -/
theorem fold_bounds (s0 : StreamInfo) (frames : List (Nat × Nat))
    (hb : ∀ f ∈ frames, f.2 / 8 < 2 ^ 32) :
    let s1 := frames.foldl (fun s f => s.addFrameCast f.1 f.2) s0
    s1.minFrame = (lens frames).foldl min s0.minFrame ∧ s1.maxFrame = (lens frames).foldl max s0.maxFrame := by
  induction frames generalizing s0 with
  | nil => simp [lens]
  | cons f fs ih =>
    have hf : f.2 / 8 % 2 ^ 32 = f.2 / 8 := Nat.mod_eq_of_lt (hb f (by simp))
    have := ih (s0.addFrameCast f.1 f.2) (fun g hg => hb g (by simp [hg]))
    simp only [List.foldl_cons, lens, List.map_cons] at this ⊢
    simp only [StreamInfo.addFrameCast, hf] at this ⊢
    refine ⟨?_, ?_⟩
    · rw [this.1, Nat.min_comm]
    · rw [this.2, Nat.max_comm]

/-- **C04.** For every stream with at least one frame assembled as `assembleInfo` does:
the block-size fields equal the requested block size; the frame-size fields are
attained by some frame and bound every frame — i.e. they are the minimum and maximum byte length —
whatever the input length is. No bound on the number of frames. -/
theorem C04_bounds (rate channels bps bs total : Nat) (md5 : List Nat) (frames : List (Nat × Nat))
    (hne : frames ≠ []) (hb : ∀ f ∈ frames, f.2 / 8 < 2 ^ 32) :
    let si := assembleInfo rate channels bps bs frames total md5
    si.maxBlock = bs ∧ si.minBlock = bs ∧
    (∀ x ∈ lens frames, si.minFrame ≤ x ∧ x ≤ si.maxFrame) ∧
    si.minFrame ∈ lens frames ∧ si.maxFrame ∈ lens frames := by
  have hfold := fold_bounds ({ StreamInfo.empty rate channels bps with minBlock := bs, maxBlock := bs }) frames hb
  obtain ⟨h1, h2⟩ := hfold
  have e1 : (assembleInfo rate channels bps bs frames total md5).minFrame =
      (lens frames).foldl min (2 ^ 32 - 1) := by simpa [assembleInfo, StreamInfo.empty] using h1
  have e2 : (assembleInfo rate channels bps bs frames total md5).maxFrame =
      (lens frames).foldl max 0 := by simpa [assembleInfo, StreamInfo.empty] using h2
  obtain ⟨f, fs, rfl⟩ := List.exists_cons_of_ne_nil hne
  have hf := hb f (by simp)
  refine ⟨by simp [assembleInfo], by simp [assembleInfo], ?_, ?_, ?_⟩
  · intro x hx
    rw [e1, e2]
    exact ⟨foldl_min_le_mem _ _ _ hx, mem_le_foldl_max _ _ _ hx⟩
  · rw [e1]
    rcases foldl_min_mem (lens (f :: fs)) (2 ^ 32 - 1) with h | h
    · -- the minimum stays at the initial 2^32-1 only if a frame has exactly that size
      have hle := foldl_min_le_mem (lens (f :: fs)) (2 ^ 32 - 1) (f.2 / 8) (by simp [lens])
      have : f.2 / 8 = 2 ^ 32 - 1 := by omega
      rw [h]; simp [lens, this]
    · exact h
  · rw [e2]
    rcases foldl_select_mem max (fun m x => by omega) (lens (f :: fs)) 0 with h | h
    · have hle := mem_le_foldl_max (lens (f :: fs)) 0 (f.2 / 8) (by simp [lens])
      have : f.2 / 8 = 0 := by omega
      rw [h]; simp [lens, this]
    · exact h

/-- With no frame (empty input) the writer emits the "unknown" notation 0/0, which a
strict decoder accepts. -/
theorem C04_empty (rate channels bps bs total : Nat) (md5 : List Nat) :
    let si := assembleInfo rate channels bps bs [] total md5
    si.minFrame > si.maxFrame ∧ si.minBlock = bs ∧ si.maxBlock = bs := by
  simp [assembleInfo, StreamInfo.empty]

/-- Non-vacuity and regression for finding F1 (1 channel, bs = 64, 69 samples: frames of 64 and 5
samples): the minimum block size stays 64. -/
example : (assembleInfo 44100 1 16 64 [(64, 8 * 120), (5, 8 * 20)] 69 (List.replicate 16 0)).minBlock = 64 ∧
    (assembleInfo 44100 1 16 64 [(64, 8 * 120), (5, 8 * 20)] 69 (List.replicate 16 0)).minFrame = 20 ∧
    (assembleInfo 44100 1 16 64 [(64, 8 * 120), (5, 8 * 20)] 69 (List.replicate 16 0)).maxFrame = 120 := by decide

end FlacVerif.C04
