/-
C07 — "Configuration verification accepts a configuration if and only if every field at every
nesting level lies in its documented range (block size 32..=32767, fixed max order <= 4,
entropy-estimator partitions 1..=64, LPC order 1..=24, coefficient precision 1..=15, Rice max
parameter <= 14, Tukey alpha within [0,1] and not NaN, experimental options only when compiled in)."

`Encoder.verify` & co. are the mechanical translation of the `impl Verify` blocks of
`src/config.rs` (`Gen/Config.lean`, numeric constants from `src/constant.rs` in
`Gen/Constants.lean`).  The specification `InRange` below is written by hand from the sentence above
with literal numbers; it mentions neither `verify` nor the `Const.*` definitions.
`alpha` is an `f32` given by its IEEE-754 bit pattern; `F32.inRange` (`Model/TVal.lean`) is the IEEE
comparison `0.0 <= alpha && alpha <= 1.0` on bit patterns.
-/
import FlacVerif.Lemmas.Config
namespace FlacVerif
open Gen ConfigL

/-- An f32 bit pattern denoting a number in `[0,1]` (so not a NaN): `+0.0 … 1.0`
(`0x00000000 … 0x3F800000`; for non-negative floats the bit pattern is monotone in the value), or
`-0.0` (`0x80000000`, which IEEE compares equal to `+0.0`). -/
def AlphaOk (bits : Nat) : Prop := bits ≤ 0x3F800000 ∨ bits = 0x80000000

/-- The documented ranges, every nesting level, literal numbers. -/
def InRange (exp : Bool) (c : Encoder) : Prop :=
  32 ≤ c.block_size ∧ c.block_size ≤ 32767 ∧ c.subframe_coding.fixed.max_order ≤ 4 ∧
  (match c.subframe_coding.fixed.order_sel with
    | .BitCount => True | .ApproxEnt p => 1 ≤ p ∧ p ≤ 64) ∧
  1 ≤ c.subframe_coding.qlpc.lpc_order ∧ c.subframe_coding.qlpc.lpc_order ≤ 24 ∧
  1 ≤ c.subframe_coding.qlpc.quant_precision ∧ c.subframe_coding.qlpc.quant_precision ≤ 15 ∧
  (exp = false → c.subframe_coding.qlpc.use_direct_mse = false ∧
                 c.subframe_coding.qlpc.mae_optimization_steps = 0) ∧
  (match c.subframe_coding.qlpc.window with
    | .Rectangle => True | .Tukey a => a < 2^32 → AlphaOk a) ∧
  c.subframe_coding.prc.max_parameter ≤ 14

/-- The float lemma: on genuine f32 bit patterns, IEEE `0.0 <= a && a <= 1.0` holds exactly for the
patterns of `AlphaOk`. Proved from the bit-level definitions (sign bit, exponent, mantissa). -/
theorem C07_alpha (a : Nat) (ha : a < 2^32) :
    F32.inRange 0x00000000 0x3F800000 a = true ↔ AlphaOk a := by
  unfold AlphaOk F32.inRange F32.le F32.isNaN F32.key
  simp only [Bool.and_eq_true, Bool.not_eq_true', decide_eq_true_eq, bne_eq_false_iff_eq,
    Bool.and_eq_false_imp, beq_iff_eq, Nat.reducePow, Nat.reduceDiv, Nat.reduceMod] at ha ⊢
  split <;> omega

theorem C07_alpha_not_nan (a : Nat) (h : AlphaOk a) : F32.isNaN a = false := by
  unfold AlphaOk at h
  unfold F32.isNaN
  simp only [Bool.and_eq_false_imp, beq_iff_eq, bne_eq_false_iff_eq, Nat.reducePow]
  omega

theorem C07_nan_rejected (exp : Bool) (a : Nat) (h : F32.isNaN a = true) :
    Window.verify exp (.Tukey a) = false := by
  simp [Window.verify, F32.inRange, F32.le, h]

/-- Verification accepts exactly the configurations in the documented ranges. -/
theorem C07_exact (exp : Bool) (c : Encoder)
    (hbits : match c.subframe_coding.qlpc.window with | .Rectangle => True | .Tukey a => a < 2^32) :
    Encoder.verify exp c = true ↔ InRange exp c := by
  have hw : Window.verify exp c.subframe_coding.qlpc.window = true ↔
      (match c.subframe_coding.qlpc.window with
        | .Rectangle => True | .Tukey a => a < 2^32 → AlphaOk a) := by
    rw [window_verify_iff]
    cases hwin : c.subframe_coding.qlpc.window with
    | Rectangle => simp
    | Tukey a =>
      rw [hwin] at hbits; simp only at hbits ⊢; rw [C07_alpha a hbits]; simp [hbits]
  rw [encoder_verify_iff, subframe_verify_iff, fixed_verify_iff, qlpc_verify_iff, prc_verify_iff,
    orderSel_verify_iff, hw]
  simp only [InRange, and_assoc]
  exact Iff.rfl

theorem C07_rejects (exp : Bool) (c : Encoder)
    (hbits : match c.subframe_coding.qlpc.window with | .Rectangle => True | .Tukey a => a < 2^32) :
    Encoder.verify exp c = false ↔ ¬ InRange exp c := by
  rw [← C07_exact exp c hbits]; simp

/-- The default configuration verifies, whatever the feature set. -/
theorem C07_default_verifies (par exp : Bool) :
    Encoder.verify exp (Encoder.default par) = true := by
  cases par <;> cases exp <;> decide

/-- The preconditions the integer consumers of the configuration rely on (non-zero partition count,
fixed order table of 5 entries, non-zero precision, LPC order within the 24-entry FLAC limit, Rice
parameter within 4 bits and below the escape code, a block of at least 32 samples). -/
theorem C07_consumers (exp : Bool) (c : Encoder) (h : Encoder.verify exp c = true) :
    (match c.subframe_coding.fixed.order_sel with | .ApproxEnt p => p ≠ 0 | _ => True) ∧
    c.subframe_coding.fixed.max_order + 1 ≤ 5 ∧
    1 ≤ c.subframe_coding.qlpc.quant_precision ∧ c.subframe_coding.qlpc.lpc_order ≤ 24 ∧
    c.subframe_coding.prc.max_parameter < 16 ∧ 32 ≤ c.block_size := by
  rw [encoder_verify_iff, subframe_verify_iff, fixed_verify_iff, qlpc_verify_iff, prc_verify_iff,
    orderSel_verify_iff] at h
  obtain ⟨h1, _, ⟨h3, h4⟩, ⟨_, h6, h7, _, _, _⟩, h11⟩ := h
  refine ⟨?_, by omega, h7, h6, by omega, h1⟩
  cases hos : c.subframe_coding.fixed.order_sel with
  | BitCount => trivial
  | ApproxEnt p => rw [hos] at h4; simp only at h4 ⊢; omega

/-! ### Non-vacuity: the default is accepted, one configuration per violated clause is rejected -/

section Examples

private def dflt : Encoder := Encoder.default true
private def withSub (f : SubFrameCoding → SubFrameCoding) : Encoder :=
  { dflt with subframe_coding := f dflt.subframe_coding }
private def withAlpha (a : Nat) : Encoder :=
  withSub fun s => { s with qlpc := { s.qlpc with window := .Tukey a } }

example : Encoder.verify false dflt = true := by decide
example : Encoder.verify true (Encoder.default false) = true := by decide
example : InRange false dflt := by
  simp [InRange, dflt, Encoder.default, SubFrameCoding.default, Fixed.default, OrderSel.default,
    Qlpc.default, Window.default, Prc.default, AlphaOk, Const.DEFAULT_BLOCK_SIZE,
    Const.fixed_MAX_LPC_ORDER, Const.DEFAULT_ENTROPY_ESTIMATOR_PARTITIONS, Const.qlpc_DEFAULT_ORDER,
    Const.qlpc_DEFAULT_PRECISION, Const.qlpc_DEFAULT_TUKEY_ALPHA_bits,
    Const.rice_MAX_RICE_PARAMETER]
example : Encoder.verify false { dflt with block_size := 31 } = false := by decide
example : Encoder.verify false { dflt with block_size := 32 } = true := by decide
example : Encoder.verify false { dflt with block_size := 32767 } = true := by decide
example : Encoder.verify false { dflt with block_size := 32768 } = false := by decide
example : Encoder.verify false
    (withSub fun s => { s with fixed := { s.fixed with max_order := 5 } }) = false := by decide
example : Encoder.verify false
    (withSub fun s => { s with fixed := { s.fixed with max_order := 0 } }) = true := by decide
example : Encoder.verify false
    (withSub fun s => { s with fixed := { s.fixed with order_sel := .ApproxEnt 0 } }) = false := by
  decide
example : Encoder.verify false
    (withSub fun s => { s with fixed := { s.fixed with order_sel := .ApproxEnt 65 } }) = false := by
  decide
example : Encoder.verify false
    (withSub fun s => { s with fixed := { s.fixed with order_sel := .ApproxEnt 64 } }) = true := by
  decide
example : Encoder.verify false
    (withSub fun s => { s with fixed := { s.fixed with order_sel := .BitCount } }) = true := by
  decide
example : Encoder.verify false
    (withSub fun s => { s with qlpc := { s.qlpc with lpc_order := 0 } }) = false := by decide
example : Encoder.verify false
    (withSub fun s => { s with qlpc := { s.qlpc with lpc_order := 25 } }) = false := by decide
example : Encoder.verify false
    (withSub fun s => { s with qlpc := { s.qlpc with lpc_order := 24 } }) = true := by decide
example : Encoder.verify false
    (withSub fun s => { s with qlpc := { s.qlpc with quant_precision := 0 } }) = false := by decide
example : Encoder.verify false
    (withSub fun s => { s with qlpc := { s.qlpc with quant_precision := 16 } }) = false := by decide
example : Encoder.verify false (withSub fun s => { s with prc := ⟨15⟩ }) = false := by decide
example : Encoder.verify false (withSub fun s => { s with prc := ⟨0⟩ }) = true := by decide
example : Encoder.verify false
    (withSub fun s => { s with qlpc := { s.qlpc with use_direct_mse := true } }) = false := by decide
example : Encoder.verify true
    (withSub fun s => { s with qlpc := { s.qlpc with use_direct_mse := true } }) = true := by decide
example : Encoder.verify false
    (withSub fun s => { s with qlpc := { s.qlpc with mae_optimization_steps := 1 } }) = false := by
  decide
example : Encoder.verify true
    (withSub fun s => { s with qlpc := { s.qlpc with mae_optimization_steps := 1 } }) = true := by
  decide
example : Encoder.verify false (withAlpha 0x3F800001) = false := by decide   -- just above 1.0
example : Encoder.verify false (withAlpha 0x7FC00000) = false := by decide   -- quiet NaN
example : Encoder.verify false (withAlpha 0x7F800001) = false := by decide   -- signalling NaN
example : Encoder.verify false (withAlpha 0xFFC00000) = false := by decide   -- negative NaN
example : Encoder.verify false (withAlpha 0x7F800000) = false := by decide   -- +inf
example : Encoder.verify false (withAlpha 0xBF800000) = false := by decide   -- -1.0
example : Encoder.verify false (withAlpha 0x80000001) = false := by decide   -- smallest negative
example : Encoder.verify false (withAlpha 0x80000000) = true := by decide    -- -0.0 accepted
example : Encoder.verify false (withAlpha 0x00000000) = true := by decide    -- +0.0
example : Encoder.verify false (withAlpha 0x3F800000) = true := by decide    -- 1.0
example : Encoder.verify false (withAlpha 0x00000001) = true := by decide    -- smallest subnormal
example : Encoder.verify false
    (withSub fun s => { s with qlpc := { s.qlpc with window := .Rectangle } }) = true := by decide

end Examples

end FlacVerif
