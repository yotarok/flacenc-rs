/-
C08 (generated writer) — the HAND-WRITTEN model of the bitstream writer (`Model/Ops.lean`: the lists of `BitSink`
operations each component's `write` issues; `Model/Component.lean` / `Model/Rice.lean`: `count`) agrees with the
Rust source text of `src/component/bitrepr.rs`.

`Gen/Writer.lean` (translator part `writer`) mirrors the bodies of `impl BitRepr for X { fn count_bits; fn write }`
statement by statement.  The theorems say that for every component value the hand-written operation list / count and the
generated one coincide.
At the head of the file, the laws of that part's prelude (`emit`, `seqW`, `forW`, `repeatWhile`, `loopS`, `loopE`,
`repeatWhileE`); among them the unrolled inner loop of `Residual::write` as one range, for every unroll factor
(`chunked_range`; `chunkedE` for its `_exact` condition).

Casts.  `e as T` to a narrower type is carried INTO the generated operation (`Op.writeLsbs 32 (x % 2^32) 24`),
exactly as the hand-written lists do; so the equalities need no "no truncation" side condition.  The domain
hypotheses that remain are where the hand model and the source differ in where they reduce or fail: `s.total < 2^64`
(`usize as u64` is the identity on the domain, the hand model writes `% 2^64`), `order < 64` (`1usize << order`),
Rice parameters `< 32` (`1u32 << p`), `tag + 0x80 < 256` (the hand model reduces the block-type byte mod 256, Rust
adds in `u8`), `coefs.length ≤ warm.length` (`Lpc::write` indexes the warm-up by the order), `ChanOk` (1..=8
independent channels: beyond, the two sides reject differently, `C02H_channel_write_discrepancy`).  Those on residuals
and subframes are implied by the well-formedness predicates of C08/C18 (`Residual.WF`, `SubFrame.WF`):
`resOk_of_WF`, `subOk_of_WF`.

Panics.  `C08G_streaminfo_exact`, `C08G_verbatim_fixed_exact` and `C08G_residual_exact` state what the translator's
`<fn>_exact` conditions (no step panics in the dev profile) are for STREAMINFO, verbatim and fixed subframes, and a
well-formed residual.

External functions.  `FrameHeader::write` and `Frame::write` assemble their output in a thread-local scratch sink
(`reuse!`) and forward its bytes followed by a CRC.  What these bodies call outside bitrepr.rs is NOT given a
meaning by part `writer` of the translator: `encode_to_utf8like` (translated by part `utf8`; `C08Gen3.C08G3_param` puts
the generated function in the parameter's place), `HEADER_CRC.checksum`
/ `FRAME_CRC.checksum` (crate `crc`), the read-out of the scratch sink (`as_slice`, `len`, `write_to_byte_slice`)
and the stale content of the reused byte vector are PARAMETERS of the generated functions.  The theorems
instantiate them: `encodeUtf8like` (hand model), `crc p8` / `crc p16` (bitwise CRC over the bytes, any parameters),
`scratchBytes` / `idealLen` / `wordExport` (a `MemSink` holds the ideal bit string of the operations it received:
the subject of C11; discharged for the generated sinks in C08Gen4), and hold for EVERY stale content.

Types without a counterpart in the hand model (`MetadataBlock`, `MetadataBlockData`, `FrameHeader`, `Frame`,
`Stream` are generated from their Rust definitions) are related to it by explicit maps: `hdrOfGen`, `frameOfGen`
(`Theorems/GenFrame.lean`; Rust value -> model value, total) and `streamToGen` (model stream -> Rust value with the `is_last` flags).

Source mutations tried against these theorems: `notes/writer_mutations.md`.
-/
import FlacVerif.Gen.Writer
import FlacVerif.Theorems.GenFrame
import FlacVerif.Theorems.C08
import FlacVerif.Lemmas.Ops
import FlacVerif.Lemmas.Bytes
namespace FlacVerif.C08Gen
open FlacVerif.Gen.Writer

@[simp] theorem emit_some (a b : List Op) : emit a (some b) = some (a ++ b) := rfl
@[simp] theorem emit_none (a : List Op) : emit a none = none := rfl
@[simp] theorem seqW_some (a b : List Op) : seqW (some a) (some b) = some (a ++ b) := rfl
@[simp] theorem seqW_none (b : W) : seqW none b = none := rfl
@[simp] theorem seqW_some_none (a : List Op) : seqW (some a) none = none := rfl
@[simp] theorem seqW_nil (a : W) : seqW a (some []) = a := by cases a <;> simp [seqW]

theorem forW_some {α : Type} (xs : List α) (f : α → W) (g : α → List Op) (h : ∀ x ∈ xs, f x = some (g x)) :
    forW xs f = some (xs.flatMap g) := by
  induction xs with
  | nil => rfl
  | cons x xs ih =>
    rw [forW, h x (by simp), ih (fun y hy => h y (by simp [hy]))]
    simp

theorem forW_emit {α : Type} (xs : List α) (g : α → Op) : forW xs (fun x => emit [g x] (some [])) = some (xs.map g) := by
  rw [forW_some xs (fun x => emit [g x] (some [])) (fun x => [g x]) (fun _ _ => rfl), ← List.map_eq_flatMap]

theorem forW_map {α β : Type} (xs : List α) (h : α → β) (f : β → W) : forW (xs.map h) f = forW xs (fun x => f (h x)) := by
  induction xs with
  | nil => rfl
  | cons x xs ih => simp [forW, ih]

theorem take_map_getD {β : Type} (xs : List Int) (n : Nat) (h : n ≤ xs.length) (f : Int → β) :
    (List.range n).map (fun i => f (xs.getD i 0)) = (xs.take n).map f := by
  simpa using map_getD_slice xs 0 n 0 f (by omega)

/-- Two lists related element by element (core has no `List.Forall₂` in this toolchain). -/
inductive Rel2 {α β : Type} (R : α → β → Prop) : List α → List β → Prop
  | nil : Rel2 R [] []
  | cons {a : α} {b : β} {as : List α} {bs : List β} : R a b → Rel2 R as bs → Rel2 R (a :: as) (b :: bs)

theorem map_of_mapM_rel {α β : Type} (f : β → Option Nat) (g : α → Nat) (as : List α) (bs : List β) (cs : List Nat)
    (hr : Rel2 (fun a b => ∀ c, f b = some c → g a = c) as bs) (h : bs.mapM f = some cs) : as.map g = cs := by
  induction hr generalizing cs with
  | nil => simp at h; simp [h]
  | @cons a b as' bs' hab _ ih =>
    rw [List.mapM_cons] at h
    cases hx : f b with
    | none => simp [hx] at h
    | some c =>
      cases hxs : bs'.mapM f with
      | none => simp [hx, hxs] at h
      | some cs' =>
        simp [hx, hxs] at h
        subst h
        simp [hab c hx, ih cs' hxs]

/-- `try_repeat!(o to N; while a + o < b => F o)` runs `F` on `a, a+1, …` up to `N` times, stopping at `b`. -/
theorem repeatWhileAux_eq (a b : Nat) (f : Nat → List Op) (F : Nat → W) (hF : ∀ o, F o = some (f (a + o))) (n s : Nat) :
    repeatWhileAux (fun o => decide (a + o < b)) F (List.range' s n) =
      some ((List.range' (a + s) (min n (b - a - s))).flatMap f) := by
  induction n generalizing s with
  | zero => simp [repeatWhileAux]
  | succ n ih =>
    rw [List.range'_succ, repeatWhileAux]
    by_cases h : a + s < b
    · have hm : b - a - s = b - a - (s + 1) + 1 := by omega
      rw [if_pos (decide_eq_true h), hF, ih (s + 1), hm, Nat.succ_min_succ, List.range'_succ, List.flatMap_cons]
      rfl
    · rw [if_neg (by simpa using h), Nat.sub_sub, Nat.sub_eq_zero_of_le (Nat.le_of_not_lt h), Nat.min_zero]
      rfl

theorem repeatWhile_eq (N a b : Nat) (f : Nat → List Op) (F : Nat → W) (hF : ∀ o, F o = some (f (a + o))) :
    repeatWhile N (fun o => decide (a + o < b)) F = some ((List.range' a (min N (b - a))).flatMap f) := by
  have := repeatWhileAux_eq a b f F hF N 0
  simpa [repeatWhile, List.range_eq_range'] using this

/-- The unrolled inner loop of `Residual::write` (`while t0 < end { try_repeat!(o to N; while t0 + o < end => ..);
t0 += N }`) visits exactly `a, a+1, …, b-1`, for every unroll factor `N > 0`. -/
theorem chunked_range (N : Nat) (hN : 0 < N) (a b : Nat) (f : Nat → List Op) (F : Nat → Nat → W)
    (hF : ∀ t0 o, F t0 o = some (f (t0 + o))) :
    forW (countUp a b N) (fun t0 => seqW (repeatWhile N (fun o => decide (t0 + o < b)) (F t0)) (some [])) =
      some ((List.range' a (b - a)).flatMap f) := by
  rw [forW_some _ _ (fun t0 => (List.range' t0 (min N (b - t0))).flatMap f)
    (fun t0 _ => by rw [repeatWhile_eq N t0 b f (F t0) (hF t0)]; exact congrArg some (List.append_nil _)),
    ← List.flatMap_assoc, countUp,
    flatMap_range'_blocks N a b _ (fun j hj => lt_of_lt_ceil a b N j hN hj), Nat.min_eq_right (Nat.sub_le_iff_le_add'.2 (le_ceil_mul a b N hN))]

theorem chunked (N : Nat) (hN : 0 < N) (b : Nat) (f : Nat → List Op) (F : Nat → Nat → W)
    (hF : ∀ t0 o, F t0 o = some (f (t0 + o))) (d : Nat) : ∀ a, b - a ≤ d →
    forW (countUp a b N) (fun t0 => seqW (repeatWhile N (fun o => decide (t0 + o < b)) (F t0)) (some [])) =
      some ((List.range' a (b - a)).flatMap f) :=
  fun a _ => chunked_range N hN a b f F hF

/-- A loop that threads a `let mut` variable, which is `inv k` at the start of iteration `k`.  (`rw [loopS_range' _ inv g]`
finds the body in the goal.) -/
theorem loopS_range' {σ : Type} (f : Nat → σ → WS σ) (inv : Nat → σ) (g : Nat → List Op) (n a : Nat) (s : σ)
    (hs : s = inv a) (h : ∀ k, a ≤ k → k < a + n → f k (inv k) = some (g k, inv (k + 1))) :
    loopS (List.range' a n) s f = some ((List.range' a n).flatMap g, inv (a + n)) := by
  subst hs
  induction n generalizing a with
  | zero => rfl
  | succ n ih =>
    rw [List.range'_succ, loopS, h a (Nat.le_refl _) (by omega)]
    simp only
    rw [ih (a + 1) (fun k h1 h2 => h k (by omega) (by omega))]
    simp [List.flatMap_cons, Nat.add_assoc, Nat.add_comm 1 n]

theorem loopE_range' {σ : Type} (f : Nat → σ → Bool × σ) (inv : Nat → σ) (n a : Nat) (s : σ) (hs : s = inv a)
    (h : ∀ k, a ≤ k → k < a + n → f k (inv k) = (true, inv (k + 1))) :
    loopE (List.range' a n) s f = (true, inv (a + n)) := by
  subst hs
  unfold loopE
  induction n generalizing a with
  | zero => rfl
  | succ n ih =>
    rw [List.range'_succ, List.foldl_cons]
    simp only [h a (Nat.le_refl _) (by omega), Bool.and_self]
    rw [ih (a + 1) (fun k h1 h2 => h k (by omega) (by omega)), Nat.add_assoc, Nat.add_comm 1 n]

theorem repeatWhileEAux_true (c cex bex : Nat → Bool) (l : List Nat) (h : ∀ o ∈ l, cex o = true ∧ (c o = true → bex o = true)) :
    repeatWhileEAux c cex bex l = true := by
  induction l with
  | nil => rfl
  | cons t ts ih =>
    have ht := h t (by simp)
    simp only [repeatWhileEAux, ht.1, Bool.true_and]
    split
    · rename_i hc; simp [ht.2 hc, ih (fun o ho => h o (by simp [ho]))]
    · rfl

/-- The exactness condition of the unrolled loop of `chunked`: the guard `cex` is evaluated for every `t0 + o` with
`t0 < b`, `o < N`, the body's condition `bex` only below `b`. -/
theorem chunkedE (N : Nat) (hN : 0 < N) (a b : Nat) (cex bex : Nat → Nat → Bool)
    (hc : ∀ t0 o, t0 < b → o < N → cex t0 o = true) (hb : ∀ t0 o, a ≤ t0 → t0 + o < b → bex t0 o = true) :
    (countUp a b N).all (fun t0 => repeatWhileE N (fun o => decide (t0 + o < b)) (cex t0) (bex t0)) = true := by
  rw [List.all_eq_true]
  intro t0 ht0
  have ht := mem_steps _ _ _ _ hN ht0
  exact repeatWhileEAux_true _ _ _ _ fun o ho =>
    ⟨hc t0 o ht.2 (List.mem_range.1 ho), fun h => hb t0 o ht.1 (of_decide_eq_true h)⟩

/-- What `Residual::write` needs of a residual to be the hand-written list: `1usize << order` and `1u32 << p` keep
their bit (implied by `Residual.WF`: `order ≤ 15`, `p ≤ 14`). -/
def ResOk (r : Residual) : Prop := r.order < 64 ∧ ∀ p ∈ r.params, p < 32

theorem resOk_of_WF (r : Residual) (h : r.WF) : ResOk r := by
  obtain ⟨ho, _, _, _, _, _, _, hp, _⟩ := h
  exact ⟨by omega, fun p hm => by have := hp p hm; omega⟩

theorem nparts_eq (r : Residual) (ho : r.order < 64) : (1 <<< r.order) % 18446744073709551616 = r.nparts := by
  rw [Residual.nparts]
  exact one_shiftLeft_mod r.order 64 ho

/-- The operations of partition `k` in `Residual.ops`. -/
def partOps (r : Residual) (k : Nat) : List Op :=
  let p := r.params.getD k 0
  let start := max r.warmup (k * r.partLen)
  let stop := (k + 1) * r.partLen
  .writeLsbs 8 p 4 ::
    (List.range (stop - start)).flatMap fun i =>
      let t := start + i
      [ .writeZeros (r.quotients.getD t 0),
        .writeMsbs 32 (((r.remainders.getD t 0 ||| (1 <<< p)) <<< (32 - (p + 1))) % 2 ^ 32) (p + 1) ]

/-- `Residual::write`: partition-order field, then per partition the 4-bit parameter and for every coded sample
`write_zeros(q)` and the `p+1` bits "stop bit, remainder" (`write_msbs` of `(r | 1 << p) << (32 - (p+1))`). -/
theorem C08G_residual_ops (r : Residual) (h : ResOk r) : Gen.Writer.Residual.write r = some r.ops := by
  obtain ⟨ho, hp⟩ := h
  have hom : r.order % 4294967296 = r.order := Nat.mod_eq_of_lt (by omega)
  unfold Gen.Writer.Residual.write
  simp only [nparts_eq r ho, hom, countUp_one, Nat.sub_zero]
  rw [loopS_range' _ (fun k => k * r.partLen) (partOps r) _ _ _ (Nat.zero_mul _).symm]
  · simp only [bindS, emit_some, List.append_nil, ← List.range_eq_range']
    rfl
  · intro k _ _
    have hp' := getD_of_forall (· < 32) r.params k 0 hp (by decide)
    have hsb : (1 <<< r.params.getD k 0) % 4294967296 = 1 <<< r.params.getD k 0 := by
      rw [Nat.one_shiftLeft]
      exact Nat.mod_eq_of_lt (Nat.pow_lt_pow_right (by decide) hp')
    rw [hsb, chunked_range RESIDUAL_WRITE_UNROLL_N (by decide) _ _ (fun t =>
          [ Op.writeZeros (r.quotients.getD t 0),
            Op.writeMsbs 32 (((r.remainders.getD t 0 ||| (1 <<< r.params.getD k 0)) <<< (32 - (r.params.getD k 0 + 1))) % 4294967296) (r.params.getD k 0 + 1) ])
          _ ?_]
    · simp only [seqS, retS, emitS, partOps, Residual.partLen, Nat.succ_mul, List.range'_eq_map_range, List.flatMap_map]
      simp [Nat.max_def]
    · intro t0 o
      rfl

/-- Order 1, block size 8, warm-up 2 (the residual of the C08 examples): 2 partitions, 6 coded samples. -/
example : Gen.Writer.Residual.write ⟨1, 8, 2, [2, 3], [0, 0, 1, 2, 0, 3, 1, 0], [0, 0, 3, 1, 2, 7, 0, 5]⟩ = some (Residual.ops ⟨1, 8, 2, [2, 3], [0, 0, 1, 2, 0, 3, 1, 0], [0, 0, 3, 1, 2, 7, 0, 5]⟩) :=
  C08G_residual_ops _ ⟨by decide, by decide⟩
example : Gen.Writer.Residual.write ⟨1, 8, 2, [2, 3], [0, 0, 1, 2, 0, 3, 1, 0], [0, 0, 3, 1, 2, 7, 0, 5]⟩ = some
    [.writeLsbs 32 1 6,
     .writeLsbs 8 2 4, .writeZeros 1, .writeMsbs 32 0xE0000000 3, .writeZeros 2, .writeMsbs 32 0xA0000000 3,
     .writeLsbs 8 3 4, .writeZeros 0, .writeMsbs 32 0xA0000000 4, .writeZeros 3, .writeMsbs 32 0xF0000000 4,
       .writeZeros 1, .writeMsbs 32 0x80000000 4, .writeZeros 0, .writeMsbs 32 0xD0000000 4] := by decide

/-- `Residual::count_bits`: whenever the hand-written count is defined (no `usize` underflow), the generated
expression has that value. -/
theorem C08G_residual_count (r : Residual) (c : Nat) (ho : r.order < 64) (h : r.count = some c) :
    Gen.Writer.Residual.count_bits r = c := by
  have hn := nparts_eq r ho
  have hpl : r.blockSize >>> r.order = r.partLen := rfl
  unfold Gen.Writer.Residual.count_bits
  simp only [hn, hpl]
  obtain ⟨h1, h2, h3, h⟩ := Count.count_some h
  omega

example : Gen.Writer.Residual.count_bits ⟨1, 8, 2, [2, 3], [0, 0, 1, 2, 0, 3, 1, 0], [0, 0, 3, 1, 2, 7, 0, 5]⟩ = 43 := C08G_residual_count _ 43 (by decide) (by decide)

/-- For a well-formed residual the generated count is the number of bits the hand-written writer emits. -/
theorem C08G_residual_count_WF (r : Residual) (h : r.WF) : Gen.Writer.Residual.count_bits r = r.bits.length :=
  C08G_residual_count r _ (by have := h.1; omega) (C08_residual r h)

/-- For a well-formed residual whose block size leaves room for the loop counters (for any unroll factor), `Residual::write` does not panic:
in particular every index into `rice_params`, `quotients`, `remainders` is in bounds. -/
theorem C08G_residual_exact (r : Residual) (h : r.WF) (hb : r.blockSize + RESIDUAL_WRITE_UNROLL_N ≤ 2 ^ 64) :
    Gen.Writer.Residual.write_exact r = true := by
  obtain ⟨ho, hpl, hdv, _, _, hq, hrm, hp, _⟩ := h
  have hnp : r.nparts ≤ 2 ^ 15 := Nat.pow_le_pow_right (by decide) ho
  have hbs : r.nparts * r.partLen = r.blockSize := Layout.nparts_mul_partLen r hdv
  unfold Gen.Writer.Residual.write_exact
  simp only [nparts_eq r (by omega), show r.blockSize >>> r.order = r.partLen from rfl, countUp_one, Nat.sub_zero, andB, bindE]
  rw [loopE_range' _ (fun k => k * r.partLen) _ _ _ (Nat.zero_mul _).symm]
  · simp only [Bool.and_true, Bool.and_eq_true, decide_eq_true_eq]
    omega
  · intro k _ hk
    have hp' : r.params.getD k 0 ≤ 14 := Nat.le_of_lt_succ (getD_of_forall (· < 15) r.params k 0 (fun p hm => Nat.lt_succ_of_le (hp p hm)) (by decide))
    have hend : k * r.partLen + r.partLen ≤ r.blockSize := by
      rw [← Nat.succ_mul, ← hbs]
      exact Nat.mul_le_mul_right _ (by omega)
    have hkn : k < r.params.length := by rw [hpl, ← Residual.nparts]; omega
    have hN : 0 < RESIDUAL_WRITE_UNROLL_N := by decide
    have hlim : k * r.partLen + r.partLen + RESIDUAL_WRITE_UNROLL_N ≤ 2 ^ 64 := Nat.le_trans (Nat.add_le_add_right hend _) hb
    -- `omega` below is slow to check in the full context
    clear hnp hbs hdv hpl ho hp hk hb
    simp only [andE, Nat.succ_mul]
    rw [chunkedE _ hN _ _ _ _ (fun t0 o h1 h2 => decide_eq_true (Nat.lt_of_lt_of_le (Nat.add_lt_add h1 h2) hlim))
      (fun t0 o _ h2 => by simp only [Bool.and_eq_true, decide_eq_true_eq]; omega)]
    simp only [Bool.and_true, Prod.mk.injEq, Bool.and_eq_true, decide_eq_true_eq, and_true]
    omega

example : Gen.Writer.Residual.write_exact ⟨1, 8, 2, [2, 3], [0, 0, 1, 2, 0, 3, 1, 0], [0, 0, 3, 1, 2, 7, 0, 5]⟩ = true := C08G_residual_exact _ (by decide) (by decide)
/-- A quotient vector shorter than the block (`quotients.length = blockSize` of `WF` fails): `self.quotients()[t]`
is out of bounds — the exactness condition is false (Rust panics), although the operation list is defined. -/
example : Gen.Writer.Residual.write_exact ⟨0, 4, 0, [0], [1, 0, 2], [0, 0, 0, 0]⟩ = false := by decide

/-- `Constant::write`: the type byte 0, then the value in two's complement. -/
theorem C08G_constant_ops (n : Nat) (dc : Int) (bps : Nat) :
    Gen.Writer.Constant.write n dc bps = some (SubFrame.constant n dc bps).ops := rfl

example : Gen.Writer.Constant.write 4096 (-5) 17 = some [.write 8 0, .writeTwoc (-5) 17] := C08G_constant_ops 4096 (-5) 17

/-- `Verbatim::write`: the type byte 2, then every sample (index loop `0..len`). -/
theorem C08G_verbatim_ops (xs : List Int) (bps : Nat) :
    Gen.Writer.Verbatim.write xs bps = some (SubFrame.verbatim xs bps).ops := by
  unfold Gen.Writer.Verbatim.write SubFrame.ops
  rw [countUp_zero_one, forW_emit (List.range xs.length) (fun i => Op.writeTwoc (xs.getD i 0) bps),
    map_getD_eq_map xs 0 (fun x => Op.writeTwoc x bps)]
  simp

example : Gen.Writer.Verbatim.write [3, -1, 200, -32768] 16 =
    some [.write 8 2, .writeTwoc 3 16, .writeTwoc (-1) 16, .writeTwoc 200 16, .writeTwoc (-32768) 16] :=
  C08G_verbatim_ops [3, -1, 200, -32768] 16

/-- `FixedLpc::write`: type byte `0x10 | order << 1`, warm-up samples, residual. -/
theorem C08G_fixed_ops (warm : List Int) (res : Residual) (bps : Nat) (hr : ResOk res) :
    Gen.Writer.FixedLpc.write warm res bps = some (SubFrame.fixed warm res bps).ops := by
  unfold Gen.Writer.FixedLpc.write SubFrame.ops
  rw [C08G_residual_ops res hr, Nat.mod_mod_of_dvd _ (by decide), or_mod_256 16 _ (by decide), forW_emit warm (fun v => Op.writeTwoc v bps)]
  simp

/-- Second-order fixed predictor: type byte `0x10 | 2 << 1 = 0x14`. -/
example : Gen.Writer.FixedLpc.write [5, -3] ⟨1, 8, 2, [2, 3], [0, 0, 1, 2, 0, 3, 1, 0], [0, 0, 3, 1, 2, 7, 0, 5]⟩ 16 =
    some (.write 8 0x14 :: .writeTwoc 5 16 :: .writeTwoc (-3) 16 :: Residual.ops ⟨1, 8, 2, [2, 3], [0, 0, 1, 2, 0, 3, 1, 0], [0, 0, 3, 1, 2, 7, 0, 5]⟩) :=
  C08G_fixed_ops [5, -3] _ 16 ⟨by decide, by decide⟩

/-- `Lpc::write`: type byte `0x40 | (order-1) << 1`, `order` warm-up samples, precision-1 (4 bits), shift (5 bits,
two's complement), the coefficients on `precision` bits, residual — in this order. -/
theorem C08G_lpc_ops (warm coefs : List Int) (shift : Int) (precision : Nat) (res : Residual) (bps : Nat)
    (hw : coefs.length ≤ warm.length) (hr : ResOk res) :
    Gen.Writer.Lpc.write warm coefs shift precision res bps = some (SubFrame.lpc warm coefs shift precision res bps).ops := by
  unfold Gen.Writer.Lpc.write SubFrame.ops
  rw [C08G_residual_ops res hr, or_mod_256 64 _ (by decide), countUp_zero_one,
    forW_emit (List.range coefs.length) (fun i => Op.writeTwoc (warm.getD i 0) bps),
    forW_emit coefs (fun c => Op.writeTwoc c precision), take_map_getD warm coefs.length hw (fun x => Op.writeTwoc x bps)]
  simp

/-- The LPC subframe of the C08 examples (order 2, precision 4, shift 3): type byte `0x40 | 1 << 1 = 0x42`. -/
example : Gen.Writer.Lpc.write [5, -3] [7, -2] 3 4 ⟨1, 8, 2, [2, 3], [0, 0, 1, 2, 0, 3, 1, 0], [0, 0, 3, 1, 2, 7, 0, 5]⟩ 16 =
    some ([.write 8 0x42, .writeTwoc 5 16, .writeTwoc (-3) 16, .writeLsbs 64 3 4, .writeTwoc 3 5,
           .writeTwoc 7 4, .writeTwoc (-2) 4] ++ Residual.ops ⟨1, 8, 2, [2, 3], [0, 0, 1, 2, 0, 3, 1, 0], [0, 0, 3, 1, 2, 7, 0, 5]⟩) :=
  C08G_lpc_ops [5, -3] [7, -2] 3 4 _ 16 (by decide) ⟨by decide, by decide⟩

/-- What `SubFrame::write` needs of a subframe to be the hand-written list (implied by `SubFrame.WF`). -/
def SubOk : SubFrame → Prop
  | .constant _ _ _ => True
  | .verbatim _ _ => True
  | .fixed _ res _ => ResOk res
  | .lpc warm coefs _ _ res _ => coefs.length ≤ warm.length ∧ ResOk res

theorem subOk_of_WF (s : SubFrame) (h : s.WF) : SubOk s := by
  cases s with
  | constant => trivial
  | verbatim => trivial
  | fixed warm res bps => exact resOk_of_WF res h.2.2.1
  | lpc warm coefs shift precision res bps =>
    exact ⟨by have := h.2.2.1; omega, resOk_of_WF res h.2.2.2.2.1⟩

theorem C08G_subframe_ops (s : SubFrame) (h : SubOk s) : Gen.Writer.SubFrame.write s = some s.ops := by
  cases s with
  | constant n dc bps => exact C08G_constant_ops n dc bps
  | verbatim xs bps => exact C08G_verbatim_ops xs bps
  | fixed warm res bps => exact C08G_fixed_ops warm res bps h
  | lpc warm coefs shift precision res bps => exact C08G_lpc_ops warm coefs shift precision res bps h.1 h.2

example : Gen.Writer.SubFrame.write (.lpc [5, -3] [7, -2] 3 4 ⟨1, 8, 2, [2, 3], [0, 0, 1, 2, 0, 3, 1, 0], [0, 0, 3, 1, 2, 7, 0, 5]⟩ 16) =
    some (SubFrame.ops (.lpc [5, -3] [7, -2] 3 4 ⟨1, 8, 2, [2, 3], [0, 0, 1, 2, 0, 3, 1, 0], [0, 0, 3, 1, 2, 7, 0, 5]⟩ 16)) :=
  C08G_subframe_ops _ ⟨by decide, by decide, by decide⟩
example (s : SubFrame) (h : s.WF) : Gen.Writer.SubFrame.write s = some s.ops := C08G_subframe_ops s (subOk_of_WF s h)

/-- `Verbatim::write` never panics (the index loop stays in bounds); `FixedLpc::write` panics exactly when its
residual does. -/
theorem C08G_verbatim_fixed_exact (xs warm : List Int) (res : Residual) (bps : Nat) :
    Gen.Writer.Verbatim.write_exact xs bps = true ∧
    Gen.Writer.FixedLpc.write_exact warm res bps = Gen.Writer.Residual.write_exact res := by
  refine ⟨?_, rfl⟩
  unfold Gen.Writer.Verbatim.write_exact
  rw [List.all_eq_true]
  intro i hi
  have := (mem_steps 0 xs.length 1 i (by decide) hi).2
  simpa using this

example : Gen.Writer.Verbatim.write_exact [3, -1, 200, -32768] 16 = true := (C08G_verbatim_fixed_exact _ [] ⟨0, 0, 0, [], [], []⟩ 16).1

/-- The residual of a subframe has a partition order the `usize` shift `1 << order` accepts. -/
def SubOrd : SubFrame → Prop
  | .fixed _ res _ => res.order < 64
  | .lpc _ _ _ _ res _ => res.order < 64
  | _ => True

theorem subOrd_of_subOk (s : SubFrame) (h : SubOk s) : SubOrd s := by
  cases s with
  | constant => trivial
  | verbatim => trivial
  | fixed warm res bps => exact h.1
  | lpc warm coefs shift precision res bps => exact h.2.1

theorem subOrd_of_WF (s : SubFrame) (h : s.WF) : SubOrd s :=
  subOrd_of_subOk s (subOk_of_WF s h)

/-- `count_bits` of the four subframe kinds and the dispatch of `SubFrame::count_bits`. -/
theorem C08G_subframe_count (s : SubFrame) (c : Nat) (ho : SubOrd s) (h : s.count = some c) :
    Gen.Writer.SubFrame.count_bits s = c := by
  cases s with
  | constant n dc bps =>
    simp [SubFrame.count] at h
    simp [Gen.Writer.SubFrame.count_bits, Gen.Writer.Constant.count_bits, h]
  | verbatim xs bps =>
    simp [SubFrame.count] at h
    simp [Gen.Writer.SubFrame.count_bits, Gen.Writer.Verbatim.count_bits, Gen.Writer.Verbatim.count_bits_from_metadata, h]
  | fixed warm res bps =>
    simp only [SubFrame.count, Option.map_eq_some_iff] at h
    obtain ⟨c', hc', rfl⟩ := h
    simp [Gen.Writer.SubFrame.count_bits, Gen.Writer.FixedLpc.count_bits, C08G_residual_count res c' ho hc']
  | lpc warm coefs shift precision res bps =>
    simp only [SubFrame.count, Option.map_eq_some_iff] at h
    obtain ⟨c', hc', rfl⟩ := h
    simp [Gen.Writer.SubFrame.count_bits, Gen.Writer.Lpc.count_bits, C08G_residual_count res c' ho hc']

example : Gen.Writer.SubFrame.count_bits (.lpc [5, -3] [7, -2] 3 4 ⟨1, 8, 2, [2, 3], [0, 0, 1, 2, 0, 3, 1, 0], [0, 0, 3, 1, 2, 7, 0, 5]⟩ 16) = 100 :=
  C08G_subframe_count _ 100 (by show 1 < 64; decide) (by decide)
example : Gen.Writer.SubFrame.count_bits (.verbatim [3, -1, 200, -32768] 16) = 72 :=
  C08G_subframe_count _ 72 trivial (by decide)

theorem C08G_subframe_count_WF (s : SubFrame) (h : s.WF) : Gen.Writer.SubFrame.count_bits s = s.bits.length :=
  C08G_subframe_count s _ (subOrd_of_WF s h) (C08_subframe s h)

/-- `StreamInfo::write`: the nine fields, their widths and their order; unknown (0, 0) frame sizes while
`min > max`; `channels - 1`, `bits_per_sample - 1`. -/
theorem C08G_streaminfo_ops (s : StreamInfo) (ht : s.total < 2 ^ 64) :
    Gen.Writer.StreamInfo.write s = some s.ops := by
  unfold Gen.Writer.StreamInfo.write StreamInfo.ops
  by_cases h : s.minFrame > s.maxFrame <;> simp [h, Nat.mod_eq_of_lt ht]

example : Gen.Writer.StreamInfo.write ⟨4096, 4096, 1234, 14000, 44100, 2, 16, 441000, [1, 2, 3, 4, 5, 6, 7, 8, 9, 10, 11, 12, 13, 14, 15, 255]⟩ = some
    [.write 16 4096, .write 16 4096, .writeLsbs 32 1234 24, .writeLsbs 32 14000 24, .writeLsbs 32 44100 20,
     .writeLsbs 8 1 3, .writeLsbs 8 15 5, .writeLsbs 64 441000 36,
     .writeBytesAligned [1, 2, 3, 4, 5, 6, 7, 8, 9, 10, 11, 12, 13, 14, 15, 255]] :=
  C08G_streaminfo_ops _ (by decide)
/-- A stream without frames (`min_frame_size > max_frame_size`): both frame sizes are written as 0. -/
example : Gen.Writer.StreamInfo.write (StreamInfo.empty 48000 6 24) = some (StreamInfo.ops (StreamInfo.empty 48000 6 24)) ∧
    (StreamInfo.ops (StreamInfo.empty 48000 6 24)).take 4 = [.write 16 65535, .write 16 0, .writeLsbs 32 0 24, .writeLsbs 32 0 24] :=
  ⟨C08G_streaminfo_ops _ (by decide), by decide⟩

/-- `StreamInfo::count_bits` (the literal in the source) is the number of bits `write` emits. -/
theorem C08G_streaminfo_count (s : StreamInfo) (hm : s.md5.length = 16) :
    Gen.Writer.StreamInfo.count_bits s = s.bits.length := by
  rw [C08_streaminfo s hm]; rfl

example : Gen.Writer.StreamInfo.count_bits ⟨4096, 4096, 1234, 14000, 44100, 2, 16, 441000, [1, 2, 3, 4, 5, 6, 7, 8, 9, 10, 11, 12, 13, 14, 15, 255]⟩ = (StreamInfo.bits ⟨4096, 4096, 1234, 14000, 44100, 2, 16, 441000, [1, 2, 3, 4, 5, 6, 7, 8, 9, 10, 11, 12, 13, 14, 15, 255]⟩).length := C08G_streaminfo_count _ rfl

/-- `StreamInfo::write` does not panic iff `channels ≥ 1` and `bits_per_sample ≥ 1` (`x - 1` in `usize`). -/
theorem C08G_streaminfo_exact (s : StreamInfo) :
    Gen.Writer.StreamInfo.write_exact s = true ↔ 1 ≤ s.channels ∧ 1 ≤ s.bps := by
  simp [Gen.Writer.StreamInfo.write_exact, andB]

example : Gen.Writer.StreamInfo.write_exact ⟨4096, 4096, 1234, 14000, 44100, 2, 16, 441000, [1, 2, 3, 4, 5, 6, 7, 8, 9, 10, 11, 12, 13, 14, 15, 255]⟩ = true ∧ Gen.Writer.StreamInfo.write_exact (StreamInfo.empty 48000 0 24) = false :=
  ⟨(C08G_streaminfo_exact _).2 (by decide), by decide⟩

/-- `MetadataBlock::write` of an unknown block: type byte (`typetag + 0x80` for the last block), 24-bit length in
bytes (`count_bits / 8`), the data. -/
theorem C08G_block_unknown_ops (isLast : Bool) (tag : Nat) (data : List Nat)
    (ht : tag + (if isLast then 128 else 0) < 256) :
    Gen.Writer.MetadataBlock.write ⟨isLast, .Unknown tag data⟩ =
      some (blockHeaderOps isLast tag data.length ++ [.writeBytesAligned data]) := by
  simp [Gen.Writer.MetadataBlock.write, Gen.Writer.MetadataBlockData.write, Gen.Writer.MetadataBlockData.typetag,
    Gen.Writer.MetadataBlockData.count_bits, blockHeaderOps]
  cases isLast <;> simp at ht ⊢ <;> omega

/-- A last PADDING-like block of type 4 with three bytes: type byte `4 + 0x80`, length 3. -/
example : Gen.Writer.MetadataBlock.write ⟨true, .Unknown 4 [0xAA, 0xBB, 0xCC]⟩ =
    some [.write 8 0x84, .writeLsbs 32 3 24, .writeBytesAligned [0xAA, 0xBB, 0xCC]] :=
  C08G_block_unknown_ops true 4 [0xAA, 0xBB, 0xCC] (by decide)

/-- `MetadataBlock::write` of the STREAMINFO block: type 0, length 34 = 272 / 8, the STREAMINFO fields. -/
theorem C08G_block_streaminfo_ops (isLast : Bool) (s : StreamInfo) (ht : s.total < 2 ^ 64) :
    Gen.Writer.MetadataBlock.write ⟨isLast, .StreamInfo s⟩ = some (blockHeaderOps isLast 0 34 ++ s.ops) := by
  simp [Gen.Writer.MetadataBlock.write, Gen.Writer.MetadataBlockData.write, Gen.Writer.MetadataBlockData.typetag,
    Gen.Writer.MetadataBlockData.count_bits, Gen.Writer.StreamInfo.count_bits, blockHeaderOps, C08G_streaminfo_ops s ht]
  cases isLast <;> simp

example : Gen.Writer.MetadataBlock.write ⟨false, .StreamInfo ⟨4096, 4096, 1234, 14000, 44100, 2, 16, 441000, [1, 2, 3, 4, 5, 6, 7, 8, 9, 10, 11, 12, 13, 14, 15, 255]⟩⟩ =
    some (.write 8 0 :: .writeLsbs 32 34 24 :: StreamInfo.ops ⟨4096, 4096, 1234, 14000, 44100, 2, 16, 441000, [1, 2, 3, 4, 5, 6, 7, 8, 9, 10, 11, 12, 13, 14, 15, 255]⟩) :=
  C08G_block_streaminfo_ops false _ (by decide)

/-- `MetadataBlock::count_bits`: 32 header bits plus the data. -/
theorem C08G_block_unknown_count (isLast : Bool) (tag : Nat) (data : List Nat) :
    Gen.Writer.MetadataBlock.count_bits ⟨isLast, .Unknown tag data⟩ = 32 + 8 * data.length := by
  simp [Gen.Writer.MetadataBlock.count_bits, Gen.Writer.MetadataBlockData.count_bits, Nat.mul_comm]

theorem C08G_block_streaminfo_count (isLast : Bool) (s : StreamInfo) :
    Gen.Writer.MetadataBlock.count_bits ⟨isLast, .StreamInfo s⟩ = 32 + 272 := rfl

theorem C08G_block_count (isLast : Bool) (tag : Nat) (data : List Nat) (s : StreamInfo) :
    Gen.Writer.MetadataBlock.count_bits ⟨isLast, .Unknown tag data⟩ = 32 + 8 * data.length ∧
    Gen.Writer.MetadataBlock.count_bits ⟨isLast, .StreamInfo s⟩ = 32 + 272 :=
  ⟨C08G_block_unknown_count isLast tag data, C08G_block_streaminfo_count isLast s⟩

example : Gen.Writer.MetadataBlock.count_bits ⟨true, .Unknown 4 [0xAA, 0xBB, 0xCC]⟩ = 56 :=
  C08G_block_unknown_count true 4 [0xAA, 0xBB, 0xCC]

/-- `u64::BITS - leading_zeros` is the bit length for a u64, and 64 beyond -/
theorem codeBits_eq (v : Nat) : 64 - Gen.Headers.leadingZeros 64 v = if v < 2 ^ 64 then bitLen v else 64 := by
  unfold Gen.Headers.leadingZeros bitLen
  by_cases h0 : v = 0
  · simp [h0]
  · by_cases hv : v < 2 ^ 64
    · have hl : Nat.log2 v < 64 := (Nat.log2_lt h0).2 hv
      simp only [h0, if_false, hv, if_true]; omega
    · have hl : ¬ (Nat.log2 v < 64) := fun h => hv ((Nat.log2_lt h0).1 h)
      simp only [h0, if_false, hv]; omega

/-- `utf8like_bytesize` (via `usize::BITS - leading_zeros`) is the hand-written byte size, for every `usize`. -/
theorem C08G_utf8like_bytesize (v : Nat) (hv : v < 2 ^ 64) : Gen.Writer.utf8like_bytesize v = utf8likeBytesize v := by
  unfold Gen.Writer.utf8like_bytesize utf8likeBytesize
  simp only [codeBits_eq, if_pos hv]

example : Gen.Writer.utf8like_bytesize 300 = 2 ∧ Gen.Writer.utf8like_bytesize (2 ^ 36 - 1) = 7 :=
  ⟨(C08G_utf8like_bytesize 300 (by decide)).trans (by decide), (C08G_utf8like_bytesize _ (by decide)).trans (by decide)⟩

/-- `FrameHeader::count_bits`: 40 fixed bits, the UTF-8-like number (sample number in variable-blocking mode,
frame number otherwise), the extra block-size and sample-rate fields. -/
theorem C08G_header_count (g : Gen.Writer.FrameHeader) (hf : g.frame_number < 2 ^ 32) (hs : g.start_sample_number < 2 ^ 64) :
    Gen.Writer.FrameHeader.count_bits g = (hdrOfGen g).count := by
  have e1 := C02Hdr.C02H_blockSize_extraCount (C02Hdr.bsOfGen g.block_size_spec)
  rw [C02Hdr.bsToGen_ofGen] at e1
  have e2 := C02Hdr.C02H_sampleRate_extraCount g.sample_rate_spec
  unfold Gen.Writer.FrameHeader.count_bits FrameHeader.count FrameHeader.number
  simp only [hdrOfGen, e1, e2]
  by_cases hv : g.variable_block_size = true
  · simp [hv, C08G_utf8like_bytesize g.start_sample_number hs]
  · simp [hv, C08G_utf8like_bytesize g.frame_number (by omega)]

example : hdrOfGen exHeader = ⟨false, .extraByte 7, .leftSide, 4, .fixed 9, 300, 0⟩ ∧
    Gen.Writer.FrameHeader.count_bits exHeader = 64 :=
  ⟨by decide, (C08G_header_count exHeader (by decide) (by decide)).trans (by decide)⟩

/-- A writer function of part `headers` that does not fail, as operations on a sink: their ideal image is `writesBits`. -/
theorem hdrOps_of_writesBits (w : Gen.Headers.Writes) (bits : Bits) (h : C02Hdr.writesBits w = some bits) :
    ∃ ops, hdrOps w = some ops ∧ ∀ len, idealRun len ops = bits := by
  cases w with
  | none => cases h
  | some ws =>
    refine ⟨_, rfl, fun len => ?_⟩
    cases h
    induction ws generalizing len with
    | nil => rfl
    | cons p ps ih => simp only [List.map_cons, idealRun, Op.ideal, List.flatMap_cons]; rw [ih]

/-- The scratch sink is modelled by the ideal bit string of the operations it received (`MemSink<u8>` implements
it: C11, `C08Gen4.C11G_readout_as_slice`), exported as bytes. -/
def scratchBytes (ops : List Op) : List Nat := packBytes (idealRun 0 ops)

def ChanOk : Gen.Headers.ChannelAssignment → Prop
  | .Independent n => 1 ≤ n ∧ n ≤ 8
  | _ => True

/-- Forwarding a scratch sink that holds the whole bytes `body`, followed by the CRC of exactly these bytes. -/
theorem scratch_crc (p : CrcParams) (ops : List Op) (body : Bits) (hS : idealRun 0 ops = body) (h8 : 8 ∣ body.length) :
    [Op.writeBytesAligned (scratchBytes ops), Op.write 8 (crc p (scratchBytes ops))] =
      [Op.writeBytesAligned (packBytes body), Op.write 8 (crcBits p body)] := by
  rw [scratchBytes, hS, crc, OpsL.bytesToBits_packBytes _ h8]

theorem chanOk_caOfGen (g : Gen.Headers.ChannelAssignment) (hc : ChanOk g) :
    match C02Hdr.caOfGen g with | .independent n => 1 ≤ n ∧ n ≤ 8 | _ => True := by
  cases g with
  | Independent n => exact hc
  | _ => trivial

theorem chanOk_tag (g : Gen.Headers.ChannelAssignment) (hc : ChanOk g) : (C02Hdr.caOfGen g).tag ≤ 15 := by
  cases g with
  | Independent n => exact Nat.le_trans (Nat.sub_le n 1) (Nat.le_trans hc.2 (by decide))
  | _ => decide

/-- The body of `FrameHeader::write` common to its two blocking modes, the field values being variables: `tbm`, `ssm` are the
generated code's `% 256` spellings of `tb`, `ss` (same low bits: `t1`, `t2`); the three calls into part `headers` are given by
their operation lists and ideal images; `h1`, `h2`: the extra fields are whole bytes, so the scratch sink holds whole bytes. -/
theorem header_core (p8 : CrcParams) (hw tb tbm ss ssm N catag : Nat) (caOps bsOps srOps : List Op) (bsx srx : Bits)
    (t1 : natToBits 8 tbm = natToBits 8 tb) (t2 : natToBits 4 ssm = natToBits 4 ss)
    (ica : ∀ len, idealRun len caOps = natToBits 4 catag) (ibs : ∀ len, idealRun len bsOps = bsx)
    (isr : ∀ len, idealRun len srOps = srx) (h1 : 8 ∣ bsx.length) (h2 : 8 ∣ srx.length) :
    bindW
      (emit [Op.writeLsbs 16 hw 16]
        (emit [Op.writeLsbs 8 tbm 8]
          (seqW (some caOps)
            (emit [Op.writeLsbs 8 ssm 4]
              (seqW (bindO (encodeUtf8like N) fun v => emit [Op.writeBytesAligned v] (some []))
                (seqW (some bsOps) (some srOps)))))))
      (fun header_buffer =>
        emit [Op.writeBytesAligned (scratchBytes header_buffer)]
          (emit [Op.write 8 (crc p8 (scratchBytes header_buffer))] (some []))) =
    ((encodeUtf8like N).bind fun num =>
        some (natToBits 16 hw ++ natToBits 8 tb ++ natToBits 4 catag ++ natToBits 4 ss ++ bytesToBits num ++ bsx ++ srx)).bind
      fun b => some [Op.writeBytesAligned (packBytes b), Op.write 8 (crcBits p8 b)] := by
  cases hnum : encodeUtf8like N with
  | none => simp [bindO, bindW]
  | some num =>
    simp only [bindO, bindW, emit_some, seqW_some, Option.bind_some, List.append_nil]
    refine congrArg some (scratch_crc p8 _ _ ?_ ?_)
    · simp only [C11.idealRun_append, idealRun, Op.ideal, ica, ibs, isr, t1, t2, List.append_nil, List.length_append,
        natToBits_length, List.append_assoc]
      simp
    · simp only [List.length_append, natToBits_length, Count.bytesToBits_length]
      omega

/-- `FrameHeader::write`: sync code + blocking bit (16 bits), block-size and sample-rate codes, channel assignment,
sample-size code and the reserved bit, the UTF-8-like frame / sample number, the extra fields — assembled in the
scratch sink — then forwarded as bytes, followed by the CRC-8 of exactly these bytes.  `encode_to_utf8like`, the
export of the scratch sink and the checksum are parameters of the generated function; they are instantiated with
the hand-written `encodeUtf8like`, the ideal byte image and the bitwise CRC. -/
theorem C08G_header_ops (p8 : CrcParams) (g : Gen.Writer.FrameHeader) (ex : Nat → Bool) (hc : ChanOk g.channel_assignment) :
    Gen.Writer.FrameHeader.write encodeUtf8like ex scratchBytes (crc p8) g = (hdrOfGen g).ops p8 := by
  have hca := (C02Hdr.C02H_channel_write (C02Hdr.caOfGen g.channel_assignment) (chanOk_caOfGen _ hc)).1
  rw [C02Hdr.caToGen_ofGen] at hca
  have hbs := C02Hdr.C02H_blockSize_extraBits (C02Hdr.bsOfGen g.block_size_spec)
  rw [C02Hdr.bsToGen_ofGen] at hbs
  have hsr := C02Hdr.C02H_sampleRate_extraBits g.sample_rate_spec
  have htag : ¬ (C02Hdr.caOfGen g.channel_assignment).tag > 15 := Nat.not_lt.2 (chanOk_tag _ hc)
  have hbt : (C02Hdr.bsOfGen g.block_size_spec).tag = Gen.Headers.BlockSizeSpec.tag g.block_size_spec := by
    have := C02Hdr.C02H_blockSize_tag (C02Hdr.bsOfGen g.block_size_spec); rwa [C02Hdr.bsToGen_ofGen] at this
  have hst := C02Hdr.C02H_sampleRate_tag g.sample_rate_spec
  unfold Gen.Writer.FrameHeader.write FrameHeader.ops FrameHeader.bodyBits
  simp only [hdrOfGen, FrameHeader.number, htag, if_false, hbt, hst]
  obtain ⟨caOps, hcw, ica⟩ := hdrOps_of_writesBits _ _ hca
  obtain ⟨bsOps, hbw, ibs⟩ := hdrOps_of_writesBits _ _ hbs.symm
  obtain ⟨srOps, hsw, isr⟩ := hdrOps_of_writesBits _ _ hsr.symm
  rw [hcw, hbw, hsw]
  have t1 : natToBits 8 (Gen.Headers.BlockSizeSpec.tag g.block_size_spec <<< 4 % 256 ||| Gen.Headers.SampleRateSpec.tag g.sample_rate_spec) =
      natToBits 8 (Gen.Headers.BlockSizeSpec.tag g.block_size_spec <<< 4 ||| Gen.Headers.SampleRateSpec.tag g.sample_rate_spec) := by
    rw [← OpsL.natToBits_mod256 8 _ (Nat.le_refl _), ← OpsL.natToBits_mod256 8 (_ ||| _) (Nat.le_refl _)]
    congr 1
    rw [show (256 : Nat) = 2 ^ 8 by rfl, Nat.or_mod_two_pow, Nat.or_mod_two_pow, Nat.mod_mod]
  have t2 : natToBits 4 (Gen.Headers.SampleSizeSpec.into_tag g.sample_size_spec <<< 1 % 256) =
      natToBits 4 (Gen.Headers.SampleSizeSpec.into_tag g.sample_size_spec <<< 1) := OpsL.natToBits_mod256 4 _ (by decide)
  have h1 := Nat.dvd_of_mod_eq_zero (Repo.bsExtra_len (C02Hdr.bsOfGen g.block_size_spec))
  have h2 := Nat.dvd_of_mod_eq_zero (Repo.srExtra_len (C02Hdr.srOfGen g.sample_rate_spec))
  by_cases hv : g.variable_block_size = true
  all_goals
    simp only [hv, if_true]
    exact header_core p8 _ _ _ _ _ _ _ caOps bsOps srOps _ _ t1 t2 ica ibs isr h1 h2

example : Gen.Writer.FrameHeader.write encodeUtf8like (fun _ => true) scratchBytes (crc rfcCrc8) exHeader =
    (hdrOfGen exHeader).ops rfcCrc8 := C08G_header_ops rfcCrc8 exHeader _ trivial
/-- More than 8 independent channels: `ChannelAssignment::write` returns `Err`, and so does the header. -/
example : Gen.Writer.FrameHeader.write encodeUtf8like (fun _ => true) scratchBytes (crc rfcCrc8)
    { exHeader with channel_assignment := .Independent 9 } = none := by decide

/-- `Frame::count_bits` without a precomputed bitstream: header + subframes, rounded up to a byte (`>> 3 << 3`),
plus the 16-bit footer. `c < 2^64`: the count itself fits `usize`. -/
theorem C08G_frame_count (g : Gen.Writer.Frame) (c : Nat) (hp : g.precomputed_bitstream = none)
    (hf : g.header.frame_number < 2 ^ 32) (hs : g.header.start_sample_number < 2 ^ 64)
    (ho : ∀ s ∈ g.subframes, SubOrd s) (hc : c < 2 ^ 64) (h : (frameOfGen g).count = some c) :
    Gen.Writer.Frame.count_bits g = c := by
  obtain ⟨hsub, rfl⟩ := Count.frame_count_some h
  simp only [frameOfGen] at hsub hc ⊢
  have hsh : ∀ x : Nat, (x >>> 3) <<< 3 = x / 8 * 8 := by
    intro x; simp [Nat.shiftRight_eq_div_pow, Nat.shiftLeft_eq]
  unfold Gen.Writer.Frame.count_bits
  simp only [hp, C08G_header_count g.header hf hs]
  rw [List.map_congr_left fun s hm => C08G_subframe_count s _ (ho s hm) (hsub s hm), hsh, Nat.mod_eq_of_lt (by omega)]

/-- The stereo frame of the C08 examples (LPC + constant subframe): 64 + 100 + 25 = 189 bits, padded to 192, + 16. -/
def exFrame : Gen.Writer.Frame :=
  ⟨exHeader, [.lpc [5, -3] [7, -2] 3 4 ⟨1, 8, 2, [2, 3], [0, 0, 1, 2, 0, 3, 1, 0], [0, 0, 3, 1, 2, 7, 0, 5]⟩ 16, .constant 8 (-5) 17], none⟩

example : Gen.Writer.Frame.count_bits exFrame = 208 :=
  C08G_frame_count exFrame 208 rfl (by decide) (by decide)
    (by intro s hs; simp [exFrame] at hs; rcases hs with rfl | rfl <;> simp [SubOrd]) (by decide) (by decide)

/-- `Frame::count_bits` with a precomputed bitstream: eight times its length. -/
theorem C08G_frame_count_precomputed (g : Gen.Writer.Frame) (bytes : List Nat) (hp : g.precomputed_bitstream = some bytes)
    (hl : bytes.length * 8 < 2 ^ 64) : Gen.Writer.Frame.count_bits g = 8 * bytes.length := by
  unfold Gen.Writer.Frame.count_bits
  simp only [hp, Nat.shiftLeft_eq]
  rw [Nat.mod_eq_of_lt (by simpa using hl)]; omega

example : Gen.Writer.Frame.count_bits { exFrame with precomputed_bitstream := some [0xFF, 0xF8, 0x69, 0x18] } = 32 :=
  C08G_frame_count_precomputed _ [0xFF, 0xF8, 0x69, 0x18] rfl (by decide)

/-- `MemSink<u64>::write_to_byte_slice(dest)` on a sink holding the ideal bit string of `ops`: the big-endian bytes
of its 64-bit words overwrite a prefix of `dest` (as many as fit). -/
def wordExport (ops : List Op) (old : List Nat) : List Nat :=
  let b := packBytes (idealRun 0 ops)
  let wb := b ++ List.replicate ((8 - b.length % 8) % 8) 0
  wb.take old.length ++ old.drop wb.length

def idealLen (ops : List Op) : Nat := (idealRun 0 ops).length

/-- Reading a sink that holds whole bytes out into a vector resized to its byte count gives the packed bytes, whatever the
vector held before. -/
theorem wordExport_resize (ops : List Op) (body : Bits) (hS : idealRun 0 ops = body) (hd : 8 ∣ body.length) (stale : List Nat) :
    wordExport ops (vecResize stale (idealLen ops >>> 3) 0) = packBytes body := by
  have hlen := packBytes_length (body.length / 8) body (Nat.mul_div_cancel' hd).symm
  have hrs : (vecResize stale (idealLen ops >>> 3) 0).length = (packBytes body).length := by
    simp [vecResize, idealLen, hS, hlen, Nat.shiftRight_eq_div_pow]; omega
  simp only [wordExport, hS, hrs]
  rw [List.take_append_of_le_length (Nat.le_refl _), List.take_length, List.drop_eq_nil_of_le (by simp [hrs])]
  simp

/-- `Frame::write` without a precomputed bitstream: header and subframes go to the scratch sink, which then holds
`padTo8 (header ++ subframes)`; its bytes are forwarded, followed by their CRC-16.  A header that fails makes both sides
`none`.  For every prior content `stale` of the reused byte vector (`wordExport_resize`) and every `ex`. -/
theorem C08G_frame_ops (p8 p16 : CrcParams) (g : Gen.Writer.Frame) (stale : List Nat) (ex : Nat → Bool)
    (hp : g.precomputed_bitstream = none) (hc : ChanOk g.header.channel_assignment) (hs : ∀ s ∈ g.subframes, s.WF) :
    Gen.Writer.Frame.write stale encodeUtf8like ex scratchBytes (crc p8) idealLen wordExport (crc p16) g =
      Frame.ops p8 p16 (frameOfGen g) := by
  unfold Gen.Writer.Frame.write Frame.ops
  simp only [hp, frameOfGen, C08G_header_ops p8 g.header ex hc]
  rw [forW_some g.subframes _ SubFrame.ops (fun s hm => C08G_subframe_ops s (subOk_of_WF s (hs s hm)))]
  cases ho : (hdrOfGen g.header).ops p8 with
  | none =>
    have : (hdrOfGen g.header).bits p8 = none := by
      unfold FrameHeader.ops at ho; unfold FrameHeader.bits
      cases hb : (hdrOfGen g.header).bodyBits with
      | none => rfl
      | some b => simp [hb] at ho
    simp [this, bindW]
  | some hops =>
    obtain ⟨hb, hbits, ⟨h8, hrun⟩⟩ := OpsL.header_aligned p8 _ hops ho
    simp only [hbits, seqW_some, emit_some, bindW, Option.bind_eq_bind, Option.bind_some, List.append_nil]
    have hS : idealRun 0 (hops ++ (g.subframes.flatMap SubFrame.ops ++ [Op.alignToByte])) =
        Frame.padTo8 (hb ++ g.subframes.flatMap SubFrame.bits) := by
      rw [C11.idealRun_append, hrun 0 rfl, C11.idealRun_append, OpsL.idealRun_subframes _ fun s h => VerifyL.wf'_of_wf s (hs s h)]
      simp [idealRun, Op.ideal, Frame.padTo8]
    have hd := OpsL.padTo8_dvd (hb ++ g.subframes.flatMap SubFrame.bits)
    simp only [wordExport_resize _ _ hS hd, crc, OpsL.bytesToBits_packBytes _ hd]
    rfl

example (stale : List Nat) : Gen.Writer.Frame.write stale encodeUtf8like (fun _ => true) scratchBytes (crc rfcCrc8) idealLen wordExport
    (crc rfcCrc16) exFrame = Frame.ops rfcCrc8 rfcCrc16 (frameOfGen exFrame) :=
  C08G_frame_ops rfcCrc8 rfcCrc16 exFrame stale _ rfl trivial (by decide)

/-- `Frame::write` with a precomputed bitstream forwards exactly these bytes; when they are the packed bits of the
frame (what `precompute_bitstream` stores) this is the hand-written `Frame.opsPrecomputed`. -/
theorem C08G_frame_ops_precomputed (p8 p16 : CrcParams) (g : Gen.Writer.Frame) (stale : List Nat) (ex : Nat → Bool)
    (bytes : List Nat) (hp : g.precomputed_bitstream = some bytes) :
    Gen.Writer.Frame.write stale encodeUtf8like ex scratchBytes (crc p8) idealLen wordExport (crc p16) g =
      some [.writeBytesAligned bytes] ∧
    ∀ b, (frameOfGen g).bits p8 p16 = some b → bytes = packBytes b →
      Frame.opsPrecomputed p8 p16 (frameOfGen g) = some [.writeBytesAligned bytes] := by
  refine ⟨by unfold Gen.Writer.Frame.write; simp [hp], fun b hb he => ?_⟩
  simp [Frame.opsPrecomputed, hb, he]

example : Gen.Writer.Frame.write [] encodeUtf8like (fun _ => true) scratchBytes (crc rfcCrc8) idealLen wordExport (crc rfcCrc16)
    { exFrame with precomputed_bitstream := some [0xFF, 0xF8, 0x69, 0x18] } = some [.writeBytesAligned [0xFF, 0xF8, 0x69, 0x18]] :=
  (C08G_frame_ops_precomputed rfcCrc8 rfcCrc16 _ [] _ _ rfl).1

/-- The Rust-side value of a model stream: the STREAMINFO block first (last iff there is no other block), then
the unknown blocks with `is_last` set on the final one — the invariant `Stream::add_metadata_block` maintains. -/
def streamToGen (s : Stream) (gfs : List Gen.Writer.Frame) : Gen.Writer.Stream where
  stream_info := ⟨decide (s.metadata.length = 0), .StreamInfo s.info⟩
  metadata := (List.range s.metadata.length).map fun i =>
    let m := s.metadata.getD i ⟨0, []⟩
    ⟨decide (i + 1 = s.metadata.length), .Unknown m.tag m.data⟩
  frames := gfs

/-- A loop over values whose writes are those of their images: `none` (a `RangeError`) propagates as in `mapM`. -/
theorem forW_frames {α β : Type} (fw : α → W) (ops : β → W) (h : α → β) (gs : List α) (hf : ∀ g ∈ gs, fw g = ops (h g)) :
    forW gs fw = ((gs.map h).mapM ops).map List.flatten := by
  induction gs with
  | nil => rfl
  | cons g gs ih =>
    rw [forW, hf g (by simp), ih (fun x hx => hf x (by simp [hx])), List.map_cons, List.mapM_cons]
    cases ops (h g) with
    | none => simp
    | some o =>
      cases List.mapM ops (gs.map h) with
      | none => simp
      | some os => simp

/-- What `C08G_frame_ops` needs of a Rust-side frame. -/
def FrameOk (g : Gen.Writer.Frame) : Prop :=
  g.precomputed_bitstream = none ∧ ChanOk g.header.channel_assignment ∧ ∀ sf ∈ g.subframes, sf.WF

/-- `Stream::write`: the marker `fLaC`, the STREAMINFO block, the other metadata blocks, the frames. -/
theorem C08G_stream_ops (p8 p16 : CrcParams) (s : Stream) (gfs : List Gen.Writer.Frame) (stale : List Nat) (ex : Nat → Bool)
    (hf : gfs.map frameOfGen = s.frames) (hg : ∀ g ∈ gfs, FrameOk g)
    (ht : s.info.total < 2 ^ 64) (htag : ∀ m ∈ s.metadata, m.tag < 128) :
    Gen.Writer.Stream.write stale encodeUtf8like ex scratchBytes (crc p8) idealLen wordExport (crc p16) (streamToGen s gfs) =
      s.ops p8 p16 := by
  unfold Gen.Writer.Stream.write Stream.ops
  simp only [streamToGen]
  rw [C08G_block_streaminfo_ops _ _ ht, forW_frames _ (Frame.ops p8 p16) frameOfGen gfs
      (fun g hm => C08G_frame_ops p8 p16 g stale ex (hg g hm).1 (hg g hm).2.1 (hg g hm).2.2), hf, forW_map,
    forW_some (List.range s.metadata.length) _ (fun i =>
      blockHeaderOps (decide (i + 1 = s.metadata.length)) (s.metadata.getD i ⟨0, []⟩).tag (s.metadata.getD i ⟨0, []⟩).data.length ++
        [Op.writeBytesAligned (s.metadata.getD i ⟨0, []⟩).data])]
  · cases List.mapM (Frame.ops p8 p16) s.frames with
    | none => simp
    | some os => simp
  · intro i hi
    apply C08G_block_unknown_ops
    have hi' : i < s.metadata.length := by simpa using hi
    have := htag _ (getD_mem s.metadata i ⟨0, []⟩ hi')
    split <;> omega

/-- A stream with STREAMINFO, two further metadata blocks and one frame. -/
def exStream : Stream := ⟨⟨4096, 4096, 1234, 14000, 44100, 2, 16, 441000, [1, 2, 3, 4, 5, 6, 7, 8, 9, 10, 11, 12, 13, 14, 15, 255]⟩, [⟨4, [0xAA, 0xBB, 0xCC]⟩, ⟨1, []⟩], [frameOfGen exFrame]⟩

example : Gen.Writer.Stream.write [9, 9, 9] encodeUtf8like (fun _ => true) scratchBytes (crc rfcCrc8) idealLen wordExport (crc rfcCrc16)
    (streamToGen exStream [exFrame]) = exStream.ops rfcCrc8 rfcCrc16 :=
  C08G_stream_ops rfcCrc8 rfcCrc16 exStream [exFrame] _ _ rfl
    (by intro g hg; simp at hg; subst hg; exact ⟨rfl, trivial, by decide⟩) (by decide) (by decide)
/-- The `is_last` flags of the Rust-side value: STREAMINFO not last, type-4 block not last, type-1 block last. -/
example : (streamToGen exStream [exFrame]).stream_info.is_last = false ∧
    (streamToGen exStream [exFrame]).metadata.map (·.is_last) = [false, true] := by decide

/-- `Stream::count_bits`: 32 (marker) + the STREAMINFO block + every other block + every frame. -/
theorem C08G_stream_count (s : Stream) (gfs : List Gen.Writer.Frame) (c : Nat)
    (hf : Rel2 (fun g f => ∀ c, f.count = some c → Gen.Writer.Frame.count_bits g = c) gfs s.frames)
    (h : s.count = some c) : Gen.Writer.Stream.count_bits (streamToGen s gfs) = c := by
  unfold Stream.count at h
  cases hm : s.frames.mapM Frame.count with
  | none => simp [hm] at h
  | some cs =>
    simp [hm] at h
    unfold Gen.Writer.Stream.count_bits
    simp only [streamToGen, ← List.foldl_map, foldl_add_sum, map_of_mapM_rel _ _ gfs s.frames cs hf hm,
      C08G_block_streaminfo_count, List.map_map]
    have hmeta : (List.range s.metadata.length).map (Gen.Writer.MetadataBlock.count_bits ∘ fun i =>
        (⟨decide (i + 1 = s.metadata.length), .Unknown (s.metadata.getD i ⟨0, []⟩).tag (s.metadata.getD i ⟨0, []⟩).data⟩ : Gen.Writer.MetadataBlock)) =
        s.metadata.map (fun m => 32 + 8 * m.data.length) := by
      rw [← map_getD_eq_map s.metadata ⟨0, []⟩ (fun m => 32 + 8 * m.data.length)]
      exact List.map_congr_left fun i _ => C08G_block_unknown_count _ _ _
    rw [hmeta, ← h, ← List.sum_eq_foldl, ← List.sum_eq_foldl]

example : Gen.Writer.Stream.count_bits (streamToGen exStream [exFrame]) = 32 + (32 + 272) + (32 + 24) + 32 + 208 :=
  C08G_stream_count exStream [exFrame] _
    (Rel2.cons (fun c hc => C08G_frame_count exFrame c rfl (by decide) (by decide)
      (by intro s hs; simp [exFrame] at hs; rcases hs with rfl | rfl <;> simp [SubOrd])
      (by have : (frameOfGen exFrame).count = some 208 := by decide
          rw [this] at hc; cases hc; decide) hc) Rel2.nil)
    (by decide)

end FlacVerif.C08Gen
