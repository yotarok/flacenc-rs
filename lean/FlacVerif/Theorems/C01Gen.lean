/-
C01Gen — the integer prediction kernels as the Rust source states them (Gen/Lpc.lean, generated by part `lpc` of
tools/translate.py = tools/translate_lpc.py from src/lpc.rs, src/arrayutils.rs, src/coding.rs, src/component/datatype.rs,
src/verif_hooks.rs) are the hand-written model of Model/Predict.lean (`computeError`, `diffs`) — the two callees through
which the generated decision logic (Gen/Coding.lean, table CD_CALLEES of tools/translate_coding.py) reaches the predictors —
for ALL argument values in the domains of the Rust types, in BOTH profiles (`dbg = true` dev: overflow = panic = `none`;
`dbg = false` release: wrap).  Explicit hypotheses: coefficient lanes are `i16` values other than `i16::MIN`, at most 32 of
them and not more than samples, `0 ≤ shift < 32`, samples are `i32` values, lengths below 2^63.  Where model and source
disagree (each time outside what the encoder can reach) the `C01G_compute_error_*_discrepancy` / `_panics` theorems say so
on a witness.  The fixed predictors go through `SimdVec<i32,16>` = `Scratch.SimdVec` (Model/Scratch.lean) and the closed
forms `Scratch.errAt` of Lemmas/ScratchFixed.lean.  Examples on concrete values follow
`C01G_unaligned_map_and_update`, `C01G_from_parts`, `C01G_compute_error` and `C01G_diffs`.
Properties served: C01 (the residual is the exact one), C07 (no panic), C09 (callees of the decision logic).
-/
import FlacVerif.Lemmas.LpcPrelude
import FlacVerif.Lemmas.TotalLpc
import FlacVerif.Lemmas.WrapArith
import FlacVerif.Lemmas.ScratchFixed
import FlacVerif.Theorems.C14Gen
namespace FlacVerif.C01Gen
open Gen.Lpc Strict Total

theorem forMutM_scalar {T U : Type} (dbg : Bool) (src : List U) (f : T → U → Option T) :
    ∀ (dest : List T) (t : Nat), t + dest.length ≤ src.length → src.length < 2 ^ 64 →
      forMutM dest t (fun p t => (src[t]?).bind fun v2 => (f p v2).bind fun v3 =>
          (addU dbg 64 t 1).bind fun v4 => some (v3, v4))
        = (zipWithM f dest (src.drop t)).bind fun l => some (l, t + dest.length)
  | [], t, _, _ => by rw [forMutM, zipWithM_nil_left]; rfl
  | p :: ps, t, h, hs => by
    rw [List.length_cons] at h
    have ht : t < src.length := by omega
    rw [forMutM, List.getElem?_eq_getElem ht, Option.bind_some, List.drop_eq_getElem_cons ht, zipWithM_cons]
    cases f p src[t] with
    | none => rfl
    | some p' =>
      rw [Option.bind_some, Option.bind_some, addU_ok dbg 64 t 1 (by omega), Option.bind_some, Option.bind_some]
      dsimp only
      rw [forMutM_scalar dbg src f ps (t + 1) (by omega) hs]
      cases zipWithM f ps (List.drop (t + 1) src) with
      | none => rfl
      | some l => rw [List.length_cons, Nat.add_assoc, Nat.add_comm 1]; rfl

/-- **`unaligned_map_and_update`** in the stable build (`slice_as_simd_mut` = (all, [], [])): the scalar closure is run
on the cells of `dest` paired with the cells of `src`, in order; the vector closure is never called.  Part `rice` prints
the same Rust function in another shape (Gen/Rice.lean); `C13Gen.C13G_unaligned` is this fact for that copy, with the
spec `C13Gen.zipUpd`, which is `zipWithM` while `dest` is not longer than `src` and `none` (the index panic of the second
example below) otherwise, and so needs no premise on the lengths. -/
theorem C01G_unaligned_map_and_update {T U : Type} (dbg : Bool) (N : Nat) (src : List U) (dest : List T)
    (f : T → U → Option T) (g : List T → List U → Option (List T))
    (h : dest.length ≤ src.length) (hs : src.length < 2 ^ 64) :
    unaligned_map_and_update dbg N src dest f g = zipWithM f dest src := by
  unfold unaligned_map_and_update slice_as_simd_mut
  simp only []
  rw [forMutM_scalar dbg src f dest 0 (by omega) hs, List.drop_zero]
  cases zipWithM f dest src <;> simp [forMutM]

example : unaligned_map_and_update true 64 [10, 20, 30] [1, 2, 3] (fun p x => some (p + x : Int)) (fun _ _ => none)
    = some [11, 22, 33] := by decide

/-- a `dest` longer than `src` is an index panic (`src[t]`) -/
example : unaligned_map_and_update true 64 [10, 20] [1, 2, 3] (fun p x => some (p + x : Int)) (fun _ _ => none) = none := by
  decide

/-- the value `from_parts(coefs, coefs.len(), shift, precision)` builds: 32 `i16` lanes, the unused ones zero -/
def mkQ (coefs : List Int) (shift : Int) (precision : Nat) : QuantizedParameters :=
  { coefs := coefs ++ List.replicate (32 - coefs.length) 0, order := coefs.length, shift := shift, precision := precision }

/-- **`QuantizedParameters::from_parts`**: no panic for at most 32 coefficients (both profiles). -/
theorem C01G_from_parts (dbg : Bool) (coefs : List Int) (shift : Int) (precision : Nat) (h : coefs.length ≤ 32) :
    QuantizedParameters.from_parts dbg coefs coefs.length shift precision = some (mkQ coefs shift precision) := by
  unfold QuantizedParameters.from_parts
  simp only []
  rw [req_ok _ (by cases dbg <;> rfl), Option.bind_some,
    sliceCopy_ok _ _ _ _ ⟨Nat.zero_le _, by rw [List.length_replicate]; exact h, rfl⟩, Option.bind_some,
    List.take_zero, List.nil_append, List.drop_replicate]
  rfl

/-- more than 32 coefficients: `coefs_v[0..order]` is out of range (both profiles); a wrong `order`: dev profile only
(`debug_assert!`), the release profile panics in `copy_from_slice` -/
theorem C01G_from_parts_panics (dbg : Bool) (coefs : List Int) (order : Nat) (shift : Int) (precision : Nat)
    (h : 32 < order ∨ coefs.length ≠ order) :
    QuantizedParameters.from_parts dbg coefs order shift precision = none := by
  have hcopy : sliceCopy (List.replicate 32 (0 : Int)) 0 order coefs = none :=
    if_neg (by rw [List.length_replicate]; omega)
  unfold QuantizedParameters.from_parts
  simp only []
  rw [hcopy]
  cases req (!dbg || decide (coefs.length = order)) <;> rfl

example : QuantizedParameters.from_parts true [3, -2] 2 1 12 = some (mkQ [3, -2] 1 12) ∧
    (mkQ [3, -2] 1 12).coefs.length = 32 ∧ QuantizedParameters.from_parts false (List.replicate 33 1) 33 0 12 = none := by decide

/-- `(0..n).map(|j| xs[j]).collect()` as generated: the first `n` cells -/
theorem mapM_getElem? {α : Type} (l : List α) (n : Nat) (hn : n ≤ l.length) :
    (List.range n).mapM (fun j => (l[j]?).bind fun v => some v) = some (l.take n) := by
  induction n with
  | zero => rfl
  | succ n ih =>
    rw [List.range_succ, List.mapM_append, ih (by omega), List.take_add_one]
    simp [List.getElem?_eq_getElem (show n < l.length by omega)]

/-- **accessors** of the value built by `from_parts` -/
theorem C01G_coefs_accessor (dbg : Bool) (coefs : List Int) (shift : Int) (precision : Nat) :
    QuantizedParameters.coefs_fn dbg (mkQ coefs shift precision) = some coefs ∧
    QuantizedParameters.order_fn (mkQ coefs shift precision) = coefs.length ∧
    QuantizedParameters.shift_fn (mkQ coefs shift precision) = shift ∧
    QuantizedParameters.precision_fn (mkQ coefs shift precision) = precision := by
  refine ⟨?_, rfl, rfl, rfl⟩
  unfold QuantizedParameters.coefs_fn QuantizedParameters.order_fn mkQ
  simp only []
  rw [rangeL_zero, ← List.range_eq_range', mapM_getElem? _ _ (by rw [List.length_append]; exact Nat.le_add_right _ _),
    Option.bind_some, List.take_left' rfl]

/-- The source runs one pass over the block per coefficient (`errors[t] += w_J * signal[t-1-J]` for all `t`), the model
one fold over the coefficients per sample: `accList coefs xs J` is the buffer after the first `J` passes, the loop
invariant of `C01G_compute_error_impl`; `acc_bound` keeps every cell of it below `M * Σ|c|`, so no checked operation
fails. -/
def accList (coefs xs : List Int) (J : Nat) : List Int :=
  (List.range xs.length).map fun t => (List.range J).foldl (stepInt coefs xs t) 0

theorem mkQ_coefs_get (coefs : List Int) (shift : Int) (precision : Nat) (J : Nat) (hJ : J < coefs.length) :
    (mkQ coefs shift precision).coefs[J]? = some (coefs.getD J 0) := by
  unfold mkQ
  simp only []
  rw [List.getElem?_append_left hJ, List.getD_eq_getElem?_getD, List.getElem?_eq_getElem hJ]
  rfl

theorem accList_length (coefs xs : List Int) (J : Nat) : (accList coefs xs J).length = xs.length := by
  simp [accList]

theorem accList_zero (coefs xs : List Int) : accList coefs xs 0 = List.replicate xs.length 0 := by
  rw [accList, List.range_zero]
  simp only [List.foldl_nil]
  rw [List.map_const', List.length_range]

theorem take_eq_map_getD (xs : List Int) (m : Nat) (hm : m ≤ xs.length) :
    xs.take m = (List.range m).map (fun i => xs.getD i 0) := by
  simpa using (map_getD_slice xs 0 m 0 id (by omega)).symm

theorem accList_split (coefs xs : List Int) (J k m : Nat) (h : xs.length = k + m) :
    accList coefs xs J = (List.range k).map (fun t => (List.range J).foldl (stepInt coefs xs t) 0) ++
      (List.range m).map (fun i => (List.range J).foldl (stepInt coefs xs (k + i)) 0) := by
  unfold accList
  rw [h, List.range_add, List.map_append, List.map_map]
  rfl

/-- the pure content of one pass of the order loop: `errors[t] += w_J * signal[t - J - 1]` for `t > J` -/
theorem accList_succ (coefs xs : List Int) (J : Nat) (hJn : J < xs.length) :
    (accList coefs xs J).take (J + 1) ++ List.zipWith (fun px x => px + coefs.getD J 0 * x)
      ((accList coefs xs J).drop (J + 1)) (xs.take (xs.length - J - 1)) = accList coefs xs (J + 1) := by
  have hsplit : xs.length = (J + 1) + (xs.length - J - 1) := by omega
  rw [take_eq_map_getD xs _ (by omega), accList_split coefs xs J _ _ hsplit, accList_split coefs xs (J + 1) _ _ hsplit,
    List.drop_left' (by simp), List.take_left' (by simp), List.zipWith_map, List.zipWith_self]
  congr 1
  · apply List.map_congr_left
    intro t ht
    rw [List.mem_range] at ht
    rw [List.range_succ, List.foldl_append, List.foldl_cons, List.foldl_nil, stepInt, if_neg (by omega)]
  · apply List.map_congr_left
    intro i _
    rw [List.range_succ (n := J), List.foldl_append, List.foldl_cons, List.foldl_nil]
    conv => rhs; rw [stepInt, if_pos (by omega), show J + 1 + i - 1 - J = i by omega]

theorem fill_prefix (f : Nat → Int) (n k : Nat) (hk : k ≤ n) :
    sliceFill ((List.range n).map f) 0 k 0 = some ((List.range n).map fun t => if t < k then 0 else f t) := by
  rw [sliceFill_ok _ _ _ _ ⟨Nat.zero_le _, by rw [List.length_map, List.length_range]; exact hk⟩]
  congr 1
  have hn : n = k + (n - k) := by omega
  rw [hn, List.range_add, List.map_append, List.map_append, List.drop_left' (by simp)]
  simp only [List.take_zero, List.nil_append, Nat.sub_zero]
  congr 1
  · have : ∀ t ∈ List.range k, (fun t => if t < k then (0 : Int) else f t) t = (fun _ => (0 : Int)) t := by
      intro t ht
      simp only []
      rw [if_pos (List.mem_range.mp ht)]
    rw [List.map_congr_left this, List.map_const', List.length_range]
  · rw [List.map_map, List.map_map]
    apply List.map_congr_left
    intro t _
    simp only [Function.comp]
    rw [if_neg (by omega)]

theorem zipWith_range_getD (g : Int → Int → Int) (h : Nat → Int) (xs : List Int) :
    List.zipWith g ((List.range xs.length).map h) xs = (List.range xs.length).map (fun t => g (h t) (xs.getD t 0)) := by
  have hx := take_eq_map_getD xs xs.length (Nat.le_refl _)
  rw [List.take_length] at hx
  have : List.zipWith g ((List.range xs.length).map h) xs =
      List.zipWith g ((List.range xs.length).map h) ((List.range xs.length).map (fun i => xs.getD i 0)) := by rw [← hx]
  rw [this, List.zipWith_map, List.zipWith_self]

/-- **`compute_error_impl::<T, N>`** (T = a signed type of `W` bits): under the bound `maxabs · (Σ|coef| + 1) < 2^(W-1)` no
product, partial sum or final subtraction leaves the range of `T`, so dev and release profile agree, nothing panics and the
buffer holds the exact errors (zero in the warm-up positions). -/
theorem C01G_compute_error_impl (dbg : Bool) (W N : Nat) (coefs : List Int) (shift : Int) (precision : Nat)
    (xs errs : List Int) (M : Nat) (hxl : xs.length < 2 ^ 63) (hord : coefs.length ≤ xs.length) (he : errs.length = xs.length)
    (hs0 : 0 ≤ shift) (hsW : shift < W) (hW : W ≤ 64) (hM : ∀ x ∈ xs, x.natAbs ≤ M)
    (hB : M * (sumAbs coefs + 1) < 2 ^ (W - 1)) :
    compute_error_impl dbg W N (mkQ coefs shift precision) xs errs =
      some ((List.range xs.length).map fun t => if t < coefs.length then 0 else errE coefs shift.toNat xs t) := by
  rw [Nat.mul_add, Nat.mul_one] at hB
  unfold compute_error_impl
  have hreq : req (!dbg || decide (errs.length ≥ xs.length)) = some () :=
    req_ok _ (by rw [he]; cases dbg <;> simp)
  simp only [QuantizedParameters.order_fn, QuantizedParameters.shift_fn]
  rw [hreq, Option.bind_some, show (mkQ coefs shift precision).order = coefs.length from rfl,
    show (mkQ coefs shift precision).shift = shift from rfl, he, ← accList_zero coefs xs,
    loopM_eq_loop, rangeL_zero, Prelude.loop_range'_inv _ (accList coefs xs) coefs.length _ rfl]
  · rw [Option.bind_some, castU_of_nonneg hs0 (by omega),
      C01G_unaligned_map_and_update _ _ _ _ _ _ (by rw [accList_length]; exact Nat.le_refl _) (by omega),
      zipWithM_pure _ (fun px x => x - shrS px shift.toNat)]
    · unfold accList
      rw [Option.bind_some, zipWith_range_getD, fill_prefix _ _ _ hord, Option.bind_some]
      congr 1
      apply List.map_congr_left
      intro t _
      split
      · rfl
      · unfold errE shrS
        rw [Int.shiftRight_eq_div_pow]
        rfl
    · intro i h1 h2
      simp only [accList, List.getElem_map, List.getElem_range]
      have ha := acc_bound coefs xs i M hM coefs.length (Nat.le_refl _)
      rw [List.take_length] at ha
      have h4 : (shrS ((List.range coefs.length).foldl (stepInt coefs xs i) 0) shift.toNat).natAbs ≤ M * sumAbs coefs :=
        Nat.le_trans (Int.natAbs_ediv_le_natAbs _ _) ha
      rw [shAmt_ok dbg W shift.toNat (by omega), Option.bind_some,
        arithS_of_natAbs dbg W _ (Nat.lt_of_le_of_lt (Nat.le_trans (Int.natAbs_sub_le _ _)
          (Nat.add_le_add (hM _ (List.getElem_mem h2)) h4)) (by omega)), Option.bind_some]
  · intro J hJ
    have hJx : J < xs.length := Nat.lt_of_lt_of_le hJ hord
    rw [mkQ_coefs_get coefs shift precision J hJ, Option.bind_some, subU_ok dbg 64 xs.length J (Nat.le_of_lt hJx),
      Option.bind_some, subU_ok dbg 64 (xs.length - J) 1 (Nat.sub_pos_of_lt hJx), Option.bind_some,
      sliceR_ok xs 0 (xs.length - J - 1) ⟨Nat.zero_le _, Nat.le_trans (Nat.sub_le _ _) (Nat.sub_le _ _)⟩,
      Option.bind_some, List.drop_zero, addU_ok dbg 64 J 1 (by omega), Option.bind_some,
      sliceR_ok (accList coefs xs J) (J + 1) (accList coefs xs J).length
        ⟨by rw [accList_length]; exact hJx, Nat.le_refl _⟩,
      Option.bind_some, List.take_length]
    have hB' : M * sumAbs coefs < 2 ^ (W - 1) := Nat.lt_of_le_of_lt (Nat.le_add_right _ _) hB
    rw [C01G_unaligned_map_and_update _ _ _ _ _ _
        (by rw [List.length_drop, accList_length, List.length_take]; omega) (by rw [List.length_take]; omega),
      zipWithM_pure _ (fun px x => px + coefs.getD J 0 * x)]
    · rw [Option.bind_some, splice, List.drop_length, List.append_nil, accList_succ coefs xs J hJx]
    · intro i h1 h2
      rw [List.length_drop, accList_length] at h1
      have hi : i < xs.length := by omega
      simp only [List.getElem_drop, accList, List.getElem_map, List.getElem_range, List.getElem_take]
      have hp := natAbs_mul_le (coefs.getD J 0) xs[i] M (hM _ (List.getElem_mem hi))
      have ha := acc_bound coefs xs (J + 1 + i) M hM J (Nat.le_of_lt hJ)
      have hle : M * sumAbs (coefs.take J) + M * (coefs.getD J 0).natAbs ≤ M * sumAbs coefs := by
        rw [← Nat.mul_add, ← sumAbs_take_succ coefs J hJ]
        exact Nat.mul_le_mul_left _ (sumAbs_take_le coefs (J + 1))
      rw [arithS_of_natAbs dbg W _ (Nat.lt_of_le_of_lt (Nat.le_trans hp (Nat.le_trans (Nat.le_add_left _ _) hle)) hB'),
        Option.bind_some, arithS_of_natAbs dbg W _ (Nat.lt_of_le_of_lt
          (Nat.le_trans (Int.natAbs_add_le _ _) (Nat.le_trans (Nat.add_le_add ha hp) hle)) hB'), Option.bind_some]

/-- the `repeat!(lane to 32 => { acc += i64::from(abs_coefs.as_array()[lane]); })` loop adds the lanes up to `sumAbs` -/
theorem abs_sum_loop (dbg : Bool) (cs : List Int) (n : Nat) (hn : cs.length = n) (hB : sumAbs cs < 2 ^ 63) :
    loopM (rangeL 0 n) (0 : Int) (fun lane acc => ((cs.map fun c => (c.natAbs : Int))[lane]?).bind fun v3 =>
        (arithS dbg 64 (acc + v3)).bind fun v4 => some v4) = some (sumAbs cs : Int) := by
  subst hn
  rw [loopM_eq_loop, rangeL_zero]
  refine (Prelude.loop_range'_inv _ (fun J => (sumAbs (cs.take J) : Int)) cs.length _ rfl fun J hJ => ?_).trans (by rw [List.take_length])
  have hle := sumAbs_take_le cs (J + 1)
  rw [sumAbs_take_succ cs J hJ] at hle ⊢
  rw [List.getD_eq_getElem?_getD, List.getElem?_eq_getElem hJ, Option.getD_some] at hle ⊢
  rw [List.getElem?_map, List.getElem?_eq_getElem hJ, Option.map_some, Option.bind_some,
    arithS_ok dbg 64 _ (by omega), Option.bind_some, Int.natCast_add]

theorem wrapS32_eq (v : Int) : wrapS 32 v = wrap32 v := Wrap.asSigned32_eq_wrap32 v

/-- **`compute_error`** is the hand-written `computeError` (Model/Predict.lean): the same error buffer and the same
"every value is a FLAC residual" flag, in BOTH profiles, without a panic.  `mkQ coefs shift precision` is the value
`QuantizedParameters::from_parts` builds (`C01G_from_parts`).  Hypotheses = the domains of the Rust types (`i16` lanes other
than `i16::MIN`, at most 32; `i32` samples) plus `0 ≤ shift < 32`, order ≤ block size, a buffer of the block's length. -/
theorem C01G_compute_error (dbg : Bool) (coefs : List Int) (shift : Int) (precision : Nat) (xs errs : List Int)
    (hlen : coefs.length ≤ 32) (hc : ∀ c ∈ coefs, c.natAbs < 2 ^ 15) (hs : 0 ≤ shift ∧ shift < 32)
    (hx : ∀ x ∈ xs, -(2 ^ 31 : Int) ≤ x ∧ x < 2 ^ 31) (hxl : xs.length < 2 ^ 63) (hord : coefs.length ≤ xs.length)
    (he : errs.length = xs.length) :
    compute_error dbg (mkQ coefs shift precision) xs errs = (computeError coefs shift.toNat xs).map fun r => (r.2, r.1) := by
  have hM := (foldl_maxAbs xs 0).2
  have hmax : xs.foldl (fun m x => max m x.natAbs) 0 ≤ 2 ^ 31 :=
    (foldl_forall_iff (fun m (x : Int) => max m x.natAbs) (· ≤ 2 ^ 31) (fun x => x.natAbs ≤ 2 ^ 31) (fun _ _ => Nat.max_le) xs 0).2
      ⟨Nat.zero_le _, fun x h => by have := hx x h; omega⟩
  have hsum : sumAbs coefs ≤ 32 * 32768 :=
    Nat.le_trans (sum_map_le_length_mul coefs Int.natAbs 32768 (fun c h => Nat.le_of_lt (hc c h))) (Nat.mul_le_mul_right _ hlen)
  have hqc : ∀ c ∈ (mkQ coefs shift precision).coefs, c.natAbs < 2 ^ 15 := by
    intro c hcm
    rcases List.mem_append.mp hcm with h | h
    · exact hc c h
    · rw [(List.mem_replicate.mp h).2]; decide
  have hql : (mkQ coefs shift precision).coefs.length = 32 := by
    rw [mkQ, List.length_append, List.length_replicate]; omega
  have hqs : sumAbs (mkQ coefs shift precision).coefs = sumAbs coefs := by
    simp [mkQ, sumAbs]
  have hprod : xs.foldl (fun m x => max m x.natAbs) 0 * (sumAbs coefs + 1) ≤ 2 ^ 31 * (32 * 32768 + 1) :=
    Nat.mul_le_mul hmax (Nat.succ_le_succ hsum)
  unfold compute_error
  simp only []
  rw [req_ok _ (decide_eq_true (Nat.le_of_eq he.symm)), Option.bind_some, C14Gen.C14G_find_max_abs 16 (by decide) xs,
    Option.bind_some, simdAbs_ok dbg 16 _ hqc, Option.bind_some, abs_sum_loop dbg _ 32 hql (by omega), Option.bind_some,
    hqs, castU_of_nonneg (by omega) (by omega), Int.toNat_natCast, addU_ok dbg 64 _ 1 (by omega), Option.bind_some,
    mulU_ok dbg 64 _ _ (by omega), Option.bind_some]
  by_cases hw : lpcWide coefs xs
  · have hg : ¬ xs.foldl (fun m x => max m x.natAbs) 0 * (sumAbs coefs + 1) < 2 ^ 31 - 1 := by
      rwa [lpcWide, foldl_sumAbs, Nat.zero_add] at hw
    rw [if_neg (by simpa using hg), computeError_wide coefs _ xs hw, List.map_id',
      C01G_compute_error_impl dbg 64 64 coefs shift precision xs _ _ hxl hord List.length_replicate hs.1 (by omega)
        (Nat.le_refl 64) hM (by omega), Option.bind_some,
      zipMutM_pure (β := Int) (fun v => wrapS 32 v) (fun v => decide (v.natAbs ≤ 2147483647)) _ errs true
        (by rw [List.length_map, List.length_range, he]),
      Option.bind_some, Option.map_some, Bool.true_and, computeError64_eq, fitsResidual64, computeErrorExact64_eq,
      List.map_map]
    congr 1
    congr 1
    apply List.map_congr_left
    intro t _
    simp only [Function.comp]
    split
    · decide
    · exact wrapS32_eq _
  · have hg : xs.foldl (fun m x => max m x.natAbs) 0 * (sumAbs coefs + 1) < 2 ^ 31 - 1 := by
      rwa [lpcWide, foldl_sumAbs, Nat.zero_add, Decidable.not_not] at hw
    rw [if_pos (decide_eq_true hg), computeError_narrow coefs _ xs hw,
      C01G_compute_error_impl dbg 32 64 coefs shift precision xs errs _ hxl hord he hs.1 hs.2 (by decide) hM
        (by omega)]
    rfl

/-- the hypotheses are satisfiable on a non-trivial value; the generated code evaluates to the expected buffer -/
example : compute_error true (mkQ [3, -2] 1 12) [5, -7, 100, -100, 8388607] [9, 9, 9, 9, 9] =
    (computeError [3, -2] 1 [5, -7, 100, -100, 8388607]).map (fun r => (r.2, r.1)) :=
  C01G_compute_error true [3, -2] 1 12 [5, -7, 100, -100, 8388607] [9, 9, 9, 9, 9] (by decide) (by decide) (by decide)
    (by decide) (by decide) (by decide) (by decide)

example : compute_error false (mkQ [3, -2] 1 12) [5, -7, 100, -100, 8388607] [9, 9, 9, 9, 9] = some (true, [0, 0, 116, -257, 8388857]) := by
  decide +kernel

/-- the `i64` path (guard fails: 2^23 · (2·16383 + 1) ≥ i32::MAX) with a value that is not a FLAC residual -/
example : compute_error true (mkQ [-16384] 0 15) [-2147483648, 0, 5] [0, 0, 0] =
    (computeError [-16384] 0 [-2147483648, 0, 5]).map (fun r => (r.2, r.1)) :=
  C01G_compute_error true [-16384] 0 15 _ _ (by decide) (by decide) (by decide) (by decide) (by decide) (by decide) (by decide)

/-- **`verif_hooks::compute_error_fits`** (the cfg(flacenc_verif) accessor the differential `kernel` stream calls) only
forwards: it is `from_parts` + a zeroed buffer + `compute_error`, i.e. the model's `computeError`. -/
theorem C01G_compute_error_fits (dbg : Bool) (coefs : List Int) (shift : Int) (precision : Nat) (xs : List Int)
    (hlen : coefs.length ≤ 32) (hc : ∀ c ∈ coefs, c.natAbs < 2 ^ 15) (hs : 0 ≤ shift ∧ shift < 32)
    (hx : ∀ x ∈ xs, -(2 ^ 31 : Int) ≤ x ∧ x < 2 ^ 31) (hxl : xs.length < 2 ^ 63) (hord : coefs.length ≤ xs.length) :
    compute_error_fits dbg coefs shift precision xs = computeError coefs shift.toNat xs := by
  unfold compute_error_fits
  rw [C01G_from_parts dbg coefs shift precision hlen]
  simp only [Option.bind_some]
  rw [C01G_compute_error dbg coefs shift precision xs _ hlen hc hs hx hxl hord (by simp)]
  cases computeError coefs shift.toNat xs with
  | none => rfl
  | some r => rfl

/-- The callee table of part `coding` (`CD_CALLEES[("lpc", "compute_error")]`, tools/translate_coding.py) reads the call
`lpc::compute_error(&qlpc, signal, errors)` as: panic unless `errors.len() == signal.len()` (the `assert!` plus the index
`signal[t]` of the update loops, see `C01G_compute_error_long_buffer_discrepancy`); `r = computeError qlpc.coefs
qlpc.shift.toNat signal`; afterwards `errors = r.1`, value `r.2`.  At its only call site (`estimated_qlpc`: after
`errors.resize(signal.len(), 0)`) the buffer has the length of the signal, and there the reading is what the source does. -/
theorem C01G_compute_error_callee (dbg : Bool) (coefs : List Int) (shift : Int) (precision : Nat) (xs stale : List Int)
    (hlen : coefs.length ≤ 32) (hc : ∀ c ∈ coefs, c.natAbs < 2 ^ 15) (hs : 0 ≤ shift ∧ shift < 32)
    (hx : ∀ x ∈ xs, -(2 ^ 31 : Int) ≤ x ∧ x < 2 ^ 31) (hxl : xs.length < 2 ^ 63) (hord : coefs.length ≤ xs.length) :
    compute_error dbg (mkQ coefs shift precision) xs (vecResize stale xs.length 0) =
      (if decide ((vecResize stale xs.length (0 : Int)).length = xs.length) then computeError coefs shift.toNat xs else none).map
        fun r => (r.2, r.1) := by
  have hl : (vecResize stale xs.length (0 : Int)).length = xs.length := vecResize_length _ _ _
  rw [C01G_compute_error dbg coefs shift precision xs _ hlen hc hs hx hxl hord hl, hl, if_pos (decide_eq_true rfl)]

/-! ### where the hand model and the source disagree (each outside what the encoder can reach) -/

/-- more coefficients than samples: the source panics (`block_size - order - 1` / the slice ranges), the model computes.
Unreachable from `encode_subframe`: prediction needs ≥ 64 samples, a verified configuration at most 24 coefficients. -/
theorem C01G_compute_error_order_panics :
    compute_error true (mkQ [1, 1] 0 12) [5] [0] = none ∧ compute_error false (mkQ [1, 1] 0 12) [5] [0] = none ∧
    (computeError [1, 1] 0 [5]).isSome = true := by decide +kernel

/-- a negative shift (`qps.shift() as usize` is huge): the dev profile panics in `>>`, the release profile shifts by
`shift mod 32`; the model uses `shift.toNat = 0`.  Unreachable: `find_shift` clamps to 0..=15 (`OEvent.Ok`). -/
theorem C01G_compute_error_shift_discrepancy :
    compute_error true (mkQ [1] (-1) 12) [4, 8] [0, 0] = none ∧
    compute_error false (mkQ [1] (-1) 12) [4, 8] [0, 0] = some (true, [0, 8]) ∧
    computeError [1] (Int.toNat (-1)) [4, 8] = some ([0, 4], true) := by decide +kernel

/-- a coefficient lane `i16::MIN`: `Simd::abs` overflows - a panic in the dev profile, and in the release profile the
bound `sumabs_coefs` becomes negative; the model takes the absolute value.  Unreachable: precision ≤ 15 bounds the lanes
by 2^14. -/
theorem C01G_compute_error_min_coef_discrepancy :
    compute_error true (mkQ [-32768] 0 16) [4, 8] [0, 0] = none ∧ (computeError [-32768] 0 [4, 8]).isSome = true := by decide

/-- a buffer longer than the signal passes the `assert!` but the update loops index `signal[t]` beyond its end: a panic
(here on the `i32` path).  The callee table of part `coding` rejects every buffer of another length
(`C01G_compute_error_callee`); the hand model `Scratch.computeErrorInto` panics on the `i32` path only and lets a long
buffer through on the `i64` path.  Unreachable: the only call site resizes the buffer to the length of the signal. -/
theorem C01G_compute_error_long_buffer_discrepancy :
    compute_error true (mkQ [1] 0 12) [4, 8] [0, 0, 0] = none ∧ compute_error false (mkQ [1] 0 12) [4, 8] [0, 0, 0] = none := by
  decide +kernel

/-- a `SimdVec` of the hand model (Model/Scratch.lean) as a generated one -/
def toG (v : Scratch.SimdVec) : SimdVec Int := { inner := v.inner, len := v.len }

theorem chunkN_eq (n : Nat) (xs : List Int) : chunkN 16 n xs = Scratch.chunk16 n xs := by
  induction n generalizing xs with
  | zero => rfl
  | succ n ih => simp only [chunkN, Scratch.chunk16, ih]

/-- **`pack_into_simd_vec::<i32, 16>`** = `Scratch.packIntoSimdVec` (whatever the destination held), no panic -/
theorem C01G_pack_into_simd_vec (dbg : Bool) (src : List Int) (dest : List (List Int)) (hl : src.length < 2 ^ 63) :
    pack_into_simd_vec dbg 16 src dest = some (Scratch.packIntoSimdVec src dest) := by
  have hf : (List.replicate ((src.length + 16 - 1) / 16) Scratch.zeroV).flatten
      = List.replicate (16 * ((src.length + 16 - 1) / 16)) 0 := Scratch.flat_replicate_zeroV _
  rw [Scratch.packIntoSimdVec_eq]
  unfold pack_into_simd_vec
  simp only []
  rw [addU_ok dbg 64 _ _ (by omega), Option.bind_some, subU_ok dbg 64 _ _ (by omega), Option.bind_some,
    divU_ok _ _ (by decide), Option.bind_some, show List.replicate 16 (default : Int) = Scratch.zeroV from rfl,
    vecResize, List.take_nil, List.nil_append, List.length_nil, Nat.sub_zero, hf,
    sliceCopy_ok _ _ _ _ ⟨Nat.zero_le _, by rw [List.length_replicate]; omega, rfl⟩, Option.bind_some, List.take_zero,
    List.nil_append, List.drop_replicate, List.length_replicate, chunkN_eq]
  rfl

/-- **`SimdVec::reset_from_slice`**, **`SimdVec::resize`**, **`SimdVec::as_ref`** for `SimdVec<i32, 16>` are the operations of
the hand model `Scratch.SimdVec`; no panic below 2^63 scalars (`as_ref`: when `len` does not exceed the stored lanes). -/
theorem C01G_reset_from_slice (dbg : Bool) (v : SimdVec Int) (data : List Int) (hl : data.length < 2 ^ 63) :
    SimdVec.reset_from_slice dbg 16 v data = some (toG ((⟨v.inner, v.len⟩ : Scratch.SimdVec).resetFromSlice data)) := by
  unfold SimdVec.reset_from_slice
  rw [C01G_pack_into_simd_vec dbg data v.inner hl]
  rfl

theorem C01G_resize (dbg : Bool) (v : SimdVec Int) (n : Nat) (value : List Int) (hn : n < 2 ^ 63) :
    SimdVec.resize dbg 16 v n value = some (toG ((⟨v.inner, v.len⟩ : Scratch.SimdVec).resize n value)) := by
  unfold SimdVec.resize
  rw [addU_ok dbg 64 _ _ (by omega), Option.bind_some, subU_ok dbg 64 _ _ (by omega), Option.bind_some,
    divU_ok _ _ (by decide), Option.bind_some]
  rfl

theorem C01G_as_ref (dbg : Bool) (v : Scratch.SimdVec) (h : v.len ≤ (Scratch.flat v.inner).length) :
    SimdVec.as_ref dbg 16 (toG v) = some v.asRef := by
  unfold SimdVec.as_ref toG Scratch.SimdVec.asRef
  simp only []
  unfold Scratch.flat at h ⊢
  rw [sliceR_ok _ 0 v.len ⟨Nat.zero_le _, h⟩]
  simp

/-- fakesimd `rotate_elements_right::<1>` is the rotation of the hand model -/
theorem simdRotR_one (n : Nat) (x : List Int) (hx : x.length = n) : simdRotR n 1 x = Scratch.rotateRight1 x := by
  unfold simdRotR Scratch.rotateRight1
  cases hl : x.getLast? with
  | none =>
    rw [List.getLast?_eq_none_iff.mp hl] at hx
    subst hx
    rfl
  | some l =>
    obtain ⟨init, rfl⟩ := List.getLast?_eq_some_iff.mp hl
    rw [List.length_append, List.length_singleton] at hx
    subst hx
    rw [List.dropLast_concat]
    apply List.ext_getElem
    · simp
    · intro i h1 h2
      rw [List.length_map, List.length_range] at h1
      rw [List.getElem_map, List.getElem_range]
      cases i with
      | zero =>
        rw [Nat.zero_add, Nat.add_sub_cancel, Nat.mod_eq_of_lt (Nat.lt_succ_self _), List.getD_eq_getElem?_getD,
          List.getElem?_append_right (Nat.le_refl _), Nat.sub_self]
        rfl
      | succ k =>
        have hk : k < init.length := by omega
        rw [show k + 1 + (init.length + 1) - 1 = k + (init.length + 1) by omega, Nat.add_mod_right,
          Nat.mod_eq_of_lt (by omega), List.getD_eq_getElem?_getD, List.getElem?_append_left hk,
          List.getElem?_eq_getElem hk]
        rfl

theorem simdSubW32_eq (a b : List Int) : simdSubW 32 a b = List.zipWith (fun p q => wrap32 (p - q)) a b := by
  unfold simdSubW
  congr 1
  funext p q
  exact wrapS32_eq _

/-- the vector loop of `reset_fixed_lpc_errors` with its continuation `k`, for ANY body that performs one
`Scratch.diffVec` step per index: the destination vectors end as `Scratch.diffLoop` leaves them -/
theorem diff_loop_bind {β : Type} (order next : Nat) (ho : order ≠ next)
    (body : Nat → (Int × List (SimdVec Int)) → Option (Int × List (SimdVec Int)))
    (hbody : ∀ t carry (E : List (SimdVec Int)) P Q x, E[order]? = some P → P.inner[t]? = some x → x.length = 16 →
      E[next]? = some Q → t < Q.inner.length →
      body t (carry, E) = some ((Scratch.diffVec x carry).2, E.set next { Q with inner := Q.inner.set t (Scratch.diffVec x carry).1 }))
    (k : (Int × List (SimdVec Int)) → Option β) (R : Option β) :
    ∀ (rest : List (List Int)) (t0 : Nat) (carry : Int) (E : List (SimdVec Int)) (P Q : SimdVec Int),
      E[order]? = some P → P.inner.drop t0 = rest → (∀ v ∈ rest, v.length = 16) → E[next]? = some Q →
      t0 + rest.length ≤ Q.inner.length →
      (∀ c, k (c, E.set next { Q with inner := Scratch.diffLoop t0 carry rest Q.inner }) = R) →
      (loopM (List.range' t0 rest.length) (carry, E) body).bind k = R := by
  intro rest
  induction rest with
  | nil =>
    intro t0 carry E P Q _ _ _ hQ _ hk
    obtain ⟨hlt, rfl⟩ := List.getElem?_eq_some_iff.mp hQ
    rw [← hk carry, Scratch.diffLoop, List.set_getElem_self hlt]
    rfl
  | cons x r ih =>
    intro t0 carry E P Q hP hd hv hQ hlen hk
    rw [List.length_cons] at hlen
    have hx : P.inner[t0]? = some x := by
      rw [← Nat.add_zero t0, ← List.getElem?_drop, hd]
      rfl
    have hdr : P.inner.drop (t0 + 1) = r := by
      rw [← List.drop_drop, hd]
      rfl
    have hnext : next < E.length := (List.getElem?_eq_some_iff.mp hQ).1
    rw [List.length_cons, List.range'_succ, loopM,
      hbody t0 carry E P Q x hP hx (hv x List.mem_cons_self) hQ (by omega), Option.bind_some]
    refine ih (t0 + 1) _ _ P { Q with inner := Q.inner.set t0 (Scratch.diffVec x carry).1 }
      (by rw [List.getElem?_set_ne (Ne.symm ho)]; exact hP) hdr (fun v hm => hv v (List.mem_cons_of_mem x hm))
      (List.getElem?_set_self hnext) (by rw [List.length_set]; omega) (fun c => ?_)
    rw [List.set_set]
    exact hk c

theorem loopM_fill {α : Type} (e : Nat → α) (body : Nat → List α → Option (List α)) (n : Nat)
    (hbody : ∀ k (E : List α), k < n → E.length = n + 1 → E[k]? = some (e k) →
      body k E = some (E.set (k + 1) (e (k + 1))))
    (E0 : List α) (h0 : E0.length = n + 1) (he : E0[0]? = some (e 0)) :
    loopM (rangeL 0 n) E0 body = some ((List.range (n + 1)).map e) := by
  rw [loopM_eq_loop, rangeL_zero]
  have hS := Prelude.loop_range'_inv body (fun J => (List.range (J + 1)).map e ++ E0.drop (J + 1)) n _ rfl (fun J hJ => by
    have hl : ((List.range (J + 1)).map e).length = J + 1 := by rw [List.length_map, List.length_range]
    rw [hbody J _ hJ (by rw [List.length_append, hl, List.length_drop, h0]; omega)
        (by rw [List.getElem?_append_left (by rw [hl]; exact Nat.lt_succ_self J), List.getElem?_map,
          List.getElem?_range (Nat.lt_succ_self J)]; rfl),
      List.set_append_right _ _ (by rw [hl]; exact Nat.le_refl _), hl, Nat.sub_self,
      List.drop_eq_getElem_cons (by omega), List.set_cons_zero, List.range_succ (n := J + 1), List.map_append,
      List.append_assoc]
    rfl)
  rw [List.drop_of_length_le (Nat.le_of_eq h0), List.append_nil] at hS
  rw [← hS]
  congr 1
  obtain ⟨hlt, h1⟩ := List.getElem?_eq_some_iff.mp he
  conv => lhs; rw [← List.drop_zero (l := E0), List.drop_eq_getElem_cons hlt, h1]
  rfl

/-- **`reset_fixed_lpc_errors`** on ANY five stale `SimdVec<i32, 16>`s (any lengths, any lane contents): no panic, and the
array afterwards holds the closed forms `Scratch.errAt signal k` (Lemmas/ScratchFixed.lean) - the same values
`Scratch.resetFixedLpcErrors` computes (`Scratch.resetFixedLpcErrors_eq`). -/
theorem C01G_reset_fixed_lpc_errors (dbg : Bool) (s0 s1 s2 s3 s4 : SimdVec Int) (signal : List Int)
    (hl : signal.length < 2 ^ 63) :
    reset_fixed_lpc_errors dbg [s0, s1, s2, s3, s4] signal =
      some [toG (Scratch.errAt signal 0), toG (Scratch.errAt signal 1), toG (Scratch.errAt signal 2),
        toG (Scratch.errAt signal 3), toG (Scratch.errAt signal 4)] := by
  unfold reset_fixed_lpc_errors
  simp only [List.getElem?_cons_zero, Option.bind_some]
  rw [C01G_reset_from_slice dbg s0 signal hl]
  rw [Option.bind_some, setAt_ok _ _ _ (Nat.succ_pos _), Option.bind_some, List.set_cons_zero]
  rw [Scratch.resetFromSlice_eq, show FlacVerif.Gen.Const.fixed_MAX_LPC_ORDER = 4 from rfl,
    loopM_fill (fun k => toG (Scratch.errAt signal k)) _ 4 ?hb _ rfl rfl]
  · rfl
  · intro order E ho hE hP
    have hlt : order + 1 < E.length := by omega
    have hne : order + 1 ≠ order := Nat.succ_ne_self order
    obtain ⟨Q, hQ⟩ : ∃ Q, E[order + 1]? = some Q := ⟨E[order + 1], List.getElem?_eq_getElem hlt⟩
    have hshape := (Scratch.errAt_spec signal order).1
    rw [addU_ok dbg 64 order 1 (by omega), Option.bind_some, hQ, Option.bind_some,
      C01G_resize dbg Q signal.length _ hl, Option.bind_some]
    generalize hR : toG ((⟨Q.inner, Q.len⟩ : Scratch.SimdVec).resize signal.length (List.replicate 16 0)) = R
    have hlen1 : R.inner.length = (Scratch.errAt signal order).inner.length := by
      rw [← hR, hshape.len]
      exact Scratch.vecResize_length _ _ _
    have hP1 : (E.set (order + 1) R)[order]? = some (toG (Scratch.errAt signal order)) := by
      rw [List.getElem?_set_ne hne, hP]
    rw [setAt_ok _ _ _ hlt, Option.bind_some, hP1, Option.bind_some, SimdVec.simd_len,
      show rangeL 0 (toG (Scratch.errAt signal order)).inner.length
        = List.range' 0 (Scratch.errAt signal order).inner.length from by rw [rangeL, Nat.sub_zero]; rfl]
    refine diff_loop_bind order (order + 1) hne.symm _ ?hb2 _ _ (Scratch.errAt signal order).inner 0 0 _ _ _ hP1
      rfl hshape.lanes (List.getElem?_set_self hlt) (by rw [hlen1, Nat.zero_add]; exact Nat.le_refl _) ?hk
    case hk =>
      intro c
      dsimp only
      rw [List.set_set, Scratch.diffLoop_eq 0 0 _ _ (by rw [hlen1, Nat.zero_add]), List.take_zero, List.nil_append, ← hR]
      rfl
    case hb2 =>
      intro t carry E' P' Q' x h1 h2 h3 h4 h5
      have hl := List.getLast?_eq_some_getLast (l := x) (fun e => by rw [e] at h3; exact absurd h3 (by decide))
      dsimp only
      rw [h1, Option.bind_some, show (SimdVec.as_ref_simd 16 P')[t]? = some x from h2, Option.bind_some,
        simdRotR_one 16 x h3, Scratch.rotateRight1_of_getLast x _ hl, List.getElem?_cons_zero, Option.bind_some,
        setAt_ok _ _ _ (Nat.succ_pos _), Option.bind_some, h4, Option.bind_some, setAt_ok _ _ _ h5,
        Option.bind_some, setAt_ok _ _ _ (List.getElem?_eq_some_iff.mp h4).1, Option.bind_some, simdSubW32_eq,
        Scratch.diffVec_of_getLast x carry _ hl]
      rfl

theorem errAt_as_ref (dbg : Bool) (signal : List Int) (k : Nat) :
    SimdVec.as_ref dbg 16 (toG (Scratch.errAt signal k)) = some (diffs k signal) := by
  obtain ⟨_, h2, h3⟩ := Scratch.errAt_spec signal k
  rw [C01G_as_ref dbg _ (by rw [h2, h3, diffs_length, Scratch.padded_length]; omega), Scratch.errAt_asRef]

/-- **The difference signals.**  What `fixed_lpc` reads after `reset_fixed_lpc_errors(errors, signal)` -
`errors[k].as_ref()` for k = 0..4 - is the hand model's `diffs k signal` (Model/Predict.lean: the k-th wrapping `i32`
difference signal), for ANY stale content of the thread-local array, in both profiles, without a panic.  This is the
reading `CD_CALLEES[("coding", "reset_fixed_lpc_errors")]` of part `coding` (`errors[k] = diffs k signal` for every k
below the array length 5 = `fixed::MAX_LPC_ORDER + 1`). -/
theorem C01G_diffs (dbg : Bool) (s0 s1 s2 s3 s4 : SimdVec Int) (signal : List Int) (hl : signal.length < 2 ^ 63) :
    (reset_fixed_lpc_errors dbg [s0, s1, s2, s3, s4] signal).bind (fun es => es.mapM (SimdVec.as_ref dbg 16)) =
      some ((List.range 5).map fun k => diffs k signal) := by
  rw [C01G_reset_fixed_lpc_errors dbg s0 s1 s2 s3 s4 signal hl]
  simp only [Option.bind_some, List.mapM_cons, List.mapM_nil, errAt_as_ref]
  rfl

example : (reset_fixed_lpc_errors true [⟨[[7, 7]], 5⟩, ⟨[], 0⟩, ⟨[List.replicate 16 9, List.replicate 16 9, [1]], 40⟩, ⟨[], 3⟩, ⟨[], 0⟩]
      [3, -1, 4, 1, -5, 9, 2, -6, 5, 3, 5, -8, 9, 7, 9, 3, 2, 3, -8, 4]).bind (fun es => es.mapM (SimdVec.as_ref true 16)) =
    some ((List.range 5).map fun k => diffs k [3, -1, 4, 1, -5, 9, 2, -6, 5, 3, 5, -8, 9, 7, 9, 3, 2, 3, -8, 4]) :=
  C01G_diffs true _ _ _ _ _ _ (by decide)

/-- `diffs` really differs from the signal (non-vacuity): order 2 of a short ramp with a wrap at `i32::MAX` -/
example : (reset_fixed_lpc_errors false [⟨[], 0⟩, ⟨[], 0⟩, ⟨[], 0⟩, ⟨[], 0⟩, ⟨[], 0⟩] [2147483647, -2147483648, 5]).bind
      (fun es => (es[2]?).bind (SimdVec.as_ref false 16)) = some [2147483647, -2147483646, -2147483644] := by decide

end FlacVerif.C01Gen
