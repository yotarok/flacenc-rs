/-
C12Gen — property C12 ("a failing user sink yields an error, not a panic; the first error is returned; nothing is written
after it") tied to `trait BitSink` as the source states it (`Gen/Sink.lean`, translator part `sink`).

A user sink is ANY record `BitSinkReq σ ε` of the four required methods (state `σ`, error `ε`, `none` = the method itself
panics).  `ofReq dbg d` completes it with the GENERATED provided methods (`BitSink.write_bytes_aligned / write_twoc /
write_zeros`, both profiles).  `runSink I s ops` is `dest.op1(..)?; dest.op2(..)?; ..; Ok(())`: the trait calls of `ops` in
order, leaving at the first `Err`.  `runReq d s calls` (Lemmas/SinkTrait.lean, with the loops of the provided methods) is the
same over required calls only.

The run of `ops` on a user sink without overrides makes exactly the required calls of `ops.flatMap Op.expand`, in order, up to
and including the first that returns `Err` (`C12G_expand`); no panic, the first error, and `writeFailing` of Model/Ops.lean
are read off that. For the generated `MemSink` impls (overrides included) the run is the model's run.
What stays outside: which op list a `BitRepr::write` issues (`Gen/Writer.lean`, part `writer`, whose `W = Option (List Op)`
abstracts the `?` after every sink call) - see notes/sink_design.md.
-/
import FlacVerif.Theorems.C11Gen
import FlacVerif.Model.Ops
namespace FlacVerif.C12Gen
open FlacVerif.Gen.Sink FlacVerif.C11Gen

variable {σ ε : Type}

/-- a `BitSink` implementation: the four required methods plus the three provided ones (generated defaults or overrides) -/
structure BitSinkImpl (σ ε : Type) where
  req : BitSinkReq σ ε
  write_bytes_aligned : σ → List (BitVec 8) → Option (Except ε Nat × σ)
  write_twoc : σ → Int → Nat → Option (Except ε Unit × σ)
  write_zeros : σ → Nat → Option (Except ε Unit × σ)

/-- a user sink that implements only the required methods: the provided ones are the GENERATED trait defaults -/
def ofReq (dbg : Bool) (d : BitSinkReq σ ε) : BitSinkImpl σ ε :=
  ⟨d, BitSink.write_bytes_aligned dbg d, BitSink.write_twoc dbg d, BitSink.write_zeros dbg d⟩

/-- the trait call an `Op` stands for -/
def opCall (I : BitSinkImpl σ ε) (s : σ) : Op → Option (Except ε Unit × σ)
  | .alignToByte => unitR (I.req.align_to_byte s)
  | .writeLsbs w v n => I.req.write_lsbs s (BitVec.ofNat w v) n
  | .writeMsbs w v n => I.req.write_msbs s (BitVec.ofNat w v) n
  | .write w v => I.req.write s (BitVec.ofNat w v)
  | .writeTwoc v n => I.write_twoc s v n
  | .writeZeros n => I.write_zeros s n
  | .writeBytesAligned bs => unitR (I.write_bytes_aligned s (bs.map (BitVec.ofNat 8)))

/-- `dest.op1(..)?; dest.op2(..)?; ..; Ok(())`: the calls in order, leaving at the first `Err` (`none` = a panic) -/
def runSink (I : BitSinkImpl σ ε) : σ → List Op → Option (Except ε Unit × σ)
  | s, [] => some (.ok (), s)
  | s, op :: ops =>
    match opCall I s op with
    | none => none
    | some (.error e, s') => some (.error e, s')
    | some (.ok _, s') => runSink I s' ops

/-- one trait call on a user sink without overrides = the required calls of `Op.expand`, with early exit -/
theorem C12G_call_expand (dbg : Bool) (d : BitSinkReq σ ε) (s : σ) (op : Op) (hv : op.Valid) :
    opCall (ofReq dbg d) s op = runReq d s op.expand := by
  cases op with
  | alignToByte => simp only [opCall, ofReq, Op.expand, runReq_single, reqCall]
  | writeLsbs w v n => simp only [opCall, ofReq, Op.expand, runReq_single, reqCall]
  | writeMsbs w v n => simp only [opCall, ofReq, Op.expand, runReq_single, reqCall]
  | write w v => simp only [opCall, ofReq, Op.expand, runReq_single, reqCall]
  | writeTwoc v n =>
    obtain ⟨h1, h2, _⟩ := hv
    simp only [opCall, ofReq, default_twoc dbg d s v n h1 h2]
  | writeZeros n => simp only [opCall, ofReq, default_zeros]
  | writeBytesAligned bs => simp only [opCall, ofReq, default_bytes_aligned]

/-- `BitRepr::write`-style sequences (`dest.op(..)?; ..`) on a user sink implementing only the required methods:
exactly the required calls of the expansion, in order, up to and including the first one that returns `Err` -/
theorem C12G_expand (dbg : Bool) (d : BitSinkReq σ ε) (s : σ) (ops : List Op) (hv : ∀ op ∈ ops, op.Valid) :
    runSink (ofReq dbg d) s ops = runReq d s (ops.flatMap Op.expand) := by
  induction ops generalizing s with
  | nil => simp [runSink, runReq]
  | cons op ops ih =>
    simp only [runSink, List.flatMap_cons, runReq_append, C12G_call_expand dbg d s op (hv op (by simp))]
    cases h : runReq d s op.expand with
    | none => rfl
    | some p =>
      obtain ⟨r, s'⟩ := p
      cases r with
      | error e => rfl
      | ok u => exact ih s' (fun o ho => hv o (by simp [ho]))

/-- the required methods of the user sink never panic -/
def Total (d : BitSinkReq σ ε) : Prop :=
  (∀ s, d.align_to_byte s ≠ none) ∧ (∀ w s (v : BitVec w) n, d.write_lsbs s v n ≠ none)
  ∧ (∀ w s (v : BitVec w) n, d.write_msbs s v n ≠ none) ∧ (∀ w s (v : BitVec w), d.write s v ≠ none)

theorem runReq_total (d : BitSinkReq σ ε) (ht : Total d) (s : σ) (cs : List Op) : runReq d s cs ≠ none := by
  induction cs generalizing s with
  | nil => simp [runReq]
  | cons c cs ih =>
    simp only [runReq]
    have hc : reqCall d s c ≠ none := by
      cases c <;> simp only [reqCall, unitR, ne_eq, Option.map_eq_none_iff, reduceCtorEq, not_false_eq_true]
      · exact ht.1 s
      · exact ht.2.1 _ s _ _
      · exact ht.2.2.1 _ s _ _
      · exact ht.2.2.2 _ s _
    cases h : reqCall d s c with
    | none => exact absurd h hc
    | some p =>
      obtain ⟨r, s'⟩ := p
      cases r with
      | error e => simp
      | ok u => exact ih s'

/-- a failing (but not panicking) user sink never makes `write` panic, in either profile: the result is `Ok` or the sink's `Err` -/
theorem C12G_no_panic (dbg : Bool) (d : BitSinkReq σ ε) (ht : Total d) (s : σ) (ops : List Op) (hv : ∀ op ∈ ops, op.Valid) :
    runSink (ofReq dbg d) s ops ≠ none := by
  rw [C12G_expand dbg d s ops hv]; exact runReq_total d ht s _

/-- the error returned is the FIRST error the sink reports: all calls before it succeeded, it is the result of the call
that failed, the state is the one that call left, and no call is made after it -/
theorem runReq_first_error (d : BitSinkReq σ ε) (s s' : σ) (cs : List Op) (e : ε) (h : runReq d s cs = some (.error e, s')) :
    ∃ pre c post s1, cs = pre ++ c :: post ∧ runReq d s pre = some (.ok (), s1) ∧ reqCall d s1 c = some (.error e, s') := by
  induction cs generalizing s with
  | nil => simp [runReq] at h
  | cons c cs ih =>
    simp only [runReq] at h
    cases hc : reqCall d s c with
    | none => simp [hc] at h
    | some p =>
      obtain ⟨r, s2⟩ := p
      cases r with
      | error e2 =>
        simp only [hc, Option.some.injEq, Prod.mk.injEq, Except.error.injEq] at h
        obtain ⟨rfl, rfl⟩ := h
        exact ⟨[], c, cs, s, rfl, rfl, hc⟩
      | ok u =>
        simp only [hc] at h
        obtain ⟨pre, c', post, s1, h1, h2, h3⟩ := ih s2 h
        refine ⟨c :: pre, c', post, s1, by simp [h1], ?_, h3⟩
        simp only [runReq, hc]; exact h2

theorem C12G_first_error (dbg : Bool) (d : BitSinkReq σ ε) (s s' : σ) (ops : List Op) (hv : ∀ op ∈ ops, op.Valid) (e : ε)
    (h : runSink (ofReq dbg d) s ops = some (.error e, s')) :
    ∃ pre c post s1, ops.flatMap Op.expand = pre ++ c :: post ∧ runReq d s pre = some (.ok (), s1)
      ∧ reqCall d s1 c = some (.error e, s') := by
  rw [C12G_expand dbg d s ops hv] at h
  exact runReq_first_error d s s' _ e h

/-- `impl BitSink for MemSink<u64>` as the source states it: overrides of `write_bytes_aligned` / `write_zeros`, the
trait's `write_twoc` -/
def implWord (dbg : Bool) : BitSinkImpl (MemSink 64) Empty :=
  ⟨MemSinkU64.req dbg, fun s bs => (MemSinkU64.write_bytes_aligned dbg s bs).map fun p => (.ok p.1, p.2),
   MemSinkU64.write_twoc dbg, fun s n => (MemSinkU64.write_zeros dbg s n).map fun s => (.ok (), s)⟩

def implByte (dbg : Bool) : BitSinkImpl (MemSink 8) Empty :=
  ⟨MemSinkU8.req dbg, fun s bs => (MemSinkU8.write_bytes_aligned dbg s bs).map fun p => (.ok p.1, p.2),
   MemSinkU8.write_twoc dbg, fun s n => (MemSinkU8.write_zeros dbg s n).map fun s => (.ok (), s)⟩

theorem infallible_ok (r : Except Empty Unit) : r = .ok () := by
  cases r with
  | error e => exact e.elim
  | ok u => rfl

theorem map_infallible {τ : Type} (x : Option (Except Empty Unit × τ)) :
    x = x.map fun (p : Except Empty Unit × τ) => (Except.ok (), p.2) := by
  cases x with
  | none => rfl
  | some p => obtain ⟨r, g⟩ := p; simp [infallible_ok r]

theorem word_call (dbg : Bool) (g : MemSink 64) (op : Op) :
    opCall (implWord dbg) g op = (genStepWord dbg g op).map fun g' => (.ok (), g') := by
  cases op <;> simp only [opCall, implWord, MemSinkU64.req, genStepWord, unitR, Option.map_map, Function.comp_def, Except.map]
  -- only the trait's own `write_twoc` returns a `Result` to be re-wrapped
  case writeTwoc => exact map_infallible _

theorem byte_call (dbg : Bool) (g : MemSink 8) (op : Op) :
    opCall (implByte dbg) g op = (genStepByte dbg g op).map fun g' => (.ok (), g') := by
  cases op <;> simp only [opCall, implByte, MemSinkU8.req, genStepByte, unitR, Option.map_map, Function.comp_def, Except.map]
  -- only the trait's own `write_twoc` returns a `Result` to be re-wrapped
  case writeTwoc => exact map_infallible _

theorem runSink_infallible {τ : Type} (I : BitSinkImpl τ Empty) (step : τ → Op → Option τ)
    (hc : ∀ g op, opCall I g op = (step g op).map fun g' => (.ok (), g')) (g : τ) (ops : List Op) :
    runSink I g ops = (ops.foldlM step g).map fun g' => (.ok (), g') := by
  induction ops generalizing g with
  | nil => simp [runSink]
  | cons op ops ih =>
    simp only [runSink, hc, List.foldlM_cons, bind]
    cases step g op with
    | none => rfl
    | some g' => simp [ih]

/-- running ops through the trait on the generated `MemSink<u64>` never fails (`Error = Infallible`) and is `WordSink.run` -/
theorem C12G_word_run (dbg : Bool) (g : MemSink 64) (ops : List Op) (hi : (toWord g).Inv) (hv : ∀ op ∈ ops, op.Valid)
    (hl : g.bitlength + (ops.map grow).sum + 64 < 2 ^ 64) :
    runSink (implWord dbg) g ops = ((toWord g).run ops).map fun s => (.ok (), ofWord s) := by
  rw [runSink_infallible (implWord dbg) (genStepWord dbg) (word_call dbg), C11G_word_run dbg g ops hi hv hl, Option.map_map]
  rfl

theorem C12G_byte_run (dbg : Bool) (g : MemSink 8) (ops : List Op) (hi : (toByte g).Inv) (hv : ∀ op ∈ ops, op.Valid)
    (hl : g.bitlength + (ops.map grow).sum + 64 < 2 ^ 64) :
    runSink (implByte dbg) g ops = ((toByte g).run ops).map fun s => (.ok (), ofByte s) := by
  rw [runSink_infallible (implByte dbg) (genStepByte dbg) (byte_call dbg), C11G_byte_run dbg g ops hi hv hl, Option.map_map]
  rfl

/-- the sink of `writeFailing`: it records the calls it accepts and returns `Err` from its `k`-th call (0-based) on -/
def failAt (k : Nat) : BitSinkReq (List Op) Unit where
  align_to_byte := fun acc => some (if acc.length = k then (.error (), acc) else (.ok 0, acc ++ [.alignToByte]))
  write_lsbs := fun {w} acc v n => some (if acc.length = k then (.error (), acc) else (.ok (), acc ++ [.writeLsbs w v.toNat n]))
  write_msbs := fun {w} acc v n => some (if acc.length = k then (.error (), acc) else (.ok (), acc ++ [.writeMsbs w v.toNat n]))
  write := fun {w} acc v => some (if acc.length = k then (.error (), acc) else (.ok (), acc ++ [.write w v.toNat]))

theorem reqCall_failAt (k : Nat) (acc : List Op) (c : Op) (hc : reqFit c) :
    reqCall (failAt k) acc c = some (if acc.length = k then (.error (), acc) else (.ok (), acc ++ [c])) :=
  reqCall_of_fit (failAt k) acc (fun c => some (if acc.length = k then (.error (), acc) else (.ok (), acc ++ [c])))
    (by simp only [failAt, unitR, Option.map_some]; split <;> rfl) (fun _ _ => rfl) (fun _ _ => rfl) (fun _ => rfl) c hc

theorem runReq_failAt (k : Nat) (cs : List Op) (hf : ∀ c ∈ cs, reqFit c) (acc : List Op) (ha : acc.length ≤ k) :
    runReq (failAt k) acc cs =
      some (if k < acc.length + cs.length then (.error (), acc ++ cs.take (k - acc.length)) else (.ok (), acc ++ cs)) := by
  induction cs generalizing acc with
  | nil =>
    have : ¬ (k < acc.length) := by omega
    simp [runReq, this]
  | cons c cs ih =>
    simp only [runReq, reqCall_failAt k acc c (hf c (by simp)), List.length_cons]
    by_cases hk : acc.length = k
    · have : k < acc.length + (cs.length + 1) := by omega
      simp [hk]
    · have h1 : (acc ++ [c]).length ≤ k := by simp; omega
      simp only [hk, if_false, ih (fun c' hc' => hf c' (by simp [hc'])) (acc ++ [c]) h1, List.length_append, List.length_singleton]
      have h2 : k - acc.length = (k - (acc.length + 1)) + 1 := by omega
      by_cases hlt : k < acc.length + 1 + cs.length
      · have : k < acc.length + (cs.length + 1) := by omega
        simp [hlt, this, h2, List.take_succ_cons]
      · have : ¬ (k < acc.length + (cs.length + 1)) := by omega
        simp [hlt, this]

/-- `writeFailing ops k` (Model/Ops.lean, the statement of C12) IS the run of `ops` through the generated trait methods on
the sink that fails from its `k`-th call on: same outcome, same accepted calls, nothing after the error -/
theorem C12G_writeFailing (dbg : Bool) (ops : List Op) (hv : ∀ op ∈ ops, op.Valid) (k : Nat) :
    runSink (ofReq dbg (failAt k)) [] ops = some (match writeFailing ops k with
      | .done => (.ok (), ops.flatMap Op.expand)
      | .sinkError acc => (.error (), acc)) := by
  have hf : ∀ c ∈ ops.flatMap Op.expand, reqFit c := by
    intro c hc
    obtain ⟨op, ho, hc⟩ := List.mem_flatMap.1 hc
    exact expand_fit op (hv op ho) c hc
  rw [C12G_expand dbg (failAt k) [] ops hv, runReq_failAt k _ hf [] (Nat.zero_le _)]
  simp only [List.length_nil, Nat.zero_add, List.nil_append, Nat.sub_zero, writeFailing]
  split <;> rfl

example : runSink (ofReq true (failAt 3)) [] [.writeLsbs 8 5 3, .writeZeros 70, .writeTwoc (-3) 5, .alignToByte]
    = some (.error (), [.writeLsbs 8 5 3, .write 64 0, .writeMsbs 64 0 6]) := by
  rw [C12G_writeFailing true _ (by decide) 3]; rfl
end FlacVerif.C12Gen
