/-
C11 — Bit sinks behave as an ideal MSB-first bit string.

The refinement lemmas live in `FlacVerif/Lemmas/{BitStore,WordSink,ByteSink}.lean`, how `idealRun` composes in
`Lemmas/IdealRun.lean`; what `idealRun` gives on the expansions of the provided trait methods is stated here, next to
`C11_defaults`.
The models `WordSink` / `ByteSink` mirror `src/bitsink.rs` statement by statement
(`FlacVerif/Model/Sink.lean`); `none` is a panic of the Rust code (dev profile).
-/
import FlacVerif.Lemmas.WordSink
import FlacVerif.Lemmas.ByteSink
import FlacVerif.Lemmas.IdealRun
namespace FlacVerif.C11
open FlacVerif

/-- `MemSink<u64>`: every valid operation, from every state satisfying the representation
invariant (hence from every bit offset 0..63), does not panic, re-establishes the invariant
(unwritten tail bits zero, exactly ⌈len/64⌉ words) and appends exactly the ideal bits. -/
theorem C11_word_refines (s : WordSink) (op : Op) (hi : s.Inv) (hv : op.Valid) :
    ∃ s', s.step op = some s' ∧ s'.Inv ∧ s'.abs = s.abs ++ op.ideal s.len ∧ s'.len = s'.abs.length := by
  obtain ⟨s', h, r⟩ := WordSink.step_stores s s.abs ((WordSink.stores_iff s _).mpr ⟨hi, rfl⟩) op hv
  obtain ⟨hi', ha⟩ := (WordSink.stores_iff s' _).mp r
  exact ⟨s', h, hi', ha, r.len.trans (congrArg _ ha.symm)⟩

/-- `MemSink<u8>` (`ByteSink`): same statement. -/
theorem C11_byte_refines (s : ByteSink) (op : Op) (hi : s.Inv) (hv : op.Valid) :
    ∃ s', s.step op = some s' ∧ s'.Inv ∧ s'.abs = s.abs ++ op.ideal s.len ∧ s'.len = s'.abs.length := by
  obtain ⟨s', h, r⟩ := ByteSink.step_stores s s.abs ((ByteSink.stores_iff s _).mpr ⟨hi, rfl⟩) op hv
  obtain ⟨hi', ha⟩ := (ByteSink.stores_iff s' _).mp r
  exact ⟨s', h, hi', ha, r.len.trans (congrArg _ ha.symm)⟩

/-- Any finite sequence of valid operations on a fresh `MemSink<u64>`: the sink holds exactly the
ideal bit string, of exactly that length. No bound on the number or size of operations. -/
theorem C11_word_run (ops : List Op) (hv : ∀ op ∈ ops, op.Valid) :
    ∃ s', WordSink.empty.run ops = some s' ∧ s'.Inv ∧ s'.abs = idealRun 0 ops ∧ s'.len = (idealRun 0 ops).length := by
  obtain ⟨s', h, r⟩ := WordSink.run_stores WordSink.empty [] ⟨rfl, 0, by decide, rfl⟩ ops hv
  obtain ⟨hi', ha⟩ := (WordSink.stores_iff s' _).mp r
  exact ⟨s', h, hi', ha, r.len⟩

theorem C11_byte_run (ops : List Op) (hv : ∀ op ∈ ops, op.Valid) :
    ∃ s', ByteSink.empty.run ops = some s' ∧ s'.Inv ∧ s'.abs = idealRun 0 ops ∧ s'.len = (idealRun 0 ops).length := by
  obtain ⟨s', h, r⟩ := ByteSink.run_stores ByteSink.empty [] ⟨rfl, 0, by decide, rfl⟩ ops hv
  obtain ⟨hi', ha⟩ := (ByteSink.stores_iff s' _).mp r
  exact ⟨s', h, hi', ha, r.len⟩

/-- Both sinks agree with each other on every op sequence (same bits, same length). -/
theorem C11_sinks_agree (ops : List Op) (hv : ∀ op ∈ ops, op.Valid) :
    ∃ b w, ByteSink.empty.run ops = some b ∧ WordSink.empty.run ops = some w ∧ b.abs = w.abs ∧ b.len = w.len := by
  obtain ⟨b, hb, _, hb2, hb3⟩ := C11_byte_run ops hv
  obtain ⟨w, hw, _, hw2, hw3⟩ := C11_word_run ops hv
  exact ⟨b, w, hb, hw, by rw [hb2, hw2], by rw [hb3, hw3]⟩

/-! ### provided trait methods: a user sink implementing only the required operations -/

theorem idealRun_writes (len : Nat) (bs : List Nat) :
    idealRun len (bs.map fun b => Op.write 8 b) = bytesToBits bs := by
  induction bs generalizing len with
  | nil => rfl
  | cons b bs ih => simp [idealRun, Op.ideal, ih, bytesToBits]

theorem idealRun_zero_words (len k : Nat) :
    idealRun len (List.replicate k (Op.write 64 0)) = List.replicate (64 * k) false := by
  induction k generalizing len with
  | zero => rfl
  | succ k ih =>
    rw [List.replicate_succ, idealRun]
    show natToBits 64 0 ++ idealRun _ (List.replicate k (Op.write 64 0)) = _
    rw [ih, natToBits_zero, List.replicate_append_replicate]; congr 1; omega

/-- The expansion of each provided method into required ones (bitsink.rs:115-122, 208-217,
261-270) writes the same bits: a sink that implements only `align_to_byte`, `write_lsbs`,
`write_msbs` and `write` receives exactly the ideal bit string. -/
theorem C11_defaults_op (len : Nat) (op : Op) (hv : op.Valid) :
    idealRun len op.expand = op.ideal len := by
  cases op with
  | alignToByte => simp [Op.expand, idealRun]
  | writeLsbs w v n => simp [Op.expand, idealRun]
  | writeMsbs w v n => simp [Op.expand, idealRun]
  | write w v => simp [Op.expand, idealRun]
  | writeZeros n =>
    rw [expand_writeZeros, idealRun_append, idealRun_zero_words]
    show _ ++ ((natToBits 64 0).take _ ++ []) = List.replicate n false
    rw [natToBits_zero, List.take_replicate, List.append_nil, List.replicate_append_replicate]
    congr 1; omega
  | writeBytesAligned bs =>
    simp only [Op.expand, idealRun, Op.ideal, idealRun_writes]
  | writeTwoc v n =>
    obtain ⟨h1, hn, _⟩ := hv
    show (msbBits (BitVec.ofInt 64 v <<< (64 - n))).take n ++ [] = twoc n v
    rw [msbBits_twoc v n hn, List.take_left' (Count.twoc_length n v), List.append_nil]

theorem expand_valid_length (len : Nat) (op : Op) (hv : op.Valid) :
    (idealRun len op.expand).length = (op.ideal len).length := by rw [C11_defaults_op len op hv]

theorem C11_defaults (len : Nat) (ops : List Op) (hv : ∀ op ∈ ops, op.Valid) :
    idealRun len (ops.flatMap Op.expand) = idealRun len ops := by
  induction ops generalizing len with
  | nil => rfl
  | cons op ops ih =>
    simp only [List.flatMap_cons, idealRun_append, idealRun]
    rw [C11_defaults_op len op (hv op (by simp)), ih _ (fun o ho => hv o (by simp [ho]))]

/-! ### non-vacuity: concrete reachable states and operations meeting the hypotheses -/

/-- The zero-width write after a partial word (finding F6) is a valid operation and is covered. -/
example : (Op.writeMsbs 16 0xFFFF 0).Valid ∧ (Op.writeLsbs 8 1 1).Valid ∧ (Op.writeTwoc (-7) 4).Valid := by
  decide

/-- F6 regression on the model: one bit, a zero-width write of an all-ones operand, eight zeros. -/
example : (WordSink.empty.run [.writeLsbs 8 1 1, .writeMsbs 16 0xFFFF 0, .writeZeros 8]).map (·.abs)
    = some [true, false, false, false, false, false, false, false, false] := by decide

example : (ByteSink.empty.run [.writeLsbs 8 0xFF 3, .writeBytesAligned [0xB7, 0x7D]]).map (·.exportBytes)
    = some [0xE0, 0xB7, 0x7D] := by decide

end FlacVerif.C11
