/-
C18, parse-back — for every public component constructor mirrored in `Model/Verify.lean`: accepted
arguments give a component whose serialisation (`write`) the repository's own parser (the mirror
`Model/RepoParser.lean` of `parser.rs`) reads back as exactly that component, leaving exactly the
trailing input `k`.

Composition of C18 (accepted ⇒ well formed) with C15 (well formed + the parser's limits ⇒ read back):
* the predicted sub-frames are well formed in the weak sense `SubFrame.WF'` only (`FixedLpc::new` /
  `Lpc::new` accept "warm-up = whole block", see `C18_fixed_not_WF`); `Repo.subframe_read'` reads them
  back from `WF'`, so the corner is covered;
* the parser's limits (`Repo.SubOk`, `Repo.HdrOk`) follow from acceptance: `verify_bps!` gives
  `bps ≤ 25`, `QuantizedParameters::verify` gives order `≤ 24`, `verify_block_size!` gives `n ≤ 32767`,
  the codes `BlockSizeSpec::from_size` / `SampleRateSpec::from_freq` produce are ones the parser reads;
* the only hypothesis left is the Rust type of an argument the model keeps unbounded: quotients are
  `u32`s (`hq`), a frame number is a `u32` (`hnum`).

Every constructor has the property; for `StreamInfo::new` that includes the initial block sizes
65535 / 0 and the unset frame sizes, and `MetadataBlockData::new_unknown` rejects tag 0, the type the
parser reads as STREAMINFO.  Property theorems, the lemma `Repo.infoOk_of_new` they share, and examples.
-/
import FlacVerif.Theorems.C18
import FlacVerif.Theorems.C15
import FlacVerif.Theorems.C02
namespace FlacVerif
open FlacVerif.VerifyL

/-- `Residual::new` then `write` then `parser::residual(block_size, warmup_length)`. -/
theorem C18_residual_parse (o n w : Nat) (ps qs rs : List Nat) (r : Residual)
    (h : Residual.new o n w ps qs rs = some r) (hq : ∀ q ∈ qs, q < 2 ^ 32) (k : Bits) :
    Repo.parseResidual n w (r.bits ++ k) = .ok (r, k) := by
  obtain ⟨rfl, hv, hwf, _⟩ := C18_residual_sound o n w ps qs rs r h
  have hn := ((C18_residual_verify_iff _).mp hv).2
  exact C15_residual _ n w k hwf rfl rfl hq (by simp only at hn ⊢; omega)

theorem C18_constant_parse (n : Nat) (dc : Int) (bps : Nat) (s : SubFrame)
    (h : Constant.new n dc bps = some s) (k : Bits) :
    Repo.parseSubframe n bps (s.bits ++ k) = .ok (s, k) := by
  obtain ⟨rfl, _, _, hb, _⟩ := (constant_new_some n dc bps s).mp h
  have hb' := (verifyBps_iff bps).mp hb
  exact C15_subframe _ k (C18_constant_sound n dc bps _ h).2.1 (show bps ≤ 25 by omega)

theorem C18_verbatim_parse (xs : List Int) (bps : Nat) (s : SubFrame)
    (h : Verbatim.new xs bps = some s) (k : Bits) :
    Repo.parseSubframe xs.length bps (s.bits ++ k) = .ok (s, k) := by
  obtain ⟨rfl, _, _, hb, _⟩ := (verbatim_new_some xs bps s).mp h
  have hb' := (verifyBps_iff bps).mp hb
  exact C15_subframe _ k (C18_verbatim_sound xs bps _ h).2.1 (show bps ≤ 25 by omega)

/-- `FixedLpc::new` — including the corner "warm-up = whole block" that is `WF'` but not `WF`. -/
theorem C18_fixed_parse (warm : List Int) (res : Residual) (bps : Nat) (s : SubFrame)
    (h : FixedLpc.new warm res bps = some s) (hq : ∀ q ∈ res.quotients, q < 2 ^ 32) (k : Bits) :
    Repo.parseSubframe res.blockSize bps (s.bits ++ k) = .ok (s, k) := by
  obtain ⟨rfl, hwf, _, _, _, hv, _⟩ := C18_fixed_sound warm res bps s h
  obtain ⟨_, hb, _⟩ := (fixed_new_some warm res bps _).mp h
  have hb' := (verifyBps_iff bps).mp hb
  have hn := ((C18_residual_verify_iff _).mp hv).2
  exact Repo.subframe_read' _ hwf ⟨by omega, hq, by omega⟩ k

/-- `Lpc::new` (with parameters from `QuantizedParameters::new`, i.e. any `q` that verifies). -/
theorem C18_lpc_parse (warm : List Int) (q : QParams) (res : Residual) (bps : Nat) (s : SubFrame)
    (h : Lpc.new warm q res bps = some s) (hq : ∀ x ∈ res.quotients, x < 2 ^ 32) (k : Bits) :
    Repo.parseSubframe res.blockSize bps (s.bits ++ k) = .ok (s, k) := by
  obtain ⟨rfl, hwf, _, _, _, _, hv, _⟩ := C18_lpc_sound warm q res bps s h
  obtain ⟨_, hb, _, h24, hwc, _⟩ := (lpc_new_some warm q res bps _).mp h
  have hb' := (verifyBps_iff bps).mp hb
  have hn := ((C18_residual_verify_iff _).mp hv).2
  exact Repo.subframe_read' _ hwf ⟨by omega, by omega, hq, by omega⟩ k

/-- The whole chain through the public API: `Residual::new`, `QuantizedParameters::new`, `Lpc::new`. -/
theorem C18_lpc_parse_chain (o n w : Nat) (ps qs rs : List Nat) (res : Residual)
    (coefs : List Int) (order : Nat) (shift : Int) (precision : Nat) (q : QParams)
    (warm : List Int) (bps : Nat) (s : SubFrame)
    (hr : Residual.new o n w ps qs rs = some res) (hqp : QParams.new coefs order shift precision = some q)
    (h : Lpc.new warm q res bps = some s) (hq : ∀ x ∈ qs, x < 2 ^ 32) (k : Bits) :
    s = .lpc warm coefs shift precision ⟨o, n, w, ps, qs, rs⟩ bps ∧
    Repo.parseSubframe n bps (s.bits ++ k) = .ok (s, k) := by
  obtain ⟨rfl, _⟩ := C18_residual_sound o n w ps qs rs res hr
  obtain ⟨rfl, _⟩ := C18_qparams_sound coefs order shift precision q hqp
  exact ⟨(C18_lpc_sound warm _ _ bps s h).1, C18_lpc_parse warm _ _ bps s h hq k⟩

open Repo in
/-- `FrameHeader::new` builds a header the parser can produce: block-size and sample-rate codes in
range, `Independent(1..=8)` or a stereo mode, a 3-bit sample-size tag, and only the offset of the
blocking mode in use set. -/
theorem C18_header_HdrOk (n : Nat) (asg : ChannelAssignment) (bps rate : Nat) (v : Bool) (num : Nat)
    (h : FrameHeader) (hh : FrameHeader.new n asg bps rate v num = some h) (hnum : v = false → num < 2 ^ 32) :
    Repo.HdrOk h := by
  obtain ⟨h1, h2, h3, -, -, -, -, h8, -, h10, h11, h12, h13, -, hfn, hss⟩ :=
    VerifyL.header_new_some_imp n asg bps rate v num h hh
  refine ⟨(BlockSizeSpec.fromSize_ok n h1 (by omega) _ h3).1, srOk_fromFreq rate _ h10, h12 ▸ chOk_of_verify asg h8,
    h13 ▸ sampleSizeTag_lt bps, ?_⟩
  rw [h11, hfn, hss]
  cases v with
  | true => simp
  | false => simpa using hnum rfl

/-- `FrameHeader::new` then `write` (with the FLAC CRC-8) then `parser::frame_header(check_crc)`:
the header serialises and is read back, whether or not the CRC is checked. `k` = whole bytes. -/
theorem C18_header_parse (n : Nat) (asg : ChannelAssignment) (bps rate : Nat) (v : Bool) (num : Nat)
    (h : FrameHeader) (hh : FrameHeader.new n asg bps rate v num = some h) (hnum : v = false → num < 2 ^ 32)
    (k : Bits) (hk : k.length % 8 = 0) :
    ∃ hbits, h.bits rfcCrc8 = some hbits ∧
      ∀ checkCrc, Repo.frameHeader checkCrc (hbits ++ k) = .ok (h, k) := by
  obtain ⟨_, _, _, _, _, _, _, _, _, _, _, _, _, _, hwrites⟩ := C18_header_sound n asg bps rate v num h hh
  obtain ⟨hbits, hb, _⟩ := hwrites hnum
  exact ⟨hbits, hb, fun cc => C15_header h cc hbits k hb (C18_header_HdrOk n asg bps rate v num h hh hnum) hk⟩

/-- `MetadataBlockData::new_unknown` (accepted: the tag is in `1..=126`) with fewer than `2^24` bytes,
wrapped in a metadata block header: read back. -/
theorem C18_unknown_parse (tag : Nat) (data : List Nat) (m : UnknownBlock) (h : UnknownBlock.new tag data = some m)
    (hl : data.length < 2 ^ 24) (hb : ∀ b ∈ data, b < 256) (isLast : Bool) (k : Bits) :
    Repo.metadataBlock (Stream.blockHeader isLast m.tag m.data.length ++ bytesToBits m.data ++ k) =
      .ok ((isLast, .unknown m), k) := by
  unfold UnknownBlock.new at h
  split at h
  · next ht =>
    cases h
    exact Repo.metadataBlock_unknown_read _ ⟨ht, hl, hb⟩ isLast k
  · cases h

/-- `MetadataBlockData::new_unknown(0, data)` is rejected: type 0 is STREAMINFO's (a block of type 0 is
always parsed as STREAMINFO, so it could not be read back as an unknown block). -/
theorem C18_unknown_tag0_rejected (data : List Nat) : UnknownBlock.new 0 data = none := by
  unfold UnknownBlock.new
  rw [if_neg (by omega)]

/-- `StreamInfo::new(rate, ch, bps)`, with block sizes `(mb, xb)` that are either the initial ones or set
by `set_block_sizes`, is a STREAMINFO that `stream_info` reads back identically. -/
theorem Repo.infoOk_of_new (rate ch bps : Nat) (s : StreamInfo) (h : StreamInfo.new rate ch bps = some s)
    (mb xb : Nat) (hb : (1 ≤ mb ∧ mb ≤ xb ∧ xb ≤ 32767) ∨ (mb = 65535 ∧ xb = 0)) :
    InfoOk { s with minBlock := mb, maxBlock := xb } := by
  obtain ⟨rfl, hr, hc1, hc2, hbps⟩ := (VerifyL.streaminfo_new_some rate ch bps s).mp h
  refine { blocks := ?_, frames := Or.inr ⟨rfl, rfl⟩, rate := hr, channels := ⟨hc1, hc2⟩, bps := hbps,
           total := by simp [StreamInfo.empty], md5len := by simp [StreamInfo.empty], md5 := ?_ }
  · rcases hb with hb | ⟨h1, h2⟩
    · exact Or.inl hb
    · exact Or.inr ⟨rfl, h1, h2⟩
  · intro b hb
    simp only [StreamInfo.empty, List.mem_replicate] at hb
    omega

/-- `StreamInfo::new` then `write` then `parser::stream_info`: the IDENTICAL record comes back, including
the initial ("unset") block sizes `(65535, 0)` and frame sizes `(u32::MAX, 0)`. `k` = whole bytes (the
parser skips to the next byte boundary before the MD5). -/
theorem C18_streaminfo_parse (rate ch bps : Nat) (s : StreamInfo) (h : StreamInfo.new rate ch bps = some s)
    (k : Bits) (hk : k.length % 8 = 0) :
    Repo.streamInfo (s.bits ++ k) = .ok (s, k) := by
  have hs := (C18_streaminfo_sound rate ch bps s h).1
  have hok := Repo.infoOk_of_new rate ch bps s h 65535 0 (Or.inr ⟨rfl, rfl⟩)
  have he : ({ s with minBlock := 65535, maxBlock := 0 } : StreamInfo) = s := by rw [hs]; rfl
  rw [he] at hok
  exact C15_streaminfo s k hok hk

/-- The same after `set_block_sizes(mn, mx)` (accepted: `1 ≤ mn ≤ mx ≤ 32767`; the encoder calls
`set_block_sizes(bs, bs)`): the frame sizes are still the initial ones and are read back as such. -/
theorem C18_streaminfo_set_block_sizes_parse (rate ch bps : Nat) (s : StreamInfo)
    (h : StreamInfo.new rate ch bps = some s) (mn mx : Nat) (h1 : 1 ≤ mn) (h2 : mn ≤ mx) (h3 : mx ≤ 32767)
    (k : Bits) (hk : k.length % 8 = 0) :
    Repo.streamInfo (({ s with minBlock := mn, maxBlock := mx } : StreamInfo).bits ++ k) =
      .ok ({ s with minBlock := mn, maxBlock := mx }, k) :=
  C15_streaminfo _ k (Repo.infoOk_of_new rate ch bps s h mn mx (Or.inl ⟨h1, h2, h3⟩)) hk

/-- `Stream::new(rate, ch, bps)` untouched, or with `set_block_sizes(bs, bs)` as the encoder leaves the
stream of an EMPTY input: `write` then `parser::stream` gives the stream back. -/
theorem C18_stream_new_parse (rate ch bps : Nat) (s : StreamInfo) (h : StreamInfo.new rate ch bps = some s)
    (mb xb : Nat) (hb : (1 ≤ mb ∧ mb ≤ xb ∧ xb ≤ 32767) ∨ (mb = 65535 ∧ xb = 0)) :
    let st : Stream := { info := { s with minBlock := mb, maxBlock := xb }, metadata := [], frames := [] }
    ∃ sb, st.bits rfcCrc8 rfcCrc16 = some sb ∧
      Repo.parseStream (packBytes sb) = .ok (Repo.PStream.ofStream st) := by
  intro st
  refine ⟨_, rfl, (C15_stream st _ rfl ?_).1⟩
  exact { info := Repo.infoOk_of_new rate ch bps s h mb xb hb
          metas := by intro m hm; cases hm
          frames := by intro f hf; cases hf }

/-! ### non-vacuity -/

set_option maxRecDepth 100000 in
example :
    let s : SubFrame := .lpc [-8] [-5] 3 4 ⟨0, 3, 1, [1], [0, 2, 0], [0, 1, 0]⟩ 9
    Residual.new 0 3 1 [1] [0, 2, 0] [0, 1, 0] = some ⟨0, 3, 1, [1], [0, 2, 0], [0, 1, 0]⟩ ∧
    QParams.new [-5] 1 3 4 = some ⟨[-5], 3, 4⟩ ∧
    Lpc.new [-8] ⟨[-5], 3, 4⟩ ⟨0, 3, 1, [1], [0, 2, 0], [0, 1, 0]⟩ 9 = some s ∧
    Repo.parseSubframe 3 9 (s.bits ++ [true]) = .ok (s, [true]) := by decide +kernel

set_option maxRecDepth 100000 in
/-- The corner "warm-up = whole block" (accepted by `FixedLpc::new`, not `SubFrame.WF`): read back. -/
example :
    let res : Residual := ⟨0, 4, 4, [0], [0, 0, 0, 0], [0, 0, 0, 0]⟩
    let s : SubFrame := .fixed [1, -2, 3, -4] res 16
    FixedLpc.new [1, -2, 3, -4] res 16 = some s ∧ ¬ s.WF ∧
    Repo.parseSubframe 4 16 (s.bits ++ [false, true]) = .ok (s, [false, true]) := by decide +kernel

set_option maxRecDepth 100000 in
/-- A header with an uncommon rate (12345 Hz → 16-bit immediate) and block size (1000 → 16-bit
immediate), variable blocking, start sample `2^35`. -/
example : ∃ h, FrameHeader.new 1000 .midSide 24 12345 true (2 ^ 35) = some h ∧ Repo.HdrOk h ∧
    h.blockSizeSpec = .extraTwoBytes 999 ∧ h.sampleRateSpec = .hz 12345 :=
  ⟨_, rfl, by decide, rfl, rfl⟩

/-! ### STREAMINFO in its initial state, and metadata type 0 -/

set_option maxRecDepth 100000 in
/-- `StreamInfo::new(44100, 2, 16)`: what `write` emits (block sizes 65535 / 0, frame sizes 0 / 0) is read
back as the identical record; the same after `set_block_sizes(4096, 4096)`. -/
example :
    StreamInfo.new 44100 2 16 = some (StreamInfo.empty 44100 2 16) ∧
    Repo.streamInfo ((StreamInfo.empty 44100 2 16).bits) = .ok (StreamInfo.empty 44100 2 16, []) ∧
    (let s := { StreamInfo.empty 44100 2 16 with minBlock := 4096, maxBlock := 4096 }
     Repo.streamInfo s.bits = .ok (s, []) ∧ s.minFrame = 2 ^ 32 - 1 ∧ s.maxFrame = 0) := by decide +kernel

set_option maxRecDepth 100000 in
/-- The initial block sizes are only kept while `total_samples = 0`: with a sample count they are
rejected (`set_block_sizes` → `verify_block_size!`). -/
example : Repo.streamInfo ({ StreamInfo.empty 44100 2 16 with total := 1 } : StreamInfo).bits = .error false := by
  decide +kernel

set_option maxRecDepth 100000 in
/-- Tag 0 is rejected by `new_unknown`; tags 1 and 126 are accepted and read back. -/
example :
    UnknownBlock.new 0 [1, 2] = none ∧ UnknownBlock.new 1 [1, 2] = some ⟨1, [1, 2]⟩ ∧
    Repo.metadataBlock (Stream.blockHeader true 1 2 ++ bytesToBits [1, 2]) = .ok ((true, .unknown ⟨1, [1, 2]⟩), []) ∧
    Repo.metadataBlock (Stream.blockHeader false 126 0 ++ bytesToBits []) = .ok ((false, .unknown ⟨126, []⟩), []) := by
  decide +kernel

end FlacVerif
