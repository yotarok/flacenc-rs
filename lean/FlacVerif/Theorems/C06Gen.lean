/-
C06Gen — the thread protocol of `src/par.rs`, tied to the CURRENT source by proof (translator part `par`).

`tools/translate_par.py` extracts the programs of the three thread roles (`Gen.Par.mainProg`, `workerProg`,
`hasherProg`, the two `Fill` methods, the set-up with its capacities / tokens / spawn counts) from `par.rs`;
`Model/ParProg.lean` gives the statement language its small-step semantics over the shared state components of
`Par.State`.  This file proves that the hand-written transition system `Par.step` (about which C05 / C06 speak) is the
MACRO-STEP semantics of those generated programs: a macro step of a thread = internal steps, ONE protocol step (channel
operation or `sched_point` hook, labelled with the event `Par.Ev.ofLog` gives to the logged record), internal steps up
to the canonical continuation of the next hand pc.

Correspondence `Corr p g s` (g : state of the generated programs, s : `Par.State`): same shared state (`shOf`), and for
each thread the continuation IN THE GENERATED PROGRAM that belongs to its hand pc (`MCorrPc`, `WCorr`, `HCorr`: `mRecv`,
`mLocked`, `mAfterSend`, `mEnq`, `mStopOk r`, `mStopErr r`, `mReqStop`, `mJoinH`, `mJoinW r`, `wIdle`, `wGot`, `wEncoded`,
`wSent`, `hRun`: suffixes of `Gen.Par.*`, some behind a few statements written out, which a `*_shape` lemma finds in the
program by `rfl`), the mutexes held, and the live locals (`bufid`, `frame_count`, position of the source, `frame_number`,
`encode_result`, `feed_result.is_err()`, handles joined).

Proofs: every canonical continuation is given once as its first statements followed by the NEXT canonical continuation
(`mRecv_shape` .., by `rfl` on the generated program).  The interpreter is run by `simp only [par_step, ..]` on such a
continuation with the facts `Corr` supplies, the rest of the program staying an opaque name; the hand step is inverted
through `Par.Step`.

Results: a hand step is a macro step of the acting thread (`C06G_*_fwd` per event, together `C06G_fwdC`); a thread the
hand model blocks is stuck in its program (the three dichotomies), hence every protocol step of the programs is a hand
step (`C06G_bwd`, `C06G_bwdC`); the runs of the programs alone (`ParProg.ProgRun`) are the runs of the hand model
(`C06G_traces_prog`); the result the epilogue assembles (`C06G_result`); the worker count.  Corollaries from C05 / C06:
Theorems/C06GenCor.lean.
NOT proved: interleavings of internal steps of different threads (a macro step is atomic, the hand model's own
atomicity assumption).
Hypotheses: `fill = fillInterleaved ∨ fill = fillLeBytes` (which `Fill` method the source calls); satisfiable: the
`example` behind `C06G_init`.  `Cond.bpsMismatch` (the width check of `fill_le_bytes`) is read as false (sources pass the
context's own width).
-/
import FlacVerif.Gen.Par
import FlacVerif.Lemmas.ParStep
import FlacVerif.Lemmas.ParList
import FlacVerif.Lemmas.ParProgAttr
import FlacVerif.Lemmas.ParProgSteps

namespace FlacVerif.C06Gen
open FlacVerif.Par FlacVerif.ParProg FlacVerif.Gen.Par

theorem C06G_refillCap (p : Params) : refillCap p.W = p.refillCap := by
  simp [refillCap, refillCapExpr, Count.eval, Params.refillCap, FlacVerif.Gen.Const.par_FRAMEBUF_MULTIPLICITY]; omega

theorem C06G_encodeCap (p : Params) : encodeCap p.W = p.encodeCap := by
  simp [encodeCap, encodeCapExpr, Count.eval, Params.encodeCap, FlacVerif.Gen.Const.par_FRAMEBUF_MULTIPLICITY]; omega

theorem C06G_md5Cap (W : Nat) : Gen.Par.md5Cap W = Par.md5Cap := rfl

theorem C06G_nbuf (p : Params) : nbuf p.W = p.nbuf := by
  simp [nbuf, nbufExpr, Count.eval, Params.nbuf, FlacVerif.Gen.Const.par_FRAMEBUF_MULTIPLICITY]; omega

theorem C06G_initTokens (p : Params) : initTokens p.W = (init p).refillQ := by
  simp [initTokens, initTokensExpr, Count.eval, init, Params.nbuf, FlacVerif.Gen.Const.par_FRAMEBUF_MULTIPLICITY, Nat.mul_comm]

theorem C06G_spawnedWorkers (p : Params) : spawnedWorkers p.W = (init p).workers.length := by
  simp [spawnedWorkers, spawnedWorkersExpr, Count.eval, init]

/-- The semantics is run with the GENERATED capacities. -/
def env (p : Params) (fill : List Stmt) : Env := ⟨p, refillCap p.W, encodeCap p.W, Gen.Par.md5Cap p.W, fill⟩

def shOf (s : State) : Shared := ⟨s.refillQ, s.encodeQ, s.md5Q, s.bufs, s.sink, s.errors, s.hashed⟩

def hBody : List Stmt := match hasherProg with | [.loop _ b] => b | _ => []
/-- hasher, blocked in `recv` -/
def hRun : List Stmt := hBody ++ hasherProg

def HCorr (t : Thr) : HPc → Prop
  | .running => t.cont = hRun ∧ t.held = []
  | .exited => t.cont = [] ∧ t.held = []

def wBody : List Stmt := match workerProg with | [.whileRecv _ _ b] => b | _ => []
def wIdle : List Stmt := workerProg
def wGot : List Stmt := wBody ++ workerProg
def wEncoded : List Stmt := wBody.drop 5 ++ workerProg
def wSent : List Stmt := wBody.drop 6 ++ workerProg

def WCorr (t : Thr) : WPc → Prop
  | .idle => t.cont = wIdle ∧ t.held = []
  | .got id => t.cont = wGot ∧ t.held = [] ∧ t.bufid = id
  | .encoded id n res => t.cont = wEncoded ∧ t.held = [] ∧ t.bufid = id ∧ t.frameNumber = n ∧ t.encRes = res
  | .sent id n res => t.cont = wSent ∧ t.held = [] ∧ t.bufid = id ∧ t.frameNumber = n ∧ t.encRes = res
  | .exited => t.cont = [] ∧ t.held = []

inductive WsCorr : List Thr → List WPc → Prop
  | nil : WsCorr [] []
  | cons {t pc ts pcs} : WCorr t pc → WsCorr ts pcs → WsCorr (t :: ts) (pc :: pcs)


/-! main thread.  The indices and loop labels below are positions in `Gen.Par.mainProg`; what stands there is said, statement
by statement, by the `*_shape` lemmas further down (`rfl` on the generated program: they fail when a position moves). -/
def feedFn : List Stmt := match mainProg with | .call _ b :: _ => b | _ => []
def fb : List Stmt := match feedFn.drop 3 with | .loop _ b :: _ => b | _ => []
def loopK : List Stmt := feedFn.drop 3 ++ .callEnd "feed_fixed_block_size" :: mainProg.drop 1
def recvBody : List Stmt := match fb with | .call _ b :: _ => b | _ => []
def errArm : List Stmt := match fb.drop 3 with | .matchRead _ e :: _ => e | _ => []
def enqBody : List Stmt := match fb.drop 9 with | .call _ b :: _ => b | _ => []
def stopBody : List Stmt := [.act (.send .encode .noneTok)]

def mRecv : List Stmt := recvBody ++ .callEnd "ParFrameBuf::recv_refill_request" :: fb.drop 1 ++ loopK
def mLocked : List Stmt := fb.drop 2 ++ loopK
def mAfterSend : List Stmt :=
  [.callEnd "ParContext::enqueue_buffer", .ret .fillOk, .callEnd "Fill::fill", .ite .readErr errArm []] ++ fb.drop 4 ++ loopK
def mEnq : List Stmt := enqBody.drop 1 ++ .callEnd "ParFrameBuf::enqueue_encode" :: fb.drop 10 ++ loopK
def mStopOk (r : Nat) : List Stmt :=
  stopBody ++ .forK 5 r stopBody :: .callEnd "ParFrameBuf::request_stop" :: feedFn.drop 5 ++ .callEnd "feed_fixed_block_size" :: mainProg.drop 1
def mStopErr (r : Nat) : List Stmt :=
  stopBody ++ .forK 4 r stopBody :: .callEnd "ParFrameBuf::request_stop" :: .ret .feedErr :: fb.drop 4 ++ loopK
def mReqStop : List Stmt := [.act (.send .md5 .emptyVec), .callEnd "ParContext::request_stop"] ++ mainProg.drop 2
def mJoinH : List Stmt := [.act .joinHasher, .act (.destructArc "inner"), .callEnd "ParContext::finalize"] ++ mainProg.drop 3
def joinBody : List Stmt := [.act .joinWorker, .act (.sched "m_joined_worker" none none)]
def mJoinW (r : Nat) : List Stmt := joinBody ++ .forK 6 r joinBody :: mainProg.drop 5

def MCorrPc (p : Params) (t : Thr) (s : State) : Prop :=
  match s.main with
  | .recv => t.cont = mRecv ∧ t.held = [] ∧ t.frameCount = s.k ∧ t.reads = s.k ∧ s.readErr = false
  | .locked id => t.cont = mLocked ∧ t.held = [.buf id] ∧ t.bufid = id ∧ t.frameCount = s.k ∧ t.reads = s.k ∧ s.readErr = false
  | .eofEmpty id => t.cont = mAfterSend ∧ t.held = [.buf id] ∧ t.bufid = id ∧ t.readRes = .okZero ∧ s.readErr = false
  | .filledMd5 id => t.cont = mAfterSend ∧ t.held = [.buf id] ∧ t.bufid = id ∧ t.readRes = .okData ∧ t.frameCount = s.k ∧
      t.reads = s.k + 1 ∧ s.readErr = false
  | .enq id => t.cont = mEnq ∧ t.held = [] ∧ t.bufid = id ∧ t.frameCount = s.k + 1 ∧ t.reads = s.k + 1 ∧ s.readErr = false
  | .stop r => ∃ r', r = r' + 1 ∧ (s.readErr = false → t.cont = mStopOk r') ∧ (s.readErr = true → t.cont = mStopErr r') ∧ t.held = []
  | .reqStop => t.cont = mReqStop ∧ t.held = [] ∧ t.feedErr = s.readErr
  | .joinH => t.cont = mJoinH ∧ t.held = [] ∧ t.feedErr = s.readErr
  | .joinW j => ∃ r, j + r + 1 = p.W ∧ t.cont = mJoinW r ∧ t.held = [] ∧ t.joined = j ∧ t.feedErr = s.readErr
  | .done => t.cont = [] ∧ t.held = []

/-- hand pcs before the worker joins: no worker handle has been joined -/
def preJoin : MPc → Prop
  | .joinW _ => False
  | .done => False
  | _ => True

def MCorr (p : Params) (t : Thr) (s : State) : Prop := MCorrPc p t s ∧ (preJoin s.main → t.joined = 0)

structure Corr (p : Params) (g : PState) (s : State) : Prop where
  sh : g.sh = shOf s
  main : MCorr p g.main s
  ws : WsCorr g.workers s.workers
  hs : HCorr g.hasher s.hasher

theorem MCorr.at {p t s pc} (h : MCorr p t s) (hm : s.main = pc) :
    MCorrPc p t { s with main := pc } ∧ (preJoin pc → t.joined = 0) := by
  subst hm; exact h

theorem MCorr.held {p t s} (h : MCorr p t s) :
    t.held = (match s.main.lockedBuf with | some id => [.buf id] | none => []) := by
  have h := h.1
  unfold MCorrPc at h
  cases hm : s.main <;> rw [hm] at h
  case stop => exact h.elim fun _ h => h.2.2.2
  case joinW => exact h.elim fun _ h => h.2.2.1
  case done => exact h.2
  all_goals exact h.2.1

theorem WCorr.held {t pc} (h : WCorr t pc) : t.held = [] := by
  cases pc
  case idle => exact h.2
  case exited => exact h.2
  all_goals exact h.2.1

theorem HCorr.held {t pc} (h : HCorr t pc) : t.held = [] := by
  cases pc <;> exact h.2

theorem WsCorr.free {ts pcs} (h : WsCorr ts pcs) (m : MtxId) : (ts.all fun t => !t.held.contains m) = true := by
  induction h with
  | nil => rfl
  | cons h _ ih => rw [List.all_cons, ih, WCorr.held h]; rfl

theorem WsCorr.free_erase {ts pcs} (h : WsCorr ts pcs) (w : Nat) (m : MtxId) :
    ((ts.eraseIdx w).all fun t => !t.held.contains m) = true :=
  List.all_eq_true.2 fun t ht => List.all_eq_true.1 (h.free m) t (List.mem_of_mem_eraseIdx ht)

theorem MCorr.not_held {p t s} (h : MCorr p t s) (m : MtxId) (hm : ∀ id, s.main.lockedBuf = some id → m ≠ .buf id) :
    t.held.contains m = false := by
  rw [MCorr.held h]
  cases hl : s.main.lockedBuf with
  | none => rfl
  | some id => simpa using hm id hl

theorem WsCorr.get {ts : List Thr} {pcs : List WPc} {w : Nat} {pc : WPc} (h : WsCorr ts pcs) (hw : pcs[w]? = some pc) :
    ∃ t, ts[w]? = some t ∧ WCorr t pc := by
  induction h generalizing w with
  | nil => cases hw
  | cons h _ ih =>
    cases w with
    | zero => cases hw; exact ⟨_, rfl, h⟩
    | succ w => exact ih hw

theorem WsCorr.set {ts pcs t' pc'} (h : WsCorr ts pcs) (w : Nat) (h' : WCorr t' pc') :
    WsCorr (ts.set w t') (pcs.set w pc') := by
  induction h generalizing w with
  | nil => exact .nil
  | cons h hs ih =>
    cases w with
    | zero => exact .cons h' hs
    | succ w => exact .cons h (ih w)

theorem WsCorr.none {ts : List Thr} {pcs : List WPc} {w : Nat} (h : WsCorr ts pcs) (hw : pcs[w]? = none) : ts[w]? = none := by
  induction h generalizing w with
  | nil => rfl
  | cons _ _ ih =>
    cases w with
    | zero => cases hw
    | succ w => exact ih hw

theorem WsCorr.exited {ts pcs} (h : WsCorr ts pcs) : ts.countP (fun t => t.cont.isEmpty) = pcs.count .exited := by
  induction h with
  | nil => rfl
  | @cons t pc ts pcs h _ ih =>
    rw [List.countP_cons, List.count_cons, ih]
    cases pc <;> simp only [h.1] <;> rfl

theorem ofLog_md5_recv (m w len) : Ev.ofLog "md5_recv" m w none (some len) = some (.md5_recv len) := by rfl
theorem ofLog_md5_send (m w len) : Ev.ofLog "md5_send" m w none (some len) = some (.md5_send len) := by rfl
theorem ofLog_refill_recv (m w id) : Ev.ofLog "refill_recv" m w (some id) none = some (.refill_recv id) := by rfl
theorem ofLog_refill_send (w id) : Ev.ofLog "refill_send" false w (some id) none = some (.refill_send w id) := by rfl
theorem ofLog_encode_send (m w x) : Ev.ofLog "encode_send" m w x none = some (.encode_send x) := by rfl
theorem ofLog_encode_recv (m w x) : Ev.ofLog "encode_recv" m w x none = some (.encode_recv w x) := by rfl
theorem ofLog_f_filled (m w id n) : Ev.ofLog "f_filled" m w (some id) (some n) = some (.f_filled id n) := by rfl
theorem ofLog_f_eof (m w id) : Ev.ofLog "f_eof" m w (some id) none = some (.f_eof id) := by rfl
theorem ofLog_f_read_err (m w id) : Ev.ofLog "f_read_err" m w (some id) none = some (.f_read_err id) := by rfl
theorem ofLog_w_lock (m w id n) : Ev.ofLog "w_lock" m w (some id) (some n) = some (.w_lock w id n) := by rfl
theorem ofLog_w_push (m w id n) : Ev.ofLog "w_push" m w (some id) (some n) = some (.w_push w id n) := by rfl
theorem ofLog_w_err (m w id n) : Ev.ofLog "w_err" m w (some id) (some n) = some (.w_err w id n) := by rfl
theorem ofLog_m_joined_hasher (m w) : Ev.ofLog "m_joined_hasher" m w none none = some .m_joined_hasher := by rfl
theorem ofLog_m_joined_worker (m w) : Ev.ofLog "m_joined_worker" m w none none = some .m_joined_worker := by rfl

theorem env_p (p : Params) (fill : List Stmt) : (env p fill).p = p := rfl
theorem env_fill (p : Params) (fill : List Stmt) : (env p fill).fill = fill := rfl
theorem env_refillCap (p : Params) (fill : List Stmt) : (env p fill).refillCap = p.refillCap := C06G_refillCap p
theorem env_encodeCap (p : Params) (fill : List Stmt) : (env p fill).encodeCap = p.encodeCap := C06G_encodeCap p
theorem env_md5Cap (p : Params) (fill : List Stmt) : (env p fill).md5Cap = Par.md5Cap := rfl

attribute [par_step] env_p env_fill env_refillCap env_encodeCap env_md5Cap macroStepC runTau settle visStep ParProg.step stepThr doStmt doAct doSend doRecv doRead doRet vis tau
  PState.yields yieldMain yieldWorker yieldHasher PState.view PState.free PState.exited Cond.eval Arg.eval Mtx.id
  dropLoop dropCall Count.eval shOf stopBody joinBody List.eraseIdx_set_eq
  ofLog_md5_recv ofLog_md5_send ofLog_refill_recv ofLog_refill_send ofLog_encode_send ofLog_encode_recv ofLog_f_filled
  ofLog_f_eof ofLog_f_read_err ofLog_w_lock ofLog_w_push ofLog_w_err ofLog_m_joined_hasher ofLog_m_joined_worker
  List.cons_append List.nil_append List.contains_cons List.contains_nil List.erase_cons_head List.set_set
  List.isEmpty_nil List.isEmpty_cons List.length_nil Option.map_some Option.map_none Option.isSome_some Option.isSome_none
  beq_iff_eq beq_self_eq_true Bool.or_false Bool.or_true Bool.true_or Bool.and_true Bool.true_and Bool.and_false Bool.false_and Bool.not_false Bool.not_true
  Bool.false_eq_true if_true if_false Option.some.injEq exists_eq_left' and_true true_and and_self stuckAt_iff

/-- The state in which the three generated programs start: the main thread at the call of `feed_fixed_block_size`,
`spawnedWorkers` worker closures, the hasher closure; channels, tokens and buffers from the generated constants. -/
def start (p : Params) : PState where
  sh := ⟨initTokens p.W, [], [], List.replicate (nbuf p.W) emptyBuf, [], [], []⟩
  main := { cont := mainProg }
  workers := List.replicate (spawnedWorkers p.W) { cont := workerProg }
  hasher := { cont := hasherProg }

theorem WsCorr.replicate (n : Nat) : WsCorr (List.replicate n { cont := workerProg }) (List.replicate n .idle) := by
  induction n with
  | zero => exact .nil
  | succ n ih => exact .cons ⟨rfl, rfl⟩ ih

/-- the state in which the generated programs wait for their first protocol step: `start p` (whole generated programs,
generated constants) after the initial internal steps of the main thread and of the hasher -/
def start0 (p : Params) : PState := { start p with main := { cont := mRecv }, hasher := { cont := hRun } }

theorem C06G_start0 (p : Params) (fill : List Stmt) :
    (∃ g1, runTau (env p fill) .main 6 (start p) = some g1 ∧ runTau (env p fill) .hasher 1 g1 = some (start0 p)) ∧
      Corr p (start0 p) (init p) := by
  refine ⟨⟨{ start p with main := { cont := mRecv } }, ?_, ?_⟩, ?_⟩
  · simp [runTau, ParProg.step, stepThr, doStmt, doAct, tau, start, mainProg, mRecv, recvBody, fb, feedFn, loopK]
  · simp [runTau, ParProg.step, stepThr, doStmt, tau, start, start0, hasherProg, hRun, hBody]
  · refine ⟨?_, ⟨?_, fun _ => rfl⟩, ?_, ⟨rfl, rfl⟩⟩
    · simp [start0, start, shOf, init, C06G_initTokens, C06G_nbuf]
    · simp [MCorrPc, init, start0]
    · simp only [start0, start, spawnedWorkers, spawnedWorkersExpr, Count.eval, init]; exact WsCorr.replicate p.W

/-- Initial states correspond: after the internal steps up to the first `recv` of the main thread and of the hasher,
the start state of the generated programs corresponds to `Par.init p`. -/
theorem C06G_init (p : Params) (fill : List Stmt) :
    ∃ g1 g0, runTau (env p fill) .main 6 (start p) = some g1 ∧ runTau (env p fill) .hasher 1 g1 = some g0 ∧
      Corr p g0 (init p) := by
  obtain ⟨⟨g1, h1, h2⟩, hc⟩ := C06G_start0 p fill
  exact ⟨g1, start0 p, h1, h2, hc⟩

/-- The hypothesis `Corr` is satisfiable on a non-trivial value: a correspondence with `init` exists for `W = 2`, one
block. -/
example : ∃ g, Corr ⟨2, [⟨[1, 2], true⟩], none, true⟩ g (init ⟨2, [⟨[1, 2], true⟩], none, true⟩) := by
  obtain ⟨_, g0, _, _, h⟩ := C06G_init ⟨2, [⟨[1, 2], true⟩], none, true⟩ fillLeBytes
  exact ⟨g0, h⟩

theorem hRun_shape : hRun = [.act (.recv .md5), .ite .dataEmpty [.brk 8] [], .act (.lock .ctx), .act .hashFill,
    .act (.unlock .ctx), .loop 8 hBody] := rfl
theorem hRun_fold : hBody ++ [.loop 8 hBody] = hRun := rfl

theorem wIdle_shape : wIdle = [.whileRecv .encode 7 wBody] := rfl
theorem wGot_fold : wBody ++ [.whileRecv .encode 7 wBody] = wGot := rfl
theorem wGot_shape : wGot = .call "ParFrameBuf::lock_buffer" [.act (.lock .buf)] :: .act .readFrameNumber ::
    .act (.sched "w_lock" (some .bufid) (some .frameNumber)) :: .act .encode :: .act (.unlock .buf) :: wEncoded := rfl
theorem wEncoded_shape : wEncoded = .call "ParFrameBuf::enqueue_refill" [.act (.send .refill .bufid)] :: wSent := rfl
theorem wSent_shape : ∃ x e, wSent = .act (.schedIf .encOk "w_push" "w_err" (some .bufid) (some .frameNumber)) ::
    .matchEnc [.act (.note x), .call "ParSink::push" [.act (.lock .sink), .act (.sinkInsert .sink), .act (.unlock .sink)]]
      [.call "ParSink::push" [.act (.lock .errs), .act (.sinkInsert .errs), .act (.unlock .errs)]] e :: wIdle :=
  ⟨_, _, rfl⟩

/-- main, behind `match src.read_samples(..)` -/
def mAfterRead : List Stmt := fb.drop 4 ++ loopK
/-- main, behind `enqueue_encode` -/
def mLoopEnd : List Stmt := fb.drop 10 ++ loopK
/-- main, behind the `'feed` loop -/
def mAfterLoop : List Stmt := feedFn.drop 4 ++ .callEnd "feed_fixed_block_size" :: mainProg.drop 1

theorem mRecv_shape : mRecv = .act (.recv .refill) :: .callEnd "ParFrameBuf::recv_refill_request" :: .act (.lock .buf) :: mLocked := rfl
theorem mLocked_shape : ∃ x, mLocked = .act (.note x) :: .matchRead [] errArm :: mAfterRead := ⟨_, rfl⟩
theorem errArm_shape : errArm = [.act (.unlock .buf), .act (.sched "f_read_err" (some .bufid) none),
    .call "ParFrameBuf::request_stop" [.forN 4 .workers stopBody], .ret .feedErr] := rfl
theorem mAfterSend_shape : mAfterSend = .callEnd "ParContext::enqueue_buffer" :: .ret .fillOk :: .callEnd "Fill::fill" ::
    .ite .readErr errArm [] :: mAfterRead := rfl
theorem mAfterRead_shape : mAfterRead = .ite .readZero [.act (.sched "f_eof" (some .bufid) none), .act (.unlock .buf), .brk 3] [] ::
    .act .storeFrameNumber :: .act (.sched "f_filled" (some .bufid) (some .frameCount)) :: .act (.unlock .buf) ::
    .act .incFrameCount :: .call "ParFrameBuf::enqueue_encode" [.act (.chanIsEmpty .encode), .act (.send .encode .someBufid)] ::
    mLoopEnd := rfl
theorem mEnq_shape : mEnq = .act (.send .encode .someBufid) :: .callEnd "ParFrameBuf::enqueue_encode" :: mLoopEnd := rfl
theorem mLoopEnd_shape : ∃ x, mLoopEnd = .ite .starved [.act (.note x)] [] :: .loop 3 fb :: mAfterLoop := ⟨_, rfl⟩
theorem fb_reenter : fb ++ .loop 3 fb :: mAfterLoop =
    .call "ParFrameBuf::recv_refill_request" [.act (.recv .refill)] :: .act (.lock .buf) :: mLocked := rfl
theorem dropLoop_mLoopEnd : dropLoop 3 mLoopEnd = mAfterLoop := rfl
theorem dropCall_mLoopEnd : dropCall mLoopEnd = mainProg.drop 1 := rfl
theorem mAfterLoop_shape : mAfterLoop = .call "ParFrameBuf::request_stop" [.forN 5 .workers stopBody] :: .ret .feedOk ::
    .callEnd "feed_fixed_block_size" :: mainProg.drop 1 := rfl
theorem mStopOk_shape (r : Nat) : mStopOk r = .act (.send .encode .noneTok) :: .forK 5 r stopBody ::
    .callEnd "ParFrameBuf::request_stop" :: .ret .feedOk :: .callEnd "feed_fixed_block_size" :: mainProg.drop 1 := rfl
theorem mStopErr_shape (r : Nat) : mStopErr r = .act (.send .encode .noneTok) :: .forK 4 r stopBody ::
    .callEnd "ParFrameBuf::request_stop" :: .ret .feedErr :: mAfterRead := rfl
theorem mainProg_drop1 : mainProg.drop 1 =
    .call "ParContext::request_stop" [.act (.chanLen .md5), .act (.send .md5 .emptyVec)] :: mainProg.drop 2 := rfl
theorem mReqStop_shape : mReqStop = .act (.send .md5 .emptyVec) :: .callEnd "ParContext::request_stop" :: mainProg.drop 2 := rfl
theorem mainProg_drop2 : mainProg.drop 2 =
    .call "ParContext::finalize" [.act .joinHasher, .act (.destructArc "inner")] :: mainProg.drop 3 := rfl
theorem mJoinH_shape : mJoinH = .act .joinHasher :: .act (.destructArc "inner") :: .callEnd "ParContext::finalize" ::
    .act (.sched "m_joined_hasher" none none) :: .forN 6 .workers joinBody :: mainProg.drop 5 := rfl
theorem mJoinW_shape (r : Nat) : mJoinW r = .act .joinWorker :: .act (.sched "m_joined_worker" none none) ::
    .forK 6 r joinBody :: mainProg.drop 5 := rfl
theorem mainProg_drop5 : ∃ x a y b, mainProg.drop 5 = [.act (.note x), .act (.destructArc a), .act .drainErrors,
    .ite .firstErrSome [.ret .errConfig] [], .tryFeed, .act (.note y), .act .setMd5, .act (.destructArc b), .act .drainSink,
    .act .setBlockSizes, .act .setTotalSamples, .ret .okStream] := ⟨_, _, _, _, rfl⟩

/-- The two `Err` arms of the worker's `match encode_result` have the same program (the hand model has one error class). -/
theorem C06G_worker_err_arms :
    (match wBody.drop 7 with | [.matchEnc _ e1 e2] => e1 = e2 | _ => False) := by
  simp [wBody, workerProg]

/-- hasher: hand step -> macro step of the generated program -/
theorem C06G_hasher_fwd {p fill g s s'} (len : Nat) (hc : Corr p g s) (h : Par.step p s (.md5_recv len) = some s') :
    ∃ b g', macroStepC (env p fill) .hasher 0 b g = some (.md5_recv len, g') ∧ Corr p g' s' := by
  cases Step_of_step h with
  | md5_recv_stop rest hh hq =>
    have hhc := hc.hs
    rw [hh] at hhc
    -- the successor `g'` is read off the evaluation (its `rfl`); `by exact` has the correspondence elaborated after it
    exact ⟨2, _, by simp only [par_step, hhc.1, hRun_shape, hc.sh, hq]; rfl,
      by exact ⟨rfl, hc.main, hc.ws, rfl, hhc.2⟩⟩
  | md5_recv_data b rest hh hq hb =>
    have hhc := hc.hs
    rw [hh] at hhc
    exact ⟨5, _, by simp only [par_step, hhc.1, hhc.2, hRun_shape, hc.sh, hq, List.isEmpty_iff, hb, hc.ws.free,
        MCorr.not_held hc.main .ctx (fun _ _ => MtxId.noConfusion), hRun_fold]; rfl,
      by exact ⟨rfl, hc.main, hc.ws, hh ▸ ⟨rfl, rfl⟩⟩⟩

/-- worker `w_lock`: lock, read the frame number, hook, encode, unlock -/
theorem C06G_w_lock_fwd {p fill g s s'} (w id n : Nat) (hc : Corr p g s) (h : Par.step p s (.w_lock w id n) = some s') :
    ∃ g', macroStepC (env p fill) (.worker w) 4 2 g = some (.w_lock w id n, g') ∧ Corr p g' s' := by
  cases Step_of_step h with
  | w_lock _ _ _ x hw hx hn hl =>
    obtain ⟨t, htw, hcont, hheld, hbuf⟩ := WsCorr.get hc.ws hw
    have hmh := MCorr.not_held hc.main (.buf id) fun i hi he => hl (hi.trans (congrArg some (MtxId.buf.inj he).symm))
    exact ⟨_, by simp only [par_step, htw, hcont, hheld, hbuf, wGot_shape, hmh, hc.ws.free_erase, HCorr.held hc.hs,
        hc.sh, hx, hn, List.getElem?_set_self (getElem?_some_lt htw)]; rfl,
      by exact ⟨rfl, hc.main, WsCorr.set hc.ws w ⟨rfl, rfl, rfl, rfl, rfl⟩, hc.hs⟩⟩

/-- worker `encode_recv`: the head of `while let Some(bufid) = parbuf.pop_encode_queue()` -/
theorem C06G_encode_recv_fwd {p fill g s s'} (w : Nat) (x : Option Nat) (hc : Corr p g s)
    (h : Par.step p s (.encode_recv w x) = some s') :
    ∃ g', macroStepC (env p fill) (.worker w) 0 0 g = some (.encode_recv w x, g') ∧ Corr p g' s' := by
  cases Step_of_step h with
  | enc_recv_some _ id rest hw hq =>
    obtain ⟨t, htw, hcont, hheld⟩ := WsCorr.get hc.ws hw
    exact ⟨_, by simp only [par_step, htw, hcont, wIdle_shape, hc.sh, hq, wGot_fold, wGot_shape,
        List.getElem?_set_self (getElem?_some_lt htw)]; rfl,
      by exact ⟨rfl, hc.main, WsCorr.set hc.ws w ⟨rfl, hheld, rfl⟩, hc.hs⟩⟩
  | enc_recv_none _ rest hw hq =>
    obtain ⟨t, htw, hcont, hheld⟩ := WsCorr.get hc.ws hw
    exact ⟨_, by simp only [par_step, htw, hcont, wIdle_shape, hc.sh, hq,
        List.getElem?_set_self (getElem?_some_lt htw)]; rfl,
      by exact ⟨rfl, hc.main, WsCorr.set hc.ws w ⟨rfl, hheld⟩, hc.hs⟩⟩

/-- worker `refill_send`: `parbuf.enqueue_refill(bufid)` -/
theorem C06G_refill_send_fwd {p fill g s s'} (w id : Nat) (hc : Corr p g s)
    (h : Par.step p s (.refill_send w id) = some s') :
    ∃ g', macroStepC (env p fill) (.worker w) 1 1 g = some (.refill_send w id, g') ∧ Corr p g' s' := by
  cases Step_of_step h with
  | refill_send _ _ n res hw hcap =>
    obtain ⟨t, htw, hcont, hheld, hbuf, hfn, henc⟩ := WsCorr.get hc.ws hw
    obtain ⟨x, e, hsent⟩ := wSent_shape
    exact ⟨_, by simp only [par_step, htw, hcont, hbuf, wEncoded_shape, hsent, hc.sh, hcap,
        List.getElem?_set_self (getElem?_some_lt htw)]; rfl,
      by exact ⟨rfl, hc.main, WsCorr.set hc.ws w ⟨hsent.symm, hheld, rfl, hfn, henc⟩, hc.hs⟩⟩

/-- worker `w_push`: hook, `Ok` arm: `parsink.push(frame_number, frame)` -/
theorem C06G_w_push_fwd {p fill g s s'} (w id n : Nat) (hc : Corr p g s)
    (h : Par.step p s (.w_push w id n) = some s') :
    ∃ g', macroStepC (env p fill) (.worker w) 0 7 g = some (.w_push w id n, g') ∧ Corr p g' s' := by
  cases Step_of_step h with
  | w_push _ _ _ f hw =>
    obtain ⟨t, htw, hcont, hheld, hbuf, hfn, henc⟩ := WsCorr.get hc.ws hw
    obtain ⟨x, e, hsent⟩ := wSent_shape
    exact ⟨_, by simp only [par_step, htw, hcont, hheld, hbuf, hfn, henc, hsent, wIdle_shape, hc.sh, hc.ws.free_erase,
        HCorr.held hc.hs, MCorr.not_held hc.main .sink (fun _ _ => MtxId.noConfusion),
        List.getElem?_set_self (getElem?_some_lt htw)]; rfl,
      by exact ⟨rfl, hc.main, WsCorr.set hc.ws w ⟨rfl, rfl⟩, hc.hs⟩⟩

/-- worker `w_err`: hook, `Err` arm: `parerrors.push(frame_number, e)` -/
theorem C06G_w_err_fwd {p fill g s s'} (w id n : Nat) (hc : Corr p g s)
    (h : Par.step p s (.w_err w id n) = some s') :
    ∃ g', macroStepC (env p fill) (.worker w) 0 6 g = some (.w_err w id n, g') ∧ Corr p g' s' := by
  cases Step_of_step h with
  | w_err _ _ _ hw =>
    obtain ⟨t, htw, hcont, hheld, hbuf, hfn, henc⟩ := WsCorr.get hc.ws hw
    obtain ⟨x, e, hsent⟩ := wSent_shape
    exact ⟨_, by simp only [par_step, htw, hcont, hheld, hbuf, hfn, henc, hsent, wIdle_shape, hc.sh, hc.ws.free_erase,
        HCorr.held hc.hs, MCorr.not_held hc.main .errs (fun _ _ => MtxId.noConfusion),
        List.getElem?_set_self (getElem?_some_lt htw)]; rfl,
      by exact ⟨rfl, hc.main, WsCorr.set hc.ws w ⟨rfl, rfl⟩, hc.hs⟩⟩

/-- main `refill_recv`: `recv_refill_request`, then the lock of `buffers[bufid]` -/
theorem C06G_refill_recv_fwd {p fill g s s'} (id : Nat) (hc : Corr p g s)
    (h : Par.step p s (.refill_recv id) = some s') :
    ∃ g', macroStepC (env p fill) .main 0 2 g = some (.refill_recv id, g') ∧ Corr p g' s' := by
  cases Step_of_step h with
  | refill_recv _ rest hm hq =>
    obtain ⟨⟨hcont, hheld, hfc, hrd, hre⟩, hj⟩ := hc.main.at hm
    obtain ⟨x, hx⟩ := mLocked_shape
    exact ⟨_, by simp only [par_step, hcont, hheld, mRecv_shape, hx, hc.sh, hq, hc.ws.free, HCorr.held hc.hs]; rfl,
      by exact ⟨rfl, ⟨⟨hx.symm, rfl, rfl, hfc, hrd, hre⟩, fun _ => hj trivial⟩, hc.ws, hc.hs⟩⟩

/-- main `md5_send` (1): `read_samples` delivers a block into the locked buffer and calls `Fill`, which sends the bytes -/
theorem C06G_md5_send_fwd {p fill g s s'} (len : Nat) (hf : fill = fillInterleaved ∨ fill = fillLeBytes) (hc : Corr p g s)
    (h : Par.step p s (.md5_send len) = some s') :
    ∃ a b g', macroStepC (env p fill) .main a b g = some (.md5_send len, g') ∧ Corr p g' s' := by
  cases Step_of_step h with
  | md5_data id b x hm hnf hcap hb hx =>
    obtain ⟨⟨hcont, hheld, hbuf, hfc, hrd, hre⟩, hj⟩ := hc.main.at hm
    obtain ⟨n, hn⟩ := mLocked_shape
    -- both `Fill` methods leave `bytebuf = input` and send it
    exact ⟨8, 0, _, by rcases hf with rfl | rfl <;> simp only [par_step, hcont, hbuf, hrd, hn, fillInterleaved, fillLeBytes,
        hc.sh, hnf, hb, hx, hcap] <;> rfl,
      by exact ⟨rfl, ⟨⟨rfl, hheld, rfl, rfl, hfc, rfl, hre⟩, fun _ => hj trivial⟩, hc.ws, hc.hs⟩⟩
  | md5_eof id hm hnf hcap hb he =>
    obtain ⟨⟨hcont, hheld, hbuf, hfc, hrd, hre⟩, hj⟩ := hc.main.at hm
    obtain ⟨n, hn⟩ := mLocked_shape
    exact ⟨8, 0, _, by rcases hf with rfl | rfl <;> simp only [par_step, hcont, hrd, hn, fillInterleaved, fillLeBytes,
        hc.sh, hnf, hb, he, hcap] <;> rfl,
      by exact ⟨rfl, ⟨⟨rfl, hheld, hbuf, rfl, hre⟩, fun _ => hj trivial⟩, hc.ws, hc.hs⟩⟩
  | md5_stop hm hcap =>
    obtain ⟨⟨hcont, hheld, hfe⟩, hj⟩ := hc.main.at hm
    exact ⟨0, 2, _, by simp only [par_step, hcont, mReqStop_shape, mainProg_drop2, hc.sh, hcap]; rfl,
      by exact ⟨rfl, ⟨⟨rfl, hheld, hfe⟩, fun _ => hj trivial⟩, hc.ws, hc.hs⟩⟩

/-- main `f_filled`: the frame number is stored, hook, the guard ends, `frame_count += 1`, `is_empty` is read -/
theorem C06G_f_filled_fwd {p fill g s s'} (id n : Nat) (hc : Corr p g s)
    (h : Par.step p s (.f_filled id n) = some s') :
    ∃ g', macroStepC (env p fill) .main 5 4 g = some (.f_filled id n, g') ∧ Corr p g' s' := by
  cases Step_of_step h with
  | f_filled _ x hm hx =>
    obtain ⟨⟨hcont, hheld, hbuf, hrr, hfc, hrd, hre⟩, hj⟩ := hc.main.at hm
    exact ⟨_, by simp only [par_step, reduceCtorEq, hcont, hheld, hbuf, hrr, hfc, mAfterSend_shape, mAfterRead_shape,
        hc.sh, hx]; rfl,
      by exact ⟨rfl, ⟨⟨rfl, rfl, rfl, rfl, hrd, hre⟩, fun _ => hj trivial⟩, hc.ws, hc.hs⟩⟩

theorem afterStop_zero : afterStop 0 = .reqStop := rfl
theorem afterStop_succ (r : Nat) : afterStop (r + 1) = .stop (r + 1) := rfl

/-- main `f_eof`: hook, the guard ends at `break 'feed`, then `request_stop(workers)` is entered -/
theorem C06G_f_eof_fwd {p fill g s s'} (id : Nat) (hc : Corr p g s)
    (h : Par.step p s (.f_eof id) = some s') :
    ∃ a b g', macroStepC (env p fill) .main a b g = some (.f_eof id, g') ∧ Corr p g' s' := by
  cases Step_of_step h with
  | f_eof_plain _ hm hnf hk he =>
    obtain ⟨⟨hcont, hheld, hbuf, hfc, hrd, hre⟩, hj⟩ := hc.main.at hm
    obtain ⟨n, hn⟩ := mLocked_shape
    have hb : p.blocks[s.k]? = none := List.getElem?_eq_none hk
    cases hW : p.W with
    | zero =>
      rw [afterStop_zero]
      exact ⟨5, 9, _, by simp only [par_step, reduceCtorEq, hcont, hheld, hbuf, hrd, hn, mAfterRead_shape,
          dropLoop_mLoopEnd, mAfterLoop_shape, mainProg_drop1, hc.sh, hnf, hb, he, hW]; rfl,
        by exact ⟨rfl, ⟨⟨rfl, rfl, hre.symm⟩, fun _ => hj trivial⟩, hc.ws, hc.hs⟩⟩
    | succ r =>
      rw [afterStop_succ]
      exact ⟨5, 5, _, by simp only [par_step, reduceCtorEq, hcont, hheld, hbuf, hrd, hn, mAfterRead_shape,
          dropLoop_mLoopEnd, mAfterLoop_shape, hc.sh, hnf, hb, he, hW]; rfl,
        by exact ⟨rfl, ⟨⟨r, rfl, fun _ => rfl, fun h => Bool.noConfusion (hre.symm.trans h), rfl⟩, fun _ => hj trivial⟩,
            hc.ws, hc.hs⟩⟩
  | f_eof_empty _ hm =>
    obtain ⟨⟨hcont, hheld, hbuf, hrr, hre⟩, hj⟩ := hc.main.at hm
    cases hW : p.W with
    | zero =>
      rw [afterStop_zero]
      exact ⟨4, 9, _, by simp only [par_step, reduceCtorEq, hcont, hheld, hbuf, hrr, mAfterSend_shape, mAfterRead_shape,
          dropLoop_mLoopEnd, mAfterLoop_shape, mainProg_drop1, hc.sh, hW]; rfl,
        by exact ⟨rfl, ⟨⟨rfl, rfl, hre.symm⟩, fun _ => hj trivial⟩, hc.ws, hc.hs⟩⟩
    | succ r =>
      rw [afterStop_succ]
      exact ⟨4, 5, _, by simp only [par_step, reduceCtorEq, hcont, hheld, hbuf, hrr, mAfterSend_shape, mAfterRead_shape,
          dropLoop_mLoopEnd, mAfterLoop_shape, hc.sh, hW]; rfl,
        by exact ⟨rfl, ⟨⟨r, rfl, fun _ => rfl, fun h => Bool.noConfusion (hre.symm.trans h), rfl⟩, fun _ => hj trivial⟩,
            hc.ws, hc.hs⟩⟩

/-- main `f_read_err`: `drop(numbuf)`, hook, `request_stop(workers)` is entered, `return Err(e)` follows it -/
theorem C06G_f_read_err_fwd {p fill g s s'} (id : Nat) (hc : Corr p g s)
    (h : Par.step p s (.f_read_err id) = some s') :
    ∃ b g', macroStepC (env p fill) .main 5 b g = some (.f_read_err id, g') ∧ Corr p g' s' := by
  cases Step_of_step h with
  | f_read_err _ hm hf =>
    obtain ⟨⟨hcont, hheld, hbuf, hfc, hrd, hre⟩, hj⟩ := hc.main.at hm
    obtain ⟨n, hn⟩ := mLocked_shape
    cases hW : p.W with
    | zero =>
      rw [afterStop_zero]
      exact ⟨7, _, by simp only [par_step, hcont, hheld, hbuf, hrd, hn, errArm_shape, mAfterRead_shape,
          dropCall_mLoopEnd, mainProg_drop1, hc.sh, hf, hW]; rfl,
        by exact ⟨rfl, ⟨⟨rfl, rfl, rfl⟩, fun _ => hj trivial⟩, hc.ws, hc.hs⟩⟩
    | succ r =>
      rw [afterStop_succ]
      exact ⟨3, _, by simp only [par_step, hcont, hheld, hbuf, hrd, hn, errArm_shape, hc.sh, hf, hW]; rfl,
        by exact ⟨rfl, ⟨⟨r, rfl, fun h => Bool.noConfusion h, fun _ => rfl, rfl⟩, fun _ => hj trivial⟩, hc.ws, hc.hs⟩⟩

/-- main `encode_send (some id)`: the send of `enqueue_encode`, then the loop is re-entered up to the next `recv` -/
theorem C06G_encode_send_some_fwd {p fill g s s'} (id : Nat) (hc : Corr p g s)
    (h : Par.step p s (.encode_send (some id)) = some s') :
    ∃ b g', macroStepC (env p fill) .main 0 b g = some (.encode_send (some id), g') ∧ Corr p g' s' := by
  cases Step_of_step h with
  | enc_send_some _ hm hcap =>
    obtain ⟨⟨hcont, hheld, hbuf, hfc, hrd, hre⟩, hj⟩ := hc.main.at hm
    obtain ⟨n, hn⟩ := mLoopEnd_shape
    cases hst : g.main.starved with
    | true =>
      exact ⟨5, _, by simp only [par_step, hcont, hbuf, hst, mEnq_shape, hn, fb_reenter, hc.sh, hcap]; rfl,
        by exact ⟨rfl, ⟨⟨rfl, hheld, hfc, hrd, hre⟩, fun _ => hj trivial⟩, hc.ws, hc.hs⟩⟩
    | false =>
      exact ⟨4, _, by simp only [par_step, hcont, hbuf, hst, mEnq_shape, hn, fb_reenter, hc.sh, hcap]; rfl,
        by exact ⟨rfl, ⟨⟨rfl, hheld, hfc, hrd, hre⟩, fun _ => hj trivial⟩, hc.ws, hc.hs⟩⟩

/-- main `encode_send none`: one iteration of `request_stop(workers)`; after the last one the function returns and
`ParContext::request_stop` reads `len()` -/
theorem C06G_encode_send_none_fwd {p fill g s s'} (hc : Corr p g s)
    (h : Par.step p s (.encode_send none) = some s') :
    ∃ b g', macroStepC (env p fill) .main 0 b g = some (.encode_send none, g') ∧ Corr p g' s' := by
  cases Step_of_step h with
  | enc_send_none r hm hcap =>
    obtain ⟨⟨_, hr, hok, herr, hheld⟩, hj⟩ := hc.main.at hm
    cases Nat.succ.inj hr
    cases hre : s.readErr with
    | false =>
      have hcont := hok hre
      cases r with
      | zero =>
        rw [afterStop_zero]
        exact ⟨5, _, by simp only [par_step, hcont, mStopOk_shape, mainProg_drop1, hc.sh, hcap]; rfl,
          by exact ⟨rfl, ⟨⟨rfl, hheld, rfl⟩, fun _ => hj trivial⟩, hc.ws, hc.hs⟩⟩
      | succ r =>
        rw [afterStop_succ]
        exact ⟨1, _, by simp only [par_step, hcont, mStopOk_shape, hc.sh, hcap]; rfl,
          by exact ⟨rfl, ⟨⟨r, rfl, fun _ => rfl, fun h => Bool.noConfusion h, hheld⟩, fun _ => hj trivial⟩, hc.ws, hc.hs⟩⟩
    | true =>
      have hcont := herr hre
      cases r with
      | zero =>
        rw [afterStop_zero]
        exact ⟨5, _, by simp only [par_step, hcont, mStopErr_shape, mAfterRead_shape, dropCall_mLoopEnd, mainProg_drop1,
            hc.sh, hcap]; rfl,
          by exact ⟨rfl, ⟨⟨rfl, hheld, rfl⟩, fun _ => hj trivial⟩, hc.ws, hc.hs⟩⟩
      | succ r =>
        rw [afterStop_succ]
        exact ⟨1, _, by simp only [par_step, hcont, mStopErr_shape, hc.sh, hcap]; rfl,
          by exact ⟨rfl, ⟨⟨r, rfl, fun h => Bool.noConfusion h, fun _ => rfl, hheld⟩, fun _ => hj trivial⟩, hc.ws, hc.hs⟩⟩

/-- The epilogue of `par::encode_with_fixed_block_size` (behind the join loop) assembles `State.result`: the first recorded
encode error, else `feed_result?`, else the stream with the frames in key order, the digest and the STREAMINFO updates. -/
theorem epilogue {p fill g s} (hcont : g.main.cont = mainProg.drop 5) (hsh : g.sh = shOf s) (hfe : g.main.feedErr = s.readErr) :
    ∃ b t', settle (env p fill) .main b g = some { g with main := t' } ∧ t'.cont = [] ∧ t'.held = g.main.held ∧
      t'.result = some s.result ∧
      ∀ l, s.result = .ok l → t'.digest = s.hashed ∧ t'.sizesSet = true ∧ t'.totalSet = true := by
  obtain ⟨x, a, y, b, hx⟩ := mainProg_drop5
  have he : g.sh.errors = s.errors := congrArg Shared.errors hsh
  have hs : g.sh.sink = s.sink := congrArg Shared.sink hsh
  have hh : g.sh.hashed = s.hashed := congrArg Shared.hashed hsh
  cases hes : s.errors with
  | cons e es =>
    exact ⟨5, _, by simp only [par_step, hcont, hx, he, hes]; rfl,
      by exact ⟨rfl, rfl, by simp [State.result, hes], by simp [State.result, hes]⟩⟩
  | nil =>
    cases hre : s.readErr with
    | true =>
      exact ⟨5, _, by simp only [par_step, hcont, hx, he, hes, hfe, hre]; rfl,
        by exact ⟨rfl, rfl, by simp [State.result, hes, hre], by simp [State.result, hes, hre]⟩⟩
    | false =>
      exact ⟨12, _, by simp only [par_step, hcont, hx, he, hes, hfe, hre]; rfl,
        by exact ⟨rfl, rfl, by simp [State.result, State.frames, hes, hre, hs], fun _ _ => ⟨hh, rfl, rfl⟩⟩⟩

/-- main `m_joined_hasher`: `finalize` joins the hasher, hook, the join loop is entered; with no worker the result is
assembled -/
theorem C06G_m_joined_hasher_fwd {p fill g s s'} (hc : Corr p g s)
    (h : Par.step p s .m_joined_hasher = some s') :
    ∃ b g', macroStepC (env p fill) .main 3 b g = some (.m_joined_hasher, g') ∧ Corr p g' s' ∧
      (s'.main = .done → g'.main.result = some s'.result ∧
        ∀ l, s'.result = .ok l → g'.main.digest = s'.hashed ∧ g'.main.sizesSet = true ∧ g'.main.totalSet = true) := by
  cases Step_of_step h with
  | joined_hasher hm hh =>
    obtain ⟨⟨hcont, hheld, hfe⟩, hj⟩ := hc.main.at hm
    have hhc := hc.hs
    rw [hh] at hhc
    cases hW : p.W with
    | succ r =>
      rw [if_neg (Nat.succ_ne_zero r)]
      exact ⟨2, _, by simp only [par_step, hcont, mJoinH_shape, hhc.1, hW]; rfl,
        by exact ⟨hc.sh, ⟨⟨r, by rw [hW, Nat.zero_add], rfl, hheld, hj trivial, hfe⟩, fun hp => hp.elim⟩, hc.ws, hc.hs⟩,
            fun hd => MPc.noConfusion hd⟩
    | zero =>
      rw [if_pos rfl]
      obtain ⟨b, t', hset, hc', hh', hres⟩ := epilogue (p := p) (fill := fill)
        (g := { g with main := { g.main with cont := mainProg.drop 5 } }) rfl hc.sh hfe
      dsimp only at hset
      exact ⟨b + 2, _, by simp only [par_step, hcont, mJoinH_shape, hhc.1, hW, hset, hc']; rfl,
        by exact ⟨hc.sh, ⟨⟨hc', hh'.trans hheld⟩, fun hp => hp.elim⟩, hc.ws, hc.hs⟩, fun _ => hres⟩

/-- main `m_joined_worker`: one iteration of the join loop; after the last one the result is assembled -/
theorem C06G_m_joined_worker_fwd {p fill g s s'} (hc : Corr p g s)
    (h : Par.step p s .m_joined_worker = some s') :
    ∃ b g', macroStepC (env p fill) .main 1 b g = some (.m_joined_worker, g') ∧ Corr p g' s' ∧
      (s'.main = .done → g'.main.result = some s'.result ∧
        ∀ l, s'.result = .ok l → g'.main.digest = s'.hashed ∧ g'.main.sizesSet = true ∧ g'.main.totalSet = true) := by
  cases Step_of_step h with
  | joined_worker j hm hjx =>
    obtain ⟨⟨r, hr, hcont, hheld, hjd, hfe⟩, _⟩ := hc.main.at hm
    have hjx : j < s.workers.count .exited := hjx
    cases r with
    | succ r =>
      rw [if_neg (by omega)]
      exact ⟨1, _, by simp only [par_step, hcont, hjd, mJoinW_shape, WsCorr.exited hc.ws, hjx]; rfl,
        by exact ⟨hc.sh, ⟨⟨r, by omega, rfl, hheld, rfl, hfe⟩, fun hp => hp.elim⟩, hc.ws, hc.hs⟩,
            fun hd => MPc.noConfusion hd⟩
    | zero =>
      rw [if_pos (by omega)]
      obtain ⟨b, t', hset, hc', hh', hres⟩ := epilogue (p := p) (fill := fill)
        (g := { g with main := { g.main with cont := mainProg.drop 5, joined := j + 1 } }) rfl hc.sh hfe
      dsimp only at hset
      exact ⟨b + 1, _, by simp only [par_step, hcont, hjd, mJoinW_shape, WsCorr.exited hc.ws, hjx, hset, hc']; rfl,
        by exact ⟨hc.sh, ⟨⟨hc', hh'.trans hheld⟩, fun hp => hp.elim⟩, hc.ws, hc.hs⟩, fun _ => hres⟩

/-- Simulation, hand model -> generated programs.  Whenever the hand transition system takes a step with event `e`
from a state that corresponds to `g`, the thread `tidOf e` of the generated programs can take a macro step (internal
steps, the protocol step with the same event, internal steps) to a state that corresponds again: same shared state,
canonical continuations, agreeing locals. -/
theorem C06G_fwdC {p : Params} {fill : List Stmt} (hf : fill = fillInterleaved ∨ fill = fillLeBytes)
    {g : PState} {s s' : State} (e : Ev) (hc : Corr p g s) (h : Par.step p s e = some s') :
    ∃ a b g', macroStepC (env p fill) (tidOf e) a b g = some (e, g') ∧ Corr p g' s' := by
  cases e with
  | refill_recv id => exact ⟨0, 2, C06G_refill_recv_fwd id hc h⟩
  | md5_send len => exact C06G_md5_send_fwd len hf hc h
  | f_filled id n => exact ⟨5, 4, C06G_f_filled_fwd id n hc h⟩
  | f_eof id => exact C06G_f_eof_fwd id hc h
  | f_read_err id => exact ⟨5, C06G_f_read_err_fwd id hc h⟩
  | encode_send x =>
    cases x with
    | some id => exact ⟨0, C06G_encode_send_some_fwd id hc h⟩
    | none => exact ⟨0, C06G_encode_send_none_fwd hc h⟩
  | m_joined_hasher => obtain ⟨b, g', h1, h2, _⟩ := C06G_m_joined_hasher_fwd (fill := fill) hc h; exact ⟨3, b, g', h1, h2⟩
  | m_joined_worker => obtain ⟨b, g', h1, h2, _⟩ := C06G_m_joined_worker_fwd (fill := fill) hc h; exact ⟨1, b, g', h1, h2⟩
  | encode_recv w x => exact ⟨0, 0, C06G_encode_recv_fwd w x hc h⟩
  | w_lock w id n => exact ⟨4, 2, C06G_w_lock_fwd w id n hc h⟩
  | refill_send w id => exact ⟨1, 1, C06G_refill_send_fwd w id hc h⟩
  | w_push w id n => exact ⟨0, 7, C06G_w_push_fwd w id n hc h⟩
  | w_err w id n => exact ⟨0, 6, C06G_w_err_fwd w id n hc h⟩
  | md5_recv len => exact ⟨0, C06G_hasher_fwd len hc h⟩

theorem C06G_fwd {p : Params} {fill : List Stmt} (hf : fill = fillInterleaved ∨ fill = fillLeBytes)
    {g : PState} {s s' : State} (e : Ev) (hc : Corr p g s) (h : Par.step p s e = some s') :
    ∃ a b g', macroStep (env p fill) (tidOf e) a b g = some (e, g') ∧ Corr p g' s' := by
  obtain ⟨a, b, g', hm, hc'⟩ := C06G_fwdC hf e hc h
  exact ⟨a, b, g', macroStepC_sound hm, hc'⟩

/-- Simulation, generated programs -> hand model, for enabled threads.  If the hand model has a step of thread
`tidOf e0` from `s`, then every protocol step the generated program of that thread can reach from `g` by internal steps
is that hand step: same event, and the internal steps that follow lead to a corresponding state. -/
theorem C06G_bwd_enabled {p : Params} {fill : List Stmt} (hf : fill = fillInterleaved ∨ fill = fillLeBytes)
    {g : PState} {s s0 : State} (e0 : Ev) (hc : Corr p g s) (h0 : Par.step p s e0 = some s0)
    {a : Nat} {g1 g2 : PState} {e : Ev} (h1 : runTau (env p fill) (tidOf e0) a g = some g1)
    (h2 : visStep (env p fill) (tidOf e0) g1 = some (e, g2)) :
    e = e0 ∧ ∃ b g', runTau (env p fill) (tidOf e0) b g2 = some g' ∧ Corr p g' s0 := by
  obtain ⟨a0, b, g', hm, hc'⟩ := C06G_fwd hf e0 hc h0
  obtain ⟨x1, x2, hx1, hx2, hx3⟩ := macroStep_unpack hm
  obtain ⟨_, rfl, rfl⟩ := C06G_next_unique _ _ a a0 g g1 x1 e e0 g2 x2 h1 h2 hx1 hx2
  exact ⟨rfl, b, g', hx3, hc'⟩

/-! ### program -> hand model: a thread the hand model blocks is blocked in the generated program -/

/-- what the per-thread analysis delivers: the hand model has a step of the thread, or the program is stuck -/
def EnabledOrStuck (p : Params) (fill : List Stmt) (tid : Tid) (g : PState) (s : State) : Prop :=
  (∃ e0, tidOf e0 = tid ∧ (Par.step p s e0).isSome = true) ∨ ∃ k, stuckAt (env p fill) tid k g

theorem EnabledOrStuck.step {p fill g s e s'} (h : Step p s e s') : EnabledOrStuck p fill (tidOf e) g s :=
  .inl ⟨e, rfl, h.isSome⟩

theorem C06G_hasher_dichotomy {p fill g s} (hc : Corr p g s) : EnabledOrStuck p fill .hasher g s := by
  have hhc := hc.hs
  cases hpc : s.hasher with
  | exited =>
    rw [hpc] at hhc
    exact .inr ⟨0, by simp only [par_step, hhc.1]⟩
  | running =>
    rw [hpc] at hhc
    cases hq : s.md5Q with
    | nil => exact .inr ⟨0, by simp only [par_step, hhc.1, hRun_shape, hc.sh, hq]⟩
    | cons b rest =>
      by_cases hb : b = []
      · exact .step (Step.md5_recv_stop rest hpc (hb ▸ hq))
      · exact .step (Step.md5_recv_data b rest hpc hq hb)

theorem C06G_worker_dichotomy {p fill g s} (w : Nat) (hc : Corr p g s) : EnabledOrStuck p fill (.worker w) g s := by
  cases hwk : s.workers[w]? with
  | none => exact .inr ⟨0, by simp only [par_step, WsCorr.none hc.ws hwk]⟩
  | some pc =>
    obtain ⟨t, htw, htc⟩ := WsCorr.get hc.ws hwk
    have hwlt := getElem?_some_lt htw
    cases pc with
    | exited => exact .inr ⟨0, by simp only [par_step, htw, htc.1]⟩
    | idle =>
      cases hq : s.encodeQ with
      | nil => exact .inr ⟨0, by simp only [par_step, htw, htc.1, wIdle_shape, hc.sh, hq]⟩
      | cons y rest =>
        cases y with
        | some id => exact .step (Step.enc_recv_some w id rest hwk hq)
        | none => exact .step (Step.enc_recv_none w rest hwk hq)
    | got id =>
      obtain ⟨hcont, hheld, hbuf⟩ := htc
      by_cases hl : s.main.lockedBuf = some id
      · have hmh : g.main.held = [.buf id] := by rw [MCorr.held hc.main, hl]
        exact .inr ⟨1, by simp only [par_step, htw, hcont, hbuf, wGot_shape, hmh, List.getElem?_set_self hwlt]⟩
      · have hmh := MCorr.not_held hc.main (.buf id) fun i hi he => hl (hi.trans (congrArg some (MtxId.buf.inj he).symm))
        cases hx : s.bufs[id]? with
        | none =>
          exact .inr ⟨3, by simp only [par_step, htw, hcont, hheld, hbuf, wGot_shape, hmh, hc.ws.free_erase, HCorr.held hc.hs,
            hc.sh, hx, List.getElem?_set_self hwlt]⟩
        | some x =>
          cases hn : x.num with
          | none =>
            exact .inr ⟨3, by simp only [par_step, htw, hcont, hheld, hbuf, wGot_shape, hmh, hc.ws.free_erase,
              HCorr.held hc.hs, hc.sh, hx, hn, List.getElem?_set_self hwlt]⟩
          | some n => exact .step (Step.w_lock w id n x hwk hx hn hl)
    | encoded id n res =>
      obtain ⟨hcont, hheld, hbuf, hfn, henc⟩ := htc
      by_cases hcap : s.refillQ.length < p.refillCap
      · exact .step (Step.refill_send w id n res hwk hcap)
      · exact .inr ⟨1, by simp only [par_step, htw, hcont, wEncoded_shape, hc.sh, hcap, List.getElem?_set_self hwlt]⟩
    | sent id n res =>
      cases res with
      | some f => exact .step (Step.w_push w id n f hwk)
      | none => exact .step (Step.w_err w id n hwk)

theorem C06G_main_dichotomy {p fill g s} (hf : fill = fillInterleaved ∨ fill = fillLeBytes) (hc : Corr p g s) :
    EnabledOrStuck p fill .main g s := by
  have hmc := hc.main.1
  rw [MCorrPc] at hmc
  cases hpc : s.main with
  | recv =>
    rw [hpc] at hmc
    cases hq : s.refillQ with
    | nil => exact .inr ⟨0, by simp only [par_step, hmc.1, mRecv_shape, hc.sh, hq]⟩
    | cons x rest => exact .step (Step.refill_recv x rest hpc hq)
  | locked id =>
    rw [hpc] at hmc
    obtain ⟨hcont, hheld, hbuf, hfc, hrd, hre⟩ := hmc
    obtain ⟨n, hn⟩ := mLocked_shape
    by_cases hnf : p.readFailAt = some s.k
    · exact .step (Step.f_read_err id hpc hnf)
    · cases hb : p.blocks[s.k]? with
      | some b =>
        cases hx : s.bufs[id]? with
        | none => exact .inr ⟨2, by simp only [par_step, hcont, hbuf, hrd, hn, hc.sh, hnf, hb, hx]⟩
        | some x =>
          by_cases hcap : s.md5Q.length < Par.md5Cap
          · exact .step (Step.md5_data id b x hpc hnf hcap hb hx)
          · refine .inr ⟨8, ?_⟩
            rcases hf with rfl | rfl <;>
              simp only [par_step, hcont, hbuf, hrd, hn, fillInterleaved, fillLeBytes, hc.sh, hnf, hb, hx, hcap]
      | none =>
        cases hes : p.eofSendsEmpty with
        | false => exact .step (Step.f_eof_plain id hpc hnf (List.getElem?_eq_none_iff.1 hb) hes)
        | true =>
          by_cases hcap : s.md5Q.length < Par.md5Cap
          · exact .step (Step.md5_eof id hpc hnf hcap hb hes)
          · refine .inr ⟨8, ?_⟩
            rcases hf with rfl | rfl <;>
              simp only [par_step, hcont, hrd, hn, fillInterleaved, fillLeBytes, hc.sh, hnf, hb, hes, hcap]
  | eofEmpty id => exact .step (Step.f_eof_empty id hpc)
  | filledMd5 id =>
    rw [hpc] at hmc
    obtain ⟨hcont, hheld, hbuf, hrr, hfc, hrd, hre⟩ := hmc
    cases hx : s.bufs[id]? with
    | none =>
      exact .inr ⟨4, by simp only [par_step, reduceCtorEq, hcont, hbuf, hrr, mAfterSend_shape, mAfterRead_shape, hc.sh, hx]⟩
    | some x => exact .step (Step.f_filled id x hpc hx)
  | enq id =>
    rw [hpc] at hmc
    by_cases hcap : s.encodeQ.length < p.encodeCap
    · exact .step (Step.enc_send_some id hpc hcap)
    · exact .inr ⟨0, by simp only [par_step, hmc.1, mEnq_shape, hc.sh, hcap]⟩
  | stop r =>
    rw [hpc] at hmc
    obtain ⟨r', hr, hok, herr, hheld⟩ := hmc
    by_cases hcap : s.encodeQ.length < p.encodeCap
    · exact .step (Step.enc_send_none r' (hr ▸ hpc) hcap)
    · cases hre : s.readErr with
      | false => exact .inr ⟨0, by simp only [par_step, hok hre, mStopOk_shape, hc.sh, hcap]⟩
      | true => exact .inr ⟨0, by simp only [par_step, herr hre, mStopErr_shape, hc.sh, hcap]⟩
  | reqStop =>
    rw [hpc] at hmc
    by_cases hcap : s.md5Q.length < Par.md5Cap
    · exact .step (Step.md5_stop hpc hcap)
    · exact .inr ⟨0, by simp only [par_step, hmc.1, mReqStop_shape, hc.sh, hcap]⟩
  | joinH =>
    rw [hpc] at hmc
    have hhc := hc.hs
    cases hhx : s.hasher with
    | exited => exact .step (Step.joined_hasher hpc hhx)
    | running =>
      rw [hhx] at hhc
      exact .inr ⟨0, by simp only [par_step, hmc.1, mJoinH_shape, hhc.1, hRun_shape]⟩
  | joinW j =>
    rw [hpc] at hmc
    obtain ⟨r, hr, hcont, hheld, hjd, hfe⟩ := hmc
    by_cases hjx : j < s.exitedCount
    · exact .step (Step.joined_worker j hpc hjx)
    · have hjx : ¬ j < s.workers.count .exited := hjx
      exact .inr ⟨0, by simp only [par_step, hcont, hjd, mJoinW_shape, WsCorr.exited hc.ws, hjx]⟩
  | done =>
    rw [hpc] at hmc
    exact .inr ⟨0, by simp only [par_step, hmc.1]⟩

/-- Simulation, generated programs -> hand model (full).  From corresponding states, every protocol step a thread of the
generated programs can reach by internal steps is a `Par.step` of the hand model with the same event, and the thread's
internal steps that follow lead to a state corresponding to the hand successor.  (A thread the hand model blocks is
stuck in the program: `C06G_main_dichotomy`, `C06G_worker_dichotomy`, `C06G_hasher_dichotomy`.) -/
theorem C06G_bwd {p : Params} {fill : List Stmt} (hf : fill = fillInterleaved ∨ fill = fillLeBytes)
    {g : PState} {s : State} (hc : Corr p g s) (tid : Tid) {a : Nat} {g1 g2 : PState} {e : Ev}
    (h1 : runTau (env p fill) tid a g = some g1) (h2 : visStep (env p fill) tid g1 = some (e, g2)) :
    ∃ s', Par.step p s e = some s' ∧ tidOf e = tid ∧ ∃ b g', runTau (env p fill) tid b g2 = some g' ∧ Corr p g' s' := by
  have hd : EnabledOrStuck p fill tid g s := by
    cases tid with
    | main => exact C06G_main_dichotomy hf hc
    | worker w => exact C06G_worker_dichotomy w hc
    | hasher => exact C06G_hasher_dichotomy hc
  rcases hd with ⟨e0, rfl, hsome⟩ | ⟨k, hk⟩
  · obtain ⟨s0, hs0⟩ := Option.isSome_iff_exists.mp hsome
    obtain ⟨he, b, g', hb, hc'⟩ := C06G_bwd_enabled hf e0 hc hs0 h1 h2
    subst he
    exact ⟨s0, hs0, rfl, b, g', hb, hc'⟩
  · exact (stuck_no_vis _ _ k g hk a g1 e g2 h1 h2).elim

/-- Simulation, program -> hand model, for the programs' own macro steps: from corresponding states every `macroStepC` of
any thread is a `Par.step` with the same event, and the state it ends in (the thread's first yield point - a notion of
the program text alone) corresponds to the hand successor. -/
theorem C06G_bwdC {p : Params} {fill : List Stmt} (hf : fill = fillInterleaved ∨ fill = fillLeBytes)
    {g g3 : PState} {s : State} (hc : Corr p g s) {tid : Tid} {a b : Nat} {e : Ev}
    (h : macroStepC (env p fill) tid a b g = some (e, g3)) :
    ∃ s', Par.step p s e = some s' ∧ tidOf e = tid ∧ Corr p g3 s' := by
  obtain ⟨g1, g2, h1, h2, _, _⟩ := macroStepC_unpack h
  obtain ⟨s', hs, ht, _⟩ := C06G_bwd hf hc tid h1 h2
  subst ht
  obtain ⟨a0, b0, gc, hm, hcc⟩ := C06G_fwdC hf e hc hs
  obtain ⟨_, rfl⟩ := macroStepC_unique h hm
  exact ⟨s', hs, rfl, hcc⟩

theorem C06G_prog_run_fwd {p : Params} {fill : List Stmt} (hf : fill = fillInterleaved ∨ fill = fillLeBytes) :
    ∀ (evs : List Ev) (g : PState) (s s' : State), Corr p g s → Par.run p s evs = some s' →
      ∃ g', ProgRun (env p fill) g evs g' ∧ Corr p g' s' := by
  intro evs
  induction evs with
  | nil => intro g s s' hc h; cases h; exact ⟨g, .nil g, hc⟩
  | cons e evs ih =>
    intro g s s' hc h
    obtain ⟨s1, hs, h⟩ := run_cons_iff.1 h
    obtain ⟨a, b, g1, hm, hc1⟩ := C06G_fwdC hf e hc hs
    obtain ⟨g', hr, hc'⟩ := ih g1 s1 s' hc1 h
    exact ⟨g', .cons hm hr, hc'⟩

theorem C06G_prog_run_bwd {p : Params} {fill : List Stmt} (hf : fill = fillInterleaved ∨ fill = fillLeBytes)
    {g g' : PState} {evs : List Ev} (hr : ProgRun (env p fill) g evs g') :
    ∀ s, Corr p g s → ∃ s', Par.run p s evs = some s' ∧ Corr p g' s' := by
  induction hr with
  | nil g => intro s hc; exact ⟨s, rfl, hc⟩
  | cons hm _ ih =>
    intro s hc
    obtain ⟨s1, hs, _, hc1⟩ := C06G_bwdC hf hc hm
    obtain ⟨s', hrun, hc'⟩ := ih s1 hc1
    exact ⟨s', run_cons_iff.2 ⟨s1, hs, hrun⟩, hc'⟩

/-- Trace equivalence with a run notion of the program alone.  An event list is accepted by iterated `Par.step` from
`Par.init p` iff it is a run of the generated programs (`ParProg.ProgRun`: at every point any thread takes internal
steps, a protocol step, and internal steps up to its first yield point) from their start state; and the end states
correspond. -/
theorem C06G_traces_prog {p : Params} {fill : List Stmt} (hf : fill = fillInterleaved ∨ fill = fillLeBytes)
    (evs : List Ev) :
    ((∃ s', Par.run p (init p) evs = some s') ↔ ∃ g', ProgRun (env p fill) (start0 p) evs g') ∧
    (∀ s', Par.run p (init p) evs = some s' → ∃ g', ProgRun (env p fill) (start0 p) evs g' ∧ Corr p g' s') ∧
    (∀ g', ProgRun (env p fill) (start0 p) evs g' → ∃ s', Par.run p (init p) evs = some s' ∧ Corr p g' s') := by
  have hc := (C06G_start0 p fill).2
  have h1 : ∀ s', Par.run p (init p) evs = some s' → ∃ g', ProgRun (env p fill) (start0 p) evs g' ∧ Corr p g' s' :=
    fun s' h => C06G_prog_run_fwd hf evs _ _ s' hc h
  have h2 : ∀ g', ProgRun (env p fill) (start0 p) evs g' → ∃ s', Par.run p (init p) evs = some s' ∧ Corr p g' s' :=
    fun g' h => C06G_prog_run_bwd hf h _ hc
  refine ⟨⟨?_, ?_⟩, h1, h2⟩
  · rintro ⟨s', h⟩; obtain ⟨g', hr, _⟩ := h1 s' h; exact ⟨g', hr⟩
  · rintro ⟨g', h⟩; obtain ⟨s', hr, _⟩ := h2 g' h; exact ⟨s', hr⟩

/-- `C06G_result` for the macro step to the thread's yield point, the step `ParProg.ProgRun` takes. -/
theorem C06G_resultC {p : Params} {fill : List Stmt} {g : PState} {s s' : State} (e : Ev)
    (he : e = .m_joined_hasher ∨ e = .m_joined_worker) (hc : Corr p g s)
    (h : Par.step p s e = some s') (hd : s'.main = .done) :
    ∃ a b g', macroStepC (env p fill) (tidOf e) a b g = some (e, g') ∧ Corr p g' s' ∧ g'.main.cont = [] ∧
      g'.main.result = some s'.result ∧
        ∀ l, s'.result = .ok l → g'.main.digest = s'.hashed ∧ g'.main.sizesSet = true ∧ g'.main.totalSet = true := by
  rcases he with rfl | rfl
  · obtain ⟨b, g', h1, h2, h3⟩ := C06G_m_joined_hasher_fwd (fill := fill) hc h
    exact ⟨3, b, g', h1, h2, (h2.main.at hd).1.1, h3 hd⟩
  · obtain ⟨b, g', h1, h2, h3⟩ := C06G_m_joined_worker_fwd (fill := fill) hc h
    exact ⟨1, b, g', h1, h2, (h2.main.at hd).1.1, h3 hd⟩

/-- The result the generated main program assembles when it reaches the end equals `State.result` of the hand model
(the hand pc `done` is entered by the two join events only). -/
theorem C06G_result {p : Params} {fill : List Stmt} {g : PState} {s s' : State} (e : Ev)
    (he : e = .m_joined_hasher ∨ e = .m_joined_worker) (hc : Corr p g s)
    (h : Par.step p s e = some s') (hd : s'.main = .done) :
    ∃ a b g', macroStep (env p fill) .main a b g = some (e, g') ∧ Corr p g' s' ∧ g'.main.cont = [] ∧
      g'.main.result = some s'.result ∧
        ∀ l, s'.result = .ok l → g'.main.digest = s'.hashed ∧ g'.main.sizesSet = true ∧ g'.main.totalSet = true := by
  obtain ⟨a, b, g', hm, rest⟩ := C06G_resultC (fill := fill) e he hc h hd
  rcases he with rfl | rfl <;> exact ⟨a, b, g', macroStepC_sound hm, rest⟩

/-! ### two further run notions: `MacroRun` forgets the yield points, `CanonRun` carries the hand run with it -/

/-- A run of the generated programs in macro steps that need not end at a yield point: weaker than `ParProg.ProgRun`
(`macroRun_of_progRun`). -/
inductive MacroRun (en : Env) : PState → List Ev → PState → Prop
  | nil (g : PState) : MacroRun en g [] g
  | cons {g g1 g' : PState} {tid : Tid} {a b : Nat} {e : Ev} {evs : List Ev} :
      macroStep en tid a b g = some (e, g1) → MacroRun en g1 evs g' → MacroRun en g (e :: evs) g'

theorem macroRun_of_progRun {en : Env} {g g' : PState} {evs : List Ev} (h : ProgRun en g evs g') : MacroRun en g evs g' := by
  induction h with
  | nil g => exact .nil g
  | cons hm _ ih => exact .cons (macroStepC_sound hm) ih

/-- Every event list the hand model accepts from a state corresponding to `g` is a macro run of the generated programs
from `g`, ending in a corresponding state (`C06G_prog_run_fwd`, with the yield points forgotten). -/
theorem C06G_run_fwd {p : Params} {fill : List Stmt} (hf : fill = fillInterleaved ∨ fill = fillLeBytes) :
    ∀ (evs : List Ev) (g : PState) (s s' : State), Corr p g s → Par.run p s evs = some s' →
      ∃ g', MacroRun (env p fill) g evs g' ∧ Corr p g' s' := by
  intro evs g s s' hc h
  obtain ⟨g', hr, hc'⟩ := C06G_prog_run_fwd hf evs g s s' hc h
  exact ⟨g', macroRun_of_progRun hr, hc'⟩

/-- A run of the generated programs together with the hand run it corresponds to: each `cons` has the hand step
`Par.step p s e = some s1` and `Corr p g3 s1` among its premises.  A `CanonRun` therefore contains an accepted hand run by
construction (`C06G_canon_run_sound` uses nothing else); what has content is that one exists (`C06G_traces`, left to
right, `C06G_run_bwd`).  The run notion of the programs alone is `ParProg.ProgRun` (`C06G_traces_prog`). -/
inductive CanonRun (p : Params) (en : Env) : PState → State → List Ev → State → Prop
  | nil (g : PState) (s : State) : CanonRun p en g s [] s
  | cons {g g1 g2 g3 : PState} {s s1 s' : State} {tid : Tid} {a b : Nat} {e : Ev} {evs : List Ev} :
      runTau en tid a g = some g1 → visStep en tid g1 = some (e, g2) → runTau en tid b g2 = some g3 →
      Par.step p s e = some s1 → Corr p g3 s1 → CanonRun p en g3 s1 evs s' → CanonRun p en g s (e :: evs) s'

/-- Program -> hand model, one step: from corresponding states, any protocol step any thread of the generated programs
can reach is a one-event canonical run and is accepted by the hand model, and it ends in corresponding states again
(`C06G_bwd` supplies the hand step and the canonical continuation).  The statement over whole runs of the programs is
`C06G_prog_run_bwd`. -/
theorem C06G_run_bwd {p : Params} {fill : List Stmt} (hf : fill = fillInterleaved ∨ fill = fillLeBytes)
    {g : PState} {s : State} (hc : Corr p g s) (tid : Tid) {a : Nat} {g1 g2 : PState} {e : Ev}
    (h1 : runTau (env p fill) tid a g = some g1) (h2 : visStep (env p fill) tid g1 = some (e, g2)) :
    ∃ s1 b g3, CanonRun p (env p fill) g s [e] s1 ∧ runTau (env p fill) tid b g2 = some g3 ∧ Corr p g3 s1 ∧
      Par.run p s [e] = some s1 := by
  obtain ⟨s1, hs, _, b, g3, hb, hc3⟩ := C06G_bwd hf hc tid h1 h2
  exact ⟨s1, b, g3, .cons h1 h2 hb hs hc3 (.nil g3 s1), hb, hc3, run_cons_iff.2 ⟨s1, hs, rfl⟩⟩

theorem C06G_canon_run_sound {p : Params} {en : Env} : ∀ (evs : List Ev) (g : PState) (s s' : State),
    CanonRun p en g s evs s' → Par.run p s evs = some s' := by
  intro evs g s s' h
  induction h with
  | nil g s => rfl
  | cons _ _ _ hs _ _ ih => exact run_cons_iff.2 ⟨_, hs, ih⟩

/-- From corresponding states `g`, `s`, an event list is accepted by iterated `Par.step` iff a `CanonRun` for it exists.
Left to right is the simulation `C06G_fwd` step by step; right to left holds by the definition of `CanonRun`, whose steps
carry the hand steps, for any `g`.  The equivalence with runs of the programs alone is `C06G_traces_prog`. -/
theorem C06G_traces {p : Params} {fill : List Stmt} (hf : fill = fillInterleaved ∨ fill = fillLeBytes)
    {g : PState} {s : State} (hc : Corr p g s) (evs : List Ev) (s' : State) :
    Par.run p s evs = some s' ↔ CanonRun p (env p fill) g s evs s' := by
  constructor
  · intro h
    induction evs generalizing g s with
    | nil => cases h; exact .nil g _
    | cons e evs ih =>
      obtain ⟨s1, hs, h⟩ := run_cons_iff.1 h
      obtain ⟨a, b, g3, hm, hc1⟩ := C06G_fwd hf e hc hs
      obtain ⟨x1, x2, hx1, hx2, hx3⟩ := macroStep_unpack hm
      exact .cons hx1 hx2 hx3 hs hc1 (ih hc1 h)
  · exact C06G_canon_run_sound evs g s s'

/-! ## the worker count (`determine_worker_count`, generated as `Gen.Par.determineWorkerCount`) -/

theorem filter_pos_getD (o : Option Nat) (d : Nat) (hd : 0 < d) :
    0 < Option.getD (Option.filter (fun n => decide (n > 0)) o) d := by
  cases o with
  | none => simpa using hd
  | some v =>
    by_cases hv : v > 0
    · simp [Option.filter, hv]
    · simp [Option.filter, hv]; exact hd

/-- `determine_worker_count` returns `Err` exactly when `available_parallelism()` does. -/
theorem C06G_worker_count_total (ap : Nat) (envv : Option String) (config : FlacVerif.Gen.Encoder) :
    ∃ W, determineWorkerCount (some ap) envv config = some W := ⟨_, rfl⟩

theorem C06G_worker_count_err (envv : Option String) (config : FlacVerif.Gen.Encoder) :
    determineWorkerCount none envv config = none := rfl

/-- The hypothesis `0 < p.W` of the C05 / C06 top theorems is discharged for the current source: for every value of the
environment variable (also `"0"`, `""`, garbage, overflow) and every configuration, the worker count is at least 1,
given what the types guarantee: `available_parallelism()` and `config.workers` are `NonZeroUsize`. -/
theorem C06G_worker_count_pos (ap : Nat) (hap : 1 ≤ ap) (envv : Option String) (config : FlacVerif.Gen.Encoder)
    (hcfg : ∀ n, config.workers = some n → 0 < n) (W : Nat)
    (h : determineWorkerCount (some ap) envv config = some W) : 0 < W := by
  simp only [determineWorkerCount, ParProg.bindO] at h
  injection h with h
  subst h
  cases hw : config.workers with
  | none => simp only [ParProg.mapOr]; exact filter_pos_getD _ _ hap
  | some n => simp only [ParProg.mapOr]; exact hcfg n hw

/-- an explicit `config.workers = Some(n)` wins over the environment and the core count -/
theorem C06G_worker_count_config (ap : Nat) (envv : Option String) (config : FlacVerif.Gen.Encoder) (n : Nat)
    (h : config.workers = some n) : determineWorkerCount (some ap) envv config = some n := by
  simp [determineWorkerCount, ParProg.bindO, ParProg.mapOr, h]

/-- without `config.workers`: a positive decimal value of the environment variable wins, anything else (unset, `"0"`,
not a number) leaves the core count -/
theorem C06G_worker_count_env (ap : Nat) (envv : Option String) (config : FlacVerif.Gen.Encoder)
    (h : config.workers = none) :
    determineWorkerCount (some ap) envv config =
      some (match envv.bind (ParProg.parseUsize 64) with | some (n + 1) => n + 1 | _ => ap) := by
  simp only [determineWorkerCount, ParProg.bindO, ParProg.mapOr, h]
  cases hb : envv.bind (fun s => ParProg.parseUsize 64 s) with
  | none => simp [Option.filter]
  | some v => cases v <;> simp [Option.filter]

/-- the reading of `str::parse::<usize>` on the interesting strings -/
example : ParProg.parseUsize 64 "3" = some 3 ∧ ParProg.parseUsize 64 "+12" = some 12 ∧ ParProg.parseUsize 64 "007" = some 7 ∧
    ParProg.parseUsize 64 "0" = some 0 ∧ ParProg.parseUsize 64 "" = none ∧ ParProg.parseUsize 64 "+" = none ∧
    ParProg.parseUsize 64 " 3" = none ∧ ParProg.parseUsize 64 "3 " = none ∧ ParProg.parseUsize 64 "-1" = none ∧
    ParProg.parseUsize 64 "1_0" = none ∧ ParProg.parseUsize 64 "x" = none ∧
    ParProg.parseUsize 64 "18446744073709551615" = some 18446744073709551615 ∧
    ParProg.parseUsize 64 "18446744073709551616" = none := by decide +kernel

/-- `FLACENC_WORKERS=0` does NOT give zero workers (the `.filter(|n| *n > 0)` guard); `FLACENC_WORKERS=3` gives 3. -/
example (config : FlacVerif.Gen.Encoder) (h : config.workers = none) :
    determineWorkerCount (some 8) (some "0") config = some 8 ∧ determineWorkerCount (some 8) (some "3") config = some 3 := by
  constructor <;> simp [determineWorkerCount, ParProg.bindO, ParProg.mapOr, h] <;> decide

end FlacVerif.C06Gen
