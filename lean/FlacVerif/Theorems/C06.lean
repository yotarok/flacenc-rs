/-
C06 — The multi-thread encoder never deadlocks, always terminates, joins all its threads and
returns what the single-thread loop returns, for every worker count `W ≥ 1`, every block list, every
fault plan (read error at read `k`, blocks with out-of-range samples, any combination) and every
interleaving.

Property theorems only. Model `FlacVerif/Model/Par.lean`, invariants `FlacVerif/Lemmas/Par*.lean`.
Blocking (send on a full channel, receive on an empty one, `join` of a running thread, `lock` of a
held mutex) is modelled as disabledness, so "some step is enabled" means "some thread is not
blocked"; there is no busy-waiting in the code, hence no fairness assumption is needed.
-/
import FlacVerif.Lemmas.ParInv
import FlacVerif.Lemmas.ParFinal
import FlacVerif.Lemmas.ParLive
import FlacVerif.Lemmas.ParPot
import FlacVerif.Lemmas.ParExamples
import FlacVerif.Lemmas.ParEmptyBlock
namespace FlacVerif
open Par

/-- Every reachable state that is not final has an enabled step; it can be chosen so that a `join` of a worker is only
used when *all* workers have exited, and a `join` of the hasher only when it has exited. So the result also
holds for the real `JoinHandle::join`, which waits for one particular worker. -/
theorem C06_deadlock_free_strong (p : Params) (hW : 0 < p.W) (hne : p.NonemptyBlocks)
    (s : State) (h : Reaches p s) (hnf : ¬ s.final) :
    ∃ e s', step p s e = some s' ∧
      (e = .m_joined_worker → ∀ pc ∈ s.workers, pc = .exited) ∧
      (e = .m_joined_hasher → s.hasher = .exited) := by
  obtain ⟨hC, hT, hN, hM⟩ := InvAll_of_reaches h
  obtain ⟨e, s', hs, hj⟩ := progress hW hC hT hN (hM hne) hnf
  refine ⟨e, s', step_of_Step hs, hj, ?_⟩
  intro he; subst he; cases hs; assumption

/-- Every reachable state that is not final has an enabled step. -/
theorem C06_deadlock_free (p : Params) (hW : 0 < p.W) (hne : p.NonemptyBlocks)
    (s : State) (h : Reaches p s) (hnf : ¬ s.final) : ∃ e s', step p s e = some s' :=
  let ⟨e, s', hs, _⟩ := C06_deadlock_free_strong p hW hne s h hnf
  ⟨e, s', hs⟩

/-- The potential (`Par.potential`: weighted sum of unread blocks, queue contents and program
counters) strictly decreases with every step, from any state whatsoever. -/
theorem C06_potential_decreases (p : Params) (s s' : State) (e : Ev) (h : step p s e = some s') :
    potential p s' < potential p s :=
  potential_decreases (Step_of_step h)

/-- Every run is finite; explicit bound `9·N + 3·W + 7` on the number of events. -/
theorem C06_run_length (p : Params) (evs : List Ev) (s : State) (h : replay p evs = .ok s) :
    evs.length ≤ 9 * p.blocks.length + 3 * p.W + 7 := by
  have := run_length_le (replay_ok_iff.1 h)
  rw [potential_init] at this; omega

-- Every run is finite: `C06_run_length` without its bound (and with a hypothesis on `W` that it does not need).
set_option linter.unusedVariables false in
theorem C06_terminates (p : Params) (hW : 0 < p.W) :
    ∃ bound, ∀ evs s, replay p evs = .ok s → evs.length ≤ bound :=
  ⟨_, fun evs s h => C06_run_length p evs s h⟩

/-- Final states: the return value is the single-thread return value (`Ok` with all frames in order;
`Err(Config)` if a block that was read is invalid and precedes the failing read; `Err(Source)` if a
read failed first), all workers and the hasher have exited and have been joined (`main = done` is
only reachable through `m_joined_hasher` and `W` × `m_joined_worker`), and no work is left in the
encode queue. -/
theorem C06_final (p : Params) (hW : 0 < p.W) (s : State) (h : Reaches p s) (hf : s.final) :
    s.result = seqResult p ∧ (∀ pc ∈ s.workers, pc = .exited) ∧ s.workers.length = p.W ∧
    s.hasher = .exited ∧ s.main = .done ∧ (∀ x ∈ s.encodeQ, x = none) := by
  obtain ⟨hC, _, hN, _⟩ := InvAll_of_reaches h
  have hF := final_facts hW hC hf
  exact ⟨final_result hC hN hF, hF.workersExited, hF.nworkers, hF.hasherExited,
    hf, hF.queueDrained⟩

/-- Which `Config` error is returned: the one recorded for the first invalid block (smallest key of
`parerrors`), and all reads up to that block had succeeded — exactly where the single-thread loop
stops with its `Config` error. -/
theorem C06_first_error (p : Params) (hW : 0 < p.W) (s : State) (h : Reaches p s) (hf : s.final)
    (n : Nat) (u : Unit) (rest : List (Nat × Unit)) (he : s.errors = (n, u) :: rest) :
    (∃ b, p.blocks[n]? = some b ∧ b.valid = false) ∧
    (∀ j b, j < n → p.blocks[j]? = some b → b.valid = true) ∧
    (∀ j, j ≤ n → p.readFailAt ≠ some j) := by
  obtain ⟨hC, _, hN, _⟩ := InvAll_of_reaches h
  exact final_first_error hC hN (final_facts hW hC hf) he

/-- Every partial run can be completed: from every reachable state some continuation reaches a final
state (deadlock freedom + termination). In particular final states exist for all parameters. -/
theorem C06_completes (p : Params) (hW : 0 < p.W) (hne : p.NonemptyBlocks) (s : State)
    (h : Reaches p s) : ∃ evs s', run p s evs = some s' ∧ s'.final := by
  generalize hn : potential p s = n
  induction n using Nat.strongRecOn generalizing s with
  | _ n ih =>
    by_cases hf : s.final
    · exact ⟨[], s, rfl, hf⟩
    · obtain ⟨e, s1, hs⟩ := C06_deadlock_free p hW hne s h hf
      have hdec := C06_potential_decreases p s s1 e hs
      obtain ⟨evs, s', hrun, hfin⟩ := ih (potential p s1) (by omega) s1 (Reaches.step h hs) rfl
      exact ⟨e :: evs, s', run_cons_iff.2 ⟨s1, hs, hrun⟩, hfin⟩

/-- A maximal run (no step enabled at its end) ends in a final state. -/
theorem C06_maximal_run_final (p : Params) (hW : 0 < p.W) (hne : p.NonemptyBlocks) (s : State)
    (h : Reaches p s) (hmax : ∀ e, step p s e = none) : s.final := by
  apply Decidable.byContradiction
  intro hf
  obtain ⟨e, s', hs⟩ := C06_deadlock_free p hW hne s h hf
  rw [hmax e] at hs; cases hs

/-- Negative control: with `W = 0` nothing can ever happen (the refill queue is empty and there is no
worker), and the initial state is not final. The code excludes `W = 0`: `config.workers` is
`NonZeroUsize` and `FLACENC_WORKERS=0` is ignored (`.filter(|n| *n > 0)`). -/
theorem C06_W0_deadlock (p : Params) (hW : p.W = 0) :
    (∀ e, step p (init p) e = none) ∧ ¬ (init p).final := by
  refine ⟨?_, by simp [State.final, init]⟩
  intro e
  cases e <;> simp [step, init, hW, Params.nbuf]
  case encode_send x => cases x <;> simp

/-- No panic at `frame_number.expect(FRAMENUM_NOT_SET)`, no out-of-range buffer index: whenever a
worker has received a buffer id, that buffer exists, is labelled with a frame number `n` that has been
handed out, and holds block `n`; and the worker's `lock` cannot block (see `C05_no_lock_contention`). -/
theorem C06_framenum_set (p : Params) (s : State) (h : Reaches p s) (id : Nat)
    (hpc : WPc.got id ∈ s.workers) :
    ∃ x n, s.bufs[id]? = some x ∧ x.num = some n ∧ n < s.k ∧ p.blocks[n]? = some x.blk := by
  obtain ⟨_, _, hN, _⟩ := InvAll_of_reaches h
  obtain ⟨n, x, h1, h2, h3, h4⟩ := hN.workers _ hpc
  exact ⟨x, n, h1, h2, h3, h4⟩

/-- Channel capacities are respected; moreover the refill channel is never full (so `enqueue_refill`
never blocks) and stop tokens are queued only behind all work items. -/
theorem C06_capacities (p : Params) (s : State) (h : Reaches p s) :
    s.refillQ.length ≤ 2 * p.W ∧ s.encodeQ.length ≤ p.encodeCap ∧ s.md5Q.length ≤ md5Cap ∧
    NSAN s.encodeQ ∧ (0 < s.exitedCount → ∀ x ∈ s.encodeQ, x = none) := by
  obtain ⟨hC, hT, _⟩ := InvAll_of_reaches h
  exact ⟨hT.refill_le, hC.capE, hC.capM, hC.shape, hC.drained⟩

/-- MD5 channel: at every moment, what was hashed followed by the queued blocks is the byte stream
of the blocks read so far, and only stop tokens follow the data in the queue. -/
theorem C06_md5_stream (p : Params) (hne : p.NonemptyBlocks) (s : State) (h : Reaches p s) :
    ∃ d e, s.md5Q = d ++ List.replicate e [] ∧ (∀ b ∈ d, b ≠ []) ∧
      s.hashed ++ d.flatten = prefixBytes p (md5Sent s.main s.k) ∧
      (s.hasher = .exited → d = []) := by
  obtain ⟨_, _, _, hM⟩ := InvAll_of_reaches h
  obtain ⟨d, e, h1, h2, h3, _, h5⟩ := hM hne
  exact ⟨d, e, h1, h2, h3, fun hh => (h5 hh).1⟩

/-- Why `NonemptyBlocks` is assumed: the empty byte block doubles as the stop token of the md5
channel. With an input whose first block is empty the model reaches a state that is not final and
in which no step at all is enabled (`W = 1`, 18 blocks; the hasher exited on the empty data block,
the md5 channel is full, the feeder waits forever). The sources shipped with the crate never produce
such a block (a read of 0 samples is end-of-input). -/
theorem C06_empty_block_deadlock :
    ∃ s, Reaches Examples.pEmptyBlock s ∧ ¬ s.final ∧ ∀ e, step Examples.pEmptyBlock s e = none := by
  have h : (match run Examples.pEmptyBlock (init Examples.pEmptyBlock) Examples.trEmptyBlock with
    | some s => decide (StuckOnMd5 Examples.pEmptyBlock s) | none => false) = true := by decide +kernel
  cases hr : run Examples.pEmptyBlock (init Examples.pEmptyBlock) Examples.trEmptyBlock with
  | none => rw [hr] at h; cases h
  | some s =>
    rw [hr] at h
    have hs : StuckOnMd5 Examples.pEmptyBlock s := of_decide_eq_true h
    refine ⟨s, Reaches_of_run Reaches.init hr, ?_, hs.no_step⟩
    obtain ⟨⟨id, hm⟩, _⟩ := hs
    intro hf; rw [State.final, hm] at hf; cases hf

theorem reaches_of_outcome {p : Params} {tr : List Ev} {r : Except ErrKind (List Nat)}
    {hd : List Nat} (h : outcome p tr = some (r, hd)) :
    ∃ s, Reaches p s ∧ s.final ∧ s.result = r ∧ s.hashed = hd :=
  Reaches_of_outcome h

/-! ### non-vacuity: complete runs with faults (`W = 1`, two blocks), checked by the kernel -/

section
open Par.Examples

/-- read 1 fails: the run completes with `Err(Source)`, block 0 was hashed -/
example : ∃ s, Reaches pReadFail s ∧ s.final ∧ s.result = .error .source ∧ s.hashed = [1, 2] :=
  reaches_of_outcome (tr := trReadFail) (by decide)

/-- block 0 invalid: the run completes with `Err(Config)` -/
example : ∃ s, Reaches pInvalid s ∧ s.final ∧ s.result = .error .config ∧
    s.hashed = [1, 2, 5, 6] :=
  reaches_of_outcome (tr := trInvalid) (by decide)

example : ∃ s, Reaches pOk s ∧ s.final ∧ s.result = .ok [0, 1] ∧ s.hashed = [1, 2, 5, 6] :=
  reaches_of_outcome (tr := trOk) (by decide)

example : seqResult pOk = .ok [0, 1] ∧ seqResult pReadFail = .error .source ∧
    seqResult pInvalid = .error .config := by decide

example : 0 < pReadFail.W ∧ pReadFail.NonemptyBlocks ∧ pInvalid.NonemptyBlocks := by
  refine ⟨by decide, ?_, ?_⟩ <;>
  · intro b hb
    simp [pReadFail, pInvalid, blk] at hb
    rcases hb with rfl | rfl <;> simp

/-- the initial state of a `W = 1` run is not final and not stuck -/
example : ¬ (init pOk).final ∧ step pOk (init pOk) (.refill_recv 0) ≠ none := by decide

end

end FlacVerif
