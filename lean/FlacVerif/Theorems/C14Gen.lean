/-
C14Gen — the sample-delivery path as the Rust source states it (Gen/Source.lean, generated by part `source` of
tools/translate.py = tools/translate_source.py from src/arrayutils.rs, src/source.rs, src/par.rs, src/error.rs) is the
hand-written model of Model/Source.lean, Model/Encoder.lean, Model/Api.lean, Model/Encode.lean — for ALL argument values in
the domains of the Rust types (explicit hypotheses: byte values < 256, lengths below the limits of a Rust allocation,
counters that do not overflow `usize`), including the absence of panics (`= some ..`).  Most theorems are followed by an `example`
on a concrete value.  Properties served: C14 (integer / packed-byte delivery), C03 (what is hashed and counted), C17 (which
arguments are rejected, and that rejection is an `Err`, not a panic).
-/
import FlacVerif.Lemmas.SourcePrelude
import FlacVerif.Lemmas.Bits
import FlacVerif.Lemmas.ScratchVec
import FlacVerif.Model.Api
import FlacVerif.Model.Encode
import FlacVerif.Theorems.C14
namespace FlacVerif.C14Gen
open FlacVerif.Gen.Source FlacVerif.Prelude

/-- writes at places that agree (`idx x = idx y → val x = val y`): cell `idx x` ends up holding `val x`, the other
cells are untouched, the length is kept -/
theorem foldl_set_spec {α β : Type} (idx : α → Nat) (val : α → β) (dflt : β) :
    ∀ (xs : List α) (d : List β),
      (xs.foldl (fun d x => d.set (idx x) (val x)) d).length = d.length ∧
      ∀ i, ((∀ x ∈ xs, idx x ≠ i) → (xs.foldl (fun d x => d.set (idx x) (val x)) d).getD i dflt = d.getD i dflt) ∧
           (∀ x ∈ xs, idx x = i → (∀ y ∈ xs, idx y = i → val y = val x) → i < d.length →
              (xs.foldl (fun d x => d.set (idx x) (val x)) d).getD i dflt = val x) := by
  intro xs
  induction xs with
  | nil => intro d; exact ⟨rfl, fun i => ⟨fun _ => rfl, fun x hx => by simp at hx⟩⟩
  | cons a xs ih =>
    intro d
    obtain ⟨hl, hi⟩ := ih (d.set (idx a) (val a))
    refine ⟨by simpa using hl, fun i => ⟨?_, ?_⟩⟩
    · intro hne
      rw [List.foldl_cons, (hi i).1 (fun x hx => hne x (by simp [hx]))]
      have : idx a ≠ i := hne a (by simp)
      simp [List.getD_eq_getElem?_getD, this]
    · intro x hx hxi hall hlt
      rw [List.foldl_cons]
      by_cases hex : ∃ y ∈ xs, idx y = i
      · obtain ⟨y, hy, hyi⟩ := hex
        rw [(hi i).2 y hy hyi (fun z hz hzi => by
          rw [hall z (by simp [hz]) hzi, hall y (by simp [hy]) hyi]) (by simpa using hlt)]
        exact hall y (by simp [hy]) hyi
      · have hne : ∀ y ∈ xs, idx y ≠ i := fun y hy h => hex ⟨y, hy, h⟩
        rw [(hi i).1 hne]
        have hxa : x = a := by
          rcases List.mem_cons.mp hx with h | h
          · exact h
          · exact absurd hxi (hne x h)
        subst hxa
        simp [List.getD_eq_getElem?_getD, hxi, hlt]

theorem idx_lt (stride ch c t : Nat) (hc : c < ch) (ht : t < stride) : stride * c + t < stride * ch := by
  have : stride * (c + 1) ≤ stride * ch := Nat.mul_le_mul_left _ hc
  rw [Nat.mul_succ] at this; omega

theorem src_lt (ch t c n : Nat) (hc : c < ch) (ht : t < n / ch) : ch * t + c < n := by
  have hpos : 0 < ch := by omega
  have : (t + 1) * ch ≤ n := (Nat.le_div_iff_mul_le hpos).mp ht
  rw [Nat.succ_mul, Nat.mul_comm] at this; omega

/-- the value the Rust loops store in cell `(c, t)` -/
def cell (src : List Int) (ch t c : Nat) : Int := if t < src.length / ch then src.getD (ch * t + c) 0 else 0

/-- all cells `(c, t)`, `t < T`, `c < ch`, written in the order of the Rust loops -/
def fillCells (src : List Int) (ch stride T : Nat) (dest : List Int) : List Int :=
  (List.range T).foldl (fun d t => (List.range ch).foldl (fun d c => d.set (stride * c + t) (cell src ch t c)) d) dest

theorem div_of_eq_mul (ch stride n : Nat) (hch : 1 ≤ ch) (h : n = stride * ch) : n / ch = stride := by
  rw [h]; exact Nat.mul_div_cancel _ hch

theorem fillCells_eq_model (src : List Int) (ch stride : Nat) (dest : List Int) (hch : ch ≠ 1)
    (hdest : dest.length = stride * ch) :
    fillCells src ch stride stride dest = FlacVerif.deinterleave src ch stride dest := by
  have hflat : fillCells src ch stride stride dest =
      (((List.range stride).flatMap (fun t => (List.range ch).map (fun c => (t, c)))).foldl
        (fun d (p : Nat × Nat) => d.set (stride * p.2 + p.1) (cell src ch p.1 p.2)) dest) := by
    simp only [fillCells, List.foldl_flatMap, List.foldl_map]
  rw [hflat]
  obtain ⟨hlen, hcells⟩ := foldl_set_spec (fun p : Nat × Nat => stride * p.2 + p.1) (fun p => cell src ch p.1 p.2) (0 : Int)
    ((List.range stride).flatMap (fun t => (List.range ch).map (fun c => (t, c)))) dest
  apply List.ext_getElem
  · rw [hlen, SourceLemmas.deinterleave_length]
  · intro i h1 h2
    rw [hlen] at h1
    have hi : i < stride * ch := hdest ▸ h1
    have hsp : 0 < stride := by
      rcases Nat.eq_zero_or_pos stride with h | h
      · subst h; simp at hi
      · exact h
    have hc : i / stride < ch := Nat.div_lt_of_lt_mul hi
    have ht : i % stride < stride := Nat.mod_lt _ hsp
    have hmem : (i % stride, i / stride) ∈ (List.range stride).flatMap (fun t => (List.range ch).map (fun c => (t, c))) := by
      simp only [List.mem_flatMap, List.mem_range, List.mem_map]
      exact ⟨i % stride, ht, i / stride, hc, rfl⟩
    have hval := (hcells i).2 (i % stride, i / stride) hmem (Nat.div_add_mod i stride) (by
      intro y hy hyi
      simp only [List.mem_flatMap, List.mem_range, List.mem_map] at hy
      obtain ⟨t', ht', c', hc', rfl⟩ := hy
      simp only at hyi ⊢
      have h1 : i / stride = c' := by
        rw [← hyi, Nat.mul_add_div hsp, Nat.div_eq_of_lt ht', Nat.add_zero]
      have h2 : i % stride = t' := by
        rw [← hyi, Nat.mul_add_mod, Nat.mod_eq_of_lt ht']
      rw [h1, h2]) h1
    have hg : ∀ (l : List Int) (h : i < l.length), l[i] = l.getD i 0 := by
      intro l h; simp [List.getD_eq_getElem?_getD, h]
    rw [hg _ (by rw [hlen]; exact h1), hval]
    have hds := div_of_eq_mul ch stride dest.length (Nat.zero_lt_of_lt hc) hdest
    simp only [FlacVerif.deinterleave, if_neg hch, List.getElem_map, List.getElem_range, hds, hc, ht, and_self, ↓reduceIte, cell]

theorem deinterleave_gen_fill (src : List Int) (ch stride : Nat) (dest : List Int) (hch : 1 ≤ ch)
    (hdest : dest.length = stride * ch) (hd : dest.length < 2 ^ 64) (hs : src.length < 2 ^ 64) :
    deinterleave_gen src ch stride dest = some (fillCells src ch stride stride dest) := by
  have hch0 : decide (ch ≠ 0) = true := by simp; omega
  unfold deinterleave_gen
  simp only [sourceReq_true _ _ hch0, div_of_eq_mul ch stride dest.length hch hdest]
  rw [forO_eq_loop]
  refine (loop_foldl (fun (d : List Int) => d.length = dest.length) _ _ _
    (fun (d : List Int) t => (List.range ch).foldl (fun (d : List Int) c => d.set (stride * c + t) (cell src ch t c)) d) rfl ?_).1
  intro t ht d hI
  rw [forO_eq_loop]
  apply loop_foldl (fun (d : List Int) => d.length = dest.length) _ _ _ _ hI
  intro c hc d hI
  simp only [List.mem_range] at ht hc
  have h1 := idx_lt stride ch c t hc ht
  rw [sourceReq_true, sourceReq_true]
  · exact ⟨by simp [cell], by simpa using hI⟩
  · simp only [Bool.and_eq_true, decide_eq_true_eq]; omega
  · split
    · rename_i hts
      have h2 := src_lt ch t c src.length hc hts
      simp only [Bool.and_eq_true, decide_eq_true_eq]; omega
    · rfl

/-- `repeat!(o to len ; while t0 + o < n => f o)` runs `f` for `o = k, k+1, ..` below the threshold -/
theorem repeatWhileO_thresh {σ : Type} (f : Nat → σ → Option σ) (c : Nat → Option Bool) (m : Nat) :
    ∀ (len k : Nat) (s : σ), (∀ o, o < k + len → c o = some (decide (o < m))) →
      repeatWhileO c f (List.range' k len) s = forO (List.range' k (min len (m - k))) s f := by
  intro len
  induction len with
  | zero => intro k s _; simp [repeatWhileO, forO]
  | succ len ih =>
    intro k s hc
    rw [List.range'_succ, repeatWhileO, hc k (by omega)]
    by_cases hk : k < m
    · have : min (len + 1) (m - k) = min len (m - (k + 1)) + 1 := by omega
      rw [this, List.range'_succ, forO_cons]
      simp only [hk, decide_true]
      cases f k s with
      | none => rfl
      | some s' => simp only [bindO]; exact ih (k + 1) s' (fun o ho => hc o (by omega))
    · have : min (len + 1) (m - k) = 0 := by omega
      rw [this]
      simp [hk, forO]

theorem countUp_blocks (N : Nat) (hN : 0 < N) (n : Nat) :
    (countUp 0 n N).flatMap (fun t0 => List.range' t0 (min N (n - t0))) = List.range n := by
  rw [countUp, steps_flatMap_blocks 0 n N hN, List.range_eq_range', Nat.sub_zero]

theorem foldl_blocked {σ : Type} (N : Nat) (hN : 0 < N) (G : σ → Nat → σ) (n : Nat) (s : σ) :
    (countUp 0 n N).foldl (fun s t0 => (List.range' 0 (min N (n - t0))).foldl (fun s o => G s (t0 + o)) s) s
      = (List.range n).foldl G s := by
  rw [← countUp_blocks N hN n, List.foldl_flatMap]
  congr 1
  funext s t0
  rw [← List.foldl_map, List.map_add_range', Nat.add_zero]

/-- the blocked loop (`t0` in steps of `N`, `o < N` while `cnd t0 o`) whose inner body is the pure step `G · (t0 + o)` wherever the
invariant `I` holds is the plain fold of `G` over `0 .. n-1` -/
theorem blocked_eq_foldl {σ : Type} (N : Nat) (hN : 0 < N) (I : σ → Prop) (G : σ → Nat → σ) (n : Nat) (cnd : Nat → Nat → Option Bool)
    (inner : Nat → Nat → σ → Option σ) (s : σ) (h0 : I s)
    (hc : ∀ t0 o, t0 < n → o < N → cnd t0 o = some (decide (t0 + o < n)))
    (hin : ∀ t0 o s, t0 + o < n → I s → inner t0 o s = some (G s (t0 + o)) ∧ I (G s (t0 + o))) :
    forO (countUp 0 n N) s (fun t0 s => repeatWhileO (cnd t0) (inner t0) (List.range N) s)
      = some ((List.range n).foldl G s) := by
  rw [← foldl_blocked N hN G n s]
  rw [forO_eq_loop]
  refine (loop_foldl I _ _ _ _ h0 ?_).1
  intro t0 ht0 s hI
  have ht := (mem_steps 0 n N t0 hN ht0).2
  rw [List.range_eq_range', repeatWhileO_thresh (inner t0) (cnd t0) (n - t0) N 0 s (by
    intro o ho
    rw [hc t0 o ht (by omega)]
    congr 1
    exact decide_eq_decide.mpr (by omega))]
  rw [Nat.sub_zero]
  rw [forO_eq_loop]
  apply loop_foldl I _ _ _ (fun s o => G s (t0 + o)) hI
  intro o ho s hI
  simp only [List.mem_range'_1] at ho
  exact hin t0 o s (by omega) hI

/-- the text `seq!` instantiates for `N = 2 .. 8`: `deinterleave_chN` of Gen/Source.lean is this at the literal `N` -/
def deinterleaveBlocked (N : Nat) (interleaved : List Int) (channel_stride : Nat) (dest : List Int) : Option (List Int) :=
  let dst_samples := dest.length / N
  let src_samples := interleaved.length / N
  let t0 : Nat := 0
  req (decide (dst_samples ≤ t0 ∨ t0 + ((dst_samples - t0 + (32 - 1)) / 32) * 32 < 18446744073709551616)) <|
  forO (countUp t0 dst_samples 32) dest (fun t0 dest =>
    repeatWhileO
      (fun offset =>
        req (decide (t0 + offset < 18446744073709551616)) <|
        some (decide ((t0 + offset) < dst_samples)))
      (fun offset dest =>
        forO (List.range N) dest (fun ch dest =>
          req (decide (t0 + offset < 18446744073709551616) && (if (t0 + offset) < src_samples then (((decide (t0 + offset < 18446744073709551616) && decide (N * (t0 + offset) < 18446744073709551616)) && decide ((N * (t0 + offset)) + ch < 18446744073709551616)) && decide (((N * (t0 + offset)) + ch) < interleaved.length)) else true)) <|
          req (((decide (channel_stride * ch < 18446744073709551616) && decide ((channel_stride * ch) + t0 < 18446744073709551616)) && decide (((channel_stride * ch) + t0) + offset < 18446744073709551616)) && decide ((((channel_stride * ch) + t0) + offset) < dest.length)) <|
          let dest := dest.set (((channel_stride * ch) + t0) + offset) (if (t0 + offset) < src_samples then interleaved.getD ((N * (t0 + offset)) + ch) 0 else (0 : Int))
          some dest))
      (List.range 32) dest)

theorem deinterleaveBlocked_fill (N : Nat) (hN : 1 ≤ N) (src : List Int) (stride : Nat) (dest : List Int)
    (hdest : dest.length = stride * N) (hd : dest.length < 2 ^ 61) (hs : src.length < 2 ^ 64) :
    deinterleaveBlocked N src stride dest = some (fillCells src N stride stride dest) := by
  have hstride : stride ≤ dest.length := hdest ▸ Nat.le_mul_of_pos_right stride hN
  unfold deinterleaveBlocked
  simp only [div_of_eq_mul N _ _ hN hdest]
  rw [sourceReq_decide _ _ (by omega)]
  unfold fillCells
  refine blocked_eq_foldl 32 (by decide) (fun (d : List Int) => d.length = dest.length) _ _ _ _ _ rfl ?_ ?_
  · intro t0 o ht ho
    rw [sourceReq_decide _ _ (by omega)]
  · intro t0 o d hto hI
    rw [forO_eq_loop]
    apply loop_foldl (fun (d : List Int) => d.length = dest.length) _ _ _ _ hI
    intro c hc d hI
    simp only [List.mem_range] at hc
    have h1 := idx_lt stride N c (t0 + o) hc hto
    rw [sourceReq_true, sourceReq_true]
    · exact ⟨by simp [cell, Nat.add_assoc], by simpa using hI⟩
    · simp only [Bool.and_eq_true, decide_eq_true_eq]; omega
    · simp only [Bool.and_eq_true, decide_eq_true_eq]
      refine ⟨by omega, ?_⟩
      split
      · rename_i hts
        have h2 := src_lt N (t0 + o) c _ hc hts
        simp only [Bool.and_eq_true, decide_eq_true_eq]; omega
      · rfl

theorem deinterleave_ch1_eq (src : List Int) (stride : Nat) (dest : List Int) :
    deinterleave_ch1 src stride dest = some (FlacVerif.deinterleave src 1 stride dest) := by
  unfold deinterleave_ch1
  simp only []
  rw [sourceReq_decide _ _ (by omega), sourceReq_decide _ _ (by omega),
    sourceReq_true _ _ (by simp only [decide_eq_true_eq, List.length_take]; omega)]
  simp [FlacVerif.deinterleave]

/-- **`deinterleave`** (all channel specialisations and the generic fallback) is the hand-written `deinterleave`, and does
not panic, on every buffer of `stride * ch` cells. -/
theorem C14G_deinterleave (src : List Int) (ch stride : Nat) (dest : List Int) (hch : 1 ≤ ch)
    (hdest : dest.length = stride * ch) (hd : dest.length < 2 ^ 61) (hs : src.length < 2 ^ 64) :
    Gen.Source.deinterleave src ch stride dest = some (FlacVerif.deinterleave src ch stride dest) := by
  unfold Gen.Source.deinterleave
  by_cases h1 : ch = 1
  · subst h1; simp only [↓reduceIte]; exact deinterleave_ch1_eq src stride dest
  rw [if_neg h1, ← fillCells_eq_model src ch stride dest h1 hdest]
  by_cases h2 : ch = 2
  · subst h2; rw [if_pos rfl]; exact deinterleaveBlocked_fill 2 (by decide) src stride dest hdest hd hs
  rw [if_neg h2]
  by_cases h3 : ch = 3
  · subst h3; rw [if_pos rfl]; exact deinterleaveBlocked_fill 3 (by decide) src stride dest hdest hd hs
  rw [if_neg h3]
  by_cases h4 : ch = 4
  · subst h4; rw [if_pos rfl]; exact deinterleaveBlocked_fill 4 (by decide) src stride dest hdest hd hs
  rw [if_neg h4]
  by_cases h5 : ch = 5
  · subst h5; rw [if_pos rfl]; exact deinterleaveBlocked_fill 5 (by decide) src stride dest hdest hd hs
  rw [if_neg h5]
  by_cases h6 : ch = 6
  · subst h6; rw [if_pos rfl]; exact deinterleaveBlocked_fill 6 (by decide) src stride dest hdest hd hs
  rw [if_neg h6]
  by_cases h7 : ch = 7
  · subst h7; rw [if_pos rfl]; exact deinterleaveBlocked_fill 7 (by decide) src stride dest hdest hd hs
  rw [if_neg h7]
  by_cases h8 : ch = 8
  · subst h8; rw [if_pos rfl]; exact deinterleaveBlocked_fill 8 (by decide) src stride dest hdest hd hs
  rw [if_neg h8]
  exact deinterleave_gen_fill src ch stride dest hch hdest (by omega) hs

example : Gen.Source.deinterleave [0, 0, -1, -2, 1, 2, -3, 6] 4 3 (List.replicate 12 (-123))
    = some (FlacVerif.deinterleave [0, 0, -1, -2, 1, 2, -3, 6] 4 3 (List.replicate 12 (-123))) ∧
    FlacVerif.deinterleave [0, 0, -1, -2, 1, 2, -3, 6] 4 3 (List.replicate 12 (-123)) = [0, 1, 0, 0, 2, 0, -1, -3, 0, -2, 6, 0] := by decide +kernel
example : Gen.Source.deinterleave [1, 2, 3] 1 4 [9, 9, 9, 9] = some [1, 2, 3, 9] := by decide

/-- what `le_bytes_to_i32s_impl::<k>` stores for the sample starting at byte `t`: `i32::from_le_bytes` of the four-byte buffer
whose last `k` bytes are `bytes[t ..]`, shifted right by the `4 - k` padding bytes -/
def sampleOf (k : Nat) (bytes : List Nat) (t : Nat) : Int :=
  (Int.bmod (leNat ((List.range 4).map (fun i => if i < 4 - k then 0 else bytes.getD (t + i - (4 - k)) 0)) : Int) 4294967296)
    >>> ((4 - k) * 8)

theorem padded_window (bytes : List Nat) (n k t : Nat) (hk : k ≤ n) :
    (List.range n).map (fun i => if i < n - k then 0 else bytes.getD (t + i - (n - k)) 0)
      = List.replicate (n - k) 0 ++ (List.range k).map (fun i => bytes.getD (t + i) 0) := by
  apply List.ext_getElem
  · simp; omega
  · intro i h1 h2
    simp only [List.getElem_map, List.getElem_range, List.getElem_append, List.length_replicate, List.getElem_replicate]
    split
    · rfl
    · congr 1; omega

theorem leNat_eq_leSum (c : List Nat) : leNat c = SourceLemmas.leSum c c.length := by
  induction c with
  | nil => rfl
  | cons b c ih => rw [List.length_cons, SourceLemmas.leSum_cons, ← ih]; rfl

theorem leNat_zeros (s : Nat) (c : List Nat) : leNat (List.replicate s 0 ++ c) = 2 ^ (8 * s) * leNat c := by
  induction s with
  | zero => simp
  | succ s ih =>
    rw [List.replicate_succ, List.cons_append, leNat, List.foldr_cons, ← leNat, ih, Nat.mul_succ, Nat.pow_add]
    simp only [Nat.reducePow, Nat.zero_add]
    rw [← Nat.mul_assoc, Nat.mul_comm 256]

theorem leNat_lt (c : List Nat) (h : ∀ b ∈ c, b < 256) : leNat c < 2 ^ (8 * c.length) := by
  induction c with
  | nil => simp [leNat]
  | cons b c ih =>
    have hb := h b (by simp)
    have := ih (fun x hx => h x (by simp [hx]))
    rw [List.length_cons, Nat.mul_succ, Nat.pow_add, leNat, List.foldr_cons, ← leNat]
    simp only [Nat.reducePow]
    omega

/-- the Rust conversion puts the `k` bytes of a sample in the HIGH bytes of an `i32` (`u32 = 2^(8(4-k)) · u`) and shifts
back arithmetically: the `k`-byte two's-complement reading of `u`, which is what `leToInt` computes -/
theorem sampleOf_eq (k : Nat) (hk : 1 ≤ k ∧ k ≤ 4) (bytes : List Nat) (hb : ∀ b ∈ bytes, b < 256) (j : Nat)
    (hj : k * j + k ≤ bytes.length) : sampleOf k bytes (j * k) = leToInt ((bytes.drop (k * j)).take k) := by
  have hcl : ((bytes.drop (k * j)).take k).length = k := by rw [List.length_take, List.length_drop]; omega
  have hlt := leNat_lt ((bytes.drop (k * j)).take k) (fun b h => hb b (List.mem_of_mem_drop (List.mem_of_mem_take h)))
  rw [hcl] at hlt
  have h32 : 4294967296 = 2 ^ (8 * (4 - k)) * 2 ^ (8 * k) := by
    rw [← Nat.pow_add, show 8 * (4 - k) + 8 * k = 32 by omega]
  unfold sampleOf
  rw [padded_window bytes 4 k (j * k) hk.2, Nat.mul_comm j k, ← getD_slice bytes (k * j) k 0 hj, leNat_zeros, h32,
    Nat.mul_comm (4 - k) 8, SourceLemmas.bmod_shiftRight _ (8 * k) _ (by omega),
    SourceLemmas.leToInt_eq_bmod _ (by rw [← leNat_eq_leSum, hcl]; exact hlt), ← leNat_eq_leSum, hcl]

/-- `for x in xs { dest[n .. n + k] = W x; n += k }` on a buffer of `L` cells, the counter staying within `N ≤ L` -/
theorem chunk_loop {α β : Type} (B : β → (List α × Nat) → Option (List α × Nat)) (k L N : Nat) (hN : N ≤ L) (W : β → List α)
    (hW : ∀ x, (W x).length = k) : ∀ (xs : List β) (d : List α) (n : Nat),
      (∀ x ∈ xs, ∀ d n, d.length = L → n + k ≤ N → B x (d, n) = some (d.take n ++ W x ++ d.drop (n + k), n + k)) →
      d.length = L → n + k * xs.length ≤ N →
      forO xs (d, n) B = some (d.take n ++ xs.flatMap W ++ d.drop (n + k * xs.length), n + k * xs.length) := by
  intro xs
  induction xs with
  | nil => intro d n _ _ _; simp [forO]
  | cons v xs ih =>
    intro d n hB hL h
    rw [List.length_cons, Nat.mul_succ] at h
    rw [forO_cons, hB v (by simp) d n hL (by omega), sourceBindO_some, ih _ (n + k) (fun x hx => hB x (by simp [hx])) (by
      simp only [List.length_append, List.length_take, List.length_drop, hW]; omega) (by omega)]
    refine congrArg some (Prod.ext ?_ (by simp only [List.length_cons, Nat.mul_succ]; omega))
    simp only [List.flatMap_cons, List.length_cons, Nat.mul_succ]
    have hA : (d.take n ++ W v).length = n + k := by
      simp only [List.length_append, List.length_take, hW]; omega
    have h1 : (d.take n ++ W v ++ d.drop (n + k)).take (n + k) = d.take n ++ W v := List.take_left' hA
    have h2 : (d.take n ++ W v ++ d.drop (n + k)).drop (n + k + k * xs.length) = d.drop (n + (k * xs.length + k)) := by
      rw [← List.drop_drop, List.drop_left' hA, List.drop_drop]
      congr 1; omega
    rw [h1, h2]; simp only [List.append_assoc]

/-- `for x in xs { dest[n] = S x; n += 1 }` -/
theorem set_loop {α β : Type} (B : β → (List α × Nat) → Option (List α × Nat)) (L N : Nat) (hN : N ≤ L) (S : β → α)
    (xs : List β) (d : List α) (n : Nat)
    (hB : ∀ x ∈ xs, ∀ d n, d.length = L → n < N → B x (d, n) = some (d.set n (S x), n + 1))
    (hL : d.length = L) (h : n + xs.length ≤ N) :
    forO xs (d, n) B = some (d.take n ++ xs.map S ++ d.drop (n + xs.length), n + xs.length) := by
  rw [chunk_loop B 1 L N hN (fun x => [S x]) (fun _ => rfl) xs d n ?_ hL (by omega), ← List.map_eq_flatMap, Nat.one_mul]
  intro x hx d n hL hn
  rw [hB x hx d n hL (by omega), List.set_eq_take_append_cons_drop, if_pos (by omega), List.append_assoc]
  rfl

theorem ceil_mul (k m : Nat) (hk : 0 < k) : (k * m + (k - 1)) / k = m := by
  rw [Nat.mul_comm, Nat.add_comm, Nat.add_mul_div_right _ _ hk, Nat.div_eq_of_lt (by omega), Nat.zero_add]

theorem countUp_zero_mul (k m : Nat) (hk : 0 < k) : countUp 0 (k * m) k = (List.range m).map (fun j => 0 + j * k) := by
  rw [countUp, Nat.sub_zero, ceil_mul k m hk]

theorem le_bytes_impl_eq (k : Nat) (hk : 1 ≤ k ∧ k ≤ 4) (bytes : List Nat) (hb : ∀ b ∈ bytes, b < 256) (m : Nat)
    (hl : bytes.length = k * m) (dest : List Int) (hd : m ≤ dest.length) (hbl : bytes.length < 2 ^ 63) :
    le_bytes_to_i32s_impl k bytes dest = some (leBytesToI32s k bytes ++ dest.drop m) := by
  have hdiv : bytes.length / k = m := by rw [hl]; exact Nat.mul_div_cancel_left m (by omega)
  have hmod : bytes.length % k = 0 := by rw [hl]; exact Nat.mul_mod_right k m
  have hm : m ≤ bytes.length := by rw [hl]; exact Nat.le_mul_of_pos_left m (by omega)
  have hjk : ∀ j, j < m → j * k + k ≤ bytes.length := by
    intro j hj
    have : (j + 1) * k ≤ m * k := Nat.mul_le_mul_right k hj
    rw [Nat.succ_mul, Nat.mul_comm m k, ← hl] at this; exact this
  unfold le_bytes_to_i32s_impl
  simp only []
  rw [sourceReq_decide _ _ (by omega), sourceReq_decide _ _ hmod, sourceReq_decide _ _ (by omega),
    sourceReq_decide _ _ (by omega), sourceReq_decide _ _ (by omega)]
  rw [sourceReq_true _ _ (by
    simp only [decide_eq_true_eq]
    rw [hl, Nat.sub_zero, ceil_mul k m (by omega), Nat.mul_comm m k, ← hl]; omega)]
  rewrite [show countUp 0 bytes.length k = (List.range m).map (fun j => 0 + j * k) from hl ▸ countUp_zero_mul k m (by omega),
    set_loop _ dest.length m hd (sampleOf k bytes) _ dest 0 ?_ rfl (by simp)]
  · rewrite [sourceBindO_some, List.length_map, List.length_range, SourceLemmas.leBytesToI32s_eq_map k (by omega) m bytes hl, List.map_map]
    simp only [Nat.zero_add, List.take_zero, List.nil_append]
    refine congrArg some (congrArg (· ++ List.drop m dest) (List.map_congr_left ?_))
    intro j hj
    simp only [List.mem_range] at hj
    rw [Function.comp_apply]
    exact sampleOf_eq k hk bytes hb j (by rw [Nat.mul_comm]; exact hjk j hj)
  · intro t ht d n hL hn
    obtain ⟨j, hj, rfl⟩ : ∃ j, j < m ∧ 0 + j * k = t := by
      simpa using ht
    have := hjk j hj
    simp only []
    rewrite [sourceReq_true, sourceReq_decide _ _ (by omega), sourceReq_decide _ _ (by omega)]
    · rfl
    · simp only [Bool.and_eq_true, decide_eq_true_eq, List.all_eq_true, List.mem_range]
      refine ⟨⟨?_, by omega, by omega⟩, by omega⟩
      intro i hi
      refine ⟨by omega, ?_⟩
      split
      · rfl
      · simp only [Bool.and_eq_true, decide_eq_true_eq]; omega

/-- the four little-endian bytes of an `i32` (`v.to_le_bytes()`), as the translator writes them -/
def le4 (v : Int) : List Nat := (List.range 4).map (fun i' => ((v % (4294967296 : Int)).toNat >>> (8 * i')) % 256)

theorem le4_eq (v : Int) : le4 v = Rfc.toLeBytes 4 v := by
  have e2 : (2:Int) ^ (8 * 4) = 4294967296 := by decide
  unfold le4 Rfc.toLeBytes
  rw [e2]

theorem C14G_i32s_to_le_bytes (xs : List Int) (k : Nat) (hk : k ≤ 4) (dest : List Nat)
    (hd : k * xs.length ≤ dest.length) (hlen : dest.length < 2 ^ 63) :
    i32s_to_le_bytes xs dest k = some (i32sToLeBytes k xs ++ dest.drop (k * xs.length)) := by
  unfold i32s_to_le_bytes
  simp only []
  rewrite [chunk_loop _ k dest.length dest.length (Nat.le_refl _) (Rfc.toLeBytes k) (fun v => C03.toLeBytes_length k v) xs dest 0 ?_ rfl (by omega)]
  · rw [sourceBindO_some]
    simp [i32sToLeBytes]
  · intro v _ d n hL hn
    have hS : (List.range k).map (fun o => (le4 v).getD o 0) = Rfc.toLeBytes k v := by
      have := getD_slice (le4 v) 0 k 0 (by simp [le4]; omega)
      simp only [List.drop_zero, Nat.zero_add] at this
      rw [C03.C03_le_bytes_prefix k hk v, ← le4_eq, this]
    simp only []
    rewrite [set_loop _ dest.length dest.length (Nat.le_refl _) (fun o => (le4 v).getD o 0) _ d n ?_ hL (by simpa using hn), hS, List.length_range]
    · rfl
    · intro o ho d n hL hn
      simp only [List.mem_range] at ho
      simp only []
      rewrite [sourceReq_decide _ _ (by omega), sourceReq_decide _ _ (by omega),
        sourceReq_decide _ _ (by omega)]
      rfl

example : i32s_to_le_bytes [0x123456, -1, -8388608] (List.replicate 10 7) 3 = some (i32sToLeBytes 3 [0x123456, -1, -8388608] ++ [7]) ∧
    i32sToLeBytes 3 [0x123456, -1, -8388608] = [0x56, 0x34, 0x12, 255, 255, 255, 0, 0, 0x80] := by decide

/-- **Disagreement with the hand-written `i32sToLeBytes`** (which is defined for every width): for a width above 4 and a
non-empty input the Rust function panics (`v.to_le_bytes()[4]`).  The callers pass `bytes_per_sample ≤ 4`. -/
theorem C14G_i32s_to_le_bytes_panics (xs : List Int) (hx : xs ≠ []) (k : Nat) (hk : 4 < k) (dest : List Nat) :
    i32s_to_le_bytes xs dest k = none := by
  unfold i32s_to_le_bytes
  simp only []
  obtain ⟨v, tl, rfl⟩ : ∃ v tl, xs = v :: tl := by
    cases xs with
    | nil => exact absurd rfl hx
    | cons v tl => exact ⟨v, tl, rfl⟩
  rw [forO_eq_loop, loop_none_of_mem _ _ v (by simp) (fun s => by rw [forO_eq_loop, loop_none_of_mem _ _ 4 (by simp; omega) (fun s => by simp [req])])]
  rfl

example : i32s_to_le_bytes [1] (List.replicate 8 0) 5 = none := by decide

theorem forF_cons {α ρ σ : Type} (x : α) (xs : List α) (s : σ) (f : α → σ → Option (Flow ρ σ)) :
    forF (x :: xs) s f = match f x s with | none => none | some (Flow.ret r) => some (Flow.ret r) | some (Flow.next s') => forF xs s' f := by
  cases h : f x s with
  | none => simp [forF, h]
  | some fl => cases fl <;> simp [forF, h]

theorem forF_first {α ρ : Type} (xs : List α) (f : α → Unit → Option (Flow ρ Unit)) (P : α → Bool) (r : ρ)
    (hf : ∀ t ∈ xs, f t () = if P t then some (Flow.ret r) else some (Flow.next ())) :
    forF xs () f = if xs.any P then some (Flow.ret r) else some (Flow.next ()) := by
  induction xs with
  | nil => rfl
  | cons x xs ih =>
    rw [forF_cons, hf x (by simp)]
    by_cases hp : P x = true
    · simp [hp]
    · simp only [hp, Bool.false_eq_true, ↓reduceIte, List.any_cons, Bool.false_or]
      exact ih (fun t ht => hf t (by simp [ht]))

theorem C14G_is_constant (xs : List Int) : is_constant xs = some (isConstant xs) := by
  unfold is_constant
  rewrite [forF_first _ _ (fun t => xs.getD 0 default != xs.getD t default) false (by
    intro t ht
    simp only [List.mem_range'_1] at ht
    rewrite [sourceReq_true _ _ (by simp only [Bool.and_eq_true, decide_eq_true_eq]; omega)]
    rfl)]
  cases xs with
  | nil => rfl
  | cons x tl =>
    have hany : (List.range' 1 ((x :: tl).length - 1)).any (fun t => (x :: tl).getD 0 default != (x :: tl).getD t default)
        = tl.any (fun y => x != y) := by
      simp only [List.length_cons, Nat.add_sub_cancel, List.getD_cons_zero]
      rw [← List.map_add_range' 0, List.any_map]
      have hd : (default : Int) = 0 := rfl
      have : tl = (List.range' 0 tl.length).map (fun i => tl.getD i default) := by
        rw [← List.range_eq_range', hd]; exact (range_map_getD tl 0).symm
      conv => rhs; rw [this, List.any_map]
      congr 1
      funext t
      simp only [Function.comp, Nat.add_comm 1 t, List.getD_cons_succ]
    have hall : tl.all (fun y => y == x) = !tl.any (fun y => x != y) := by
      rw [List.all_eq_not_any_not]
      congr 2
      funext y
      rw [Bool.beq_comm]
      rfl
    rw [hany, isConstant, hall]
    cases tl.any (fun y => x != y) <;> rfl

example : is_constant [5, 5, 6] = some false ∧ is_constant [-3, -3, -3] = some true ∧ is_constant ([] : List Int) = some true := by decide

theorem foldl_pair {α : Type} (f g : Int → α → Int) (xs : List α) (a b : Int) :
    xs.foldl (fun (s : Int × Int) x => (f s.1 x, g s.2 x)) (a, b) = (xs.foldl f a, xs.foldl g b) := by
  induction xs generalizing a b with
  | nil => rfl
  | cons x xs ih => simp only [List.foldl_cons]; exact ih _ _

theorem foldl_min_le (xs : List Int) (a : Int) : xs.foldl (fun m x => min x m) a ≤ a :=
  ((foldl_forall_iff (fun m x => min x m) (xs.foldl (fun m x => min x m) a ≤ ·) (xs.foldl (fun m x => min x m) a ≤ ·)
    (fun m x => by omega) xs a).1 (Int.le_refl _)).1

theorem le_foldl_max (xs : List Int) (a : Int) : a ≤ xs.foldl (fun m x => max x m) a :=
  ((foldl_forall_iff (fun m x => max x m) (· ≤ xs.foldl (fun m x => max x m) a) (· ≤ xs.foldl (fun m x => max x m) a)
    (fun m x => by omega) xs a).1 (Int.le_refl _)).1

theorem minmax_in_iff (lo hi : Int) (xs : List Int) (a b : Int) :
    (lo ≤ xs.foldl (fun m x => min x m) a ∧ xs.foldl (fun m x => max x m) b ≤ hi) ↔
      (lo ≤ a ∧ b ≤ hi ∧ xs.all (fun v => decide (lo ≤ v) && decide (v ≤ hi)) = true) := by
  induction xs generalizing a b with
  | nil => simp
  | cons x xs ih =>
    have h1 : lo ≤ min x a ↔ (lo ≤ x ∧ lo ≤ a) := by omega
    have h2 : max x b ≤ hi ↔ (x ≤ hi ∧ b ≤ hi) := by omega
    simp only [List.foldl_cons, ih, h1, h2, List.all_cons, Bool.and_eq_true, decide_eq_true_eq, and_assoc, and_left_comm]

/-- **`find_min_and_max::<N>`** (fakesimd build: the whole slice is the scalar head, the vector accumulators keep `init`) -/
theorem C14G_find_min_and_max (N : Nat) (hN : 1 ≤ N) (data : List Int) (init : Int) :
    find_min_and_max N data init
      = some (data.foldl (fun m x => min x m) init, data.foldl (fun m x => max x m) init) := by
  unfold find_min_and_max
  simp only [slice_as_simd]
  rewrite [forO_eq_loop, (loop_foldl (fun _ => True) data (init, init) _
    (fun (s : Int × Int) x => (max x s.1, min x s.2)) trivial (fun x _ s _ => ⟨rfl, trivial⟩)).1]
  rewrite [sourceBindO_some]
  simp only [forO, sourceBindO_some]
  rewrite [sourceReq_true _ _ (replicate_nonempty N hN _),
    sourceReq_true _ _ (replicate_nonempty N hN _)]
  rewrite [reduce_replicate max Int.max_self N hN, reduce_replicate min Int.min_self N hN,
    foldl_pair (fun m x => max x m) (fun m x => min x m)]
  simp only []
  rw [Int.min_eq_left (foldl_min_le data init), Int.max_eq_left (le_foldl_max data init)]

example : find_min_and_max 4 [3, -7, 12, 0] 0 = some (-7, 12) ∧ find_min_and_max 4 [3, 5] 0 = some (0, 5) ∧
    find_min_and_max 0 [3, 5] 0 = none := by decide

/-- **`find_max_abs::<N>`** is the maximum of the absolute values as the hand-written model computes it
(`Model/Predict.lean`, `Model/Scratch.lean`: `xs.foldl (fun m x => max m x.natAbs) 0`); no panic (fakesimd build). -/
theorem C14G_find_max_abs (N : Nat) (hN : 1 ≤ N) (xs : List Int) :
    find_max_abs N xs = some (xs.foldl (fun m x => max m x.natAbs) 0) := by
  unfold find_max_abs
  rw [simd_map_and_reduce_scalar N xs Int.natAbs max _ _ _ 0 0 (by
    rw [sourceReq_true _ _ (replicate_nonempty N hN _), reduce_replicate max Nat.max_self N hN 0 0]),
    Nat.max_eq_left (Nat.zero_le _)]
  congr 2
  funext m x
  exact Nat.max_comm _ _

example : find_max_abs 16 [3, -7, 5, -2147483648] = some 2147483648 ∧ find_max_abs 16 [] = some 0 ∧ find_max_abs 0 [1] = none := by decide

/-- **`le_bytes_to_i32s`** (every byte width the function accepts) is the hand-written `leBytesToI32s`; the cells of
`dest` beyond the converted samples are left untouched; no panic. -/
theorem C14G_le_bytes_to_i32s (k : Nat) (hk : 1 ≤ k ∧ k ≤ 4) (bytes : List Nat) (hb : ∀ b ∈ bytes, b < 256) (m : Nat)
    (hl : bytes.length = k * m) (dest : List Int) (hd : m ≤ dest.length) (hbl : bytes.length < 2 ^ 63) :
    le_bytes_to_i32s bytes dest k = some (leBytesToI32s k bytes ++ dest.drop m) := by
  have hk' : k = 1 ∨ k = 2 ∨ k = 3 ∨ k = 4 := by omega
  unfold le_bytes_to_i32s
  rcases hk' with h | h | h | h <;> subst h <;> simp only [↓reduceIte, Nat.reduceEqDiff] <;>
    exact le_bytes_impl_eq _ hk bytes hb m hl dest hd hbl

example : le_bytes_to_i32s [0x56, 0x34, 0x12, 0x9B, 0x57, 0x13, 0xFF, 0xFF, 0xFF, 0x00, 0x00, 0x80] (List.replicate 5 9) 3
    = some (leBytesToI32s 3 [0x56, 0x34, 0x12, 0x9B, 0x57, 0x13, 0xFF, 0xFF, 0xFF, 0x00, 0x00, 0x80] ++ [9]) ∧
    leBytesToI32s 3 [0x56, 0x34, 0x12, 0x9B, 0x57, 0x13, 0xFF, 0xFF, 0xFF, 0x00, 0x00, 0x80] = [0x123456, 0x13579B, -1, -8388608] := by decide

/-- any other width panics (`panic!("bytes_per_samples > 4 or bytes_per_samples == 0")`) -/
theorem C14G_le_bytes_to_i32s_panics (k : Nat) (hk : k = 0 ∨ 4 < k) (bytes : List Nat) (dest : List Int) :
    le_bytes_to_i32s bytes dest k = none := by
  unfold le_bytes_to_i32s
  have h1 : k ≠ 1 := by omega
  have h2 : k ≠ 2 := by omega
  have h3 : k ≠ 3 := by omega
  have h4 : k ≠ 4 := by omega
  simp only [h1, h2, h3, h4, ↓reduceIte]

example : le_bytes_to_i32s [1, 2] [0] 5 = none := by decide

theorem vecResize_length {α : Type} (v : List α) (n : Nat) (x : α) : (vecResize v n x).length = n :=
  Scratch.vecResize_length v n x

/-- a generated `FrameBuf` holding `ch` channels, seen as the hand-written one (which stores the channel count; the
Rust structure recomputes it as `samples.len() / size`) -/
def toModel (g : Gen.Source.FrameBuf) (ch : Nat) : FlacVerif.FrameBuf := ⟨g.samples, g.size, ch, g.filled_size⟩

/-- the hand-written `FrameBuf` as a generated one (`readbuf` = the working buffer) -/
def ofModel (m : FlacVerif.FrameBuf) (readbuf : List Int) : Gen.Source.FrameBuf := ⟨m.samples, m.size, m.filled, readbuf⟩

/-- shape invariant of a `FrameBuf` with `ch` channels (established by `with_size`, kept by `fill_*`) -/
structure Shape (g : Gen.Source.FrameBuf) (ch : Nat) : Prop where
  len : g.samples.length = g.size * ch
  size_pos : 0 < g.size
  ch_pos : 1 ≤ ch
  /-- keeps the index arithmetic of the `deinterleave` loops (`stride * ch + t0 + offset`, the blocked loop bound) inside `usize` -/
  small : g.samples.length < 2 ^ 61

/-- **`FrameBuf::with_size`** accepts exactly the arguments the model accepts and builds the same buffer; it never panics. -/
theorem C14G_with_size (ch size : Nat) :
    Gen.Source.FrameBuf.with_size ch size = some ((FlacVerif.FrameBuf.withSize ch size).map (fun m => ofModel m [])) := by
  unfold Gen.Source.FrameBuf.with_size FlacVerif.FrameBuf.withSize
  simp only [verify_macro_impl, FlacVerif.Gen.Const.MAX_CHANNELS, FlacVerif.Gen.Const.MIN_BLOCK_SIZE,
    FlacVerif.Gen.Const.MAX_BLOCK_SIZE, tryO]
  by_cases h1 : 1 ≤ ch <;> by_cases h2 : ch ≤ 8 <;> by_cases h3 : 32 ≤ size <;> by_cases h4 : size ≤ 32767 <;>
    simp [h1, h2, h3, h4, ofModel, req]
  have : size * ch ≤ 32767 * 8 := Nat.mul_le_mul h4 h2
  omega

example : (Gen.Source.FrameBuf.with_size 3 32).map (·.map (fun g => (g.samples.length, g.size, g.filled_size))) = some (some (96, 32, 0)) ∧
    Gen.Source.FrameBuf.with_size 9 32 = some none ∧ Gen.Source.FrameBuf.with_size 2 31 = some none ∧
    Gen.Source.FrameBuf.with_size 2 (2 ^ 16 + 64) = some none := by decide

theorem C14G_channels (g : Gen.Source.FrameBuf) (ch : Nat) (h : Shape g ch) : Gen.Source.FrameBuf.channels g = some ch := by
  unfold Gen.Source.FrameBuf.channels
  rw [sourceReq_decide _ _ (Nat.ne_of_gt h.size_pos), h.len, Nat.mul_div_cancel_left ch h.size_pos]

/-- **`Fill::fill_interleaved` for `FrameBuf`**: same acceptance, same samples, same `filled_size`; no panic. -/
theorem C14G_fill_interleaved (g : Gen.Source.FrameBuf) (ch : Nat) (h : Shape g ch) (xs : List Int) (hx : xs.length < 2 ^ 64) :
    Gen.Source.FrameBuf.fill_interleaved g xs = some (match (toModel g ch).fillInterleaved xs with
      | .error _ => (none, g)
      | .ok m => (some (), { g with samples := m.samples, filled_size := m.filled })) := by
  have hch : ch ≠ 0 := Nat.ne_of_gt h.ch_pos
  unfold Gen.Source.FrameBuf.fill_interleaved FlacVerif.FrameBuf.fillInterleaved
  simp only [C14G_channels g ch h, sourceBindO_some, FrameBuf.size_fn, toModel]
  rw [sourceReq_true _ _ (by simp [hch])]
  by_cases hrej : xs.length > g.samples.length ∨ xs.length % ch ≠ 0
  · simp only [hrej, ↓reduceIte]
  · simp only [hrej, ↓reduceIte]
    rw [C14G_deinterleave xs ch g.size g.samples h.ch_pos h.len h.small hx, sourceBindO_some, sourceReq_decide _ _ hch]

def exG : Gen.Source.FrameBuf := ⟨List.replicate 12 5, 4, 0, []⟩
example : Shape exG 3 := ⟨by decide, by decide, by decide, by decide⟩
example : (Gen.Source.FrameBuf.fill_interleaved exG [1, 2, 3, 4, 5, 6]).map (fun r => (r.1, r.2.samples, r.2.filled_size))
    = some (some (), [1, 4, 0, 0, 2, 5, 0, 0, 3, 6, 0, 0], 2) := by decide
example : (Gen.Source.FrameBuf.fill_interleaved exG [1, 2]).map (·.1) = some none ∧
    (Gen.Source.FrameBuf.fill_interleaved exG (List.replicate 15 0)).map (·.1) = some none := by decide

/-- **`Fill::fill_le_bytes` for `FrameBuf`** (`readbuf` ends up holding the converted samples). -/
theorem C14G_fill_le_bytes (g : Gen.Source.FrameBuf) (ch : Nat) (h : Shape g ch) (bytes : List Nat)
    (hb : ∀ b ∈ bytes, b < 256) (hbl : bytes.length < 2 ^ 63) (k : Nat) :
    Gen.Source.FrameBuf.fill_le_bytes g bytes k = some (match (toModel g ch).fillLeBytes bytes k with
      | .error _ => (none, g)
      | .ok m => (some (), { g with samples := m.samples, filled_size := m.filled, readbuf := leBytesToI32s k bytes })) := by
  have hch : ch ≠ 0 := Nat.ne_of_gt h.ch_pos
  unfold Gen.Source.FrameBuf.fill_le_bytes FlacVerif.FrameBuf.fillLeBytes
  by_cases hk : 1 ≤ k ∧ k ≤ 4
  · have hk0 : k ≠ 0 := by omega
    rw [sourceReq_true _ _ (by simp [hk0])]
    by_cases hmod : bytes.length % k = 0
    · have hrej : ¬ (¬ (1 ≤ k ∧ k ≤ 4) ∨ bytes.length % k ≠ 0) := by simp [hk, hmod]
      simp only [hrej, ↓reduceIte, toModel]
      rw [sourceReq_decide _ _ hk0]
      simp only [C14G_channels g ch h, sourceBindO_some]
      rw [sourceReq_decide _ _ hch]
      by_cases hbig : bytes.length / k > g.samples.length
      · simp [hbig, sourceBindO_some]
      · simp only [hbig, ↓reduceIte, sourceBindO_some, false_or]
        by_cases hm2 : bytes.length / k % ch ≠ 0
        · simp [hm2]
        · simp only [hm2, decide_false, Bool.false_eq_true, ↓reduceIte]
          obtain ⟨m, hm⟩ : ∃ m, bytes.length = k * m := ⟨bytes.length / k, by
            have := Nat.div_add_mod bytes.length k; omega⟩
          have hdiv : bytes.length / k = m := by rw [hm]; exact Nat.mul_div_cancel_left m (by omega)
          have hrl : (vecResize g.readbuf (bytes.length / k) 0).length = m := by rw [vecResize_length, hdiv]
          rw [C14G_le_bytes_to_i32s k hk bytes hb m hm _ (by omega) hbl, sourceBindO_some]
          have hdrop : List.drop m (vecResize g.readbuf (bytes.length / k) 0) = [] := List.drop_eq_nil_of_le (by omega)
          have hc' := C14G_channels { g with readbuf := leBytesToI32s k bytes } ch ⟨h.len, h.size_pos, h.ch_pos, h.small⟩
          have hll : (leBytesToI32s k bytes).length < 2 ^ 64 := by
            have hmle : m ≤ bytes.length := by rw [hm]; exact Nat.le_mul_of_pos_left m (by omega)
            rw [SourceLemmas.leBytesToI32s_eq_map k (by omega) m bytes hm, List.length_map, List.length_range]; omega
          simp only [hdrop, List.append_nil, FrameBuf.size_fn, hc', sourceBindO_some]
          rw [C14G_deinterleave _ ch g.size g.samples h.ch_pos h.len h.small hll, sourceBindO_some, sourceReq_decide _ _ hch]
    · have hrej : (¬ (1 ≤ k ∧ k ≤ 4) ∨ bytes.length % k ≠ 0) := Or.inr hmod
      simp only [hrej, ↓reduceIte]
  · have hrej : (¬ (1 ≤ k ∧ k ≤ 4) ∨ bytes.length % k ≠ 0) := Or.inl hk
    rw [sourceReq_true _ _ (by simp [hk])]
    simp only [hrej, ↓reduceIte]

example : (Gen.Source.FrameBuf.fill_le_bytes exG [0, 0, 0x80, 0xFF, 0xFF, 0x7F, 0xFF, 0xFF, 0xFF] 3).map
    (fun r => (r.1, r.2.samples, r.2.filled_size, r.2.readbuf))
    = some (some (), [-8388608, 0, 0, 0, 8388607, 0, 0, 0, -1, 0, 0, 0], 1, [-8388608, 8388607, -1]) := by decide +kernel
example : (Gen.Source.FrameBuf.fill_le_bytes exG [0, 0, 0, 0, 0] 5).map (·.1) = some none ∧
    (Gen.Source.FrameBuf.fill_le_bytes exG [0, 0] 3).map (·.1) = some none := by decide

/-- **`FrameBuf::channel_slice`**: no panic for an existing channel of a buffer whose `filled_size` is within `size`. -/
theorem C14G_channel_slice (g : Gen.Source.FrameBuf) (ch : Nat) (h : Shape g ch) (hf : g.filled_size ≤ g.size)
    (c : Nat) (hc : c < ch) : Gen.Source.FrameBuf.channel_slice g c = some ((toModel g ch).channelSlice c) := by
  have h1 : c * g.size + g.size ≤ g.samples.length := by
    rw [h.len]
    have : (c + 1) * g.size ≤ ch * g.size := Nat.mul_le_mul_right _ hc
    rw [Nat.succ_mul, Nat.mul_comm ch] at this; exact this
  have hs := h.small
  unfold Gen.Source.FrameBuf.channel_slice
  rw [sourceReq_true _ _ (by simp only [Bool.and_eq_true, decide_eq_true_eq]; omega)]
  simp only [FlacVerif.FrameBuf.channelSlice, toModel, Nat.add_sub_cancel_left]

def exG2 : Gen.Source.FrameBuf := ⟨[1, 4, 0, 0, 2, 5, 0, 0, 3, -6, 0, 0], 4, 2, []⟩
example : Gen.Source.FrameBuf.channel_slice exG2 2 = some [3, -6] := by decide

/-- **`FrameBuf::verify_samples`** for a declared width of 1..=31 bits (0 and ≥ 32 panic: DESIGN 10.11). -/
theorem C14G_verify_samples (g : Gen.Source.FrameBuf) (ch : Nat) (h : Shape g ch) (hf : g.filled_size ≤ g.size)
    (bps : Nat) (hb : 1 ≤ bps ∧ bps ≤ 31) :
    Gen.Source.FrameBuf.verify_samples g bps = some (if (toModel g ch).verifySamples bps then some () else none) := by
  have hp := one_shl_bmod_i32 (bps - 1) (by omega)
  have hpos : (0 : Int) < 2 ^ (bps - 1) := Int.pow_pos (by decide)
  have hle : (2 : Int) ^ (bps - 1) ≤ 2 ^ 30 := two_pow_le_two_pow (by omega)
  unfold Gen.Source.FrameBuf.verify_samples
  simp only [hp]
  generalize hP : (2 : Int) ^ (bps - 1) = P at *
  rewrite [sourceReq_true _ _ (by simp only [Bool.and_eq_true, decide_eq_true_eq]; omega),
    sourceReq_true _ _ (by simp only [Bool.and_eq_true, decide_eq_true_eq]; omega), C14G_channels g ch h, sourceBindO_some]
  rewrite [forF_first _ _ (fun c => !((toModel g ch).channelSlice c).all (fun v => decide (-P ≤ v) && decide (v ≤ P - 1))) none (by
    intro c hc
    simp only [List.mem_range] at hc
    rewrite [C14G_channel_slice g ch h hf c hc, sourceBindO_some, C14G_find_min_and_max 64 (by decide), sourceBindO_some]
    simp only []
    have := minmax_in_iff (-P) (P - 1) ((toModel g ch).channelSlice c) 0 0
    cases hall : ((toModel g ch).channelSlice c).all (fun v => decide (-P ≤ v) && decide (v ≤ P - 1))
    · rw [if_pos (by rw [hall] at this; simp at this; omega)]
      rfl
    · rw [if_neg (by have := this.mpr ⟨by omega, by omega, hall⟩; omega)]
      rfl)]
  have hmodel : (toModel g ch).verifySamples bps = !((List.range ch).any (fun c =>
      !((toModel g ch).channelSlice c).all (fun v => decide (-P ≤ v) && decide (v ≤ P - 1)))) := by
    simp only [FlacVerif.FrameBuf.verifySamples, toModel, hP, List.all_eq_not_any_not (l := List.range ch)]
  rw [hmodel]
  cases (List.range ch).any (fun c => !((toModel g ch).channelSlice c).all (fun v => decide (-P ≤ v) && decide (v ≤ P - 1))) <;> rfl

set_option maxRecDepth 8000 in
example : Gen.Source.FrameBuf.verify_samples exG2 4 = some (some ()) ∧ Gen.Source.FrameBuf.verify_samples exG2 3 = some none ∧
    Gen.Source.FrameBuf.verify_samples exG2 0 = none ∧ Gen.Source.FrameBuf.verify_samples exG2 32 = none := by decide +kernel

/-- **C14 at the level of the generated code**: delivering the packed bytes of `xs` to the Rust `FrameBuf` gives the same
verdict, the same samples and the same `filled_size` as delivering `xs` (only the working buffer `readbuf` differs). -/
theorem C14G_fill_equiv (g : Gen.Source.FrameBuf) (ch : Nat) (h : Shape g ch) (k : Nat) (hk : 1 ≤ k ∧ k ≤ 4) (xs : List Int)
    (hx : ∀ x ∈ xs, fitsBytes k x) (hl : k * xs.length < 2 ^ 63) :
    (Gen.Source.FrameBuf.fill_le_bytes g (i32sToLeBytes k xs) k).map (fun r => (r.1, r.2.samples, r.2.size, r.2.filled_size))
      = (Gen.Source.FrameBuf.fill_interleaved g xs).map (fun r => (r.1, r.2.samples, r.2.size, r.2.filled_size)) := by
  have hlen : (i32sToLeBytes k xs).length = k * xs.length := SourceLemmas.i32sToLeBytes_length k xs
  have hxl : xs.length ≤ k * xs.length := Nat.le_mul_of_pos_left _ hk.1
  rw [C14G_fill_le_bytes g ch h _ (SourceLemmas.i32sToLeBytes_lt k xs) (by omega) k, C14G_fill_interleaved g ch h xs (by omega),
    C14_fill (toModel g ch) k hk xs hx]
  cases (toModel g ch).fillInterleaved xs <;> rfl

example : (Gen.Source.FrameBuf.fill_le_bytes exG (i32sToLeBytes 3 [1, -2, 3, 4, -5, 6]) 3).map (fun r => (r.1, r.2.samples, r.2.filled_size))
    = (Gen.Source.FrameBuf.fill_interleaved exG [1, -2, 3, 4, -5, 6]).map (fun r => (r.1, r.2.samples, r.2.filled_size)) := by decide +kernel

/-- **`FrameBuf::resize`** keeps the channel count. -/
theorem C14G_resize (g : Gen.Source.FrameBuf) (ch : Nat) (h : Shape g ch) (n : Nat) (hn : n * ch < 2 ^ 64) :
    Gen.Source.FrameBuf.resize g n = some { g with size := n, samples := vecResize g.samples (n * ch) 0 } := by
  unfold Gen.Source.FrameBuf.resize
  rw [C14G_channels g ch h, sourceBindO_some]
  simp only []
  rw [sourceReq_decide _ _ hn]

/-- `with_size` establishes the shape invariant the fill theorems assume. -/
theorem C14G_with_size_shape (ch size : Nat) (g : Gen.Source.FrameBuf)
    (h : Gen.Source.FrameBuf.with_size ch size = some (some g)) : Shape g ch ∧ g.filled_size = 0 := by
  rw [C14G_with_size] at h
  unfold FlacVerif.FrameBuf.withSize at h
  split at h
  · rename_i hc
    simp only [Option.map_some, Option.some.injEq, ofModel] at h
    subst h
    have : size * ch ≤ 32767 * 8 := Nat.mul_le_mul hc.2.2.2 hc.2.1
    exact ⟨⟨by simp, by simp; omega, hc.1, by simp; omega⟩, rfl⟩
  · simp at h

example : (Gen.Source.FrameBuf.resize exG2 2).map (fun g => (g.samples, g.size)) = some ([1, 4, 0, 0, 2, 5], 2) := by decide

/-- the MD5 / counting context as the hand-written `Ctx` (which takes the width and the channel count as arguments) -/
def toCtx (c : Gen.Source.Context) : FlacVerif.Ctx := ⟨c.md5, c.sample_count, c.frame_count⟩

/-- **`Context::new`** panics exactly when the width needs more than four bytes. -/
theorem C14G_ctx_new (bps ch : Nat) (h : bps + 7 < 2 ^ 64) :
    Gen.Source.Context.new bps ch = if (bps + 7) / 8 ≤ 4 then some ⟨[], (bps + 7) / 8, ch, 0, 0⟩ else none := by
  unfold Gen.Source.Context.new
  rw [sourceReq_decide _ _ (by omega)]
  simp only [req]
  split <;> simp_all

example : Gen.Source.Context.new 16 2 = some ⟨[], 2, 2, 0, 0⟩ ∧ Gen.Source.Context.new 33 2 = none := by decide

theorem md5_fold (k : Nat) (xs : List Int) (c : Gen.Source.Context) (hk : c.bytes_per_sample = k) :
    xs.foldl (fun (s : Gen.Source.Context) v => { s with md5 := s.md5 ++ (le4 v).take s.bytes_per_sample }) c
      = { c with md5 := c.md5 ++ xs.flatMap (fun v => (le4 v).take k) } := by
  induction xs generalizing c with
  | nil => simp
  | cons v xs ih =>
    rw [List.foldl_cons, ih _ (by simpa using hk)]
    simp [hk, List.append_assoc]

/-- **`Fill::fill_interleaved` for `Context`**: the bytes hashed, the sample count and the frame count advance as in the
model.  Hypotheses: the context was built for the width `bps` (≤ 4 bytes), a non-empty delivery needs `channels ≥ 1`
(DESIGN 10.11), and the two counters do not overflow `usize`. -/
theorem C14G_ctx_fill_interleaved (c : Gen.Source.Context) (bps : Nat) (hk : c.bytes_per_sample = (bps + 7) / 8)
    (hk4 : c.bytes_per_sample ≤ 4) (xs : List Int) (hch : xs ≠ [] → 1 ≤ c.channels)
    (hs : c.sample_count + xs.length / c.channels < 2 ^ 64) (hf : c.frame_count + 1 < 2 ^ 64) :
    Gen.Source.Context.fill_interleaved c xs = some (some (),
      { c with md5 := ((toCtx c).fillInterleaved bps c.channels xs).hashed,
               sample_count := ((toCtx c).fillInterleaved bps c.channels xs).samples,
               frame_count := ((toCtx c).fillInterleaved bps c.channels xs).frames }) := by
  unfold Gen.Source.Context.fill_interleaved FlacVerif.Ctx.fillInterleaved
  by_cases he : xs.isEmpty = true
  · simp [he, toCtx]
  · have hne : xs ≠ [] := by intro h; subst h; simp at he
    have hc := hch hne
    simp only [he, Bool.false_eq_true, ↓reduceIte, toCtx]
    rewrite [forO_eq_loop, (loop_foldl (fun (s : Gen.Source.Context) => s.bytes_per_sample = c.bytes_per_sample) xs c _
      (fun (s : Gen.Source.Context) v => { s with md5 := s.md5 ++ (le4 v).take s.bytes_per_sample }) rfl (by
        intro v _ s hI
        rewrite [sourceReq_decide _ _ (by omega)]
        exact ⟨rfl, hI⟩)).1]
    rewrite [sourceBindO_some, md5_fold c.bytes_per_sample xs c rfl]
    simp only []
    rewrite [sourceReq_true _ _ (by simp only [Bool.and_eq_true, decide_eq_true_eq]; omega),
      sourceReq_decide _ _ (by omega)]
    have hmd : md5Input bps xs = xs.flatMap (fun v => (le4 v).take c.bytes_per_sample) := by
      unfold md5Input
      congr 1
      funext v
      rw [le4_eq, ← hk, C03.C03_le_bytes_prefix _ hk4 v]
    rw [hmd]

example : Gen.Source.Context.fill_interleaved ⟨[9], 2, 2, 5, 1⟩ [0, -1, -2, 3]
    = some (some (), ⟨[9, 0, 0, 255, 255, 254, 255, 3, 0], 2, 2, 7, 2⟩) := by decide
/-- excluded by the hypothesis `channels ≥ 1`: a context built with 0 channels panics on the first non-empty block -/
example : Gen.Source.Context.new 16 0 = some ⟨[], 2, 0, 0, 0⟩ ∧ Gen.Source.Context.fill_interleaved ⟨[], 2, 0, 0, 0⟩ [1] = none := by decide

/-- **`Fill::fill_le_bytes` for `Context`**: a width other than the context's own is rejected (model: `ctxFillLeBytesOk`);
otherwise the bytes themselves are hashed.  Hypotheses as above, with `k ≥ 1` (a context built for 0 bits divides by zero:
DESIGN 10.11). -/
theorem C14G_ctx_fill_le_bytes (c : Gen.Source.Context) (bytes : List Nat) (k : Nat)
    (hch : bytes ≠ [] → 1 ≤ c.channels ∧ 1 ≤ k)
    (hs : c.sample_count + bytes.length / c.channels / k < 2 ^ 64) (hf : c.frame_count + 1 < 2 ^ 64) :
    Gen.Source.Context.fill_le_bytes c bytes k =
      if k ≠ c.bytes_per_sample then some (none, c) else
      some (some (),
        { c with md5 := ((toCtx c).fillLeBytes c.channels k bytes).hashed,
                 sample_count := ((toCtx c).fillLeBytes c.channels k bytes).samples,
                 frame_count := ((toCtx c).fillLeBytes c.channels k bytes).frames }) := by
  unfold Gen.Source.Context.fill_le_bytes FlacVerif.Ctx.fillLeBytes
  by_cases hk : k ≠ c.bytes_per_sample
  · simp only [hk, ↓reduceIte, ne_eq, not_false_eq_true]
  · simp only [hk, ↓reduceIte]
    by_cases he : bytes.isEmpty = true
    · simp [he, toCtx]
    · have hne : bytes ≠ [] := by intro h; subst h; simp at he
      obtain ⟨h1, h2⟩ := hch hne
      simp only [he, Bool.false_eq_true, ↓reduceIte, toCtx]
      rewrite [sourceReq_true _ _ (by simp only [Bool.and_eq_true, decide_eq_true_eq]; omega),
        sourceReq_decide _ _ (by omega)]
      rfl

example : Gen.Source.Context.fill_le_bytes ⟨[9], 2, 2, 5, 1⟩ [0, 0, 255, 255, 254, 255, 3, 0] 2
    = some (some (), ⟨[9, 0, 0, 255, 255, 254, 255, 3, 0], 2, 2, 7, 2⟩) ∧
    Gen.Source.Context.fill_le_bytes ⟨[9], 2, 2, 5, 1⟩ [0, 0] 3 = some (none, ⟨[9], 2, 2, 5, 1⟩) := by decide

theorem C14G_ctx_width (c : Gen.Source.Context) (bps : Nat) (hk : c.bytes_per_sample = (bps + 7) / 8) (bytes : List Nat) (k : Nat)
    (h : ctxFillLeBytesOk bps k = false) : Gen.Source.Context.fill_le_bytes c bytes k = some (none, c) := by
  unfold Gen.Source.Context.fill_le_bytes
  have : k ≠ c.bytes_per_sample := by
    intro hh; rw [hk] at hh; simp [ctxFillLeBytesOk, hh] at h
  simp only [this, ne_eq, not_false_eq_true, ↓reduceIte]

/-- the text of both pair fills: `let (r, a') = fa; r?; let (r', b') = gb; (r', (a', b'))` -/
theorem pair_fill {T U : Type} (fa : Option (Option Unit × T)) (gb : Option (Option Unit × U)) (b : U) :
    (bindO fa fun (v2', m1') => tryO v2' (some (none, (m1', b))) fun () => bindO gb fun (v5', m4') => some (v5', (m1', m4'))) =
      match fa with
      | none => none
      | some (none, a') => some (none, (a', b))
      | some (some (), a') =>
        match gb with
        | none => none
        | some (r, b') => some (r, (a', b')) := by
  rcases fa with _ | ⟨_ | u, a'⟩
  · rfl
  · rfl
  · rcases gb with _ | ⟨r, b'⟩ <;> rfl

/-- **`(T, U)::fill_interleaved`**: the first component is filled first; its `Err` is returned before the second is touched. -/
theorem C14G_pair_fill_interleaved {T U : Type} (f : T → List Int → Option (Option Unit × T))
    (g : U → List Int → Option (Option Unit × U)) (a : T) (b : U) (xs : List Int) :
    FillPair.fill_interleaved f g (a, b) xs =
      match f a xs with
      | none => none
      | some (none, a') => some (none, (a', b))
      | some (some (), a') =>
        match g b xs with
        | none => none
        | some (r, b') => some (r, (a', b')) :=
  pair_fill (f a xs) (g b xs) b

theorem C14G_pair_fill_le_bytes {T U : Type} (f : T → List Nat → Nat → Option (Option Unit × T))
    (g : U → List Nat → Nat → Option (Option Unit × U)) (a : T) (b : U) (bytes : List Nat) (k : Nat) :
    FillPair.fill_le_bytes f g (a, b) bytes k =
      match f a bytes k with
      | none => none
      | some (none, a') => some (none, (a', b))
      | some (some (), a') =>
        match g b bytes k with
        | none => none
        | some (r, b') => some (r, (a', b')) :=
  pair_fill (f a bytes k) (g b bytes k) b

/-- **`MemSource::read_samples`** (`read_samples_from(read_head, ..)`): the block handed to `Fill::fill_interleaved` is
`samples[read_head*ch .. min((read_head + block_size)*ch, len)]`; on success the number of inter-channel samples is
returned and added to `read_head`; an `Err` of the `Fill` is passed on with `read_head` unchanged.  No panic when
`channels ≥ 1` and the products fit `usize`. -/
theorem C14G_read_samples {F : Type} (fill : F → List Int → Option (Option Unit × F)) (s : Gen.Source.MemSource)
    (bs : Nat) (dest : F) (hch : 1 ≤ s.channels)
    (ho : s.read_head * s.channels + bs * s.channels < 2 ^ 64) (hr : s.read_head + bs < 2 ^ 64) :
    MemSource.read_samples fill s bs dest =
      (let b := min (s.read_head * s.channels) s.samples.length
       let e := min (s.read_head * s.channels + bs * s.channels) s.samples.length
       match fill dest ((s.samples.drop b).take (e - b)) with
       | none => none
       | some (none, d') => some (none, s, d')
       | some (some (), d') => some (some ((e - b) / s.channels), { s with read_head := s.read_head + (e - b) / s.channels }, d')) := by
  unfold MemSource.read_samples MemSource.read_samples_from
  simp only []
  have hle : min (s.read_head * s.channels) s.samples.length ≤ min (s.read_head * s.channels + bs * s.channels) s.samples.length := by omega
  rewrite [sourceReq_decide _ _ (by omega), sourceReq_decide _ _ (by omega),
    sourceReq_true _ _ (by simp only [Bool.and_eq_true, decide_eq_true_eq]; omega),
    sourceReq_true _ _ (by simp only [Bool.and_eq_true, decide_eq_true_eq]; omega)]
  cases hf : fill dest ((s.samples.drop (min (s.read_head * s.channels) s.samples.length)).take
      (min (s.read_head * s.channels + bs * s.channels) s.samples.length - min (s.read_head * s.channels) s.samples.length)) with
  | none => simp [bindO]
  | some p =>
    obtain ⟨r, d'⟩ := p
    cases r with
    | none => simp [bindO, tryO]
    | some u =>
      simp only [bindO, tryO]
      have hdiv : (min (s.read_head * s.channels + bs * s.channels) s.samples.length - min (s.read_head * s.channels) s.samples.length)
          / s.channels ≤ bs := by
        apply Nat.div_le_of_le_mul
        rw [Nat.mul_comm s.channels bs]; omega
      rewrite [sourceReq_true _ _ (by simp only [Bool.and_eq_true, decide_eq_true_eq]; omega),
        sourceReq_decide _ _ (by omega)]
      rfl

def exRead := MemSource.read_samples (FillPair.fill_interleaved Gen.Source.FrameBuf.fill_interleaved Gen.Source.Context.fill_interleaved)
  (MemSource.from_samples [0, 0, 1, -1, 2, -2, 3, -3] 2 16 8000) 3 (⟨List.replicate 8 7, 4, 0, []⟩, ⟨[], 2, 2, 0, 0⟩)
example : exRead.map (fun r => (r.1, r.2.1.read_head)) = some (some 3, 3) ∧
    exRead.map (fun r => (r.2.2.1.samples, r.2.2.1.filled_size)) = some ([0, 1, 2, 0, 0, -1, -2, 0], 3) ∧
    exRead.map (fun r => (r.2.2.2.md5, r.2.2.2.sample_count)) = some ([0, 0, 0, 0, 1, 0, 255, 255, 2, 0, 254, 255], 3) := by decide

/-- **`Fill::fill_interleaved` for `ParContext`**: the block is converted with `i32s_to_le_bytes` and sent to the hashing
thread (which feeds it to `Context::fill_le_bytes`): the hand-written `i32sToLeBytes`. -/
theorem C14G_par_fill_interleaved (p : Gen.Source.ParContext) (xs : List Int) (hk : p.bytes_per_sample ≤ 4)
    (hl : xs.length * p.bytes_per_sample < 2 ^ 63) :
    ParContext.fill_interleaved p xs = some (some (),
      { p with bytebuf := i32sToLeBytes p.bytes_per_sample xs, sent := p.sent ++ [i32sToLeBytes p.bytes_per_sample xs] }) := by
  unfold ParContext.fill_interleaved
  simp only []
  have hrl : (vecResize p.bytebuf (xs.length * p.bytes_per_sample) 0).length = p.bytes_per_sample * xs.length := by
    rw [vecResize_length, Nat.mul_comm]
  rewrite [sourceReq_decide _ _ (by omega),
    C14G_i32s_to_le_bytes xs p.bytes_per_sample hk _ (by omega) (by rw [hrl, Nat.mul_comm]; exact hl), sourceBindO_some]
  have hdrop : List.drop (p.bytes_per_sample * xs.length) (vecResize p.bytebuf (xs.length * p.bytes_per_sample) 0) = [] :=
    List.drop_eq_nil_of_le (by omega)
  simp only [hdrop, List.append_nil]

example : ParContext.fill_interleaved ⟨[1, 2, 3], 2, [[7]]⟩ [1, -2]
    = some (some (), ⟨[1, 0, 254, 255], 2, [[7], [1, 0, 254, 255]]⟩) := by decide

/-- **`Fill::fill_le_bytes` for `ParContext`**: a width other than the context's own is rejected, otherwise the bytes are
sent as they are. -/
theorem C14G_par_fill_le_bytes (p : Gen.Source.ParContext) (bytes : List Nat) (k : Nat) :
    ParContext.fill_le_bytes p bytes k =
      if k ≠ p.bytes_per_sample then (none, p) else (some (), { p with bytebuf := bytes, sent := p.sent ++ [bytes] }) := by
  unfold ParContext.fill_le_bytes
  split <;> simp

example : ParContext.fill_le_bytes ⟨[1, 2, 3], 2, [[7]]⟩ [5, 6] 2 = (some (), ⟨[5, 6], 2, [[7], [5, 6]]⟩) ∧
    ParContext.fill_le_bytes ⟨[1, 2, 3], 2, [[7]]⟩ [5, 6] 3 = (none, ⟨[1, 2, 3], 2, [[7]]⟩) := by decide

end FlacVerif.C14Gen
