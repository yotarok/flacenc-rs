/-
C16GenRel — release profile of the generated parser (`Gen/Parser.lean`, `dbg = false`).

The hand mirror describes the dev profile only, so nothing can be transported from it directly.  Instead: the relation
`R x y` ("the dev result `x` is `none`, or it equals the release result `y`") is proved ONCE for the prelude operations whose
behaviour depends on the profile (`addU`, `subU`, `mulU`, `sumU`, `shAmt`, `arithS`, `req (!dbg || c)`), lifted through `bind`, `bindP`,
`bindO`, `if`, the loops and the nom combinators, and applied function by function to the generated code (`*_R`).
`R_verifyP`, `R_boolThenO`, `R_loopO` belong to the same lifting and no walk names them: the arguments of `verify` and
`bool::then` in the present source do not depend on `dbg`, so `R_refl` closes those nodes, and no generated function of
this part has a `loopO` node.
Since the dev result is never `none` (`C16G_total` etc.), the release result EQUALS the dev result (`C16G_release_eq*`);
hence PROPERTY C16 (`C16G_total_release`, `C16G_total_frame_release`) and PROPERTY C15 (`C15G_stream_roundtrip_release`) for the
release profile.
-/
import FlacVerif.Theorems.C16Gen

namespace FlacVerif.C16GenRel
open FlacVerif.Gen.Parser
open FlacVerif.Gen.Decode (addU subU mulU arithS shAmt req)

/-- the dev result is `none` (panic), or it is the release result -/
def R {α : Type} (x y : Option α) : Prop := x = none ∨ x = y

theorem R_refl {α : Type} (x : Option α) : R x x := Or.inr rfl
theorem R_none {α : Type} (y : Option α) : R (none : Option α) y := Or.inl rfl
theorem R_unit (x : Option Unit) : R x (some ()) := by
  cases x with
  | none => exact Or.inl rfl
  | some u => exact Or.inr rfl

theorem R_eq_of_ne {α : Type} {x y : Option α} (h : R x y) (hx : x ≠ Option.none) : y = x := by
  rcases h with h | h
  · exact absurd h hx
  · exact h.symm

theorem R_bind {α β : Type} {x y : Option α} {f g : α → Option β} (h : R x y) (hf : ∀ v, R (f v) (g v)) :
    R (x.bind f) (y.bind g) := by
  rcases h with h | h
  · rw [h]; exact Or.inl rfl
  · rw [h]
    cases y with
    | none => exact Or.inl rfl
    | some v => exact hf v

theorem R_bindP {α β : Type} {x y : PM α} {f g : α → PM β} (h : R x y) (hf : ∀ v, R (f v) (g v)) :
    R (bindP x f) (bindP y g) := by
  rcases h with h | h
  · rw [h]; exact Or.inl rfl
  · rw [h]
    cases y with
    | none => exact Or.inl rfl
    | some e =>
      cases e with
      | error c => exact Or.inr rfl
      | ok v => exact hf v

theorem R_bindO {α β : Type} (o : Option α) {f g : α → PM β} (hf : ∀ v, R (f v) (g v)) : R (bindO o f) (bindO o g) := by
  cases o with
  | none => exact Or.inr rfl
  | some v => exact hf v

theorem R_bindR {α β : Type} (o : Option α) {f g : α → Option (Option β)} (hf : ∀ v, R (f v) (g v)) :
    R (bindR o f) (bindR o g) := by
  cases o with
  | none => exact Or.inr rfl
  | some v => exact hf v

theorem R_bindVR {σ β : Type} {x y : Option (Option σ)} {f g : σ → Option (Option β)} (h : R x y)
    (hf : ∀ v, R (f v) (g v)) : R (bindVR x f) (bindVR y g) :=
  R_bind h (fun o => R_bindR o hf)

theorem R_ite {α : Type} (c : Prop) [Decidable c] {a b a' b' : Option α} (h1 : R a b) (h2 : R a' b') :
    R (if c then a else a') (if c then b else b') := by
  by_cases h : c <;> simp [h, h1, h2]

theorem R_addU (w a b : Nat) : R (addU true w a b) (addU false w a b) := by
  unfold addU; by_cases h : a + b < 2 ^ w <;> simp [h, R]
theorem R_subU (w a b : Nat) : R (subU true w a b) (subU false w a b) := by
  unfold subU; by_cases h : b ≤ a <;> simp [h, R]
theorem R_mulU (w a b : Nat) : R (mulU true w a b) (mulU false w a b) := by
  unfold mulU; by_cases h : a * b < 2 ^ w <;> simp [h, R]
theorem R_shAmt (w k : Nat) : R (shAmt true w k) (shAmt false w k) := by
  unfold shAmt; by_cases h : k < w <;> simp [h, R]
theorem R_arithS (w : Nat) (v : Int) : R (arithS true w v) (arithS false w v) := by
  unfold arithS
  by_cases h : -(2 ^ (w - 1) : Int) ≤ v ∧ v < (2 ^ (w - 1) : Int) <;> simp [h, R]
theorem R_req (c : Bool) : R (req (!true || c)) (req (!false || c)) := by
  cases c <;> simp [req, R]

theorem sumU_R (w : Nat) (xs : List Nat) : R (sumU true w xs) (sumU false w xs) := by
  unfold sumU
  by_cases h : List.foldl (· + ·) 0 xs < 2 ^ w <;> simp [h, R]

theorem R_loopP {α σ : Type} {f g : α → σ → PM σ} (h : ∀ x s, R (f x s) (g x s)) (l : List α) :
    ∀ s, R (loopP l s f) (loopP l s g) := by
  induction l with
  | nil => intro s; exact R_refl _
  | cons a l ih => intro s; exact R_bindP (h a s) (fun s' => ih s')

theorem R_loopO {α σ : Type} {f g : α → σ → Option σ} (h : ∀ x s, R (f x s) (g x s)) (l : List α) :
    ∀ s, R (loopO l s f) (loopO l s g) := by
  induction l with
  | nil => intro s; exact R_refl _
  | cons a l ih => intro s; exact R_bind (h a s) (fun s' => ih s')

theorem R_mapP {ι α β : Type} {p q : ι → PM (ι × α)} {f g : α → Option β} (hp : ∀ i, R (p i) (q i))
    (hf : ∀ a, R (f a) (g a)) (i : ι) : R (mapP p f i) (mapP q g i) :=
  R_bindP (hp i) (fun r => R_bind (hf r.2) (fun _ => R_refl _))

theorem R_verifyP {ι α : Type} {p q : ι → PM (ι × α)} (c : α → Option Bool) (hp : ∀ i, R (p i) (q i)) (i : ι) :
    R (verifyP p c i) (verifyP q c i) :=
  R_bindP (hp i) (fun _ => R_refl _)

theorem R_altP {ι α : Type} {p q p' q' : ι → PM (ι × α)} (h1 : ∀ i, R (p i) (q i)) (h2 : ∀ i, R (p' i) (q' i)) (i : ι) :
    R (altP p p' i) (altP q q' i) := by
  unfold altP
  rcases h1 i with h | h
  · rw [h]; exact Or.inl rfl
  · rw [h]
    cases hq : q i with
    | none => exact Or.inr rfl
    | some e =>
      cases e with
      | ok v => exact Or.inr rfl
      | error c => cases c <;> first | exact Or.inr rfl | exact h2 i

theorem R_bitsP {α : Type} {p q : List Bool → PM (List Bool × α)} (h : ∀ i, R (p i) (q i)) (bs : List Nat) :
    R (bitsP p bs) (bitsP q bs) :=
  R_bindP (h _) (fun _ => R_refl _)

theorem R_boolThenO {α : Type} (c : Bool) {f g : Unit → Option α} (h : ∀ u, R (f u) (g u)) :
    R (boolThenO c f) (boolThenO c g) := by
  unfold boolThenO
  cases c with
  | false => exact R_refl _
  | true =>
    simp only [if_true]
    rcases h () with h | h
    · rw [h]; exact Or.inl rfl
    · rw [h]; exact Or.inr rfl

theorem R_whileP {σ : Type} (c : σ → Bool) {f g : σ → PM σ} (h : ∀ s, R (f s) (g s)) :
    ∀ (n : Nat) (s : σ), R (whileP c f n s) (whileP c g n s) := by
  intro n
  induction n with
  | zero => intro s; exact R_refl _
  | succ n ih =>
    intro s
    simp only [whileP]
    exact R_ite _ (R_bindP (h s) (fun s' => ih s')) (R_refl _)

theorem R_manyTillEofAux {α : Type} {f g : List Nat → PM (List Nat × α)} (h : ∀ i, R (f i) (g i)) :
    ∀ (n : Nat) (i : List Nat) (acc : List α), R (manyTillEofAux f n i acc) (manyTillEofAux g n i acc) := by
  intro n
  induction n with
  | zero => intro i acc; exact R_refl _
  | succ n ih =>
    intro i acc
    simp only [manyTillEofAux]
    refine R_ite _ (R_refl _) ?_
    rcases h i with h1 | h1
    · rw [h1]; exact Or.inl rfl
    · rw [h1]
      cases hg : g i with
      | none => exact Or.inr rfl
      | some e =>
        cases e with
        | error c => exact Or.inr rfl
        | ok v => obtain ⟨i1, o⟩ := v; exact R_ite _ (R_refl _) (ih _ _)

theorem R_manyTillEof {α : Type} {f g : List Nat → PM (List Nat × α)} (h : ∀ i, R (f i) (g i)) (i : List Nat) :
    R (manyTillEof f i) (manyTillEof g i) := R_manyTillEofAux h _ _ _

/-- relation for the stateful closure of `many_m_n` -/
def R2 {σ β : Type} (x y : Option (σ × PM β)) : Prop :=
  x = Option.none ∨ ∃ s a b, x = some (s, a) ∧ y = some (s, b) ∧ R a b

theorem R_manyMNSAux {σ α : Type} {f g : σ → List Bool → Option (σ × PM (List Bool × α))} (h : ∀ s i, R2 (f s i) (g s i)) :
    ∀ (n : Nat) (s : σ) (i : List Bool) (acc : List α), R (manyMNSAux f n s i acc) (manyMNSAux g n s i acc) := by
  intro n
  induction n with
  | zero => intro s i acc; exact R_refl _
  | succ n ih =>
    intro s i acc
    simp only [manyMNSAux]
    rcases h s i with h1 | ⟨s', a, b, h1, h2, h3⟩
    · rw [h1]; exact Or.inl rfl
    · rw [h1, h2]
      rcases h3 with h3 | h3
      · rw [h3]; exact Or.inl rfl
      · rw [h3]
        cases b with
        | none => exact Or.inl rfl
        | some e =>
          cases e with
          | error c => exact Or.inr rfl
          | ok v => obtain ⟨tail, o⟩ := v; exact R_ite _ (R_refl _) (ih _ _ _)

theorem R_manyMNS {σ α : Type} {f g : σ → List Bool → Option (σ × PM (List Bool × α))} (h : ∀ s i, R2 (f s i) (g s i))
    (n : Nat) (s : σ) (i : List Bool) : R (manyMNS n s f i) (manyMNS n s g i) := R_manyMNSAux h _ _ _ _

theorem R2_bind {α σ β : Type} {x y : Option α} {f g : α → Option (σ × PM β)} (h : R x y) (hf : ∀ v, R2 (f v) (g v)) :
    R2 (x.bind f) (y.bind g) := by
  rcases h with h | h
  · rw [h]; exact Or.inl rfl
  · rw [h]
    cases y with
    | none => exact Or.inl rfl
    | some v => exact hf v

theorem R2_some {σ β : Type} (s : σ) {a b : PM β} (h : R a b) : R2 (some (s, a)) (some (s, b)) :=
  Or.inr ⟨s, a, b, rfl, rfl, h⟩

/-- walk two copies of a generated term that differ only in `dbg`: `R_refl` where the two copies are the same term,
congruence for the binds and `if`s, the listed lemmas (prelude operations, combinators, functions called) at the other
nodes, `split` for a `match` on a bound tuple -/
syntax "rel" "[" term,* "]" : tactic
macro_rules
  | `(tactic| rel [$ts,*]) => `(tactic| repeat' (first
      | intro _
      | with_reducible (first
        | exact R_refl _
        | apply R_bindP | apply R_bind | apply R_bindO | apply R_bindR | apply R_bindVR | apply R_ite $[| apply $ts]*)
      | split))

theorem u_to_i_R (x b : Nat) : R (u_to_i true x b) (u_to_i false x b) := by
  unfold u_to_i; rel [R_subU, R_shAmt, R_arithS]

theorem unary_code_R (i : List Bool) : R (unary_code true i) (unary_code false i) := R_refl _

theorem raw_samples_pre_R (b n : Nat) : R (raw_samples_pre true b n) (raw_samples_pre false b n) := by
  unfold raw_samples_pre; rel [R_addU, R_req]

theorem raw_samples_run_R (b n : Nat) (i : List Bool) : R (raw_samples_run true b n i) (raw_samples_run false b n i) := by
  unfold raw_samples_run; rel [R_loopP, u_to_i_R]

theorem Residual_from_parts_R (po bs wl : Nat) (rp q r : List Nat) :
    R (Residual_from_parts true po bs wl rp q r) (Residual_from_parts false po bs wl rp q r) := by
  unfold Residual_from_parts
  refine R_bind ?_ (fun _ => ?_)
  · simp only [if_true, Bool.false_eq_true, if_false]
    exact R_unit _
  · rel [R_mulU, sumU_R]

theorem residual_run_R (bs w : Nat) (i : List Bool) : R (residual_run true bs w i) (residual_run false bs w i) := by
  unfold residual_run; rel [R_shAmt, R_loopP, R_mulU, R_addU, unary_code_R, Residual_from_parts_R]

theorem subframe_header_R (i : List Bool) : R (subframe_header true i) (subframe_header false i) := R_refl _

theorem constant_pre_R (bs b : Nat) : R (constant_pre true bs b) (constant_pre false bs b) := by
  unfold constant_pre; rel [R_addU, R_req]

theorem verbatim_pre_R (bs b : Nat) : R (verbatim_pre true bs b) (verbatim_pre false bs b) := by
  unfold verbatim_pre; rel [R_addU, R_req]

theorem fixed_lpc_pre_R (bs b : Nat) : R (fixed_lpc_pre true bs b) (fixed_lpc_pre false bs b) := by
  unfold fixed_lpc_pre; rel [R_addU, R_req]

theorem lpc_pre_R (bs b : Nat) : R (lpc_pre true bs b) (lpc_pre false bs b) := by
  unfold lpc_pre; rel [R_addU, R_req]

theorem constant_run_R (bs b : Nat) (i : List Bool) : R (constant_run true bs b i) (constant_run false bs b i) := by
  unfold constant_run; rel [subframe_header_R, R_mapP, u_to_i_R]

theorem verbatim_run_R (bs b : Nat) (i : List Bool) : R (verbatim_run true bs b i) (verbatim_run false bs b i) := by
  unfold verbatim_run; rel [subframe_header_R, raw_samples_pre_R, raw_samples_run_R]

theorem fixed_lpc_run_R (bs b : Nat) (i : List Bool) : R (fixed_lpc_run true bs b i) (fixed_lpc_run false bs b i) := by
  unfold fixed_lpc_run; rel [subframe_header_R, R_subU, raw_samples_pre_R, raw_samples_run_R, residual_run_R]

theorem quantized_parameters_run_R (o : Nat) (i : List Bool) : R (quantized_parameters_run true o i) (quantized_parameters_run false o i) := by
  unfold quantized_parameters_run; rel [R_mapP, R_addU, u_to_i_R, raw_samples_pre_R, raw_samples_run_R]

theorem lpc_run_R (bs b : Nat) (i : List Bool) : R (lpc_run true bs b i) (lpc_run false bs b i) := by
  unfold lpc_run Lpc_from_parts; rel [subframe_header_R, R_subU, R_addU, raw_samples_pre_R, raw_samples_run_R, quantized_parameters_run_R,
    residual_run_R]

theorem subframe_pre0_R (bs b : Nat) : R (subframe_pre0 true bs b) (subframe_pre0 false bs b) := by
  unfold subframe_pre0; rel [R_addU, R_req]

theorem subframe_pre_R (bs b : Nat) : R (subframe_pre true bs b) (subframe_pre false bs b) := by
  unfold subframe_pre; rel [subframe_pre0_R, constant_pre_R, fixed_lpc_pre_R, lpc_pre_R, verbatim_pre_R]

theorem subframe_run_R (bs b : Nat) (i : List Bool) : R (subframe_run true bs b i) (subframe_run false bs b i) := by
  unfold subframe_run; rel [R_altP, constant_run_R, fixed_lpc_run_R, lpc_run_R, verbatim_run_R]

theorem subframe_R (bs b : Nat) (i : List Bool) : R (Gen.Parser.subframe true bs b i) (Gen.Parser.subframe false bs b i) := by
  unfold Gen.Parser.subframe; rel [subframe_pre_R, subframe_run_R]

theorem utf8_code_R (bs : List Nat) : R (utf8_code true bs) (utf8_code false bs) := R_refl _

theorem block_size_code_run_R (t : Nat) (bs : List Nat) : R (block_size_code_run true t bs) (block_size_code_run false t bs) := by
  unfold block_size_code_run; rel [R_subU]

theorem sample_rate_code_run_R (t : Nat) (bs : List Nat) : R (sample_rate_code_run true t bs) (sample_rate_code_run false t bs) := R_refl _

theorem frame_header_run_R (c : Bool) (bs : List Nat) : R (frame_header_run true c bs) (frame_header_run false c bs) := by
  unfold frame_header_run; rel [R_mapP, utf8_code_R, block_size_code_run_R, sample_rate_code_run_R]

theorem frame_run_R (info : StreamInfo) (c : Bool) (bs : List Nat) : R (frame_run true info c bs) (frame_run false info c bs) := by
  unfold frame_run Gen.Decode.FrameHeader.block_size; rel [frame_header_run_R, R_bitsP, R_manyMNS, R2_bind, R2_some, R_addU, subframe_pre_R,
    subframe_run_R]

theorem frame_R (info : StreamInfo) (c : Bool) (bs : List Nat) :
    R (Gen.Parser.frame true info c bs) (Gen.Parser.frame false info c bs) := by
  unfold Gen.Parser.frame frame_pre; rel [frame_run_R]

theorem stream_info_R (bs : List Nat) : R (stream_info true bs) (stream_info false bs) := by
  unfold stream_info; rel [R_bitsP, R_addU]

theorem metadata_block_R (bs : List Nat) : R (metadata_block true bs) (metadata_block false bs) := by
  unfold metadata_block; rel [R_mapP, stream_info_R]

theorem stream_R (bs : List Nat) : R (Gen.Parser.stream true bs) (Gen.Parser.stream false bs) := by
  unfold Gen.Parser.stream frame_pre; rel [metadata_block_R, R_whileP, R_manyTillEof, frame_run_R]

theorem residual_R (bs w : Nat) (i : List Bool) : R (Gen.Parser.residual true bs w i) (Gen.Parser.residual false bs w i) := by
  unfold Gen.Parser.residual; rel [residual_run_R]

theorem frame_header_R (c : Bool) (bs : List Nat) :
    R (Gen.Parser.frame_header true c bs) (Gen.Parser.frame_header false c bs) := by
  unfold Gen.Parser.frame_header; rel [frame_header_run_R]

open C16Gen

theorem C16G_release_eq_residual (bs w : Nat) (i : Bits) (hbs : bs < 2 ^ 32) :
    Gen.Parser.residual false bs w i = Gen.Parser.residual true bs w i :=
  R_eq_of_ne (residual_R bs w i) (C16G_total_residual bs w i hbs)

theorem C16G_release_eq_subframe (bs bps : Nat) (i : Bits) (hbs : bs < 2 ^ 32) (h1 : 1 ≤ bps) (h2 : bps ≤ 25) :
    Gen.Parser.subframe false bs bps i = Gen.Parser.subframe true bs bps i :=
  R_eq_of_ne (subframe_R bs bps i) (C16G_total_subframe bs bps i hbs h1 h2)

theorem C16G_release_eq_frame_header (c : Bool) (bs : List Nat) (hb : IsBytes bs) :
    Gen.Parser.frame_header false c bs = Gen.Parser.frame_header true c bs :=
  R_eq_of_ne (frame_header_R c bs) (C16G_total_frame_header c bs hb)

theorem C16G_release_eq_frame (info : StreamInfo) (c : Bool) (bs : List Nat) (hb : IsBytes bs) (hch : info.channels < 2 ^ 64)
    (h1 : 1 ≤ info.bps) (h2 : info.bps ≤ 24) :
    Gen.Parser.frame false info c bs = Gen.Parser.frame true info c bs :=
  R_eq_of_ne (frame_R info c bs) (C16G_total_frame info c bs hb hch h1 h2)

/-- C16 for the release profile, `frame` (domain of `C16G_total_frame`) -/
theorem C16G_total_frame_release (info : StreamInfo) (c : Bool) (bs : List Nat) (hb : IsBytes bs) (hch : info.channels < 2 ^ 64)
    (h1 : 1 ≤ info.bps) (h2 : info.bps ≤ 24) : Gen.Parser.frame false info c bs ≠ none := by
  rw [C16G_release_eq_frame info c bs hb hch h1 h2]
  exact C16G_total_frame info c bs hb hch h1 h2

theorem C16G_release_eq (bs : List Nat) (hb : IsBytes bs) : Gen.Parser.stream false bs = Gen.Parser.stream true bs :=
  R_eq_of_ne (stream_R bs) (C16G_total bs hb)

/-- C16 for the release profile: the generated `stream` never returns `none` on any byte string. -/
theorem C16G_total_release (bs : List Nat) (hb : IsBytes bs) : Gen.Parser.stream false bs ≠ none := by
  rw [C16G_release_eq bs hb]
  exact C16G_total bs hb

/-- C15 for the release profile. -/
theorem C15G_stream_roundtrip_release (s : Stream) (bs : List Nat) (hb : IsBytes bs)
    (hbits : s.bits rfcCrc8 rfcCrc16 = some (bytesToBits bs)) (hok : Repo.StreamOk s) :
    ∃ g, Gen.Parser.stream false bs = some (.ok ([], g)) ∧ psOfGen g = Repo.PStream.ofStream s ∧
      (psOfGen g).toStream? = some s := by
  rw [C16G_release_eq bs hb]
  exact C15G_stream_roundtrip s bs hb hbits hok

end FlacVerif.C16GenRel
