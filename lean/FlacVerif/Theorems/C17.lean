/-
C17 — Invalid arguments to the encoding API produce errors, not panics.

Decision logic stated outright over UNBOUNDED naturals (so wrap-around values 2^8+k, 2^16+k,
2^32+k are covered by the theorems, not by a grid): every argument outside the supported domain
makes the mirrored entry point return an error (`none` / `.error` / `false`); together with the
differential `api` stream (model decision = implementation decision, no panic, no hang) this
decides the property.
-/
import FlacVerif.Model.Api
import FlacVerif.Theorems.C18
namespace FlacVerif

/-- `StreamInfo::new` / `Stream::new`: accepted iff 1..=8 channels, a supported width, rate <= 96 kHz. -/
theorem C17_streaminfo (rate ch bps : Nat) :
    (StreamInfo.new rate ch bps).isSome ↔
      (rate ≤ 96000 ∧ 1 ≤ ch ∧ ch ≤ 8 ∧ (bps = 8 ∨ bps = 12 ∨ bps = 16 ∨ bps = 20 ∨ bps = 24)) :=
  C18_streaminfo_iff rate ch bps

/-- Values that would only be in range after truncation to `u8` / `u32` are rejected. -/
theorem C17_streaminfo_wraparound (k rate ch bps : Nat) :
    StreamInfo.new (2 ^ 32 + k) ch bps = none ∧ StreamInfo.new rate (2 ^ 8 + k) bps = none ∧
    StreamInfo.new rate ch (2 ^ 8 + k) = none ∧ StreamInfo.new rate 0 bps = none := by
  refine ⟨?_, ?_, ?_, ?_⟩ <;>
  · rw [← Option.not_isSome_iff_eq_none, C17_streaminfo]; omega

/-- `FrameBuf::with_size`. -/
theorem C17_framebuf (ch size : Nat) :
    (FrameBuf.withSize ch size).isSome ↔ (1 ≤ ch ∧ ch ≤ 8 ∧ 32 ≤ size ∧ size ≤ 32767) := by
  unfold FrameBuf.withSize
  split <;> simp_all

/-- More samples in one fill than the buffer holds, or a length that is not a whole number of
sample frames: error. -/
theorem C17_fill_interleaved_rejects (fb : FrameBuf) (xs : List Int)
    (h : xs.length > fb.samples.length ∨ xs.length % fb.channels ≠ 0) :
    fb.fillInterleaved xs = .error .invalidBuffer := by
  unfold FrameBuf.fillInterleaved
  rw [if_pos h]

/-- Byte fills: a width outside 1..=4, a byte count that is not a whole number of samples, too many
samples, or a sample count that is not a whole number of frames: error. -/
theorem C17_fill_le_bytes_rejects (fb : FrameBuf) (bytes : List Nat) (k : Nat)
    (h : k = 0 ∨ k > 4 ∨ bytes.length % k ≠ 0 ∨ bytes.length / k > fb.samples.length ∨
         (bytes.length / k) % fb.channels ≠ 0) :
    fb.fillLeBytes bytes k = .error .invalidBuffer := by
  unfold FrameBuf.fillLeBytes
  by_cases h1 : ¬ (1 ≤ k ∧ k ≤ 4) ∨ bytes.length % k ≠ 0
  · rw [if_pos h1]
  · rw [if_neg h1]
    have h2 : bytes.length / k > fb.samples.length ∨ (bytes.length / k) % fb.channels ≠ 0 := by omega
    simp only []
    rw [if_pos h2]

/-- A byte fill whose bytes-per-sample disagrees with the declared sample width is rejected by the
MD5 context (single- and multi-thread). -/
theorem C17_context_width (bps k : Nat) : ctxFillLeBytesOk bps k = true ↔ k = (bps + 7) / 8 := by
  simp [ctxFillLeBytesOk]

/-- `encode_fixed_size_frame`: a frame number of 2^31 or more, an empty buffer, a channel count
different from the stream info's, or a sample outside the declared width: error. -/
theorem C17_frame_args (n : Nat) (fb : FrameBuf) (ch bps : Nat) :
    encodeFrameArgsOk n fb ch bps = true ↔
      (n < 2 ^ 31 ∧ fb.channels = ch ∧ 0 < fb.filled ∧ fb.verifySamples bps = true) := by
  simp [encodeFrameArgsOk, and_assoc]

theorem C17_frame_number_rejected (n : Nat) (hn : 2 ^ 31 ≤ n) (fb : FrameBuf) (ch bps : Nat) :
    encodeFrameArgsOk n fb ch bps = false := by
  rw [← Bool.not_eq_true, C17_frame_args]; omega

/-- A sample outside the declared width anywhere in the filled part of any channel is detected. -/
theorem C17_sample_range (fb : FrameBuf) (bps c : Nat) (hc : c < fb.channels) (v : Int)
    (hv : v ∈ fb.channelSlice c) (hout : v < -(2 ^ (bps - 1) : Int) ∨ (2 ^ (bps - 1) : Int) - 1 < v) :
    fb.verifySamples bps = false := by
  rw [← Bool.not_eq_true]
  intro h
  simp only [FrameBuf.verifySamples, List.all_eq_true, List.mem_range, Bool.and_eq_true, decide_eq_true_eq] at h
  have := h c hc v hv
  omega

/-- `encode_with_fixed_block_size` (both modes): accepted iff the block size is in 32..=32767 and the
source's declared format is supported. -/
theorem C17_stream_args (bs ch bps rate : Nat) :
    encodeStreamArgsOk bs ch bps rate = true ↔
      (32 ≤ bs ∧ bs ≤ 32767 ∧ rate ≤ 96000 ∧ 1 ≤ ch ∧ ch ≤ 8 ∧
       (bps = 8 ∨ bps = 12 ∨ bps = 16 ∨ bps = 20 ∨ bps = 24)) := by
  simp only [encodeStreamArgsOk, Bool.and_eq_true, C17_streaminfo, C17_framebuf]
  omega

example : encodeStreamArgsOk 4096 2 16 44100 = true := by decide
example : encodeStreamArgsOk 31 2 16 44100 = false ∧ encodeStreamArgsOk 32768 2 16 44100 = false ∧
    encodeStreamArgsOk 4096 9 16 44100 = false ∧ encodeStreamArgsOk 4096 2 17 44100 = false ∧
    encodeStreamArgsOk 4096 2 16 96001 = false := by decide
example : (FrameBuf.withSize 2 32).isSome = true ∧ (FrameBuf.withSize 2 (2 ^ 16 + 64)).isSome = false := by decide
example : ((FrameBuf.withSize 1 32).bind fun fb => (fb.fillInterleaved (List.replicate 33 0)).toOption) = none := by decide

end FlacVerif
