/-
C03GenMem — the generated `MemSource` (Gen/Source.lean) abides by the source contract `Delivers` of C03Gen, and with it the
generated driver on the generated `MemSource` equals the model's `encodeStream` (success direction), up to the strict analyser
and the generated `Stream::write`.

One `read_samples` call (`mem_read`) hands block `j` of the interleaved input to the pair fill; `k` successive good blocks are a
prefix of the contract (`C03GenErr.mem_delivers_pre`), closed by the exhausted read (`DeliversPre.toDelivers`).  The
end-to-end theorems add one layer each: model stream, strict analyser, generated writer.
-/
import FlacVerif.Lemmas.GenCfg
import FlacVerif.Theorems.C03Gen
import FlacVerif.Theorems.C01Strict
import FlacVerif.Theorems.C08Gen3
import FlacVerif.Theorems.C12
namespace FlacVerif
namespace C03GenMem

theorem interleave_slice (bs : Nat) (chans : List (List Int)) (total j : Nat) (hne : 1 ≤ chans.length)
    (hlen : ∀ c ∈ chans, c.length = total) :
    ((Rfc.interleave chans).drop (j * bs * chans.length)).take (min bs (total - j * bs) * chans.length) =
      Rfc.interleave (chans.map fun c => (c.drop (j * bs)).take bs) := by
  rw [Wrap.interleave_block bs chans total j hne hlen, Rfc.interleave_eq_flatMap chans total hne hlen,
    flatMap_drop_uniform _ chans.length (by intro t; simp), flatMap_take_uniform _ chans.length (by intro t; simp)]
  congr 1
  rw [List.take_eq_take_iff]; simp

open FlacVerif.C03Gen FlacVerif.Gen.Driver
open FlacVerif.Gen.Coding (M)

theorem block_range (chans : List (List Int)) (bps bs j : Nat) (hxr : ∀ x ∈ chans, ∀ v ∈ x, SubFrame.inRange bps v = true) :
    ∀ x ∈ (chans.map fun x => (x.drop (j * bs)).take bs), ∀ v ∈ x, SubFrame.inRange bps v = true :=
  Strict.block_range bs chans bps j hxr

/-- the update `Delivers.block` demands of the context -/
def ctxAfter (c : Gen.Source.Context) (bytes : List Nat) (n : Nat) : Gen.Source.Context :=
  { c with md5 := c.md5 ++ bytes, sample_count := c.sample_count + n, frame_count := c.frame_count + 1 }

/-- the slice `read_samples_from` takes at block `j` of `total · ch` interleaved samples -/
theorem slice_bounds (bs ch total j : Nat) (hj : j * bs < total) :
    min (j * bs * ch) (total * ch) = j * bs * ch ∧
    min (j * bs * ch + bs * ch) (total * ch) - j * bs * ch = min bs (total - j * bs) * ch := by
  refine ⟨Nat.min_eq_left (Nat.mul_le_mul_right _ (Nat.le_of_lt hj)), ?_⟩
  rw [← Nat.add_mul, Nat.mul_min_mul_right, ← Nat.sub_mul]
  congr 1; omega

theorem read_bounds (bs ch total j : Nat) (hch : ch ≤ 8) (hbs : bs < 2 ^ 16) (htot : total < 2 ^ 40) (hj : j * bs < total) :
    j * bs * ch + bs * ch < 2 ^ 64 ∧ j * bs + bs < 2 ^ 64 := by
  have hJ : j * bs * ch ≤ 2 ^ 40 * 8 := Nat.mul_le_mul (Nat.le_of_lt (Nat.lt_trans hj htot)) hch
  have hB : bs * ch ≤ 2 ^ 16 * 8 := Nat.mul_le_mul (Nat.le_of_lt hbs) hch
  omega

theorem next_head (bs total j : Nat) (hj : j * bs < total) : j * bs + min bs (total - j * bs) = min ((j + 1) * bs) total := by
  rw [Nat.succ_mul]; omega

/-- The sample check of the driver's callee table on a filled buffer.  (`C09Gen2.C09G2_verify_samples_meaning` says the same of
part `callees`' reading of the function; this file does not import it, so that the driver's theorems depend on no other
part's generated file than those they are about.) -/
theorem verifySamples_eq (g : Gen.Source.FrameBuf) (ch bps : Nat) (hg : C14Gen.Shape g ch) (hf : g.filled_size ≤ g.size)
    (hb : 1 ≤ bps ∧ bps ≤ 31) :
    verifySamples (fbToCoding g) bps =
      some ((List.range ch).all fun c => (C09Gen.chanOf (fbToCoding g) c).all (SubFrame.inRange bps)) := by
  have hin : ∀ v : Int, (decide (-(2 ^ (bps - 1) : Int) ≤ v) && decide (v ≤ (2 ^ (bps - 1) : Int) - 1)) = SubFrame.inRange bps v := by
    intro v
    rw [SubFrame.inRange, decide_eq_decide.mpr Int.le_sub_one_iff]
  have hmap : ∀ b : Bool, Option.map Option.isSome (some (if b = true then some () else none)) = some b := by
    intro b; cases b <;> rfl
  rw [verifySamples, show fbOfCoding (fbToCoding g) = g from rfl, C14Gen.C14G_verify_samples g ch hg hf bps hb]
  simp only [FlacVerif.FrameBuf.verifySamples, hin]
  exact hmap _

/-- **one `read_samples` of the generated `MemSource`** standing at block `j` (`j·bs < total`): it hands the interleaved block to the
pair fill; the buffer keeps its shape and then reads back exactly the channels of block `j`, the context has hashed the block's
bytes and counted its samples and one frame, the block length is returned and added to `read_head`.  (`hc3`, `hc4` only keep
the two `usize` counters of the context from overflowing.) -/
theorem mem_read (chans : List (List Int)) (ch bps rate bs total j : Nat) (g : Gen.Source.FrameBuf) (c : Gen.Source.Context)
    (hcl : chans.length = ch) (hch : 1 ≤ ch ∧ ch ≤ 8) (hlen : ∀ x ∈ chans, x.length = total) (hb : 1 ≤ bps ∧ bps ≤ 24)
    (hbs : 1 ≤ bs ∧ bs < 2 ^ 16) (htot : total < 2 ^ 40) (hj : j * bs < total)
    (hg : C14Gen.Shape g ch) (hgs : g.size = bs)
    (hc1 : c.bytes_per_sample = (bps + 7) / 8) (hc2 : c.channels = ch) (hc3 : c.sample_count ≤ total)
    (hc4 : c.frame_count ≤ total) :
    ∃ g', C14Gen.Shape g' ch ∧ g'.size = bs ∧ g'.filled_size = min bs (total - j * bs) ∧
      (∀ cc, cc < ch → C09Gen.chanOf (fbToCoding g') cc = (chans.map fun x => (x.drop (j * bs)).take bs).getD cc []) ∧
      memOps.read_samples ⟨ch, bps, rate, Rfc.interleave chans, j * bs⟩ bs (g, c) =
        some (some (min bs (total - j * bs)), ⟨ch, bps, rate, Rfc.interleave chans, j * bs + min bs (total - j * bs)⟩,
          (g', ctxAfter c (md5Input bps (Rfc.interleave (chans.map fun x => (x.drop (j * bs)).take bs)))
            (min bs (total - j * bs)))) := by
  have hne : 1 ≤ chans.length := by omega
  have hchp : 0 < ch := hch.1
  have hn1 : 1 ≤ min bs (total - j * bs) ∧ min bs (total - j * bs) ≤ bs ∧ j * bs + min bs (total - j * bs) ≤ total := by omega
  generalize hn : min bs (total - j * bs) = n at *
  generalize hblk : (chans.map fun x => (x.drop (j * bs)).take bs) = blk
  have hbll : blk.length = ch := by rw [← hblk]; simpa using hcl
  have hbl : ∀ x ∈ blk, x.length = n := hblk ▸ hn ▸ Strict.block_lengths bs chans total hlen j
  have hxl : (Rfc.interleave chans).length = total * ch := by rw [Wrap.interleave_length chans total hne hlen, hcl]
  have hil : (Rfc.interleave blk).length = n * ch := by rw [Wrap.interleave_length blk n (by omega) hbl, hbll]
  have hslice := interleave_slice bs chans total j hne hlen
  rw [hcl, hn, hblk] at hslice
  have hB : n * ch ≤ bs * ch := Nat.mul_le_mul_right _ hn1.2.1
  have hBS : bs * ch ≤ 2 ^ 16 * 8 := Nat.mul_le_mul (Nat.le_of_lt hbs.2) hch.2
  have hmlen : (C14Gen.toModel g ch).samples.length = (C14Gen.toModel g ch).size * (C14Gen.toModel g ch).channels := hg.len
  obtain ⟨m', hm, hfilled, hslen, hsize, hmch⟩ := C14_fill_accepts (C14Gen.toModel g ch) hmlen (Rfc.interleave blk)
    (by simp only [C14Gen.toModel, hgs, hil]; exact hB) (by simp only [C14Gen.toModel, hil]; exact Nat.mul_mod_left _ _)
  simp only [C14Gen.toModel] at hfilled hslen hsize hmch
  rw [hil, Nat.mul_div_cancel _ hchp] at hfilled
  refine ⟨{ g with samples := m'.samples, filled_size := m'.filled },
    ⟨by simp only [hslen]; exact hg.len, hg.size_pos, hg.ch_pos, by simp only [hslen]; exact hg.small⟩, hgs, hfilled, ?_, ?_⟩
  · intro cc hcc
    -- the buffer returned, seen as the hand model's, is the `m'` the model's fill returns
    have hm' : C14Gen.toModel { g with samples := m'.samples, filled_size := m'.filled } ch = m' := by
      rw [C14Gen.toModel, ← hsize, ← hmch]
    rw [chanOf_fbToCoding _ ch, hm', C14_channel_slice (C14Gen.toModel g ch) hch.1 hmlen (Rfc.interleave blk) m' hm cc hcc]
    simp only [C14Gen.toModel, hil, Nat.mul_div_cancel _ hchp]
    have hcl' : (blk.getD cc []).length = n := hbl _ (getD_mem blk cc [] (by omega))
    have hr := range_map_getD (blk.getD cc []) 0
    rw [hcl'] at hr
    refine Eq.trans ?_ hr
    apply List.map_congr_left
    intro t ht
    rw [List.mem_range] at ht
    rw [← hbll]
    exact Wrap.interleave_getD blk n t cc (by omega) hbl (by omega) (by omega)
  · unfold memOps
    simp only []
    rw [C14Gen.C14G_read_samples _ _ _ _ hch.1 (read_bounds bs ch total j hch.2 hbs.2 htot hj).1
      (read_bounds bs ch total j hch.2 hbs.2 htot hj).2]
    simp only [hxl, (slice_bounds bs ch total j hj).1, hn ▸ (slice_bounds bs ch total j hj).2, hslice]
    clear hn
    rw [C14Gen.C14G_pair_fill_interleaved, C14Gen.C14G_fill_interleaved g ch hg _ (by rw [hil]; omega), hm]
    simp only []
    have hnc1 : 1 ≤ n * ch := Nat.mul_pos hn1.1 hchp
    rw [C14Gen.C14G_ctx_fill_interleaved c bps hc1 (by rw [hc1]; omega) _ (fun _ => by rw [hc2]; exact hch.1)
      (by rw [hc2, hil, Nat.mul_div_cancel _ hchp]; omega) (by omega)]
    have hie : (Rfc.interleave blk).isEmpty = false :=
      List.isEmpty_eq_false_iff.2 (List.ne_nil_of_length_pos (by rw [hil]; exact hnc1))
    simp only [Ctx.fillInterleaved, C14Gen.toCtx, hie, Bool.false_eq_true, if_false, hc2, hil,
      Nat.mul_div_cancel _ hchp, ctxAfter]

/-- **one block of the generated `MemSource`**: from `read_head = j·bs` (a block is left: `j·bs < total`) `read_samples` hands the
interleaved block `j` to the pair fill; the buffer then holds exactly that block (`GoodFb`), the context has hashed its bytes
and counted its samples and one frame, the block length is returned and added to `read_head`. -/
theorem mem_block (chans : List (List Int)) (ch bps rate bs total j : Nat) (g : Gen.Source.FrameBuf) (c : Gen.Source.Context)
    (hcl : chans.length = ch) (hch : 1 ≤ ch ∧ ch ≤ 8) (hlen : ∀ x ∈ chans, x.length = total)
    (hxr : ∀ x ∈ (chans.map fun x => (x.drop (j * bs)).take bs), ∀ v ∈ x, SubFrame.inRange bps v = true) (hb : 1 ≤ bps ∧ bps ≤ 24)
    (hbs : 1 ≤ bs ∧ bs < 2 ^ 16) (htot : total < 2 ^ 40) (hj : j * bs < total)
    (hg : C14Gen.Shape g ch) (hgs : g.size = bs)
    (hc1 : c.bytes_per_sample = (bps + 7) / 8) (hc2 : c.channels = ch) (hc3 : c.sample_count ≤ total)
    (hc4 : c.frame_count ≤ total) :
    ∃ g', C14Gen.Shape g' ch ∧ g'.size = bs ∧
      GoodFb g' (chans.map fun x => (x.drop (j * bs)).take bs) ch bps ∧
      memOps.read_samples ⟨ch, bps, rate, Rfc.interleave chans, j * bs⟩ bs (g, c) =
        some (some (min bs (total - j * bs)), ⟨ch, bps, rate, Rfc.interleave chans, j * bs + min bs (total - j * bs)⟩,
          (g', ctxAfter c (md5Input bps (Rfc.interleave (chans.map fun x => (x.drop (j * bs)).take bs)))
            (min bs (total - j * bs)))) := by
  have hne : 1 ≤ chans.length := by omega
  obtain ⟨g', hg', hgs', hfill, hchan, hread⟩ := mem_read chans ch bps rate bs total j g c hcl hch hlen hb hbs htot hj hg hgs hc1 hc2 hc3 hc4
  have hblen : (chans.map fun x => (x.drop (j * bs)).take bs).length = ch := by simpa using hcl
  have hrange : ∀ cc, cc < ch → ∀ x ∈ C09Gen.chanOf (fbToCoding g') cc, SubFrame.inRange bps x = true := by
    intro cc hcc x hx
    rw [hchan cc hcc] at hx
    exact hxr _ (getD_mem _ cc [] (by omega)) x hx
  refine ⟨g', hg', hgs', ⟨?_, ?_, by rw [hfill]; omega, hrange, ?_, ?_⟩, hread⟩
  · unfold C09Gen.chansOf
    rw [← range_map_getD (chans.map fun x => (x.drop (j * bs)).take bs) [], hblen]
    exact List.map_congr_left fun cc hcc => hchan cc (List.mem_range.1 hcc)
  · refine ⟨?_, by simp only [fbToCoding, hfill, hgs']; omega, by simp only [fbToCoding]; have := hg'.small; omega⟩
    simp only [fbToCoding, hg'.len]; rw [Nat.mul_comm]; exact Nat.le_refl _
  · rw [hg'.len]; exact Nat.mul_div_cancel_left ch hg'.size_pos
  · rw [verifySamples_eq g' ch bps hg' (by rw [hfill, hgs']; omega) (by omega)]
    simp only [Option.some.injEq, List.all_eq_true, List.mem_range]
    exact hrange

theorem mem_block_bad (chans : List (List Int)) (ch bps rate bs total j : Nat) (g : Gen.Source.FrameBuf) (c : Gen.Source.Context)
    (hcl : chans.length = ch) (hch : 1 ≤ ch ∧ ch ≤ 8) (hlen : ∀ x ∈ chans, x.length = total)
    (hbad : ∃ cc, cc < ch ∧ ∃ v ∈ (chans.map fun x => (x.drop (j * bs)).take bs).getD cc [], SubFrame.inRange bps v = false)
    (hb : 1 ≤ bps ∧ bps ≤ 24)
    (hbs : 1 ≤ bs ∧ bs < 2 ^ 16) (htot : total < 2 ^ 40) (hj : j * bs < total)
    (hg : C14Gen.Shape g ch) (hgs : g.size = bs)
    (hc1 : c.bytes_per_sample = (bps + 7) / 8) (hc2 : c.channels = ch) (hc3 : c.sample_count ≤ total)
    (hc4 : c.frame_count ≤ total) :
    ∃ g', (g'.size ≠ 0 ∧ g'.samples.length / g'.size = ch ∧ 0 < g'.filled_size ∧
        verifySamples (fbToCoding g') bps = some false) ∧
      memOps.read_samples ⟨ch, bps, rate, Rfc.interleave chans, j * bs⟩ bs (g, c) =
        some (some (min bs (total - j * bs)), ⟨ch, bps, rate, Rfc.interleave chans, j * bs + min bs (total - j * bs)⟩,
          (g', ctxAfter c (md5Input bps (Rfc.interleave (chans.map fun x => (x.drop (j * bs)).take bs)))
            (min bs (total - j * bs)))) := by
  obtain ⟨g', hg', hgs', hfill, hchan, hread⟩ := mem_read chans ch bps rate bs total j g c hcl hch hlen hb hbs htot hj hg hgs hc1 hc2 hc3 hc4
  refine ⟨g', ⟨by rw [hgs']; omega, by rw [hg'.len]; exact Nat.mul_div_cancel_left ch hg'.size_pos, by rw [hfill]; omega, ?_⟩, hread⟩
  rw [verifySamples_eq g' ch bps hg' (by rw [hfill, hgs']; omega) (by omega), Option.some.injEq, Bool.eq_false_iff]
  intro hall
  simp only [List.all_eq_true, List.mem_range] at hall
  obtain ⟨cc, hcc, v, hv, hvr⟩ := hbad
  rw [← hchan cc hcc] at hv
  rw [hall cc hcc v hv] at hvr
  exact Bool.noConfusion hvr

theorem mem_done (ch bps rate bs rh : Nat) (xs : List Int) (g : Gen.Source.FrameBuf) (c : Gen.Source.Context)
    (hch : 1 ≤ ch) (hend : xs.length ≤ rh * ch) (ho : rh * ch + bs * ch < 2 ^ 64) (hr : rh + bs < 2 ^ 64)
    (hg : C14Gen.Shape g ch) :
    ∃ g', memOps.read_samples ⟨ch, bps, rate, xs, rh⟩ bs (g, c) = some (some 0, ⟨ch, bps, rate, xs, rh⟩, (g', c)) :=
  memOps_exhausted ch bps rate bs rh xs g c hch hend ho hr hg

end C03GenMem

namespace C03GenErr
open FlacVerif.C03Gen FlacVerif.C03GenMem FlacVerif.Gen.Driver

/-- block `i` of `blocksOf bs chans` -/
abbrev blockAt (chans : List (List Int)) (bs i : Nat) : List (List Int) := chans.map fun x => (x.drop (i * bs)).take bs

/-- a delivered prefix followed by a `read_samples` that returns 0 and leaves the context alone is a full delivery (the
converse of `Delivers.toPre`) -/
theorem DeliversPre.toDelivers {T : Type} {ops : SourceOps T} {bs ch bps : Nat} {src srcp srcf : T}
    {fbc fbcp fbcf : Gen.Source.FrameBuf × Gen.Source.Context} {blocks : List (List (List Int))}
    (hpre : DeliversPre ops bs ch bps src fbc blocks srcp fbcp)
    (hstop : ops.read_samples srcp bs fbcp = some (some 0, srcf, fbcf)) (hctx : fbcf.2 = fbcp.2) :
    Delivers ops bs ch bps src fbc blocks srcf fbcf := by
  induction hpre with
  | nil src fbc => exact Delivers.done _ _ _ _ hstop hctx
  | block src src' srcp fbc fbc' fbcp b rest k hr hk hkb hc hgood _ ih =>
    exact Delivers.block _ _ _ _ _ _ _ _ k hr hk hkb hc hgood (ih hstop hctx)

/-- the generated `MemSource` delivers `k` good blocks from block `j` on and then stands at block `j + k` -/
theorem mem_delivers_pre (chans : List (List Int)) (ch bps rate bs total : Nat)
    (hcl : chans.length = ch) (hch : 1 ≤ ch ∧ ch ≤ 8) (hlen : ∀ x ∈ chans, x.length = total) (hb : 1 ≤ bps ∧ bps ≤ 24)
    (hbs : 1 ≤ bs ∧ bs < 2 ^ 16) (htot : total < 2 ^ 40) :
    ∀ (k j : Nat) (g : Gen.Source.FrameBuf) (c : Gen.Source.Context), j + k ≤ (total + bs - 1) / bs →
      (∀ i, j ≤ i → i < j + k → ∀ x ∈ blockAt chans bs i, ∀ v ∈ x, SubFrame.inRange bps v = true) →
      C14Gen.Shape g ch → g.size = bs → c.bytes_per_sample = (bps + 7) / 8 → c.channels = ch →
      c.sample_count = min (j * bs) total → c.frame_count = j →
      ∃ g' c', DeliversPre memOps bs ch bps ⟨ch, bps, rate, Rfc.interleave chans, min (j * bs) total⟩ (g, c)
          ((List.range' j k).map (blockAt chans bs)) ⟨ch, bps, rate, Rfc.interleave chans, min ((j + k) * bs) total⟩ (g', c') ∧
        C14Gen.Shape g' ch ∧ g'.size = bs ∧ c'.bytes_per_sample = (bps + 7) / 8 ∧ c'.channels = ch ∧
        c'.sample_count = min ((j + k) * bs) total ∧ c'.frame_count = j + k := by
  intro k
  induction k with
  | zero =>
    intro j g c _ _ hg hgs hc1 hc2 hc3 hc4
    exact ⟨g, c, DeliversPre.nil _ _, hg, hgs, hc1, hc2, hc3, hc4⟩
  | succ k ih =>
    intro j g c hjk hgood hg hgs hc1 hc2 hc3 hc4
    have hjlt := Strict.lt_ceil total bs j hbs.1 (by omega)
    have hjt : j ≤ total := Nat.le_trans (Nat.le_mul_of_pos_right j hbs.1) (Nat.le_of_lt hjlt)
    obtain ⟨g', hg', hgs', hgoodfb, hread⟩ := mem_block chans ch bps rate bs total j g c hcl hch hlen
      (hgood j (Nat.le_refl _) (by omega)) hb hbs htot hjlt hg hgs hc1 hc2 (by omega) (by omega)
    have hnext := next_head bs total j hjlt
    obtain ⟨g2, c2, hd, h⟩ := ih (j + 1) g'
      (ctxAfter c (md5Input bps (Rfc.interleave (blockAt chans bs j))) (min bs (total - j * bs)))
      (by omega) (fun i hi1 hi2 => hgood i (by omega) (by omega)) hg' hgs' hc1 hc2
      (by rw [← hnext, Nat.min_eq_left (Nat.le_of_lt hjlt)] at *; simp only [ctxAfter, hc3]) (by simp only [ctxAfter, hc4])
    rw [Nat.add_right_comm j 1 k] at hd h
    refine ⟨g2, c2, ?_, h⟩
    rw [Nat.min_eq_left (Nat.le_of_lt hjlt), List.range'_succ, List.map_cons]
    rw [hnext] at hread
    exact DeliversPre.block _ _ _ _ _ _ _ _ (min bs (total - j * bs)) hread
      (Nat.ne_of_gt (Nat.lt_min.2 ⟨hbs.1, Nat.sub_pos_of_lt hjlt⟩))
      (by rw [Strict.block_headD bs chans total (by omega) hlen j]) rfl hgoodfb hd

end C03GenErr

namespace C03GenMem
open FlacVerif.C03Gen FlacVerif.Gen.Driver
open FlacVerif.Gen.Coding (M)

/-- **the generated `MemSource` abides by the source contract**: holding `interleave chans` (1..8 channels of equal length,
samples inside the width), from `read_head = min (j·bs) total` it delivers the blocks `j, j+1, ..` of `blocksOf bs chans` and
ends exhausted. -/
theorem mem_delivers_aux (chans : List (List Int)) (ch bps rate bs total : Nat)
    (hcl : chans.length = ch) (hch : 1 ≤ ch ∧ ch ≤ 8) (hlen : ∀ x ∈ chans, x.length = total)
    (hxr : ∀ x ∈ chans, ∀ v ∈ x, SubFrame.inRange bps v = true) (hb : 1 ≤ bps ∧ bps ≤ 24)
    (hbs : 1 ≤ bs ∧ bs < 2 ^ 16) (htot : total < 2 ^ 40) :
    ∀ (k j : Nat) (g : Gen.Source.FrameBuf) (c : Gen.Source.Context), j + k = (total + bs - 1) / bs →
      C14Gen.Shape g ch → g.size = bs → c.bytes_per_sample = (bps + 7) / 8 → c.channels = ch →
      c.sample_count = min (j * bs) total → c.frame_count = j →
      ∃ fbcf, Delivers memOps bs ch bps ⟨ch, bps, rate, Rfc.interleave chans, min (j * bs) total⟩ (g, c)
        ((List.range' j k).map fun i => chans.map fun x => (x.drop (i * bs)).take bs)
        ⟨ch, bps, rate, Rfc.interleave chans, total⟩ fbcf := by
  intro k j g c hjk hg hgs hc1 hc2 hc3 hc4
  obtain ⟨g', c', hd, hg', -⟩ := C03GenErr.mem_delivers_pre chans ch bps rate bs total hcl hch hlen hb hbs htot k j g c
    (Nat.le_of_eq hjk) (fun i _ _ => block_range chans bps bs i hxr) hg hgs hc1 hc2 hc3 hc4
  rw [hjk, Nat.min_eq_right (Strict.ceil_mul_ge total bs hbs.1)] at hd
  have hT : total * ch ≤ 2 ^ 40 * 8 := Nat.mul_le_mul (Nat.le_of_lt htot) hch.2
  have hBS : bs * ch ≤ 2 ^ 16 * 8 := Nat.mul_le_mul (Nat.le_of_lt hbs.2) hch.2
  obtain ⟨g'', hread⟩ := mem_done ch bps rate bs total (Rfc.interleave chans) g' c' hch.1
    (by rw [Wrap.interleave_length chans total (by omega) hlen, hcl]; exact Nat.le_refl _) (by omega) (by omega) hg'
  exact ⟨(g'', c'), hd.toDelivers hread rfl⟩

/-- **`memOps` satisfies `Delivers` for `blocksOf bs chans`**: the generated `MemSource::from_samples(interleave chans, ..)`
with the buffer `FrameBuf::with_size` made and a fresh context delivers exactly the model's blocks. -/
theorem C03G_mem_delivers (chans : List (List Int)) (ch bps rate bs total : Nat) (m0 : FlacVerif.FrameBuf)
    (hcl : chans.length = ch) (hlen : ∀ x ∈ chans, x.length = total)
    (hxr : ∀ x ∈ chans, ∀ v ∈ x, SubFrame.inRange bps v = true) (hb : 1 ≤ bps ∧ bps ≤ 24) (htot : total < 2 ^ 40)
    (hfb : FlacVerif.FrameBuf.withSize ch bs = some m0) :
    ∃ fbcf, Delivers memOps bs ch bps (Gen.Source.MemSource.from_samples (Rfc.interleave chans) ch bps rate)
      (C14Gen.ofModel m0 [], ⟨[], (bps + 7) / 8, ch, 0, 0⟩) (blocksOf bs chans)
      ⟨ch, bps, rate, Rfc.interleave chans, total⟩ fbcf := by
  have hch := (SourceLemmas.withSize_some.mp hfb).1
  obtain ⟨hshape, hsize⟩ := withSize_shape hfb
  obtain ⟨fbcf, hd⟩ := mem_delivers_aux chans ch bps rate bs total hcl ⟨hch.1, hch.2.1⟩ hlen hxr hb (by omega) htot
    ((total + bs - 1) / bs) 0 (C14Gen.ofModel m0 []) ⟨[], (bps + 7) / 8, ch, 0, 0⟩ (by omega) hshape hsize rfl rfl (by simp) rfl
  refine ⟨fbcf, ?_⟩
  rw [Strict.blocksOf_eq bs chans total (by omega) hlen, List.range_eq_range']
  simpa [Gen.Source.MemSource.from_samples] using hd

theorem mem_len_hint (chans : List (List Int)) (ch bps rate total rh : Nat) (hcl : chans.length = ch) (hch : 1 ≤ ch)
    (hlen : ∀ x ∈ chans, x.length = total) :
    memOps.len_hint ⟨ch, bps, rate, Rfc.interleave chans, rh⟩ = some (some total) := by
  rw [memOps_len_hint _ (show ch ≠ 0 by omega), Wrap.interleave_length chans total (by omega) hlen, hcl,
    Nat.mul_div_cancel _ (by omega : 0 < ch)]

/-- **the generated driver on the generated `MemSource` = the model's `encodeStream`** (success direction): the chain
source text -> `Gen/Source.lean` + `Gen/Coding.lean` + `Gen/Driver.lean` -> `encodeStream`, on which C01_stream_strict / C03 / C04 /
C09Stream rest, is closed by proof: `encode_with_fixed_block_size(cfg, MemSource::from_samples(interleave chans, ch, bps, rate),
bs)` with accepted arguments, samples inside the width, a single-thread configuration within the C09Gen bounds, a valid oracle
log for which the model's frame loop returns: same stream (image), same remaining log. -/
theorem C03G_driver_mem_success (featPar : Bool) (par : Gen.Encoder → Gen.Source.MemSource → Nat → M (Option Gen.Writer.Stream))
    (md5f : List Nat → List Nat) (s1 : Nat → List (List Int)) (s2 : Nat → List Int) (s3 : Nat → Gen.Coding.FrameBuf)
    (c : Gen.Encoder) (chans : List (List Int)) (ch bps rate bs total : Nat) (log logf : List OEvent) (i0 : StreamInfo)
    (m0 : FlacVerif.FrameBuf) (fs : List Frame)
    (hmt : c.multithread = false)
    (hnew : FlacVerif.StreamInfo.new rate ch bps = some i0) (hfb : FlacVerif.FrameBuf.withSize ch bs = some m0)
    (hst : ∀ n, C09Gen.StereoBuf (s3 n)) (hb : 1 ≤ bps ∧ bps ≤ 24)
    (hmax : c.subframe_coding.prc.max_parameter ≤ 14) (hmo : c.subframe_coding.fixed.max_order + 1 < 2 ^ 64)
    (hcl : chans.length = ch) (hlen : ∀ x ∈ chans, x.length = total)
    (hxr : ∀ x ∈ chans, ∀ v ∈ x, SubFrame.inRange bps v = true) (htot : total < 2 ^ 40)
    (henc : encodeFrames (Total.subCfgOf c.subframe_coding) (Total.stereoCfgOf c.stereo_coding) bps rate (blocksOf bs chans) 0 log =
      some (fs, logf))
    (hlog : C09Gen.LogFits log) (hlogok : ∀ e ∈ log, e.Ok) (hnb : (blocksOf bs chans).length < 2 ^ 31)
    (hmd : ∀ l, (md5f l).length = 16) :
    ∀ fuel, (blocksOf bs chans).length < fuel →
      (encode_with_fixed_block_size featPar memOps par md5f s1 s2 s3 fuel c
          (Gen.Source.MemSource.from_samples (Rfc.interleave chans) ch bps rate) bs log).map
        (fun r => (r.1.map streamImage, r.2)) =
      (encodeStream md5f (Total.subCfgOf c.subframe_coding) (Total.stereoCfgOf c.stereo_coding) bs chans bps rate log).map
        (fun r => (some r.1, r.2)) := by
  obtain ⟨fbcf, hd⟩ := C03G_mem_delivers chans ch bps rate bs total m0 hcl hlen hxr hb htot hfb
  have hch := (SourceLemmas.withSize_some.mp hfb).1
  have hne : 1 ≤ chans.length := by omega
  have hlh := mem_len_hint chans ch bps rate total total hcl hch.1 hlen
  have hhead : (chans.headD []).length = total := by
    cases chans with
    | nil => simp at hne
    | cons x xs => exact hlen x (by simp)
  exact C03G_driver_contract_model_success memOps featPar par md5f s1 s2 s3 c _ _ bs log logf i0 m0 fbcf (some total) chans total fs
    hmt hnew hfb hst hb hmax hmo hcl hlen hd henc hlog hlogok hnb hlh (by simpa using hhead.symm) hmd

/-- the same, solved for the generated result: whenever the model's `encodeStream` returns `(s, log')`, the generated driver
returns `Ok(G)` with the same remaining log and `streamImage G = s` (so every fact C03 / C04 / C09Stream / C01_stream_strict
prove about `s` — STREAMINFO = `assembleInfo`, the frames — holds of the stream the generated code builds). -/
theorem C03G_driver_mem_stream (featPar : Bool) (par : Gen.Encoder → Gen.Source.MemSource → Nat → M (Option Gen.Writer.Stream))
    (md5f : List Nat → List Nat) (s1 : Nat → List (List Int)) (s2 : Nat → List Int) (s3 : Nat → Gen.Coding.FrameBuf)
    (c : Gen.Encoder) (chans : List (List Int)) (ch bps rate bs total : Nat) (log logf : List OEvent) (i0 : StreamInfo)
    (m0 : FlacVerif.FrameBuf) (s : Stream)
    (hmt : c.multithread = false)
    (hnew : FlacVerif.StreamInfo.new rate ch bps = some i0) (hfb : FlacVerif.FrameBuf.withSize ch bs = some m0)
    (hst : ∀ n, C09Gen.StereoBuf (s3 n)) (hb : 1 ≤ bps ∧ bps ≤ 24)
    (hmax : c.subframe_coding.prc.max_parameter ≤ 14) (hmo : c.subframe_coding.fixed.max_order + 1 < 2 ^ 64)
    (hcl : chans.length = ch) (hlen : ∀ x ∈ chans, x.length = total)
    (hxr : ∀ x ∈ chans, ∀ v ∈ x, SubFrame.inRange bps v = true) (htot : total < 2 ^ 40)
    (hs : encodeStream md5f (Total.subCfgOf c.subframe_coding) (Total.stereoCfgOf c.stereo_coding) bs chans bps rate log = some (s, logf))
    (hlog : C09Gen.LogFits log) (hlogok : ∀ e ∈ log, e.Ok) (hnb : (blocksOf bs chans).length < 2 ^ 31)
    (hmd : ∀ l, (md5f l).length = 16) :
    ∀ fuel, (blocksOf bs chans).length < fuel →
      ∃ G, encode_with_fixed_block_size featPar memOps par md5f s1 s2 s3 fuel c
          (Gen.Source.MemSource.from_samples (Rfc.interleave chans) ch bps rate) bs log = some (some G, logf) ∧
        streamImage G = s := by
  intro fuel hf
  obtain ⟨fs, _, henc, _⟩ := Strict.encodeStream_shape hs
  have h := C03G_driver_mem_success featPar par md5f s1 s2 s3 c chans ch bps rate bs total log logf i0 m0 fs hmt hnew hfb hst hb
    hmax hmo hcl hlen hxr htot henc hlog hlogok hnb hmd fuel hf
  rw [hs] at h
  exact map_image_some streamImage h

/-- **C01_stream_strict / C03 / C04 for the generated code**: under the hypotheses of `C01_stream_strict` (and the bounds of
C09Gen), whenever the model returns a stream the GENERATED `encode_with_fixed_block_size` on the GENERATED
`MemSource::from_samples(interleave chans, ..)` returns `Ok(G)`; `Stream::write` of (the image of) `G` succeeds, the strict RFC 9639
analyser accepts the bytes and returns exactly the input audio, and STREAMINFO states the true rate, channels, width, sample count,
MD5 signature and the block size `bs` as both bounds. -/
theorem C03G_stream_strict (featPar : Bool) (par : Gen.Encoder → Gen.Source.MemSource → Nat → M (Option Gen.Writer.Stream))
    (md5f : List Nat → List Nat) (s1 : Nat → List (List Int)) (s2 : Nat → List Int) (s3 : Nat → Gen.Coding.FrameBuf)
    (c : Gen.Encoder) (chans : List (List Int)) (bps rate bs total : Nat) (log logf : List OEvent) (i0 : StreamInfo)
    (m0 : FlacVerif.FrameBuf) (s : Stream)
    (hmt : c.multithread = false)
    (hnew : FlacVerif.StreamInfo.new rate chans.length bps = some i0) (hfb : FlacVerif.FrameBuf.withSize chans.length bs = some m0)
    (hst : ∀ n, C09Gen.StereoBuf (s3 n)) (hb : 4 ≤ bps ∧ bps ≤ 24) (hrate : 1 ≤ rate ∧ rate < 2 ^ 20)
    (hmax : c.subframe_coding.prc.max_parameter ≤ 14) (hmo : c.subframe_coding.fixed.max_order + 1 < 2 ^ 64)
    (hch : 1 ≤ chans.length ∧ chans.length ≤ 8) (hlen : ∀ x ∈ chans, x.length = total)
    (hxr : ∀ x ∈ chans, ∀ v ∈ x, SubFrame.inRange bps v = true) (htot : total < 2 ^ 36)
    (hbs : 16 ≤ bs ∧ bs < 2 ^ 16) (hnb : (total + bs - 1) / bs < 2 ^ 31)
    (hs : encodeStream md5f (Total.subCfgOf c.subframe_coding) (Total.stereoCfgOf c.stereo_coding) bs chans bps rate log = some (s, logf))
    (hlog : C09Gen.LogFits log) (hlogok : ∀ e ∈ log, e.Ok)
    (hmd : ∀ x, (md5f x).length = 16 ∧ ∀ b ∈ md5f x, b < 256) :
    ∀ fuel, (total + bs - 1) / bs < fuel →
      ∃ G sb rep, encode_with_fixed_block_size featPar memOps par md5f s1 s2 s3 fuel c
          (Gen.Source.MemSource.from_samples (Rfc.interleave chans) chans.length bps rate) bs log = some (some G, logf) ∧
        (streamImage G).bits rfcCrc8 rfcCrc16 = some sb ∧ Rfc.analyzeRec md5f (packBytes sb) = .ok rep ∧
        rep.audio = chans ∧ rep.info.rate = rate ∧ rep.info.channels = chans.length ∧ rep.info.bps = bps ∧
        rep.info.total = total ∧ rep.info.md5 = md5f (md5Input bps (Rfc.interleave chans)) ∧
        rep.info.minBlock = bs ∧ rep.info.maxBlock = bs ∧ rep.metadataBlocks = 0 ∧
        rep.frames.length = (total + bs - 1) / bs := by
  intro fuel hf
  have hbl := Strict.blocksOf_length bs chans total hch.1 hlen
  obtain ⟨G, hg, himg⟩ := C03G_driver_mem_stream featPar par md5f s1 s2 s3 c chans chans.length bps rate bs total log logf i0 m0 s hmt
    hnew hfb hst ⟨by omega, hb.2⟩ hmax hmo rfl hlen hxr (by omega) hs hlog hlogok (by rw [hbl]; exact hnb) (fun l => (hmd l).1)
    fuel (by rw [hbl]; exact hf)
  obtain ⟨sb, rep, h1, h2, h3⟩ := C01_stream_strict md5f _ _ bs chans bps rate log logf s total hmd hch hlen htot hbs hb hrate hxr
    (by simpa [Total.subCfgOf] using hmax) (by omega) hlogok hs
  exact ⟨G, sb, rep, hg, by rw [himg]; exact h1, h2, h3⟩

/-- **the Rust-side VALUE the generated driver returns on the generated `MemSource`** (success direction): the STREAMINFO block
flagged last, no further metadata block, the frames `gs` whose model images are the model's frames — the form
`C08G_stream_ops` (`Stream::write`) needs: `C08Gen.streamToGen (streamImage G) G.frames = G`. -/
theorem C03G_driver_mem_value (featPar : Bool) (par : Gen.Encoder → Gen.Source.MemSource → Nat → M (Option Gen.Writer.Stream))
    (md5f : List Nat → List Nat) (s1 : Nat → List (List Int)) (s2 : Nat → List Int) (s3 : Nat → Gen.Coding.FrameBuf)
    (c : Gen.Encoder) (chans : List (List Int)) (ch bps rate bs total : Nat) (log logf : List OEvent) (i0 : StreamInfo)
    (m0 : FlacVerif.FrameBuf) (fs : List Frame)
    (hmt : c.multithread = false)
    (hnew : FlacVerif.StreamInfo.new rate ch bps = some i0) (hfb : FlacVerif.FrameBuf.withSize ch bs = some m0)
    (hst : ∀ n, C09Gen.StereoBuf (s3 n)) (hb : 1 ≤ bps ∧ bps ≤ 24)
    (hmax : c.subframe_coding.prc.max_parameter ≤ 14) (hmo : c.subframe_coding.fixed.max_order + 1 < 2 ^ 64)
    (hcl : chans.length = ch) (hlen : ∀ x ∈ chans, x.length = total)
    (hxr : ∀ x ∈ chans, ∀ v ∈ x, SubFrame.inRange bps v = true) (htot : total < 2 ^ 40)
    (henc : encodeFrames (Total.subCfgOf c.subframe_coding) (Total.stereoCfgOf c.stereo_coding) bps rate (blocksOf bs chans) 0 log =
      some (fs, logf))
    (hlog : C09Gen.LogFits log) (hlogok : ∀ e ∈ log, e.Ok) (hnb : (blocksOf bs chans).length < 2 ^ 31)
    (hmd : ∀ l, (md5f l).length = 16) :
    ∃ (gs : List Gen.Writer.Frame) (info : StreamInfo), gs.map C08Gen.frameOfGen = fs ∧
      (∀ g ∈ gs, (C08Gen.frameOfGen g).count = some (Gen.Writer.Frame.count_bits g)) ∧ (∀ g ∈ gs, C08Gen.FrameOk g) ∧
      info.total = total ∧
      ∀ fuel, (blocksOf bs chans).length < fuel →
        encode_with_fixed_block_size featPar memOps par md5f s1 s2 s3 fuel c
          (Gen.Source.MemSource.from_samples (Rfc.interleave chans) ch bps rate) bs log =
          some (some ⟨⟨true, .StreamInfo info⟩, [], gs⟩, logf) := by
  obtain ⟨fbcf, hd⟩ := C03G_mem_delivers chans ch bps rate bs total m0 hcl hlen hxr hb htot hfb
  have hlh := mem_len_hint chans ch bps rate total total hcl (SourceLemmas.withSize_some.mp hfb).1.1 hlen
  obtain ⟨gs, h1, _, h3, hok, h4⟩ := C03G_driver_contract memOps featPar par md5f s1 s2 s3 c
    (Gen.Source.MemSource.from_samples (Rfc.interleave chans) ch bps rate) _ bs log logf i0 m0 fbcf (some total)
    (blocksOf bs chans) fs hmt hnew hfb hst hb hmax hmo hd henc hlog hlogok hnb hlh hmd
  exact ⟨gs, _, h1, h3, hok, rfl, h4⟩

/-- a stream of that form is the Rust-side value `C08Gen.streamToGen` assigns to its own model image -/
theorem streamToGen_image (info : StreamInfo) (gs : List Gen.Writer.Frame) :
    C08Gen.streamToGen (streamImage ⟨⟨true, .StreamInfo info⟩, [], gs⟩) gs = ⟨⟨true, .StreamInfo info⟩, [], gs⟩ := by
  simp [C08Gen.streamToGen, streamImage, Gen.Verify.Stream.stream_info]

/-- **`Stream::write` of the stream the generated driver returns, utf8 parameter closed**: for the stream `G` the generated
`encode_with_fixed_block_size` returns on the generated `MemSource` (success direction, hypotheses of `C03G_driver_mem_value`),
the generated `Stream::write` (Gen/Writer.lean) — with its `encode_to_utf8like` parameter (and the `_exact` companion)
instantiated by the GENERATED function of Gen/Utf8.lean (`C08Gen3.utf8Param dbg`, `C08Gen3.utf8Exact dbg`; `C08G3_param`), in
either profile `dbg` — issues exactly the sink operations of the hand model's `(streamImage G).ops` (`C08G_stream_ops`); by C08
(`ops` = `bits`) their ideal bit string is `(streamImage G).bits`, the bytes `Rfc.analyzeRec` accepts in `C03G_stream_strict`.
Writer-side parameters that REMAIN (as in C08Gen):
  * the scratch-sink read-outs `scratchBytes` (= `ByteSink::as_slice`), `idealLen` (= `MemSink::len`), `wordExport`
    (= `MemSink<u64>::write_to_byte_slice`) and the stale content `stale` of the `reuse!` buffer: functions of the operations a cleared
    scratch sink received; the generated `MemSink` methods are tied to the sink model by C11G_* / C12G_* (C11Gen.lean, C12Gen.lean),
    the read-outs themselves are not instantiated here;
  * the CRC functions `crc p8` / `crc p16`: the `crc` crate is external; its catalog parameters for `CRC_8_FLAC` / `CRC_16_FLAC` are
    generated (Gen/Tables.lean, C02Gen.lean). -/
theorem C03G_stream_ops_closed (dbg featPar : Bool) (par : Gen.Encoder → Gen.Source.MemSource → Nat → M (Option Gen.Writer.Stream))
    (md5f : List Nat → List Nat) (s1 : Nat → List (List Int)) (s2 : Nat → List Int) (s3 : Nat → Gen.Coding.FrameBuf)
    (c : Gen.Encoder) (chans : List (List Int)) (ch bps rate bs total : Nat) (log logf : List OEvent) (i0 : StreamInfo)
    (m0 : FlacVerif.FrameBuf) (fs : List Frame) (p8 p16 : CrcParams) (stale : List Nat)
    (hmt : c.multithread = false)
    (hnew : FlacVerif.StreamInfo.new rate ch bps = some i0) (hfb : FlacVerif.FrameBuf.withSize ch bs = some m0)
    (hst : ∀ n, C09Gen.StereoBuf (s3 n)) (hb : 1 ≤ bps ∧ bps ≤ 24)
    (hmax : c.subframe_coding.prc.max_parameter ≤ 14) (hmo : c.subframe_coding.fixed.max_order + 1 < 2 ^ 64)
    (hcl : chans.length = ch) (hlen : ∀ x ∈ chans, x.length = total)
    (hxr : ∀ x ∈ chans, ∀ v ∈ x, SubFrame.inRange bps v = true) (htot : total < 2 ^ 40)
    (henc : encodeFrames (Total.subCfgOf c.subframe_coding) (Total.stereoCfgOf c.stereo_coding) bps rate (blocksOf bs chans) 0 log =
      some (fs, logf))
    (hlog : C09Gen.LogFits log) (hlogok : ∀ e ∈ log, e.Ok) (hnb : (blocksOf bs chans).length < 2 ^ 31)
    (hmd : ∀ l, (md5f l).length = 16) :
    ∀ fuel, (blocksOf bs chans).length < fuel →
      ∃ G, encode_with_fixed_block_size featPar memOps par md5f s1 s2 s3 fuel c
          (Gen.Source.MemSource.from_samples (Rfc.interleave chans) ch bps rate) bs log = some (some G, logf) ∧
        (streamImage G).frames = fs ∧
        Gen.Writer.Stream.write stale (C08Gen3.utf8Param dbg) (C08Gen3.utf8Exact dbg) C08Gen.scratchBytes (crc p8) C08Gen.idealLen
          C08Gen.wordExport (crc p16) G = (streamImage G).ops p8 p16 := by
  obtain ⟨gs, info, hmap, _, hok, hinfo, hrun⟩ := C03G_driver_mem_value featPar par md5f s1 s2 s3 c chans ch bps rate bs total log logf
    i0 m0 fs hmt hnew hfb hst hb hmax hmo hcl hlen hxr htot henc hlog hlogok hnb hmd
  intro fuel hf
  refine ⟨_, hrun fuel hf, hmap, ?_⟩
  have h := C08Gen.C08G_stream_ops p8 p16 (streamImage ⟨⟨true, .StreamInfo info⟩, [], gs⟩) gs stale (fun _ => true) rfl hok
    (by show info.total < 2 ^ 64; omega) (by intro m hm; simp [streamImage] at hm)
  rw [streamToGen_image] at h
  rw [(C08Gen3.C08G3_param dbg).1, (C08Gen3.C08G3_param dbg).2]
  exact h

/-- **end to end, writer included (utf8 closed)**: under the hypotheses of `C03G_stream_strict`, the generated driver on the generated
`MemSource` returns `Ok(G)`; the generated `Stream::write` of `G` (utf8 parameter = the GENERATED `encode_to_utf8like`; scratch-sink
read-outs and CRC functions as in `C03G_stream_ops_closed`, with the RFC CRC parameters) succeeds with an operation list whose
ideal bit string `sb` (C12_stream_ops) is accepted by the strict RFC 9639 analyser, which returns the input audio and the true
STREAMINFO. -/
theorem C03G_stream_write_strict (dbg featPar : Bool)
    (par : Gen.Encoder → Gen.Source.MemSource → Nat → M (Option Gen.Writer.Stream))
    (md5f : List Nat → List Nat) (s1 : Nat → List (List Int)) (s2 : Nat → List Int) (s3 : Nat → Gen.Coding.FrameBuf)
    (c : Gen.Encoder) (chans : List (List Int)) (bps rate bs total : Nat) (log logf : List OEvent) (i0 : StreamInfo)
    (m0 : FlacVerif.FrameBuf) (s : Stream) (stale : List Nat)
    (hmt : c.multithread = false)
    (hnew : FlacVerif.StreamInfo.new rate chans.length bps = some i0) (hfb : FlacVerif.FrameBuf.withSize chans.length bs = some m0)
    (hst : ∀ n, C09Gen.StereoBuf (s3 n)) (hb : 4 ≤ bps ∧ bps ≤ 24) (hrate : 1 ≤ rate ∧ rate < 2 ^ 20)
    (hmax : c.subframe_coding.prc.max_parameter ≤ 14) (hmo : c.subframe_coding.fixed.max_order + 1 < 2 ^ 64)
    (hch : 1 ≤ chans.length ∧ chans.length ≤ 8) (hlen : ∀ x ∈ chans, x.length = total)
    (hxr : ∀ x ∈ chans, ∀ v ∈ x, SubFrame.inRange bps v = true) (htot : total < 2 ^ 36)
    (hbs : 16 ≤ bs ∧ bs < 2 ^ 16) (hnb : (total + bs - 1) / bs < 2 ^ 31)
    (hs : encodeStream md5f (Total.subCfgOf c.subframe_coding) (Total.stereoCfgOf c.stereo_coding) bs chans bps rate log = some (s, logf))
    (hlog : C09Gen.LogFits log) (hlogok : ∀ e ∈ log, e.Ok)
    (hmd : ∀ x, (md5f x).length = 16 ∧ ∀ b ∈ md5f x, b < 256) :
    ∀ fuel, (total + bs - 1) / bs < fuel →
      ∃ G ops sb rep, encode_with_fixed_block_size featPar memOps par md5f s1 s2 s3 fuel c
          (Gen.Source.MemSource.from_samples (Rfc.interleave chans) chans.length bps rate) bs log = some (some G, logf) ∧
        Gen.Writer.Stream.write stale (C08Gen3.utf8Param dbg) (C08Gen3.utf8Exact dbg) C08Gen.scratchBytes (crc rfcCrc8)
          C08Gen.idealLen C08Gen.wordExport (crc rfcCrc16) G = some ops ∧
        idealRun 0 ops = sb ∧ Rfc.analyzeRec md5f (packBytes sb) = .ok rep ∧
        rep.audio = chans ∧ rep.info.rate = rate ∧ rep.info.channels = chans.length ∧ rep.info.bps = bps ∧
        rep.info.total = total ∧ rep.info.md5 = md5f (md5Input bps (Rfc.interleave chans)) ∧
        rep.info.minBlock = bs ∧ rep.info.maxBlock = bs ∧ rep.metadataBlocks = 0 ∧
        rep.frames.length = (total + bs - 1) / bs := by
  intro fuel hf
  have hbl := Strict.blocksOf_length bs chans total hch.1 hlen
  obtain ⟨G, sb, rep, hg, hbits, hrest⟩ := C03G_stream_strict featPar par md5f s1 s2 s3 c chans bps rate bs total log logf i0 m0 s hmt
    hnew hfb hst hb hrate hmax hmo hch hlen hxr htot hbs hnb hs hlog hlogok hmd fuel hf
  obtain ⟨fs, _, henc, _⟩ := Strict.encodeStream_shape hs
  obtain ⟨G', hg', _, hw⟩ := C03G_stream_ops_closed dbg featPar par md5f s1 s2 s3 c chans chans.length bps rate bs total log logf i0 m0 fs
    rfcCrc8 rfcCrc16 stale hmt hnew hfb hst ⟨by omega, hb.2⟩ hmax hmo rfl hlen hxr (by omega) henc hlog hlogok
    (by rw [hbl]; exact hnb) (fun l => (hmd l).1) fuel (by rw [hbl]; exact hf)
  rw [hg] at hg'
  simp only [Option.some.injEq, Prod.mk.injEq, and_true] at hg'
  subst hg'
  obtain ⟨ops, hops⟩ := OpsL.stream_ops_of_bits rfcCrc8 rfcCrc16 (streamImage G) sb hbits
  obtain ⟨b', hb', hideal⟩ := C12_stream_ops rfcCrc8 rfcCrc16 (streamImage G) ops hops
  rw [hbits] at hb'
  simp only [Option.some.injEq] at hb'
  subst hb'
  exact ⟨G, ops, _, rep, hg, by rw [hw, hops], hideal, hrest⟩

end C03GenMem
end FlacVerif
