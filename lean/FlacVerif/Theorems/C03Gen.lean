/-
C03Gen — the single-thread stream driver and the STREAMINFO book-keeping as GENERATED from src/coding.rs and
src/component/datatype.rs (Gen/Driver.lean, translator part `driver`, tools/translate_driver.py) against the hand-written
model (Model/Encoder.lean `addFrameCast` / `assembleInfo`, Model/Api.lean `encodeStreamArgsOk`, Model/Verify.lean), on which
C03 / C04 / C01Strict / C09Stream / C07Total rest.
At the head of the file, the laws of the driver's steps that Lemmas/CodingM.lean does not have: `bindM_none`, `req_false`,
`tryM_some/_none`, `tryRet_some/_none`, and `bindO_some`, `reqO_true/_false` of the `Option` steps.

The book-keeping methods are related for every argument value (a panic site of the Rust code the hand model does not have is an
explicit hypothesis, with a `_panics` companion showing the hypothesis is exact).  The driver is treated for EVERY `Source`
implementation, configuration, storage contents and oracle log: `C03G_driver_unfold` is definitional (any change of the generated
text breaks it first), `Run` describes the iterations of the `loop`, `Delivers` is the contract a source has to abide by for the
driver to follow the model's frame loop and `encodeStream`.  The C20 statements about the feature flag `featPar` are here
(`C20G_*`).  NOT proved: the rest of the FAILURE direction of `C03G_driver_contract_model_success` (generated driver panics /
`Err` exactly where the model returns `none`).

`RunPre`, `DeliversPre`, `C03G_frames_contract_pre` (namespace `C03GenErr`) stand here because `C03G_frames_contract` is derived
from the last.
-/
import FlacVerif.Lemmas.GenCfg
import FlacVerif.Lemmas.Verify
import FlacVerif.Gen.Driver
import FlacVerif.Model.EncodeStream
import FlacVerif.Model.Api
import FlacVerif.Theorems.C08Gen
import FlacVerif.Theorems.C14Gen
import FlacVerif.Theorems.C18Gen
import FlacVerif.Theorems.C09Gen
import FlacVerif.Lemmas.GenCount
import FlacVerif.Lemmas.WrapStream
namespace FlacVerif
namespace C03Gen
open FlacVerif.Gen.Driver
open FlacVerif.Gen.Coding (M pureM bindM liftO)
open CodingM

theorem bindM_none {α β : Type} (k : α → M β) : bindM (liftO (none : Option α)) k = fun _ => none := by
  funext log; rfl

theorem pureM_apply {α : Type} (a : α) (log : List OEvent) : pureM a log = some (a, log) := C09Gen.pureM_apply a log

theorem req_false {α : Type} (rest : M α) : FlacVerif.Gen.Coding.req false rest = fun _ => none := by
  funext log; rfl

theorem tryM_some {α β : Type} (v : α) (k : α → M (Option β)) : tryM (some v) k = k v := rfl
theorem tryM_none {α β : Type} (k : α → M (Option β)) : tryM (none : Option α) k = pureM none := rfl
theorem tryRet_some {α β σ : Type} (v : α) (k : α → M (Step (Option β) σ)) : tryRet (some v) k = k v := rfl
theorem tryRet_none {α β σ : Type} (k : α → M (Step (Option β) σ)) : tryRet (none : Option α) k = pureM (Step.ret none) := rfl

theorem bindO_some {α β : Type} (a : α) (k : α → Option β) : bindO (some a) k = k a := rfl
theorem reqO_true {β : Type} (r : Option β) : reqO true r = r := rfl
theorem reqO_false {β : Type} (r : Option β) : reqO false r = none := rfl

/-- **`Stream::with_stream_info`** (with `MetadataBlock::from_stream_info`): the STREAMINFO block, flagged last, no other
block, no frame. -/
theorem C03G_with_stream_info (i : StreamInfo) :
    Stream.with_stream_info i = ⟨⟨true, .StreamInfo i⟩, [], []⟩ := rfl

/-- **`Stream::new`** (generated by part `verify`, which inlines the constructor) builds exactly
`Stream::with_stream_info(StreamInfo::new(..)?)` as generated here, with the model's `StreamInfo.new` deciding. -/
theorem C03G_stream_new (rate channels bps : Nat) :
    Gen.Verify.Stream.new rate channels bps = some ((FlacVerif.StreamInfo.new rate channels bps).map Stream.with_stream_info) := by
  rw [C18Gen.C18G_stream_new]
  cases FlacVerif.StreamInfo.new rate channels bps <;> rfl

/-- the read half of the place `stream_info_mut()` is `Stream::stream_info` (part `verify`): same value, same panic -/
theorem C03G_lens_eq (s : Gen.Writer.Stream) :
    Stream.stream_info_mut s =
      if Gen.Verify.Stream.stream_info_exact s then some (Gen.Verify.Stream.stream_info s) else none := by
  unfold Stream.stream_info_mut Gen.Verify.Stream.stream_info_exact Gen.Verify.Stream.stream_info
  cases s.stream_info.data <;> rfl

theorem C03G_lens_get (s : Gen.Writer.Stream) (i : StreamInfo) (h : s.stream_info.data = .StreamInfo i) :
    Stream.stream_info_mut s = some i := by
  unfold Stream.stream_info_mut; rw [h]

theorem C03G_lens_panics (s : Gen.Writer.Stream) (t : Nat) (d : List Nat) (h : s.stream_info.data = .Unknown t d) :
    Stream.stream_info_mut s = none := by
  unfold Stream.stream_info_mut; rw [h]

theorem C03G_lens_get_set (s : Gen.Writer.Stream) (v : StreamInfo) :
    Stream.stream_info_mut (Stream.stream_info_mut_set s v) = some v := rfl

theorem C03G_lens_set_get (s : Gen.Writer.Stream) (i : StreamInfo) (h : Stream.stream_info_mut s = some i) :
    Stream.stream_info_mut_set s i = s := by
  obtain ⟨⟨l, d⟩, m, f⟩ := s
  unfold Stream.stream_info_mut at h
  cases d with
  | StreamInfo j => simp at h; subst h; rfl
  | Unknown t x => simp at h

theorem C03G_lens_set_set (s : Gen.Writer.Stream) (v w : StreamInfo) :
    Stream.stream_info_mut_set (Stream.stream_info_mut_set s v) w = Stream.stream_info_mut_set s w := rfl

theorem C03G_lens_frame (s : Gen.Writer.Stream) (v : StreamInfo) :
    (Stream.stream_info_mut_set s v).frames = s.frames ∧ (Stream.stream_info_mut_set s v).metadata = s.metadata ∧
    (Stream.stream_info_mut_set s v).stream_info.is_last = s.stream_info.is_last := ⟨rfl, rfl, rfl⟩

/-- **min/max frame/block size accessors** (`self.f as usize`: widening) and `Stream::frames`. -/
theorem C03G_accessors (s : StreamInfo) :
    StreamInfo.min_frame_size s = s.minFrame ∧ StreamInfo.max_frame_size s = s.maxFrame ∧
    StreamInfo.min_block_size s = s.minBlock ∧ StreamInfo.max_block_size s = s.maxBlock := ⟨rfl, rfl, rfl, rfl⟩

theorem C03G_frames (s : Gen.Writer.Stream) : Gen.Driver.Stream.frames s = s.frames := rfl

/-- **`Frame::block_size`** = `FrameHeader::block_size` of part `verify` (panics on the reserved block-size code). -/
theorem C03G_frame_block_size (g : Gen.Writer.Frame) :
    Frame.block_size g = if Gen.Verify.FrameHeader.block_size_exact g.header then
      some (Gen.Verify.FrameHeader.block_size g.header) else none := by
  unfold Frame.block_size reqO; rfl

/-- `update_frame_info` in one equation: its three panic sites (the reserved block-size code, `usize` overflow inside
`Frame::count_bits`, `u64` overflow of `total_samples +=`), and otherwise the model's `addFrameCast` -/
theorem update_frame_info_eq (s : StreamInfo) (g : Gen.Writer.Frame) :
    StreamInfo.update_frame_info s g =
      if Gen.Verify.FrameHeader.block_size_exact g.header = true ∧ Gen.Writer.Frame.count_bits_exact g = true ∧
          s.total + Gen.Verify.FrameHeader.block_size g.header % 65536 < 2 ^ 64 then
        some (s.addFrameCast (Gen.Verify.FrameHeader.block_size g.header) (Gen.Writer.Frame.count_bits g))
      else none := by
  unfold StreamInfo.update_frame_info Frame.block_size
  cases Gen.Verify.FrameHeader.block_size_exact g.header with
  | false => simp [reqO, bindO]
  | true =>
    cases Gen.Writer.Frame.count_bits_exact g with
    | false => simp [reqO, bindO]
    | true =>
      by_cases ht : s.total + Gen.Verify.FrameHeader.block_size g.header % 65536 < 18446744073709551616
      · simp only [reqO_true, bindO_some, ht, decide_true, StreamInfo.addFrameCast, Nat.reducePow, and_self, if_true]
      · simp only [reqO_true, bindO_some, ht, decide_false, reqO_false, Nat.reducePow, and_false, if_false]

/-- **`StreamInfo::update_frame_info`** = the model's `addFrameCast` (block size `as u16`, `count_bits() / 8` `as u32`, the sample
count advanced by the CAST block size), outside the three panic sites of `update_frame_info_eq`. -/
theorem C03G_update_frame_info (s : StreamInfo) (g : Gen.Writer.Frame)
    (hb : Gen.Verify.FrameHeader.block_size_exact g.header = true)
    (hc : Gen.Writer.Frame.count_bits_exact g = true)
    (ht : s.total + Gen.Verify.FrameHeader.block_size g.header % 65536 < 2 ^ 64) :
    StreamInfo.update_frame_info s g =
      some (s.addFrameCast (Gen.Verify.FrameHeader.block_size g.header) (Gen.Writer.Frame.count_bits g)) := by
  rw [update_frame_info_eq, if_pos ⟨hb, hc, ht⟩]

theorem C03G_update_frame_info_panics_reserved (s : StreamInfo) (g : Gen.Writer.Frame)
    (hb : Gen.Verify.FrameHeader.block_size_exact g.header = false) : StreamInfo.update_frame_info s g = none := by
  rw [update_frame_info_eq, if_neg (by simp [hb])]

theorem C03G_update_frame_info_panics_count (s : StreamInfo) (g : Gen.Writer.Frame)
    (hc : Gen.Writer.Frame.count_bits_exact g = false) : StreamInfo.update_frame_info s g = none := by
  rw [update_frame_info_eq, if_neg (by simp [hc])]

theorem C03G_update_frame_info_panics_total (s : StreamInfo) (g : Gen.Writer.Frame)
    (hb : Gen.Verify.FrameHeader.block_size_exact g.header = true)
    (ht : 2 ^ 64 ≤ s.total + Gen.Verify.FrameHeader.block_size g.header % 65536) : StreamInfo.update_frame_info s g = none := by
  rw [update_frame_info_eq, if_neg (fun h => absurd h.2.2 (by omega))]

/-- ... with the hand model's bit count: for a frame without a precomputed bitstream whose model image has the count `c`
(`C08G_frame_count`), `update_frame_info` is `addFrameCast _ c`. -/
theorem C03G_update_frame_info_model (s : StreamInfo) (g : Gen.Writer.Frame) (c : Nat)
    (hb : Gen.Verify.FrameHeader.block_size_exact g.header = true)
    (hc : Gen.Writer.Frame.count_bits_exact g = true)
    (ht : s.total + Gen.Verify.FrameHeader.block_size g.header % 65536 < 2 ^ 64)
    (hp : g.precomputed_bitstream = none) (hf : g.header.frame_number < 2 ^ 32) (hs : g.header.start_sample_number < 2 ^ 64)
    (ho : ∀ sf ∈ g.subframes, C08Gen.SubOrd sf) (hc64 : c < 2 ^ 64) (hcount : (C08Gen.frameOfGen g).count = some c) :
    StreamInfo.update_frame_info s g = some (s.addFrameCast (Gen.Verify.FrameHeader.block_size g.header) c) := by
  rw [C03G_update_frame_info s g hb hc ht, C08Gen.C08G_frame_count g c hp hf hs ho hc64 hcount]

example : StreamInfo.update_frame_info (StreamInfo.empty 44100 2 16) C08Gen.exFrame =
    some ((StreamInfo.empty 44100 2 16).addFrameCast 8 208) := by decide

/-- **`StreamInfo::set_md5_digest`**: `copy_from_slice` (both sides are `[u8; 16]` in Rust; on lists the lengths must agree). -/
theorem C03G_set_md5_digest (s : StreamInfo) (d : List Nat) (h : d.length = s.md5.length) :
    StreamInfo.set_md5_digest s d = some { s with md5 := d } := by
  simp only [StreamInfo.set_md5_digest, h, decide_true, reqO_true]

theorem C03G_set_md5_digest_panics (s : StreamInfo) (d : List Nat) (h : d.length ≠ s.md5.length) :
    StreamInfo.set_md5_digest s d = none := by
  simp only [StreamInfo.set_md5_digest, h, decide_false, reqO_false]

/-- **`Stream::add_frame`**: `update_frame_info` on the STREAMINFO block, then the frame is appended. -/
theorem C03G_add_frame (s : Gen.Writer.Stream) (i i' : StreamInfo) (g : Gen.Writer.Frame)
    (hi : s.stream_info.data = .StreamInfo i) (hu : StreamInfo.update_frame_info i g = some i') :
    Stream.add_frame s g = some { s with stream_info := { s.stream_info with data := .StreamInfo i' }, frames := s.frames ++ [g] } := by
  simp only [Stream.add_frame, C03G_lens_get s i hi, bindO_some, hu, Stream.stream_info_mut_set]

theorem C03G_add_frame_panics (s : Gen.Writer.Stream) (t : Nat) (d : List Nat) (g : Gen.Writer.Frame)
    (h : s.stream_info.data = .Unknown t d) : Stream.add_frame s g = none := by
  simp only [Stream.add_frame, C03G_lens_panics s t d h, bindO]

/-- the frames of a run: what `update_frame_info` needs of each -/
def FrameFits (g : Gen.Writer.Frame) : Prop :=
  Gen.Verify.FrameHeader.block_size_exact g.header = true ∧ Gen.Writer.Frame.count_bits_exact g = true

instance (g : Gen.Writer.Frame) : Decidable (FrameFits g) := by unfold FrameFits; infer_instance

def sizeCount (g : Gen.Writer.Frame) : Nat × Nat :=
  (Gen.Verify.FrameHeader.block_size g.header, Gen.Writer.Frame.count_bits g)

/-- the STREAMINFO after `update_frame_info` for each frame of `gs`, in order (model: `foldl addFrameCast`) -/
def foldInfo (i : StreamInfo) (gs : List Gen.Writer.Frame) : StreamInfo :=
  gs.foldl (fun (j : StreamInfo) g => j.addFrameCast (sizeCount g).1 (sizeCount g).2) i

theorem foldInfo_cons (i : StreamInfo) (g : Gen.Writer.Frame) (gs : List Gen.Writer.Frame) :
    foldInfo i (g :: gs) = foldInfo (i.addFrameCast (Gen.Verify.FrameHeader.block_size g.header) (Gen.Writer.Frame.count_bits g)) gs :=
  rfl

theorem foldInfo_fields (gs : List Gen.Writer.Frame) : ∀ i : StreamInfo,
    (foldInfo i gs).rate = i.rate ∧ (foldInfo i gs).channels = i.channels ∧ (foldInfo i gs).bps = i.bps ∧
    (foldInfo i gs).md5 = i.md5 := by
  intro i
  simpa only [foldInfo, List.foldl_map] using addFrameCast_fold_format (gs.map sizeCount) i

theorem foldlM_update_frame_info (gs : List Gen.Writer.Frame) : ∀ i : StreamInfo, (∀ g ∈ gs, FrameFits g) →
    i.total + 65535 * gs.length < 2 ^ 64 → gs.foldlM (fun j g => StreamInfo.update_frame_info j g) i = some (foldInfo i gs) := by
  induction gs with
  | nil => intro i _ _; rfl
  | cons g gs ih =>
    intro i hfit htot
    obtain ⟨hb, hc⟩ := hfit g (by simp)
    rw [List.length_cons] at htot
    have hm : Gen.Verify.FrameHeader.block_size g.header % 65536 < 65536 := Nat.mod_lt _ (by decide)
    have htot' := addFrameCast_total i (Gen.Verify.FrameHeader.block_size g.header) (Gen.Writer.Frame.count_bits g)
    rw [List.foldlM_cons, C03G_update_frame_info i g hb hc (by omega), foldInfo_cons]
    exact ih _ (fun x hx => hfit x (by simp [hx])) (by omega)

theorem foldlM_add_frame (gs : List Gen.Writer.Frame) : ∀ (s : Gen.Writer.Stream) (i : StreamInfo),
    s.stream_info.data = .StreamInfo i →
    gs.foldlM Stream.add_frame s = (gs.foldlM (fun j g => StreamInfo.update_frame_info j g) i).map fun i' =>
      { s with stream_info := { s.stream_info with data := .StreamInfo i' }, frames := s.frames ++ gs } := by
  induction gs with
  | nil =>
    intro s i hi
    obtain ⟨⟨l, d⟩, m, f⟩ := s
    simp only at hi
    subst hi
    simp
  | cons g gs ih =>
    intro s i hi
    rw [List.foldlM_cons, List.foldlM_cons]
    cases hu : StreamInfo.update_frame_info i g with
    | none => simp [Stream.add_frame, C03G_lens_get s i hi, hu, bindO]
    | some i' =>
      rw [C03G_add_frame s i i' g hi hu]
      simp only [Option.bind_eq_bind, Option.bind_some]
      rw [ih _ i' rfl]
      simp [List.append_assoc]

/-- **a sequence of `add_frame`** = `foldl addFrameCast` over the (block size, bit count) pairs, the frames appended in order
(the sample counter stays below `2^64`: `i.total + 65535 · #frames < 2^64`). -/
theorem C03G_add_frames (gs : List Gen.Writer.Frame) : ∀ (s : Gen.Writer.Stream) (i : StreamInfo),
    s.stream_info.data = .StreamInfo i → (∀ g ∈ gs, FrameFits g) → i.total + 65535 * gs.length < 2 ^ 64 →
    gs.foldlM Stream.add_frame s =
      some { s with stream_info := { s.stream_info with data := .StreamInfo (foldInfo i gs) }, frames := s.frames ++ gs } := by
  intro s i hi hfit htot
  rw [foldlM_add_frame gs s i hi, foldlM_update_frame_info gs i hfit htot]
  rfl

theorem set_block_sizes_ok (s : StreamInfo) (bs : Nat) (hbs : verifyBlockSize bs = true) :
    Gen.Verify.StreamInfo.set_block_sizes s bs bs = some (true, { s with minBlock := bs, maxBlock := bs }) := by
  have hlt : bs < 65536 := by have := (VerifyL.verifyBlockSize_iff bs).1 hbs; omega
  simp [C18Gen.C18G_set_block_sizes, hbs, hlt]

/-- the STREAMINFO the driver's epilogue leaves: block sizes restored, digest and total stored -/
def finishInfo (i : StreamInfo) (bs : Nat) (digest : List Nat) (total : Nat) : StreamInfo :=
  { i with minBlock := bs, maxBlock := bs, md5 := digest, total := total }

/-- the generated book-keeping and the model's `assembleInfo` meet here: one `addFrameCast` per frame from the fresh STREAMINFO with
its block sizes set, then block sizes, digest and total -/
theorem finishInfo_foldInfo (rate channels bps bs : Nat) (gs : List Gen.Writer.Frame) (digest : List Nat) (total : Nat) :
    finishInfo (foldInfo { StreamInfo.empty rate channels bps with minBlock := bs, maxBlock := bs } gs) bs digest total =
      assembleInfo rate channels bps bs (gs.map sizeCount) total digest := by
  simp only [assembleInfo, finishInfo, foldInfo, List.foldl_map]

/-- **the whole book-keeping** = the model's `assembleInfo`: `set_block_sizes(bs, bs)` on a fresh STREAMINFO, one
`update_frame_info` per frame, `set_block_sizes(bs, bs)` again, `set_md5_digest`, `set_total_samples` — each step being the
generated function, each accepted for a valid block size (`verifyBlockSize bs`). -/
theorem C03G_assemble (rate channels bps bs : Nat) (gs : List Gen.Writer.Frame) (total : Nat) (digest : List Nat)
    (hbs : verifyBlockSize bs = true) (hfit : ∀ g ∈ gs, FrameFits g) (hn : 65535 * gs.length < 2 ^ 64)
    (hd : digest.length = 16) :
    ∃ i1 i2 i3, Gen.Verify.StreamInfo.set_block_sizes (StreamInfo.empty rate channels bps) bs bs = some (true, i1) ∧
      gs.foldlM (fun j g => StreamInfo.update_frame_info j g) i1 = some i2 ∧
      Gen.Verify.StreamInfo.set_block_sizes i2 bs bs = some (true, i3) ∧
      (StreamInfo.set_md5_digest i3 digest).map (fun j => Gen.Verify.StreamInfo.set_total_samples j total) =
        some (assembleInfo rate channels bps bs (gs.map sizeCount) total digest) := by
  have hset := fun s : StreamInfo => set_block_sizes_ok s bs hbs
  have hfold : gs.foldlM (fun j g => StreamInfo.update_frame_info j g) { StreamInfo.empty rate channels bps with minBlock := bs, maxBlock := bs } =
      some (foldInfo { StreamInfo.empty rate channels bps with minBlock := bs, maxBlock := bs } gs) :=
    foldlM_update_frame_info gs _ hfit (by simp [StreamInfo.empty]; omega)
  refine ⟨_, _, _, hset _, hfold, hset _, ?_⟩
  rw [C03G_set_md5_digest _ _ (by simp [(foldInfo_fields gs _).2.2.2, StreamInfo.empty, hd])]
  simp [Gen.Verify.StreamInfo.set_total_samples, assembleInfo, foldInfo, List.foldl_map]

abbrev LoopState (T : Type) := T × Gen.Writer.Stream × (Gen.Source.FrameBuf × Gen.Source.Context)

/-- the body of the `loop` of the generated driver (copied from Gen/Driver.lean; `C03G_driver_unfold` checks the copy) -/
def loopBody {T : Type} (T_Source : SourceOps T) (FIXED_LPC_ERRORS : Nat → List (List Int)) (QLPC_ERROR_BUFFER : Nat → List Int)
    (MSFRAMEBUF : Nat → Gen.Coding.FrameBuf) (config : Gen.Encoder) (block_size : Nat) :
    LoopState T → M (Step (Option Gen.Writer.Stream) (LoopState T)) := fun s8 =>
  let src := s8.1
  let stream := s8.2.1
  let framebuf_and_context := s8.2.2
  bindM (liftO (T_Source.read_samples src block_size framebuf_and_context)) fun r9 =>
  let src := r9.2.1
  let framebuf_and_context := r9.2.2
  tryRet r9.1 fun ok10 =>
  let read_samples := ok10
  if decide (read_samples = 0) then
    pureM (Step.brk (src, stream, framebuf_and_context))
  else
  bindM (liftO (FlacVerif.Gen.Source.Context.current_frame_number framebuf_and_context.2)) fun r11 =>
  bindM (liftO r11) fun u12 =>
  FlacVerif.Gen.Coding.req (FlacVerif.Gen.Verify.Stream.stream_info_exact stream) <|
  bindM (FlacVerif.Gen.Coding.encode_fixed_size_frame verifySamples (FIXED_LPC_ERRORS u12) (QLPC_ERROR_BUFFER u12) (MSFRAMEBUF u12) config (fbToCoding framebuf_and_context.1) u12 (FlacVerif.Gen.Verify.Stream.stream_info stream)) fun r13 =>
  tryRet r13 fun ok14 =>
  let frame := ok14
  bindM (liftO (Stream.add_frame stream frame)) fun r15 =>
  let stream := r15
  pureM (Step.next (src, stream, framebuf_and_context))

/-- the statements after the `loop`, copied from Gen/Driver.lean like `loopBody` -/
def epilogue {T : Type} (T_Source : SourceOps T) (md5_finalize : List Nat → List Nat) (block_size : Nat) :
    LoopState T → M (Option Gen.Writer.Stream) := fun s17 =>
  let src := s17.1
  let stream := s17.2.1
  let framebuf_and_context := s17.2.2
  bindM (liftO (Stream.stream_info_mut stream)) fun p18 =>
  bindM (liftO (FlacVerif.Gen.Verify.StreamInfo.set_block_sizes p18 block_size block_size)) fun r19 =>
  let stream := Stream.stream_info_mut_set stream r19.2
  FlacVerif.Gen.Coding.req r19.1 <|
  let context := framebuf_and_context.2
  bindM (liftO (Stream.stream_info_mut stream)) fun p20 =>
  bindM (liftO (StreamInfo.set_md5_digest p20 (FlacVerif.Gen.Source.Context.md5_digest md5_finalize context))) fun r21 =>
  let stream := Stream.stream_info_mut_set stream r21
  bindM (liftO (Stream.stream_info_mut stream)) fun p22 =>
  bindM (liftO (T_Source.len_hint src)) fun r23 =>
  let stream := Stream.stream_info_mut_set stream (FlacVerif.Gen.Verify.StreamInfo.set_total_samples p22 (match r23 with | some x_ => x_ | none => FlacVerif.Gen.Source.Context.total_samples context))
  pureM (some stream)

/-- **shape of the generated driver**: the `par` dispatch, the prologue (`Stream::new`, `FrameBuf::with_size`, `Context::new`,
`set_block_sizes(..).unwrap()`), `loopM` over `loopBody`, `epilogue`.  Definitional. -/
theorem C03G_driver_unfold {T : Type} (ops : SourceOps T) (featPar : Bool) (par : Gen.Encoder → T → Nat → M (Option Gen.Writer.Stream))
    (md5f : List Nat → List Nat) (s1 : Nat → List (List Int)) (s2 : Nat → List Int) (s3 : Nat → Gen.Coding.FrameBuf) (fuel : Nat)
    (config : Gen.Encoder) (src : T) (block_size : Nat) :
    encode_with_fixed_block_size featPar ops par md5f s1 s2 s3 fuel config src block_size =
      if (featPar && config.multithread) then par config src block_size else
      bindM (liftO (Gen.Verify.Stream.new (ops.sample_rate src) (ops.channels src) (ops.bits_per_sample src))) fun r1 =>
      tryM r1 fun stream =>
      bindM (liftO (Gen.Source.FrameBuf.with_size (ops.channels src) block_size)) fun r3 =>
      tryM r3 fun ok4 =>
      bindM (liftO (Gen.Source.Context.new (ops.bits_per_sample src) (ops.channels src))) fun r5 =>
      bindM (liftO (Stream.stream_info_mut stream)) fun p6 =>
      bindM (liftO (Gen.Verify.StreamInfo.set_block_sizes p6 block_size block_size)) fun r7 =>
      FlacVerif.Gen.Coding.req r7.1 <|
      bindM (loopM fuel (src, Stream.stream_info_mut_set stream r7.2, (ok4, r5)) (loopBody ops s1 s2 s3 config block_size)) fun e16 =>
      afterLoop e16 (epilogue ops md5f block_size) := rfl

/-- **`config.multithread`** with feature `par`: the call is forwarded, nothing else happens. -/
theorem C03G_driver_multithread {T : Type} (ops : SourceOps T) (featPar : Bool) (par : Gen.Encoder → T → Nat → M (Option Gen.Writer.Stream))
    (md5f : List Nat → List Nat) (s1 : Nat → List (List Int)) (s2 : Nat → List Int) (s3 : Nat → Gen.Coding.FrameBuf) (fuel : Nat)
    (config : Gen.Encoder) (src : T) (bs : Nat) (hf : featPar = true) (h : config.multithread = true) :
    encode_with_fixed_block_size featPar ops par md5f s1 s2 s3 fuel config src bs = par config src bs := by
  rw [C03G_driver_unfold, if_pos (by simp [hf, h])]

/-- **argument checks**: when the model's `encodeStreamArgsOk` is false (`Stream::new` or `FrameBuf::with_size` rejects) the
driver returns `Err` without touching the source or the log, and it does not panic. -/
theorem C03G_driver_args {T : Type} (ops : SourceOps T) (featPar : Bool) (par : Gen.Encoder → T → Nat → M (Option Gen.Writer.Stream))
    (md5f : List Nat → List Nat) (s1 : Nat → List (List Int)) (s2 : Nat → List Int) (s3 : Nat → Gen.Coding.FrameBuf) (fuel : Nat)
    (config : Gen.Encoder) (src : T) (bs : Nat) (log : List OEvent) (hmt : config.multithread = false)
    (h : encodeStreamArgsOk bs (ops.channels src) (ops.bits_per_sample src) (ops.sample_rate src) = false) :
    encode_with_fixed_block_size featPar ops par md5f s1 s2 s3 fuel config src bs log = some (none, log) := by
  rw [C03G_driver_unfold]
  simp only [hmt, Bool.and_false, Bool.false_eq_true, if_false, C03G_stream_new, C14Gen.C14G_with_size, bindM_some]
  unfold encodeStreamArgsOk at h
  cases hn : FlacVerif.StreamInfo.new (ops.sample_rate src) (ops.channels src) (ops.bits_per_sample src) with
  | none => rfl
  | some i0 =>
    cases hw : FlacVerif.FrameBuf.withSize (ops.channels src) bs with
    | none => rfl
    | some m0 => simp [hn, hw] at h

/-- **C20 (feature `par`, single-thread configuration)**: with `config.multithread = false` the generated driver is the same
function for `featPar = true` and `featPar = false` — every source, block size, storage contents, oracle log, `fuel`, and whatever
`par::encode_with_fixed_block_size` does.  (`featPar` is the only feature flag of the generated driver: no other
`cfg(feature = ..)` / `cfg!(feature = ..)` / `log` macro site occurs in the translated bodies; one would be a further Bool
parameter or make the part fail closed.) -/
theorem C20G_driver_featPar {T : Type} (ops : SourceOps T) (par par' : Gen.Encoder → T → Nat → M (Option Gen.Writer.Stream))
    (md5f : List Nat → List Nat) (s1 : Nat → List (List Int)) (s2 : Nat → List Int) (s3 : Nat → Gen.Coding.FrameBuf) (fuel : Nat)
    (config : Gen.Encoder) (src : T) (bs : Nat) (hmt : config.multithread = false) (a b : Bool) :
    encode_with_fixed_block_size a ops par md5f s1 s2 s3 fuel config src bs =
      encode_with_fixed_block_size b ops par' md5f s1 s2 s3 fuel config src bs := by
  rw [C03G_driver_unfold, C03G_driver_unfold]
  simp only [hmt, Bool.and_false, Bool.false_eq_true, if_false]

def withMultithread (c : Gen.Encoder) (m : Bool) : Gen.Encoder := { c with multithread := m }

/-- `encode_fixed_size_frame` (part `coding`) does not read `config.multithread` -/
theorem encode_fixed_size_frame_multithread (vs : Gen.Coding.FrameBuf → Nat → Gen.Verify.VR) (a : List (List Int)) (b : List Int)
    (ms fb : Gen.Coding.FrameBuf) (c : Gen.Encoder) (m : Bool) (n : Nat) (info : StreamInfo) :
    Gen.Coding.encode_fixed_size_frame vs a b ms (withMultithread c m) fb n info =
      Gen.Coding.encode_fixed_size_frame vs a b ms c fb n info := rfl

/-- **C20 (feature `par` off)**: without the feature the `multithread` switch is ignored: the generated driver returns the same
value for `config` and for `config` with the switch set either way. -/
theorem C20G_driver_nopar_ignores_multithread {T : Type} (ops : SourceOps T)
    (par : Gen.Encoder → T → Nat → M (Option Gen.Writer.Stream))
    (md5f : List Nat → List Nat) (s1 : Nat → List (List Int)) (s2 : Nat → List Int) (s3 : Nat → Gen.Coding.FrameBuf) (fuel : Nat)
    (config : Gen.Encoder) (src : T) (bs : Nat) (m : Bool) :
    encode_with_fixed_block_size false ops par md5f s1 s2 s3 fuel (withMultithread config m) src bs =
      encode_with_fixed_block_size false ops par md5f s1 s2 s3 fuel config src bs := by
  rw [C03G_driver_unfold, C03G_driver_unfold]
  simp only [Bool.false_and, Bool.false_eq_true, if_false]
  rfl

/-- with the feature on and the switch set, the call IS forwarded (so the two builds differ exactly there: C05 covers the
multi-thread path) -/
theorem C20G_driver_par_forwards {T : Type} (ops : SourceOps T) (par : Gen.Encoder → T → Nat → M (Option Gen.Writer.Stream))
    (md5f : List Nat → List Nat) (s1 : Nat → List (List Int)) (s2 : Nat → List Int) (s3 : Nat → Gen.Coding.FrameBuf) (fuel : Nat)
    (config : Gen.Encoder) (src : T) (bs : Nat) (h : config.multithread = true) :
    encode_with_fixed_block_size true ops par md5f s1 s2 s3 fuel config src bs = par config src bs :=
  C03G_driver_multithread ops true par md5f s1 s2 s3 fuel config src bs rfl h

/-- a run of the `loop`: iterations that deliver a non-empty block, take its frame number from the context, encode it and add the
frame, ended by an iteration whose `read_samples` returns 0.  (A relation between states and logs; every premise is one call of
a generated function.) -/
inductive Run {T : Type} (ops : SourceOps T) (s1 : Nat → List (List Int)) (s2 : Nat → List Int) (s3 : Nat → Gen.Coding.FrameBuf)
    (config : Gen.Encoder) (bs : Nat) : LoopState T → List OEvent → LoopState T → List OEvent → List Gen.Writer.Frame → Prop
  | stop (src src' : T) (st : Gen.Writer.Stream) (fbc fbc' : Gen.Source.FrameBuf × Gen.Source.Context) (log : List OEvent) :
      ops.read_samples src bs fbc = some (some 0, src', fbc') →
      Run ops s1 s2 s3 config bs (src, st, fbc) log (src', st, fbc') log []
  | step (src src' : T) (st st1 : Gen.Writer.Stream) (fbc fbc' : Gen.Source.FrameBuf × Gen.Source.Context) (k num : Nat)
      (g : Gen.Writer.Frame) (log log1 logf : List OEvent) (fin : LoopState T) (gs : List Gen.Writer.Frame) :
      ops.read_samples src bs fbc = some (some k, src', fbc') → k ≠ 0 →
      Gen.Source.Context.current_frame_number fbc'.2 = some (some num) →
      Gen.Verify.Stream.stream_info_exact st = true →
      Gen.Coding.encode_fixed_size_frame verifySamples (s1 num) (s2 num) (s3 num) config (fbToCoding fbc'.1) num
        (Gen.Verify.Stream.stream_info st) log = some (some g, log1) →
      Stream.add_frame st g = some st1 →
      Run ops s1 s2 s3 config bs (src', st1, fbc') log1 fin logf gs →
      Run ops s1 s2 s3 config bs (src, st, fbc) log fin logf (g :: gs)

theorem loopM_succ {ρ σ : Type} (fuel : Nat) (s : σ) (body : σ → M (Step ρ σ)) (log : List OEvent) :
    loopM (fuel + 1) s body log = (body s log).bind fun r =>
      match r.1 with
      | Step.ret r' => some (Exit.ret r', r.2)
      | Step.brk s' => some (Exit.brk s', r.2)
      | Step.next s' => loopM fuel s' body r.2 := by
  rw [loopM, bindM_apply]
  cases body s log with
  | none => rfl
  | some r => obtain ⟨st, l⟩ := r; cases st <;> rfl

section body
variable {T : Type} (ops : SourceOps T) (s1 : Nat → List (List Int)) (s2 : Nat → List Int) (s3 : Nat → Gen.Coding.FrameBuf)
  (config : Gen.Encoder) (bs : Nat) (src src' : T) (st : Gen.Writer.Stream) (fbc fbc' : Gen.Source.FrameBuf × Gen.Source.Context)
  (log : List OEvent)

theorem loopBody_stop (hr : ops.read_samples src bs fbc = some (some 0, src', fbc')) :
    loopBody ops s1 s2 s3 config bs (src, st, fbc) log = some (Step.brk (src', st, fbc'), log) := by
  simp only [loopBody, hr, bindM_some, tryRet_some, decide_true, if_true, pureM_apply]

theorem loopBody_read_err (hr : ops.read_samples src bs fbc = some (none, src', fbc')) :
    loopBody ops s1 s2 s3 config bs (src, st, fbc) log = some (Step.ret none, log) := by
  simp only [loopBody, hr, bindM_some, tryRet_none, pureM_apply]

/-- the body when `read_samples` returns `Ok(k)`, `k ≠ 0`: the block is encoded under the context's frame number; `Err` is
returned, a frame is added to the stream and the loop goes on -/
theorem loopBody_block (k num : Nat) (hr : ops.read_samples src bs fbc = some (some k, src', fbc')) (hk : k ≠ 0)
    (hnum : Gen.Source.Context.current_frame_number fbc'.2 = some (some num))
    (hex : Gen.Verify.Stream.stream_info_exact st = true) :
    loopBody ops s1 s2 s3 config bs (src, st, fbc) log =
      (Gen.Coding.encode_fixed_size_frame verifySamples (s1 num) (s2 num) (s3 num) config (fbToCoding fbc'.1) num
        (Gen.Verify.Stream.stream_info st) log).bind fun r =>
        match r.1 with
        | none => some (Step.ret none, r.2)
        | some g => (Stream.add_frame st g).map fun st1 => (Step.next (src', st1, fbc'), r.2) := by
  have hk' : decide (k = 0) = false := by simp [hk]
  simp only [loopBody, hr, bindM_some, tryRet_some, hk', Bool.false_eq_true, if_false, hnum, hex, req_true, bindM_apply]
  cases Gen.Coding.encode_fixed_size_frame verifySamples (s1 num) (s2 num) (s3 num) config (fbToCoding fbc'.1) num
      (Gen.Verify.Stream.stream_info st) log with
  | none => rfl
  | some r =>
    obtain ⟨og, l⟩ := r
    cases og with
    | none => rfl
    | some g => cases h : Stream.add_frame st g <;> simp [tryRet, bindM_apply, liftO_apply, pureM_apply, h]

end body

/-- **the `loop`**: along a run, `loopM` leaves by `break` with the run's final state and log, for every `fuel` above the number
of frames. -/
theorem C03G_loop {T : Type} (ops : SourceOps T) (s1 : Nat → List (List Int)) (s2 : Nat → List Int) (s3 : Nat → Gen.Coding.FrameBuf)
    (config : Gen.Encoder) (bs : Nat) (s fin : LoopState T) (log logf : List OEvent) (gs : List Gen.Writer.Frame)
    (h : Run ops s1 s2 s3 config bs s log fin logf gs) :
    ∀ fuel, gs.length < fuel → loopM fuel s (loopBody ops s1 s2 s3 config bs) log = some (Exit.brk fin, logf) := by
  induction h with
  | stop src src' st fbc fbc' log hr =>
    intro fuel hf
    obtain ⟨f, rfl⟩ : ∃ f, fuel = f + 1 := ⟨fuel - 1, by omega⟩
    rw [loopM_succ, loopBody_stop ops s1 s2 s3 config bs src src' st fbc fbc' log hr]
    rfl
  | step src src' st st1 fbc fbc' k num g log log1 logf fin gs hr hk hnum hex henc hadd _ ih =>
    intro fuel hf
    obtain ⟨f, rfl⟩ : ∃ f, fuel = f + 1 := ⟨fuel - 1, by omega⟩
    rw [loopM_succ, loopBody_block ops s1 s2 s3 config bs src src' st fbc fbc' log k num hr hk hnum hex, henc]
    simp only [Option.bind_some, hadd, Option.map_some]
    exact ih f (by simpa using hf)

/-- an `Err` of `read_samples` in the first iteration is returned from the function as `Err` (state and log as they are) -/
theorem C03G_loop_read_err {T : Type} (ops : SourceOps T) (s1 : Nat → List (List Int)) (s2 : Nat → List Int)
    (s3 : Nat → Gen.Coding.FrameBuf) (config : Gen.Encoder) (bs fuel : Nat) (src src' : T) (st : Gen.Writer.Stream)
    (fbc fbc' : Gen.Source.FrameBuf × Gen.Source.Context) (log : List OEvent)
    (hr : ops.read_samples src bs fbc = some (none, src', fbc')) :
    loopM (fuel + 1) (src, st, fbc) (loopBody ops s1 s2 s3 config bs) log = some (Exit.ret none, log) := by
  rw [loopM_succ, loopBody_read_err ops s1 s2 s3 config bs src src' st fbc fbc' log hr]
  rfl

/-- an `Err` of `encode_fixed_size_frame` is returned from the function as `Err` -/
theorem C03G_loop_encode_err {T : Type} (ops : SourceOps T) (s1 : Nat → List (List Int)) (s2 : Nat → List Int)
    (s3 : Nat → Gen.Coding.FrameBuf) (config : Gen.Encoder) (bs fuel : Nat) (src src' : T) (st : Gen.Writer.Stream)
    (fbc fbc' : Gen.Source.FrameBuf × Gen.Source.Context) (k num : Nat) (log log1 : List OEvent)
    (hr : ops.read_samples src bs fbc = some (some k, src', fbc')) (hk : k ≠ 0)
    (hnum : Gen.Source.Context.current_frame_number fbc'.2 = some (some num))
    (hex : Gen.Verify.Stream.stream_info_exact st = true)
    (henc : Gen.Coding.encode_fixed_size_frame verifySamples (s1 num) (s2 num) (s3 num) config (fbToCoding fbc'.1) num
        (Gen.Verify.Stream.stream_info st) log = some (none, log1)) :
    loopM (fuel + 1) (src, st, fbc) (loopBody ops s1 s2 s3 config bs) log = some (Exit.ret none, log1) := by
  rw [loopM_succ, loopBody_block ops s1 s2 s3 config bs src src' st fbc fbc' log k num hr hk hnum hex, henc]
  rfl

/-- along a run the stream only changes by `add_frame`: the frames of the run are appended, in order -/
theorem run_stream {T : Type} (ops : SourceOps T) (s1 : Nat → List (List Int)) (s2 : Nat → List Int) (s3 : Nat → Gen.Coding.FrameBuf)
    (config : Gen.Encoder) (bs : Nat) (s fin : LoopState T) (log logf : List OEvent) (gs : List Gen.Writer.Frame)
    (h : Run ops s1 s2 s3 config bs s log fin logf gs) : gs.foldlM Stream.add_frame s.2.1 = some fin.2.1 := by
  induction h with
  | stop => rfl
  | step src src' st st1 fbc fbc' k num g log log1 logf fin gs hr hk hnum hex henc hadd _ ih =>
    rw [List.foldlM_cons, hadd]
    exact ih

/-- the epilogue on a stream whose first block is the STREAMINFO `i`: `set_block_sizes(bs, bs).unwrap()`,
`set_md5_digest(context.md5_digest())`, `set_total_samples(len_hint or else the context's count)`. -/
theorem epilogue_apply {T : Type} (ops : SourceOps T) (md5f : List Nat → List Nat) (bs : Nat) (src : T) (st : Gen.Writer.Stream)
    (fb : Gen.Source.FrameBuf) (ctx : Gen.Source.Context) (i : StreamInfo) (lh : Option Nat) (log : List OEvent)
    (hi : st.stream_info.data = .StreamInfo i) (hbs : verifyBlockSize bs = true) (hlh : ops.len_hint src = some lh)
    (hmd : (md5f ctx.md5).length = i.md5.length) :
    epilogue ops md5f bs (src, st, (fb, ctx)) log =
      some (some (Stream.stream_info_mut_set st (finishInfo i bs (md5f ctx.md5) (lh.getD ctx.sample_count))), log) := by
  unfold epilogue
  simp only [C03G_lens_get st i hi, bindM_some, set_block_sizes_ok _ bs hbs, req_true, C03G_lens_get_set,
    Gen.Source.Context.md5_digest]
  rw [C03G_set_md5_digest _ _ (by simpa using hmd)]
  simp only [bindM_some, hlh, C03G_lens_set_set, Gen.Verify.StreamInfo.set_total_samples,
    Gen.Source.Context.total_samples, pureM_apply, finishInfo]
  cases lh <;> rfl

/-- the state in which the `loop` is entered when the argument checks pass -/
def entryState {T : Type} (src : T) (i0 : StreamInfo) (m0 : FlacVerif.FrameBuf) (bs bps ch : Nat) : LoopState T :=
  (src, ⟨⟨true, .StreamInfo { i0 with minBlock := bs, maxBlock := bs }⟩, [], []⟩, (C14Gen.ofModel m0 [], ⟨[], (bps + 7) / 8, ch, 0, 0⟩))

theorem streamInfo_new_some {rate ch bps : Nat} {i0 : StreamInfo} (h : FlacVerif.StreamInfo.new rate ch bps = some i0) :
    rate ≤ 96000 ∧ bps ≤ 25 ∧ i0 = StreamInfo.empty rate ch bps := by
  obtain ⟨rfl, hr, _, _, hb⟩ := (VerifyL.streaminfo_new_some rate ch bps i0).mp h
  exact ⟨hr, by omega, rfl⟩

theorem withSize_shape {ch bs : Nat} {m0 : FlacVerif.FrameBuf} (h : FlacVerif.FrameBuf.withSize ch bs = some m0) :
    C14Gen.Shape (C14Gen.ofModel m0 []) ch ∧ (C14Gen.ofModel m0 []).size = bs :=
  ⟨(C14Gen.C14G_with_size_shape ch bs _ (by rw [C14Gen.C14G_with_size, h]; rfl)).1, by rw [(SourceLemmas.withSize_some.mp h).2]; rfl⟩

theorem withSize_bs {ch bs : Nat} {m0 : FlacVerif.FrameBuf} (h : FlacVerif.FrameBuf.withSize ch bs = some m0) :
    verifyBlockSize bs = true := by
  have := (SourceLemmas.withSize_some.mp h).1
  exact (VerifyL.verifyBlockSize_iff bs).2 ⟨by omega, by omega⟩

/-- **the prologue**: with accepted arguments (model: `StreamInfo.new`, `FrameBuf.withSize`) and the single-thread configuration
the driver is its `loop` from `entryState`, followed by the epilogue. -/
theorem driver_entry {T : Type} (ops : SourceOps T) (featPar : Bool) (par : Gen.Encoder → T → Nat → M (Option Gen.Writer.Stream))
    (md5f : List Nat → List Nat) (s1 : Nat → List (List Int)) (s2 : Nat → List Int) (s3 : Nat → Gen.Coding.FrameBuf)
    (fuel : Nat) (config : Gen.Encoder) (src : T) (bs : Nat) (log : List OEvent) (i0 : StreamInfo) (m0 : FlacVerif.FrameBuf)
    (hmt : config.multithread = false)
    (hnew : FlacVerif.StreamInfo.new (ops.sample_rate src) (ops.channels src) (ops.bits_per_sample src) = some i0)
    (hfb : FlacVerif.FrameBuf.withSize (ops.channels src) bs = some m0) :
    encode_with_fixed_block_size featPar ops par md5f s1 s2 s3 fuel config src bs log =
      (loopM fuel (entryState src i0 m0 bs (ops.bits_per_sample src) (ops.channels src)) (loopBody ops s1 s2 s3 config bs) log).bind
        fun r => afterLoop r.1 (epilogue ops md5f bs) r.2 := by
  obtain ⟨_, hb25, _⟩ := streamInfo_new_some hnew
  have hctx : Gen.Source.Context.new (ops.bits_per_sample src) (ops.channels src) =
      some ⟨[], (ops.bits_per_sample src + 7) / 8, ops.channels src, 0, 0⟩ := by
    rw [C14Gen.C14G_ctx_new _ _ (by omega), if_pos (by omega)]
  rw [C03G_driver_unfold]
  simp only [hmt, Bool.and_false, Bool.false_eq_true, if_false, C03G_stream_new, hnew, Option.map_some, bindM_some, tryM_some,
    C14Gen.C14G_with_size, hfb, hctx, C03G_with_stream_info, Stream.stream_info_mut, set_block_sizes_ok _ bs (withSize_bs hfb),
    req_true, bindM_apply]
  rfl

/-- **the whole driver along a run**: the argument checks pass (model: `StreamInfo.new`, `FrameBuf.withSize`), the `loop` runs
from `entryState` to `(srcf, stf, (fbf, ctxf))`, and the result is `Ok` of the final stream with STREAMINFO `finishInfo`:
block sizes restored to `bs` after the last frame, the digest of the bytes the context hashed, `len_hint()` or else the context's
sample count.  For every `Source` implementation, configuration (single-thread), storage contents and oracle log. -/
theorem C03G_driver_run {T : Type} (ops : SourceOps T) (featPar : Bool) (par : Gen.Encoder → T → Nat → M (Option Gen.Writer.Stream))
    (md5f : List Nat → List Nat) (s1 : Nat → List (List Int)) (s2 : Nat → List Int) (s3 : Nat → Gen.Coding.FrameBuf)
    (config : Gen.Encoder) (src srcf : T) (bs : Nat) (log logf : List OEvent) (i0 i : StreamInfo) (m0 : FlacVerif.FrameBuf)
    (stf : Gen.Writer.Stream) (fbf : Gen.Source.FrameBuf) (ctxf : Gen.Source.Context) (lh : Option Nat)
    (gs : List Gen.Writer.Frame)
    (hmt : config.multithread = false)
    (hnew : FlacVerif.StreamInfo.new (ops.sample_rate src) (ops.channels src) (ops.bits_per_sample src) = some i0)
    (hfb : FlacVerif.FrameBuf.withSize (ops.channels src) bs = some m0)
    (hrun : Run ops s1 s2 s3 config bs (entryState src i0 m0 bs (ops.bits_per_sample src) (ops.channels src)) log
      (srcf, stf, (fbf, ctxf)) logf gs)
    (hi : stf.stream_info.data = .StreamInfo i) (hlh : ops.len_hint srcf = some lh)
    (hmd : (md5f ctxf.md5).length = i.md5.length) :
    ∀ fuel, gs.length < fuel →
      encode_with_fixed_block_size featPar ops par md5f s1 s2 s3 fuel config src bs log =
        some (some (Stream.stream_info_mut_set stf (finishInfo i bs (md5f ctxf.md5) (lh.getD ctxf.sample_count))), logf) := by
  intro fuel hf
  rw [driver_entry ops featPar par md5f s1 s2 s3 fuel config src bs log i0 m0 hmt hnew hfb,
    C03G_loop ops s1 s2 s3 config bs _ _ log logf gs hrun fuel hf]
  exact epilogue_apply ops md5f bs srcf stf fbf ctxf i lh logf hi (withSize_bs hfb) hlh hmd

/-- **the empty-input path**: a source whose first `read_samples` returns `Ok(0)` (leaving the context as
`Context::new` made it) gives `Ok` of a stream without frames whose STREAMINFO is the model's `assembleInfo` with no frame:
block sizes `bs`, frame sizes at their initial values, the digest of the empty string, `len_hint` or else 0 samples. -/
theorem C03G_driver_empty {T : Type} (ops : SourceOps T) (featPar : Bool) (par : Gen.Encoder → T → Nat → M (Option Gen.Writer.Stream))
    (md5f : List Nat → List Nat) (s1 : Nat → List (List Int)) (s2 : Nat → List Int) (s3 : Nat → Gen.Coding.FrameBuf)
    (config : Gen.Encoder) (src srcf : T) (bs fuel : Nat) (log : List OEvent) (i0 : StreamInfo) (m0 : FlacVerif.FrameBuf)
    (fbf : Gen.Source.FrameBuf) (lh : Option Nat)
    (hmt : config.multithread = false)
    (hnew : FlacVerif.StreamInfo.new (ops.sample_rate src) (ops.channels src) (ops.bits_per_sample src) = some i0)
    (hfb : FlacVerif.FrameBuf.withSize (ops.channels src) bs = some m0)
    (hread : ops.read_samples src bs (C14Gen.ofModel m0 [], ⟨[], (ops.bits_per_sample src + 7) / 8, ops.channels src, 0, 0⟩) =
      some (some 0, srcf, (fbf, ⟨[], (ops.bits_per_sample src + 7) / 8, ops.channels src, 0, 0⟩)))
    (hlh : ops.len_hint srcf = some lh) (hmd : (md5f []).length = 16) :
    encode_with_fixed_block_size featPar ops par md5f s1 s2 s3 (fuel + 1) config src bs log =
      some (some ⟨⟨true, .StreamInfo (assembleInfo (ops.sample_rate src) (ops.channels src) (ops.bits_per_sample src) bs []
        (lh.getD 0) (md5f []))⟩, [], []⟩, log) := by
  obtain ⟨_, _, hi0⟩ := streamInfo_new_some hnew
  have h := C03G_driver_run ops featPar par md5f s1 s2 s3 config src srcf bs log log i0 { i0 with minBlock := bs, maxBlock := bs } m0
    ⟨⟨true, .StreamInfo { i0 with minBlock := bs, maxBlock := bs }⟩, [], []⟩ fbf
    ⟨[], (ops.bits_per_sample src + 7) / 8, ops.channels src, 0, 0⟩ lh [] hmt hnew hfb
    (Run.stop _ _ _ _ _ _ hread) rfl hlh (by subst hi0; simpa [StreamInfo.empty] using hmd) (fuel + 1) (by simp)
  rw [h]
  subst hi0
  rfl

/-- `impl Source for MemSource` (Gen/Source.lean), `read_samples` at the `Fill` the driver passes: `(FrameBuf, Context)` -/
def memOps : SourceOps Gen.Source.MemSource where
  channels := Gen.Source.MemSource.channels_fn
  bits_per_sample := Gen.Source.MemSource.bits_per_sample_fn
  sample_rate := Gen.Source.MemSource.sample_rate_fn
  read_samples := Gen.Source.MemSource.read_samples
    (Gen.Source.FillPair.fill_interleaved Gen.Source.FrameBuf.fill_interleaved Gen.Source.Context.fill_interleaved)
  len_hint := Gen.Source.MemSource.len_hint

/-- **the exhausted `MemSource`**: with `read_head` at (or beyond) the end, `read_samples` delivers nothing, returns 0 and leaves
source and context as they are. -/
theorem memOps_exhausted (ch bps rate bs rh : Nat) (xs : List Int) (g : Gen.Source.FrameBuf) (c : Gen.Source.Context)
    (hch : 1 ≤ ch) (hend : xs.length ≤ rh * ch) (ho : rh * ch + bs * ch < 2 ^ 64) (hr : rh + bs < 2 ^ 64)
    (hg : C14Gen.Shape g ch) :
    ∃ g', memOps.read_samples ⟨ch, bps, rate, xs, rh⟩ bs (g, c) = some (some 0, ⟨ch, bps, rate, xs, rh⟩, (g', c)) := by
  refine ⟨{ g with samples := deinterleave [] ch g.size g.samples, filled_size := 0 }, ?_⟩
  unfold memOps
  simp only []
  rw [C14Gen.C14G_read_samples _ _ _ _ hch ho hr]
  have hb0 : min (rh * ch) xs.length = xs.length := by omega
  have he0 : min (rh * ch + bs * ch) xs.length = xs.length := by omega
  simp only [hb0, he0, Nat.sub_self, List.take_zero, Nat.zero_div, Nat.add_zero]
  rw [C14Gen.C14G_pair_fill_interleaved, C14Gen.C14G_fill_interleaved g ch hg [] (by simp)]
  have hfill : (C14Gen.toModel g ch).fillInterleaved [] =
      .ok { C14Gen.toModel g ch with samples := deinterleave [] ch g.size g.samples, filled := 0 } := by
    unfold FlacVerif.FrameBuf.fillInterleaved
    simp [C14Gen.toModel]
  rw [hfill]
  simp [Gen.Source.Context.fill_interleaved]

theorem memOps_len_hint (s : Gen.Source.MemSource) (h : s.channels ≠ 0) :
    memOps.len_hint s = some (some (s.samples.length / s.channels)) := by
  simp [memOps, Gen.Source.MemSource.len_hint, Gen.Source.MemSource.len, Gen.Source.MemSource.channels_fn, Gen.Source.req,
    Gen.Source.bindO, h]

/-- **empty `MemSource`**: `encode_with_fixed_block_size(cfg, MemSource::from_samples(&[], ch, bps, rate), bs)` with accepted
arguments is `Ok` of the frameless stream with `assembleInfo .. [] 0 (md5 "")` — the generated driver on the generated source. -/
theorem C03G_driver_mem_empty (featPar : Bool) (par : Gen.Encoder → Gen.Source.MemSource → Nat → M (Option Gen.Writer.Stream))
    (md5f : List Nat → List Nat) (s1 : Nat → List (List Int)) (s2 : Nat → List Int) (s3 : Nat → Gen.Coding.FrameBuf)
    (config : Gen.Encoder) (ch bps rate bs fuel : Nat) (log : List OEvent) (i0 : StreamInfo) (m0 : FlacVerif.FrameBuf)
    (hmt : config.multithread = false)
    (hnew : FlacVerif.StreamInfo.new rate ch bps = some i0) (hfb : FlacVerif.FrameBuf.withSize ch bs = some m0)
    (hmd : (md5f []).length = 16) :
    encode_with_fixed_block_size featPar memOps par md5f s1 s2 s3 (fuel + 1) config (Gen.Source.MemSource.from_samples [] ch bps rate) bs log =
      some (some ⟨⟨true, .StreamInfo (assembleInfo rate ch bps bs [] 0 (md5f []))⟩, [], []⟩, log) := by
  have hch := (SourceLemmas.withSize_some.mp hfb).1
  have hmul : bs * ch ≤ 32767 * 8 := Nat.mul_le_mul hch.2.2.2 hch.2.1
  obtain ⟨fbf, hread⟩ := memOps_exhausted ch bps rate bs 0 [] (C14Gen.ofModel m0 []) ⟨[], (bps + 7) / 8, ch, 0, 0⟩ hch.1
    (Nat.zero_le _) (by omega) (by omega) (withSize_shape hfb).1
  have hlh : memOps.len_hint ⟨ch, bps, rate, [], 0⟩ = some (some 0) := by
    rw [memOps_len_hint _ (show ch ≠ 0 by omega)]; simp
  exact C03G_driver_empty memOps featPar par md5f s1 s2 s3 config _ _ bs fuel log i0 m0 fbf (some 0) hmt hnew hfb hread hlh hmd

section shape
open Total Strict C09Gen Gen.Coding

/-- what `encode_frame` fixes of the frame it returns beyond its model image: no precomputed bitstream, the block-size code of
the buffer's `filled_size`, sample number 0 (the offset `encode_fixed_size_frame` passes), frame number 0 -/
def FrameShape (fb : Gen.Coding.FrameBuf) (f : Gen.Writer.Frame) : Prop :=
  f.precomputed_bitstream = none ∧
  f.header.block_size_spec = Gen.Headers.BlockSizeSpec.from_size (fb.filled_size % 65536) ∧
  f.header.start_sample_number = 0 ∧ f.header.frame_number = 0 ∧ C08Gen.ChanOk f.header.channel_assignment

theorem chanOk_choose (st : StereoCfg) (a b c d : Nat) : C08Gen.ChanOk (C02Hdr.caToGen (chooseStereo st a b c d)) := by
  rcases Strict.chooseStereo_cases st a b c d with h | h | h | h <;> rw [h] <;> simp [C02Hdr.caToGen, C08Gen.ChanOk]

theorem shape_of_implHeader (fb : Gen.Coding.FrameBuf) (info : StreamInfo) (X Y : Gen.Headers.ChannelAssignment)
    (subs : List SubFrame) (h : C08Gen.ChanOk Y) :
    FrameShape fb ⟨{ implHeader fb info X 0 with channel_assignment := Y }, subs, none⟩ := by
  simp [FrameShape, implHeader, Gen.Verify.FrameHeader.set_frame_offset, Gen.Verify.FrameHeader.set_start_sample_number,
    FrameHeader.from_specs, h]

/-- the frame the generated code rebuilds from a frame of the model has `FrameShape`: its channel assignment is the buffer's channel
count or a stereo recombination -/
theorem genFrame_shape {cfg : SubCfg} {st : StereoCfg} (fb : Gen.Coding.FrameBuf) (info : StreamInfo) {number : Nat}
    {log l : List OEvent} {f : Frame} (hch : 1 ≤ info.channels ∧ info.channels ≤ 8)
    (hf : encodeFrame cfg st (chansOf fb info.channels) info.bps info.rate number log = some (f, l)) :
    FrameShape fb (genFrame fb info f) := by
  obtain ⟨_, asg, _, hform, hhdr, _⟩ := encodeFrame_shape _ _ _ _ _ _ _ _ _ hf
  obtain ⟨_, _, hh⟩ := headerFor_some hhdr
  refine shape_of_implHeader fb info (C02Hdr.caToGen f.header.assignment) (C02Hdr.caToGen f.header.assignment) f.subframes ?_
  rw [hh]
  cases hform <;> simp [C02Hdr.caToGen, C08Gen.ChanOk, chansOf]
  exact hch

/-- **value-level `encode_frame`**: whatever it returns has `FrameShape`: it is `genFrame` of a frame of the model, whose channel
assignment is the buffer's channel count or a stereo recombination. -/
theorem encode_frame_shape (s1 : List (List Int)) (s2 : List Int) (s3 : Gen.Coding.FrameBuf) (c : Gen.Encoder)
    (fb : Gen.Coding.FrameBuf) (info : StreamInfo) (log : List OEvent)
    (hst : StereoBuf s3) (hfb : FbOk fb info.channels) (hn : 1 ≤ fb.filled_size ∧ fb.filled_size < 2 ^ 16)
    (hch : 1 ≤ info.channels ∧ info.channels ≤ 8) (hb : 1 ≤ info.bps ∧ info.bps ≤ 24)
    (hx : ∀ ch, ch < info.channels → ∀ x ∈ chanOf fb ch, SubFrame.inRange info.bps x = true)
    (hmax : c.subframe_coding.prc.max_parameter ≤ 14) (hmo : c.subframe_coding.fixed.max_order + 1 < 2 ^ 64)
    (hlog : LogFits log) :
    ∀ r, encode_frame s1 s2 s3 c fb 0 info log = some r → FrameShape fb r.1 := by
  intro r her
  rw [encode_frame_eq s1 s2 s3 c fb info 0 log hst hfb hn hch hb hx hmax hmo hlog] at her
  obtain ⟨⟨f, l⟩, hf, rfl⟩ := Option.map_eq_some_iff.1 her
  exact genFrame_shape fb info hch hf

/-- **the frames of the generated `encode_fixed_size_frame`**: under the
hypotheses of `C09G_encode_fixed_size_frame` and a valid oracle log (`OEvent.Ok`), a returned frame has no precomputed bitstream,
a 32-bit frame number, sample number 0, a block-size code standing for the buffer's `filled_size`, `count_bits` that cannot
panic (`FrameFits`), and `count_bits` IS the hand model's `Frame.count` of its image. -/
theorem C03G_encoder_frame_ok (vs : Gen.Coding.FrameBuf → Nat → Gen.Verify.VR) (s1 : List (List Int)) (s2 : List Int)
    (s3 : Gen.Coding.FrameBuf) (c : Gen.Encoder) (fb : Gen.Coding.FrameBuf) (number : Nat) (info : StreamInfo) (log l' : List OEvent)
    (g : Gen.Writer.Frame)
    (hst : StereoBuf s3) (hfb : FbOk fb info.channels) (hn : 1 ≤ fb.filled_size ∧ fb.filled_size < 2 ^ 16)
    (hch : 1 ≤ info.channels ∧ info.channels ≤ 8) (hb : 1 ≤ info.bps ∧ info.bps ≤ 24)
    (hx : ∀ ch, ch < info.channels → ∀ x ∈ chanOf fb ch, SubFrame.inRange info.bps x = true)
    (hmax : c.subframe_coding.prc.max_parameter ≤ 14) (hmo : c.subframe_coding.fixed.max_order + 1 < 2 ^ 64)
    (hrate : info.rate < 2 ^ 32) (hlog : LogFits log) (hlogok : ∀ e ∈ log, e.Ok)
    (hnum : number < 2 ^ 31) (hcn : fb.samples.length / fb.size = info.channels) (hvs : vs fb info.bps = some true)
    (h : encode_fixed_size_frame vs s1 s2 s3 c fb number info log = some (some g, l')) :
    g.precomputed_bitstream = none ∧ g.header.frame_number < 2 ^ 32 ∧ g.header.start_sample_number < 2 ^ 64 ∧
    Gen.Verify.FrameHeader.block_size g.header = fb.filled_size ∧ FrameFits g ∧
    (C08Gen.frameOfGen g).count = some (Gen.Writer.Frame.count_bits g) ∧ C08Gen.FrameOk g := by
  -- `g` is the frame rebuilt from the model's `f`; every fact is read off that value
  rw [encode_fixed_size_frame_value vs s1 s2 s3 c fb number info log hst hfb hn hch hb hx hmax hmo hlog hnum hcn hvs] at h
  obtain ⟨⟨f, lf⟩, hef, hg⟩ := Option.map_eq_some_iff.1 h
  obtain ⟨rfl, rfl⟩ : withNumber (genFrame fb info f) number = g ∧ lf = l' := by simpa using hg
  have hfg := frameOfGen_genFrame fb info number hfb hn hch.1 hb.2 hrate (by omega) hef
  obtain ⟨hp, hbs, hss, _, hcok⟩ := genFrame_shape fb info hch hef
  have hm : fb.filled_size % 65536 = fb.filled_size := Nat.mod_eq_of_lt (by omega)
  obtain ⟨hbv, hbe⟩ := C02Hdr.blockSize_fromSize_gen fb.filled_size hn.1 hn.2
  -- the sub-frames are the model's: well-formed, with counts, small in sum
  have hclen : (chansOf fb info.channels).length = info.channels := by simp [chansOf]
  have hlen := chansOf_length fb info.channels hfb
  have hxs := forall_chansOf fb info.channels (fun cc => ∀ x ∈ cc, SubFrame.inRange info.bps x = true) hx
  obtain ⟨asg, raws, fo⟩ := encodeFrame_outcome _ _ _ _ _ number fb.filled_size log lf f (by rw [hclen]; exact hch) hlen hn hb hxs
    (by simpa [subCfgOf] using hmax) hlogok hef
  have htot := fo.total
  have hcnt := (C09.C09_frame _ _ _ _ _ number fb.filled_size log lf f hn.1 hlen hef).2
  have hs : ∀ s ∈ f.subframes, s.WF ∧ ∃ c, s.count = some c := fun s hs' => ⟨fo.wf s hs', hcnt s hs'⟩
  have hsum : (f.subframes.map cnt).foldl (· + ·) 0 < 2 ^ 40 := by
    have hv : verbatimBits fb.filled_size info.bps ≤ 8 + 65536 * 24 := by
      unfold verbatimBits
      have : fb.filled_size * info.bps ≤ 65536 * 24 := Nat.mul_le_mul (by omega) hb.2
      omega
    have : (chansOf fb info.channels).length * verbatimBits fb.filled_size info.bps ≤ 8 * (8 + 65536 * 24) :=
      Nat.mul_le_mul (by rw [hclen]; exact hch.2) hv
    unfold C09.subTotal at htot
    omega
  have hfn : number % 4294967296 < 2 ^ 32 := Nat.mod_lt _ (by decide)
  refine ⟨hp, ?_, ?_, ?_, ⟨?_, ?_⟩, ?_, ⟨hp, ?_, fun sf hsf => (hs sf hsf).1⟩⟩
  · exact hfn
  · rw [withNumber_start_sample_number, hss]; decide
  · rw [withNumber_block_size]; simp [Gen.Verify.FrameHeader.block_size, hbs, hm, hbv]
  · rw [withNumber_block_size_exact]; simp [Gen.Verify.FrameHeader.block_size_exact, hbs, hm, hbv, hbe]
  · exact (GenCount.frame_count_exact (g := withNumber (genFrame fb info f) number) hp hs hsum).1
  · obtain ⟨_, _, hcf, _⟩ := fo.bits (by omega)
    rw [hfg, hcf]
    rw [← hfg] at hcf
    exact congrArg some (GenCount.frame_count_value (g := withNumber (genFrame fb info f) number) _ hp hfn
      (by rw [withNumber_start_sample_number, hss]; decide) hs hsum hcf).symm
  · exact hcok

end shape

section contract
open Total Strict

/-- channel `c` of a buffer of part `source`, as part `coding` reads it (`chanOf` after `fbToCoding`) and as the hand model does
(`channelSlice` after `C14Gen.toModel`): the same slice -/
theorem chanOf_fbToCoding (g : Gen.Source.FrameBuf) (ch c : Nat) :
    C09Gen.chanOf (fbToCoding g) c = (C14Gen.toModel g ch).channelSlice c := rfl

/-- what the driver needs of the buffer a source delivered for the planar block `b` (`ch` channels of `bps`-bit samples): the
channels read back are `b`, the Rust shape invariant, a non-empty block below `2^16`, samples inside the width, and
`verify_samples` accepting. -/
structure GoodFb (fb : Gen.Source.FrameBuf) (b : List (List Int)) (ch bps : Nat) : Prop where
  chans : C09Gen.chansOf (fbToCoding fb) ch = b
  ok : C09Gen.FbOk (fbToCoding fb) ch
  fill : 1 ≤ fb.filled_size ∧ fb.filled_size < 2 ^ 16
  range : ∀ c, c < ch → ∀ x ∈ C09Gen.chanOf (fbToCoding fb) c, SubFrame.inRange bps x = true
  nch : fb.samples.length / fb.size = ch
  vs : verifySamples (fbToCoding fb) bps = some true

/-- **the source contract** (explicit, as a relation): from state `src` with the `(FrameBuf, Context)` pair `fbc`, the source
delivers the planar blocks `blocks` one `read_samples` at a time — each call returns the block's length, leaves a `GoodFb`
holding the block, and advances the context by the block's little-endian bytes, its length and one frame — and then returns 0
without touching the context. -/
inductive Delivers {T : Type} (ops : SourceOps T) (bs ch bps : Nat) :
    T → (Gen.Source.FrameBuf × Gen.Source.Context) → List (List (List Int)) → T → (Gen.Source.FrameBuf × Gen.Source.Context) → Prop
  | done (src src' : T) (fbc fbc' : Gen.Source.FrameBuf × Gen.Source.Context) :
      ops.read_samples src bs fbc = some (some 0, src', fbc') → fbc'.2 = fbc.2 → Delivers ops bs ch bps src fbc [] src' fbc'
  | block (src src' srcf : T) (fbc fbc' fbcf : Gen.Source.FrameBuf × Gen.Source.Context) (b : List (List Int))
      (rest : List (List (List Int))) (k : Nat) :
      ops.read_samples src bs fbc = some (some k, src', fbc') → k ≠ 0 → k = (b.headD []).length →
      fbc'.2 = { fbc.2 with md5 := fbc.2.md5 ++ md5Input bps (Rfc.interleave b), sample_count := fbc.2.sample_count + k,
                            frame_count := fbc.2.frame_count + 1 } →
      GoodFb fbc'.1 b ch bps →
      Delivers ops bs ch bps src' fbc' rest srcf fbcf → Delivers ops bs ch bps src fbc (b :: rest) srcf fbcf

def streamAfter (st : Gen.Writer.Stream) (i : StreamInfo) (gs : List Gen.Writer.Frame) : Gen.Writer.Stream :=
  { st with stream_info := { st.stream_info with data := .StreamInfo (foldInfo i gs) }, frames := st.frames ++ gs }

theorem streamAfter_nil (st : Gen.Writer.Stream) (i : StreamInfo) (hi : st.stream_info.data = .StreamInfo i) :
    streamAfter st i [] = st := by
  obtain ⟨⟨l, d⟩, m, f⟩ := st
  simp only at hi
  subst hi
  simp [streamAfter, foldInfo]

theorem streamAfter_cons (st : Gen.Writer.Stream) (i : StreamInfo) (g : Gen.Writer.Frame) (gs : List Gen.Writer.Frame) :
    streamAfter st i (g :: gs) = streamAfter (streamAfter st i [g]) (foldInfo i [g]) gs := by
  simp [streamAfter, foldInfo]

theorem foldInfo_one (i : StreamInfo) (g : Gen.Writer.Frame) :
    foldInfo i [g] = i.addFrameCast (Gen.Verify.FrameHeader.block_size g.header) (Gen.Writer.Frame.count_bits g) := rfl


theorem current_frame_number_succ (c : Gen.Source.Context) (n : Nat) (h : c.frame_count = n + 1) :
    Gen.Source.Context.current_frame_number c = some (some n) := by
  unfold Gen.Source.Context.current_frame_number
  simp [h, Gen.Source.req]

/-- **one iteration of the `loop` on a delivered block**: on a buffer holding the planar block `b` (`GoodFb`) and a stream whose
STREAMINFO `i` states the source's format, the generated `encode_fixed_size_frame` returns the frame whose model image is the
model's `encodeFrame` of `b` (same remaining log), its block size is the block's length, `add_frame` accepts it, and it has the
properties `C03G_encoder_frame_ok` lists. -/
theorem contract_frame (s1 : Nat → List (List Int)) (s2 : Nat → List Int) (s3 : Nat → Gen.Coding.FrameBuf) (c : Gen.Encoder)
    (ch bps rate : Nat) (hst : ∀ n, C09Gen.StereoBuf (s3 n)) (hch : 1 ≤ ch ∧ ch ≤ 8) (hb : 1 ≤ bps ∧ bps ≤ 24)
    (hmax : c.subframe_coding.prc.max_parameter ≤ 14) (hmo : c.subframe_coding.fixed.max_order + 1 < 2 ^ 64)
    (hrate : rate < 2 ^ 32) (fb : Gen.Source.FrameBuf) (b : List (List Int)) (hgood : GoodFb fb b ch bps)
    (st : Gen.Writer.Stream) (i : StreamInfo) (hi : st.stream_info.data = .StreamInfo i) (hic : i.channels = ch) (hib : i.bps = bps)
    (hir : i.rate = rate) (htot : i.total < 2 ^ 64 - 65535) (n : Nat) (hn : n < 2 ^ 31) (log l1 : List OEvent) (f : Frame)
    (hef : encodeFrame (subCfgOf c.subframe_coding) (stereoCfgOf c.stereo_coding) b bps rate n log = some (f, l1))
    (hlog : C09Gen.LogFits log) (hlogok : ∀ e ∈ log, e.Ok) :
    ∃ g, Gen.Verify.Stream.stream_info_exact st = true ∧
      Gen.Coding.encode_fixed_size_frame verifySamples (s1 n) (s2 n) (s3 n) c (fbToCoding fb) n (Gen.Verify.Stream.stream_info st) log =
        some (some g, l1) ∧
      Stream.add_frame st g = some (streamAfter st i [g]) ∧ C08Gen.frameOfGen g = f ∧
      Gen.Verify.FrameHeader.block_size g.header = (b.headD []).length ∧
      g.precomputed_bitstream = none ∧ g.header.frame_number < 2 ^ 32 ∧ g.header.start_sample_number < 2 ^ 64 ∧
      FrameFits g ∧ (C08Gen.frameOfGen g).count = some (Gen.Writer.Frame.count_bits g) ∧ C08Gen.FrameOk g := by
  obtain ⟨hex, hsi⟩ := C18Gen.stream_info_of st i hi
  subst hic hib hir
  have hgen := C09Gen.C09G_encode_fixed_size_frame verifySamples (s1 n) (s2 n) (s3 n) c (fbToCoding fb) n i log (hst _) hgood.ok
    hgood.fill hch hb hgood.range hmax hmo hrate hlog hn hgood.nch hgood.vs
  rw [hgood.chans, hef] at hgen
  obtain ⟨g, hg, hog⟩ := map_image_some C08Gen.frameOfGen hgen
  obtain ⟨hp, hfn, hss, hbsz, hfit, hcnt, hfok⟩ := C03G_encoder_frame_ok verifySamples (s1 n) (s2 n) (s3 n) c (fbToCoding fb) n i
    log l1 g (hst _) hgood.ok hgood.fill hch hb hgood.range hmax hmo hrate hlog hlogok hn hgood.nch hgood.vs hg
  have hm : Gen.Verify.FrameHeader.block_size g.header % 65536 < 65536 := Nat.mod_lt _ (by decide)
  have hu := C03G_update_frame_info i g hfit.1 hfit.2 (by omega)
  refine ⟨g, hex, by rw [hsi]; exact hg, by rw [C03G_add_frame st i _ g hi hu]; rfl, hog, ?_, hp, hfn, hss, hfit, hcnt, hfok⟩
  rw [hbsz, ← hgood.chans]
  exact (C09Gen.chansOf_headD_length _ _ hgood.ok hch.1).symm

end contract
end C03Gen

/-! ### prefixes of the loop and of the source contract

`RunPre` / `DeliversPre` are `Run` / `Delivers` without the terminal `read_samples = 0`; the frame-loop theorem is proved for
prefixes (C03GenErr continues a prefix by a failing iteration) and `C03G_frames_contract` adds the terminal step. -/

namespace C03GenErr
open FlacVerif.C03Gen FlacVerif.Gen.Driver
open FlacVerif.Gen.Coding (M pureM bindM liftO)
open Total Strict

/-- a prefix of the `loop`: good iterations only (the premises of `Run.step`), no terminal iteration -/
inductive RunPre {T : Type} (ops : SourceOps T) (s1 : Nat → List (List Int)) (s2 : Nat → List Int) (s3 : Nat → Gen.Coding.FrameBuf)
    (config : Gen.Encoder) (bs : Nat) : LoopState T → List OEvent → LoopState T → List OEvent → List Gen.Writer.Frame → Prop
  | nil (s : LoopState T) (log : List OEvent) : RunPre ops s1 s2 s3 config bs s log s log []
  | step (src src' : T) (st st1 : Gen.Writer.Stream) (fbc fbc' : Gen.Source.FrameBuf × Gen.Source.Context) (k num : Nat)
      (g : Gen.Writer.Frame) (log log1 logf : List OEvent) (fin : LoopState T) (gs : List Gen.Writer.Frame) :
      ops.read_samples src bs fbc = some (some k, src', fbc') → k ≠ 0 →
      Gen.Source.Context.current_frame_number fbc'.2 = some (some num) →
      Gen.Verify.Stream.stream_info_exact st = true →
      Gen.Coding.encode_fixed_size_frame verifySamples (s1 num) (s2 num) (s3 num) config (fbToCoding fbc'.1) num
        (Gen.Verify.Stream.stream_info st) log = some (some g, log1) →
      Stream.add_frame st g = some st1 →
      RunPre ops s1 s2 s3 config bs (src', st1, fbc') log1 fin logf gs →
      RunPre ops s1 s2 s3 config bs (src, st, fbc) log fin logf (g :: gs)

/-- the source contract for a prefix of blocks (as `Delivers.block`, without the final `read_samples = 0`) -/
inductive DeliversPre {T : Type} (ops : SourceOps T) (bs ch bps : Nat) :
    T → (Gen.Source.FrameBuf × Gen.Source.Context) → List (List (List Int)) → T → (Gen.Source.FrameBuf × Gen.Source.Context) → Prop
  | nil (src : T) (fbc : Gen.Source.FrameBuf × Gen.Source.Context) : DeliversPre ops bs ch bps src fbc [] src fbc
  | block (src src' srcf : T) (fbc fbc' fbcf : Gen.Source.FrameBuf × Gen.Source.Context) (b : List (List Int))
      (rest : List (List (List Int))) (k : Nat) :
      ops.read_samples src bs fbc = some (some k, src', fbc') → k ≠ 0 → k = (b.headD []).length →
      fbc'.2 = { fbc.2 with md5 := fbc.2.md5 ++ md5Input bps (Rfc.interleave b), sample_count := fbc.2.sample_count + k,
                            frame_count := fbc.2.frame_count + 1 } →
      GoodFb fbc'.1 b ch bps →
      DeliversPre ops bs ch bps src' fbc' rest srcf fbcf → DeliversPre ops bs ch bps src fbc (b :: rest) srcf fbcf

/-- **the frame loop on a prefix of delivered blocks = the model's `encodeFrames`** over them: a `RunPre` exists whose frames have
exactly the model images, one per block, same remaining log, STREAMINFO advanced by `update_frame_info` for each. -/
theorem C03G_frames_contract_pre {T : Type} (ops : SourceOps T) (s1 : Nat → List (List Int)) (s2 : Nat → List Int)
    (s3 : Nat → Gen.Coding.FrameBuf) (c : Gen.Encoder) (bs ch bps rate : Nat)
    (hst : ∀ n, C09Gen.StereoBuf (s3 n)) (hch : 1 ≤ ch ∧ ch ≤ 8) (hb : 1 ≤ bps ∧ bps ≤ 24)
    (hmax : c.subframe_coding.prc.max_parameter ≤ 14) (hmo : c.subframe_coding.fixed.max_order + 1 < 2 ^ 64)
    (hrate : rate < 2 ^ 32)
    (src srcf : T) (fbc fbcf : Gen.Source.FrameBuf × Gen.Source.Context) (blocks : List (List (List Int)))
    (hd : DeliversPre ops bs ch bps src fbc blocks srcf fbcf) :
    ∀ (st : Gen.Writer.Stream) (i : StreamInfo) (log logf : List OEvent) (fs : List Frame),
      st.stream_info.data = .StreamInfo i → i.channels = ch → i.bps = bps → i.rate = rate →
      encodeFrames (subCfgOf c.subframe_coding) (stereoCfgOf c.stereo_coding) bps rate blocks fbc.2.frame_count log = some (fs, logf) →
      C09Gen.LogFits log → (∀ e ∈ log, e.Ok) → fbc.2.frame_count + blocks.length < 2 ^ 31 →
      i.total + 65535 * blocks.length < 2 ^ 64 →
      ∃ gs : List Gen.Writer.Frame,
        RunPre ops s1 s2 s3 c bs (src, st, fbc) log (srcf, streamAfter st i gs, fbcf) logf gs ∧
        gs.map C08Gen.frameOfGen = fs ∧
        gs.map (fun g => Gen.Verify.FrameHeader.block_size g.header) = blocks.map (fun b => (b.headD []).length) ∧
        (∀ g ∈ gs, g.precomputed_bitstream = none ∧ g.header.frame_number < 2 ^ 32 ∧ g.header.start_sample_number < 2 ^ 64 ∧
          FrameFits g ∧ (C08Gen.frameOfGen g).count = some (Gen.Writer.Frame.count_bits g) ∧ C08Gen.FrameOk g) := by
  induction hd with
  | nil src fbc =>
    intro st i log logf fs hi _ _ _ henc _ _ _ _
    simp only [encodeFrames, Option.some.injEq, Prod.mk.injEq] at henc
    obtain ⟨rfl, rfl⟩ := henc
    refine ⟨[], ?_, rfl, rfl, by simp⟩
    rw [streamAfter_nil st i hi]
    exact RunPre.nil _ _
  | block src src' srcf fbc fbc' fbcf b rest k hr hk hkb hctx hgood _ ih =>
    intro st i log logf fs hi hic hib hir henc hlog hlogok hnum htot
    rw [List.length_cons] at hnum htot
    obtain ⟨f, l1, fs', hef, hefs, rfl⟩ := encodeFrames_cons henc
    have hfc : fbc'.2.frame_count = fbc.2.frame_count + 1 := by rw [hctx]
    obtain ⟨g, hex, hg, hadd, hog, hbsz, hprops⟩ := contract_frame s1 s2 s3 c ch bps rate hst hch hb hmax hmo hrate fbc'.1 b hgood
      st i hi hic hib hir (by omega) fbc.2.frame_count (by omega) log l1 f hef hlog hlogok
    have htot' := addFrameCast_total i (Gen.Verify.FrameHeader.block_size g.header) (Gen.Writer.Frame.count_bits g)
    have hsub := encodeFrame_sub _ _ _ _ _ _ _ _ _ hef
    obtain ⟨gs, hrun, hmap, hsz, hall⟩ := ih (streamAfter st i [g]) (foldInfo i [g]) l1 logf fs' rfl hic hib hir
      (by rw [hfc]; exact hefs) (hlog.sub hsub) (fun e he => hlogok e (hsub e he)) (by rw [hfc]; omega)
      (by rw [foldInfo_one]; omega)
    refine ⟨g :: gs, ?_, by rw [List.map_cons, hog, hmap], by rw [List.map_cons, List.map_cons, hbsz, hsz], ?_⟩
    · rw [streamAfter_cons]
      exact RunPre.step _ _ _ _ _ _ k _ g _ _ _ _ _ hr hk (current_frame_number_succ _ _ hfc) hex hg hadd hrun
    · intro x hx
      rcases List.mem_cons.1 hx with rfl | hx
      · exact hprops
      · exact hall x hx

end C03GenErr

namespace C03Gen
open FlacVerif.Gen.Driver
open FlacVerif.Gen.Coding (M pureM bindM liftO)
section contract
open Total Strict

theorem Delivers.toPre {T : Type} {ops : SourceOps T} {bs ch bps : Nat} {src srcf : T}
    {fbc fbcf : Gen.Source.FrameBuf × Gen.Source.Context} {blocks : List (List (List Int))}
    (hd : Delivers ops bs ch bps src fbc blocks srcf fbcf) :
    ∃ srcp fbcp, C03GenErr.DeliversPre ops bs ch bps src fbc blocks srcp fbcp ∧
      ops.read_samples srcp bs fbcp = some (some 0, srcf, fbcf) := by
  induction hd with
  | done src src' fbc fbc' hr _ => exact ⟨src, fbc, C03GenErr.DeliversPre.nil _ _, hr⟩
  | block src src' srcf fbc fbc' fbcf b rest k hr hk hkb hctx hgood _ ih =>
    obtain ⟨srcp, fbcp, hpre, hstop⟩ := ih
    exact ⟨srcp, fbcp, C03GenErr.DeliversPre.block _ _ _ _ _ _ _ _ k hr hk hkb hctx hgood hpre, hstop⟩

theorem Run.ofPre {T : Type} {ops : SourceOps T} {s1 : Nat → List (List Int)} {s2 : Nat → List Int} {s3 : Nat → Gen.Coding.FrameBuf}
    {config : Gen.Encoder} {bs : Nat} {s : LoopState T} {srcp srcf : T} {stp : Gen.Writer.Stream}
    {fbcp fbcf : Gen.Source.FrameBuf × Gen.Source.Context} {log logf : List OEvent} {gs : List Gen.Writer.Frame}
    (hpre : C03GenErr.RunPre ops s1 s2 s3 config bs s log (srcp, stp, fbcp) logf gs)
    (hstop : ops.read_samples srcp bs fbcp = some (some 0, srcf, fbcf)) :
    Run ops s1 s2 s3 config bs s log (srcf, stp, fbcf) logf gs := by
  generalize hfin : (srcp, stp, fbcp) = fin at hpre
  induction hpre with
  | nil s log => subst hfin; exact Run.stop _ _ _ _ _ _ hstop
  | step src src' st st1 fbc fbc' k num g log log1 logf fin gs hr hk hnum hex henc hadd _ ih =>
    exact Run.step _ _ _ _ _ _ k num g _ _ _ _ _ hr hk hnum hex henc hadd (ih hfin)

/-- **the frame loop of the generated driver = the model's `encodeFrames`** on a contract-abiding source: if the model's frame
loop over the delivered blocks (numbered from the context's frame count) returns frames `fs` and log `logf`, the generated `loop`
has a run that ends in the contract's final source / buffer / context, with the same remaining log, having added frames `gs`
whose model images are exactly `fs`, one per block, each with the block's length as block size, and STREAMINFO advanced by
`update_frame_info` for each (`foldInfo`).  Every configuration (the bounds of C09Gen), every storage content, every oracle log. -/
theorem C03G_frames_contract {T : Type} (ops : SourceOps T) (s1 : Nat → List (List Int)) (s2 : Nat → List Int)
    (s3 : Nat → Gen.Coding.FrameBuf) (c : Gen.Encoder) (bs ch bps rate : Nat)
    (hst : ∀ n, C09Gen.StereoBuf (s3 n)) (hch : 1 ≤ ch ∧ ch ≤ 8) (hb : 1 ≤ bps ∧ bps ≤ 24)
    (hmax : c.subframe_coding.prc.max_parameter ≤ 14) (hmo : c.subframe_coding.fixed.max_order + 1 < 2 ^ 64)
    (hrate : rate < 2 ^ 32)
    (src srcf : T) (fbc fbcf : Gen.Source.FrameBuf × Gen.Source.Context) (blocks : List (List (List Int)))
    (hd : Delivers ops bs ch bps src fbc blocks srcf fbcf) :
    ∀ (st : Gen.Writer.Stream) (i : StreamInfo) (log logf : List OEvent) (fs : List Frame),
      st.stream_info.data = .StreamInfo i → i.channels = ch → i.bps = bps → i.rate = rate →
      encodeFrames (subCfgOf c.subframe_coding) (stereoCfgOf c.stereo_coding) bps rate blocks fbc.2.frame_count log = some (fs, logf) →
      C09Gen.LogFits log → (∀ e ∈ log, e.Ok) → fbc.2.frame_count + blocks.length < 2 ^ 31 →
      i.total + 65535 * blocks.length < 2 ^ 64 →
      ∃ gs : List Gen.Writer.Frame,
        Run ops s1 s2 s3 c bs (src, st, fbc) log (srcf, streamAfter st i gs, fbcf) logf gs ∧
        gs.map C08Gen.frameOfGen = fs ∧
        gs.map (fun g => Gen.Verify.FrameHeader.block_size g.header) = blocks.map (fun b => (b.headD []).length) ∧
        (∀ g ∈ gs, g.precomputed_bitstream = none ∧ g.header.frame_number < 2 ^ 32 ∧ g.header.start_sample_number < 2 ^ 64 ∧
          FrameFits g ∧ (C08Gen.frameOfGen g).count = some (Gen.Writer.Frame.count_bits g) ∧ C08Gen.FrameOk g) := by
  obtain ⟨srcp, fbcp, hpre, hstop⟩ := hd.toPre
  intro st i log logf fs hi hic hib hir henc hlog hlogok hnum htot
  obtain ⟨gs, hrun, hrest⟩ := C03GenErr.C03G_frames_contract_pre ops s1 s2 s3 c bs ch bps rate hst hch hb hmax hmo hrate src srcp fbc fbcp
    blocks hpre st i log logf fs hi hic hib hir henc hlog hlogok hnum htot
  exact ⟨gs, Run.ofPre hrun hstop, hrest⟩

/-- **what a contract-abiding source leaves in the context** (C03): the bytes hashed are the little-endian bytes of the
interleaved blocks, concatenated in order; the sample count is the sum of the block lengths; one frame per block. -/
theorem C03G_delivers_ctx {T : Type} (ops : SourceOps T) (bs ch bps : Nat) (src srcf : T)
    (fbc fbcf : Gen.Source.FrameBuf × Gen.Source.Context) (blocks : List (List (List Int)))
    (hd : Delivers ops bs ch bps src fbc blocks srcf fbcf) :
    fbcf.2.md5 = fbc.2.md5 ++ md5Input bps (blocks.flatMap Rfc.interleave) ∧
    fbcf.2.sample_count = fbc.2.sample_count + (blocks.map fun b => (b.headD []).length).sum ∧
    fbcf.2.frame_count = fbc.2.frame_count + blocks.length ∧
    fbcf.2.bytes_per_sample = fbc.2.bytes_per_sample ∧ fbcf.2.channels = fbc.2.channels := by
  induction hd with
  | done src src' fbc fbc' hr hctx => rw [hctx]; simp [md5Input]
  | block src src' srcf fbc fbc' fbcf b rest k hr hk hkb hctx hgood _ ih =>
    obtain ⟨h1, h2, h3, h4, h5⟩ := ih
    rw [hctx] at h1 h2 h3 h4 h5
    simp only at h1 h2 h3 h4 h5
    refine ⟨?_, ?_, ?_, h4, h5⟩
    · rw [h1, List.flatMap_cons, C03.md5Input_append, List.append_assoc]
    · rw [h2, List.map_cons, List.sum_cons, hkb]; omega
    · rw [h3, List.length_cons]; omega

/-- **the whole driver on a contract-abiding source**: accepted arguments, the source delivers `blocks`, the model's frame loop
over `blocks` succeeds with frames `fs` and remaining log `logf`.  Then the generated driver returns `Ok(stream)` with the same
remaining log, where the stream's frames have exactly the model images `fs` (one per block, block sizes = block lengths) and its
STREAMINFO is `finishInfo` of `foldInfo` (= `update_frame_info` per frame): block sizes `bs`, the digest of the little-endian
bytes of all interleaved blocks, `len_hint` or else the number of samples delivered. -/
theorem C03G_driver_contract {T : Type} (ops : SourceOps T) (featPar : Bool) (par : Gen.Encoder → T → Nat → M (Option Gen.Writer.Stream))
    (md5f : List Nat → List Nat) (s1 : Nat → List (List Int)) (s2 : Nat → List Int) (s3 : Nat → Gen.Coding.FrameBuf)
    (c : Gen.Encoder) (src srcf : T) (bs : Nat) (log logf : List OEvent) (i0 : StreamInfo) (m0 : FlacVerif.FrameBuf)
    (fbcf : Gen.Source.FrameBuf × Gen.Source.Context) (lh : Option Nat) (blocks : List (List (List Int))) (fs : List Frame)
    (hmt : c.multithread = false)
    (hnew : FlacVerif.StreamInfo.new (ops.sample_rate src) (ops.channels src) (ops.bits_per_sample src) = some i0)
    (hfb : FlacVerif.FrameBuf.withSize (ops.channels src) bs = some m0)
    (hst : ∀ n, C09Gen.StereoBuf (s3 n)) (hb : 1 ≤ ops.bits_per_sample src ∧ ops.bits_per_sample src ≤ 24)
    (hmax : c.subframe_coding.prc.max_parameter ≤ 14) (hmo : c.subframe_coding.fixed.max_order + 1 < 2 ^ 64)
    (hd : Delivers ops bs (ops.channels src) (ops.bits_per_sample src) src
      (C14Gen.ofModel m0 [], ⟨[], (ops.bits_per_sample src + 7) / 8, ops.channels src, 0, 0⟩) blocks srcf fbcf)
    (henc : encodeFrames (subCfgOf c.subframe_coding) (stereoCfgOf c.stereo_coding) (ops.bits_per_sample src) (ops.sample_rate src)
      blocks 0 log = some (fs, logf))
    (hlog : C09Gen.LogFits log) (hlogok : ∀ e ∈ log, e.Ok) (hnb : blocks.length < 2 ^ 31) (hlh : ops.len_hint srcf = some lh)
    (hmd : ∀ l, (md5f l).length = 16) :
    ∃ gs : List Gen.Writer.Frame, gs.map C08Gen.frameOfGen = fs ∧
      gs.map (fun g => Gen.Verify.FrameHeader.block_size g.header) = blocks.map (fun b => (b.headD []).length) ∧
      (∀ g ∈ gs, (C08Gen.frameOfGen g).count = some (Gen.Writer.Frame.count_bits g)) ∧ (∀ g ∈ gs, C08Gen.FrameOk g) ∧
      ∀ fuel, blocks.length < fuel →
        encode_with_fixed_block_size featPar ops par md5f s1 s2 s3 fuel c src bs log =
          some (some ⟨⟨true, .StreamInfo (finishInfo (foldInfo { i0 with minBlock := bs, maxBlock := bs } gs) bs
              (md5f (md5Input (ops.bits_per_sample src) (blocks.flatMap Rfc.interleave)))
              (lh.getD ((blocks.map fun b => (b.headD []).length).sum)))⟩, [], gs⟩, logf) := by
  obtain ⟨hr96, _, hi0⟩ := streamInfo_new_some hnew
  have hch : 1 ≤ ops.channels src ∧ ops.channels src ≤ 8 := ⟨(SourceLemmas.withSize_some.mp hfb).1.1, (SourceLemmas.withSize_some.mp hfb).1.2.1⟩
  have hrate : ops.sample_rate src < 2 ^ 32 := by omega
  obtain ⟨gs, hrun, hmap, hsz, hall⟩ := C03G_frames_contract ops s1 s2 s3 c bs _ _ _ hst hch hb hmax hmo hrate src srcf _ fbcf
    blocks hd ⟨⟨true, .StreamInfo { i0 with minBlock := bs, maxBlock := bs }⟩, [], []⟩ { i0 with minBlock := bs, maxBlock := bs }
    log logf fs rfl (by subst hi0; rfl) (by subst hi0; rfl) (by subst hi0; rfl) henc hlog hlogok (by simpa using hnb)
    (by subst hi0; simp [StreamInfo.empty]; omega)
  obtain ⟨hmd5, hcnt, _, _, _⟩ := C03G_delivers_ctx ops bs _ _ src srcf _ fbcf blocks hd
  have hlen : gs.length = blocks.length := by
    have := congrArg List.length hsz
    simpa using this
  refine ⟨gs, hmap, hsz, fun g hg => (hall g hg).2.2.2.2.1, fun g hg => (hall g hg).2.2.2.2.2, ?_⟩
  intro fuel hf
  have h := C03G_driver_run ops featPar par md5f s1 s2 s3 c src srcf bs log logf i0 (foldInfo { i0 with minBlock := bs, maxBlock := bs } gs)
    m0 (streamAfter ⟨⟨true, .StreamInfo { i0 with minBlock := bs, maxBlock := bs }⟩, [], []⟩ { i0 with minBlock := bs, maxBlock := bs } gs)
    fbcf.1 fbcf.2 lh gs hmt hnew hfb hrun rfl hlh (by rw [(foldInfo_fields gs _).2.2.2, hmd]; subst hi0; simp [StreamInfo.empty]) fuel (by omega)
  rw [h, hmd5, hcnt]
  simp [streamAfter, Stream.stream_info_mut_set]

/-- the hand-model image of a generated stream without further metadata blocks -/
def streamImage (g : Gen.Writer.Stream) : Stream :=
  ⟨Gen.Verify.Stream.stream_info g, [], g.frames.map C08Gen.frameOfGen⟩

/-- **the generated driver on a contract-abiding source = the model's `encodeStream`** (success direction: the model's frame
loop returns): the source delivers `blocksOf bs chans`, and `len_hint` (or else the number of samples delivered) is the true
length.  Same stream (image: STREAMINFO, no further metadata, the frames' images), same remaining log.  NOT covered: the
failure direction (the generated driver panics / returns `Err` exactly where the model returns `none`). -/
theorem C03G_driver_contract_model_success {T : Type} (ops : SourceOps T) (featPar : Bool)
    (par : Gen.Encoder → T → Nat → M (Option Gen.Writer.Stream))
    (md5f : List Nat → List Nat) (s1 : Nat → List (List Int)) (s2 : Nat → List Int) (s3 : Nat → Gen.Coding.FrameBuf)
    (c : Gen.Encoder) (src srcf : T) (bs : Nat) (log logf : List OEvent) (i0 : StreamInfo) (m0 : FlacVerif.FrameBuf)
    (fbcf : Gen.Source.FrameBuf × Gen.Source.Context) (lh : Option Nat) (chans : List (List Int)) (total : Nat) (fs : List Frame)
    (hmt : c.multithread = false)
    (hnew : FlacVerif.StreamInfo.new (ops.sample_rate src) (ops.channels src) (ops.bits_per_sample src) = some i0)
    (hfb : FlacVerif.FrameBuf.withSize (ops.channels src) bs = some m0)
    (hst : ∀ n, C09Gen.StereoBuf (s3 n)) (hb : 1 ≤ ops.bits_per_sample src ∧ ops.bits_per_sample src ≤ 24)
    (hmax : c.subframe_coding.prc.max_parameter ≤ 14) (hmo : c.subframe_coding.fixed.max_order + 1 < 2 ^ 64)
    (hcl : chans.length = ops.channels src) (hlen : ∀ cc ∈ chans, cc.length = total)
    (hd : Delivers ops bs (ops.channels src) (ops.bits_per_sample src) src
      (C14Gen.ofModel m0 [], ⟨[], (ops.bits_per_sample src + 7) / 8, ops.channels src, 0, 0⟩) (blocksOf bs chans) srcf fbcf)
    (henc : encodeFrames (subCfgOf c.subframe_coding) (stereoCfgOf c.stereo_coding) (ops.bits_per_sample src) (ops.sample_rate src)
      (blocksOf bs chans) 0 log = some (fs, logf))
    (hlog : C09Gen.LogFits log) (hlogok : ∀ e ∈ log, e.Ok) (hnb : (blocksOf bs chans).length < 2 ^ 31)
    (hlh : ops.len_hint srcf = some lh)
    (htot : lh.getD (((blocksOf bs chans).map fun b => (b.headD []).length).sum) = (chans.headD []).length)
    (hmd : ∀ l, (md5f l).length = 16) :
    ∀ fuel, (blocksOf bs chans).length < fuel →
      (encode_with_fixed_block_size featPar ops par md5f s1 s2 s3 fuel c src bs log).map (fun r => (r.1.map streamImage, r.2)) =
        (encodeStream md5f (subCfgOf c.subframe_coding) (stereoCfgOf c.stereo_coding) bs chans (ops.bits_per_sample src)
          (ops.sample_rate src) log).map (fun r => (some r.1, r.2)) := by
  obtain ⟨_, _, hi0⟩ := streamInfo_new_some hnew
  have hch := (SourceLemmas.withSize_some.mp hfb).1
  have hch1 : 1 ≤ chans.length := by omega
  have hbs1 : 1 ≤ bs := by omega
  obtain ⟨gs, hmap, hsz, hall, _, hrun⟩ := C03G_driver_contract ops featPar par md5f s1 s2 s3 c src srcf bs log logf i0 m0 fbcf lh
    (blocksOf bs chans) fs hmt hnew hfb hst hb hmax hmo hd henc hlog hlogok hnb hlh hmd
  intro fuel hf
  rw [hrun fuel hf]
  unfold encodeStream
  simp only [henc, Option.bind_eq_bind, Option.bind_some, ← hmap,
    mapM_map_some_map Frame.count C08Gen.frameOfGen Gen.Writer.Frame.count_bits gs hall, Option.map_some]
  rw [htot, Wrap.interleave_blocks bs chans total hbs1 hch1 hlen]
  have hz : ((blocksOf bs chans).map fun b => (b.headD []).length).zip (gs.map Gen.Writer.Frame.count_bits) = gs.map sizeCount := by
    rw [← hsz, List.zip_map']
    rfl
  rw [hz]
  subst hi0
  simp [streamImage, Gen.Verify.Stream.stream_info, finishInfo_foldInfo, hcl]

end contract

/-! ### examples: the hypotheses are satisfiable -/

example : FrameFits C08Gen.exFrame := by decide

example : [C08Gen.exFrame, C08Gen.exFrame].foldlM Stream.add_frame (Stream.with_stream_info (StreamInfo.empty 44100 2 16)) =
    some ⟨⟨true, .StreamInfo (((StreamInfo.empty 44100 2 16).addFrameCast 8 208).addFrameCast 8 208)⟩, [],
      [C08Gen.exFrame, C08Gen.exFrame]⟩ :=
  C03G_add_frames [C08Gen.exFrame, C08Gen.exFrame] _ (StreamInfo.empty 44100 2 16) rfl
    (by intro g hg; simp at hg; subst hg; decide) (by decide)

example : ∃ i1 i2 i3, Gen.Verify.StreamInfo.set_block_sizes (StreamInfo.empty 44100 2 16) 4096 4096 = some (true, i1) ∧
    [C08Gen.exFrame, C08Gen.exFrame].foldlM (fun j g => StreamInfo.update_frame_info j g) i1 = some i2 ∧
    Gen.Verify.StreamInfo.set_block_sizes i2 4096 4096 = some (true, i3) ∧
    (StreamInfo.set_md5_digest i3 (List.replicate 16 7)).map (fun j => Gen.Verify.StreamInfo.set_total_samples j 16) =
      some (assembleInfo 44100 2 16 4096 [(8, 208), (8, 208)] 16 (List.replicate 16 7)) :=
  C03G_assemble 44100 2 16 4096 [C08Gen.exFrame, C08Gen.exFrame] 16 (List.replicate 16 7) (by decide)
    (by intro g hg; simp at hg; subst hg; decide) (by decide) (by decide)

example (featPar : Bool) (par : Gen.Encoder → Gen.Source.MemSource → Nat → M (Option Gen.Writer.Stream)) (s1 : Nat → List (List Int))
    (s2 : Nat → List Int) (s3 : Nat → Gen.Coding.FrameBuf) (log : List OEvent) :
    encode_with_fixed_block_size featPar memOps par (fun _ => List.replicate 16 0) s1 s2 s3 1 { Gen.Encoder.default true with multithread := false }
      (Gen.Source.MemSource.from_samples [] 2 16 44100) 32 log =
    some (some ⟨⟨true, .StreamInfo (assembleInfo 44100 2 16 32 [] 0 (List.replicate 16 0))⟩, [], []⟩, log) :=
  C03G_driver_mem_empty featPar par _ s1 s2 s3 _ 2 16 44100 32 0 log (StreamInfo.empty 44100 2 16)
    ⟨List.replicate (32 * 2) 0, 32, 2, 0⟩ rfl (by decide) (by decide) (by decide)

/-- the conclusion of `C03G_encoder_frame_ok` (shape part) on a concrete frame (stereo, 8 samples, LPC + constant sub-frame)
and a buffer with `filled_size = 8` -/
example : C08Gen.exFrame.precomputed_bitstream = none ∧ C08Gen.exFrame.header.frame_number < 2 ^ 32 ∧
    C08Gen.exFrame.header.start_sample_number < 2 ^ 64 ∧
    Gen.Verify.FrameHeader.block_size C08Gen.exFrame.header = (⟨List.replicate 16 0, 8, 8, []⟩ : Gen.Coding.FrameBuf).filled_size ∧
    FrameFits C08Gen.exFrame := by decide

example : encodeStreamArgsOk 4096 9 16 44100 = false ∧ encodeStreamArgsOk 16 2 16 44100 = false ∧
    encodeStreamArgsOk 4096 2 16 44100 = true := by decide

end C03Gen
end FlacVerif
