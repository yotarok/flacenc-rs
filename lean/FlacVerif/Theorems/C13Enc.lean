/-
C13 for the residuals the encoder EMITS — "for every residual the encoder emits, the chosen Rice
partition order and per-partition parameters minimise the coded size over the encoder's search space
(partitions of at least max(64, predictor order) samples that divide the block, parameters 0..=the
configured maximum)".

`C13_optimal` (Theorems/C13.lean) needs the optimum to be below the saturation value `2^28 - 1` of the
`u32` cost tables. For a residual that `encode_subframe` actually emits no such side condition is left:
the candidate was kept only because its reported `count_bits` is below the verbatim size `8 + n·bps`
(`keepBelow`, C09), the reported size of its residual is its written size (C08), and the written size of
`Residual.ofErrors errors warm o ps` is exactly `6 + choiceCost (errors.map fold) warm o ps`
(`C13_written_size`). Hence the cost of the chosen partitioning is below `2^22`.

Holds for EVERY oracle log satisfying `OEvent.Ok` (optimality is about the errors that `compute_error`
returned; an LPC candidate is only built when its flag is `true`, i.e. they are the exact residual).
-/
import FlacVerif.Lemmas.EmittedOptimal
namespace FlacVerif

/-- The written size of the residual component built from prediction errors in `(-2^31, 2^31)` is
`6 + choiceCost` of the folded errors, for every warm-up, order and parameter list. -/
theorem C13_written_size (errors : List Int) (w o : Nat) (ps : List Nat)
    (herr : ∀ e ∈ errors, -(2 ^ 31 : Int) < e ∧ e < (2 ^ 31 : Int)) :
    (Residual.ofErrors errors w o ps).bits.length = 6 + choiceCost (errors.map fold) w o ps :=
  Extras.ofErrors_bits_length errors w o ps herr

/-- … and so is the reported `count_bits`, when the component is well-formed. -/
theorem C13_reported_size (errors : List Int) (w o : Nat) (ps : List Nat)
    (herr : ∀ e ∈ errors, -(2 ^ 31 : Int) < e ∧ e < (2 ^ 31 : Int))
    (hwf : (Residual.ofErrors errors w o ps).WF) :
    (Residual.ofErrors errors w o ps).count = some (6 + choiceCost (errors.map fold) w o ps) :=
  Extras.ofErrors_count errors w o ps herr hwf

/-- **C13, emitted residuals.** For every sub-frame configuration with `maxP ≤ 14`, every block of
`1 ≤ n < 2^16` samples of width `1 ≤ bps ≤ 25` and EVERY oracle log satisfying `OEvent.Ok`: if
`encode_subframe` returns a fixed or LPC sub-frame, its residual is `encode_residual_with_prc_parameter`
of some error signal (one `i32 ≠ i32::MIN` per sample) with the emitted order and parameters, that choice
lies in the search space, and NO choice of the search space has a smaller coded size — unconditionally.
(`hn` is not used by the proof.) -/
theorem C13_encoder (cfg : SubCfg) (xs : List Int) (bps : Nat) (log log' : List OEvent) (s : SubFrame)
    (hn : 1 ≤ xs.length) (hlen : xs.length < 2 ^ 16) (hb : 1 ≤ bps ∧ bps ≤ 25)
    (hx : ∀ x ∈ xs, SubFrame.inRange bps x = true) (hmax : cfg.maxP ≤ 14)
    (hlog : ∀ e ∈ log, e.Ok)
    (h : encodeSubframe cfg xs bps log = some (s, log')) :
    match s with
    | .fixed warm res _ | .lpc warm _ _ _ res _ =>
        ∃ errors : List Int, errors.length = xs.length ∧
          (∀ e ∈ errors, -(2 ^ 31 : Int) < e ∧ e < (2 ^ 31 : Int)) ∧
          res = Residual.ofErrors errors warm.length res.order res.params ∧
          orderOk xs.length warm.length res.order = true ∧ res.params.length = 2 ^ res.order ∧
          (∀ p ∈ res.params, p ≤ cfg.maxP) ∧
          ∀ o ps, orderOk xs.length warm.length o = true → ps.length = 2 ^ o → (∀ p ∈ ps, p ≤ cfg.maxP) →
            choiceCost (errors.map fold) warm.length res.order res.params ≤
              choiceCost (errors.map fold) warm.length o ps
    | _ => True := by
  have := (Strict.encodeSubframe_outcome cfg xs bps log log' s hlen hb hx hmax hlog h).optimal
  cases s with
  | constant _ _ _ => trivial
  | verbatim _ _ => trivial
  | fixed warm res b => exact this
  | lpc warm coefs shift precision res b => exact this

/-- The error signal of `C13_encoder` made explicit for a fixed sub-frame: it is the encoder's
`diffs` of the predictor order (= warm-up length). (`hn` is not used by the proof.) -/
theorem C13_encoder_fixed (cfg : SubCfg) (xs : List Int) (bps : Nat) (log log' : List OEvent)
    (warm : List Int) (res : Residual) (b : Nat)
    (hn : 1 ≤ xs.length) (hlen : xs.length < 2 ^ 16) (hb : 1 ≤ bps ∧ bps ≤ 25)
    (hx : ∀ x ∈ xs, SubFrame.inRange bps x = true) (hmax : cfg.maxP ≤ 14)
    (h : encodeSubframe cfg xs bps log = some (.fixed warm res b, log')) :
    res = Residual.ofErrors (diffs warm.length xs) warm.length res.order res.params ∧
    orderOk xs.length warm.length res.order = true ∧ res.params.length = 2 ^ res.order ∧
    (∀ p ∈ res.params, p ≤ cfg.maxP) ∧
    ∀ o ps, orderOk xs.length warm.length o = true → ps.length = 2 ^ o → (∀ p ∈ ps, p ≤ cfg.maxP) →
      choiceCost ((diffs warm.length xs).map fold) warm.length res.order res.params ≤
        choiceCost ((diffs warm.length xs).map fold) warm.length o ps := by
  -- no hypothesis on the log (it plays no part in a fixed sub-frame), so not through `encodeSubframe_outcome`
  rcases (Strict.encodeSubframe_emits cfg xs bps log log' _ h).2.2 with ⟨_, he⟩ | he | ⟨h64, hcnt, hs | hs⟩
  · cases he
  · cases he
  · obtain ⟨k, prc, hk4, p, he⟩ := hs.predicted h64 hlen hb hx hmax
    simp only [SubFrame.fixed.injEq] at he
    obtain ⟨rfl, rfl, rfl⟩ := he
    show Extras.OptimalFor cfg.maxP xs.length (xs.take k) _ (diffs (xs.take k).length xs)
    rw [show (xs.take k).length = k by rw [List.length_take]; omega]
    exact Extras.optimal_fixed hk4 p (by omega) hcnt
  · obtain ⟨_, _, _, _, _, _, _, _, he⟩ := hs
    cases he

/-! ### non-vacuity -/

namespace C13EncEx

def smooth64 : List Int := (List.range 64).map fun (t : Nat) => ((t : Int) * (t : Int)) / 7 - 300

set_option maxRecDepth 100000 in
/-- The hypotheses of `C13_encoder` hold, and a fixed sub-frame of order 2 is emitted (bit-count
selection, empty oracle log): the `match` takes its first branch. -/
example : (1 ≤ smooth64.length ∧ smooth64.length < 2 ^ 16) ∧ (∀ x ∈ smooth64, SubFrame.inRange 16 x = true) ∧
    ((encodeSubframe ⟨true, true, false, 4, true, 14⟩ smooth64 16 []).map fun r =>
      (match r.1 with | .fixed w res _ => (w.length, res.order, res.params) | _ => (99, 99, []))) =
      some (2, 0, [0]) := by decide +kernel

set_option maxRecDepth 100000 in
/-- … and an LPC sub-frame with an oracle-supplied parameter set (which satisfies `OEvent.Ok`). -/
example : (∀ e ∈ [OEvent.qlpc [2, -1] 0 3], e.Ok) ∧
    ((encodeSubframe ⟨true, false, true, 4, true, 14⟩ smooth64 16 [.qlpc [2, -1] 0 3]).map fun r =>
      (match r.1 with | .lpc w _ _ _ res _ => (w.length, res.order, res.params) | _ => (99, 99, []))) =
      some (2, 0, [0]) := by decide +kernel

set_option maxRecDepth 100000 in
/-- The search space of that block is not a singleton (orders 0 only since 64 samples, but 15
parameters): the emitted parameter 0 costs 102 bits, parameter 1 would cost 146, parameter 14 934. -/
example :
    let es := (diffs 2 smooth64).map fold
    orderOk 64 2 0 = true ∧ choiceCost es 2 0 [0] = 102 ∧ choiceCost es 2 0 [1] = 146 ∧
      choiceCost es 2 0 [14] = 934 := by decide +kernel

/-- 128 samples: a quiet first half and a loud second half. -/
def sig128 : List Int := (List.range 128).map fun (t : Nat) =>
  if t < 64 then ((t : Int) % 3) - 1 else (((t : Int) * 7919) % 2001) - 1000

set_option maxRecDepth 1000000 in
/-- A block where the search space has two orders: a fixed sub-frame of order 1 with partition order 1
and parameters `[1, 8]` is emitted; `C13_encoder` says no other choice (order 0 with any parameter, order 1
with any pair of parameters up to 14) is cheaper. -/
example : (∀ x ∈ sig128, SubFrame.inRange 16 x = true) ∧ orderOk 128 1 0 = true ∧ orderOk 128 1 1 = true ∧
    ((encodeSubframe ⟨true, true, false, 4, true, 14⟩ sig128 16 []).map fun r =>
      (match r.1 with | .fixed w res _ => (w.length, res.order, res.params) | _ => (99, 99, []))) =
      some (1, 1, [1, 8]) := by decide +kernel

end C13EncEx

end FlacVerif
