/-
C08 — the reported bit count (`count_bits`) equals the number of bits actually written (`write`),
for every residual, subframe, frame header, frame, STREAMINFO block and stream; every frame is a
whole number of bytes.  `count = none` models an arithmetic-underflow panic in `count_bits`, and
`bits = none` a `RangeError` of `write`; under the stated well-formedness premises neither happens in the
model.  For `independent n` with 9 ≤ n ≤ 16, which `tag ≤ 15` admits, Rust's `write` returns `RangeError` where the
model writes (`C02Hdr.C02H_channel_write_discrepancy`).
-/
import FlacVerif.Lemmas.CountFrame
namespace FlacVerif

/-- Residual: `count_bits` does not underflow and reports exactly the written length. -/
theorem C08_residual (r : Residual) (h : r.WF) : r.count = some r.bits.length :=
  Count.residual_count r h

theorem C08_subframe (s : SubFrame) (h : s.WF) : s.count = some s.bits.length :=
  Count.subframe_count s h

/-- UTF-8-like number coding: succeeds below 2^36, has the announced byte size, and emits bytes. -/
theorem C08_utf8 (v : Nat) (h : v < 2 ^ 36) :
    ∃ bs, encodeUtf8like v = some bs ∧ bs.length = utf8likeBytesize v ∧ ∀ b ∈ bs, b < 256 :=
  encodeUtf8like_some v h

/-- Frame header (including the CRC-8 byte). -/
theorem C08_header (p8 : CrcParams) (h : FrameHeader) (hn : h.number < 2 ^ 36) (ht : h.assignment.tag ≤ 15) :
    ∃ b, h.bits p8 = some b ∧ b.length = h.count :=
  Count.header_count p8 h hn ht

theorem C08_frame (p8 p16 : CrcParams) (f : Frame) (hn : f.header.number < 2 ^ 36)
    (ht : f.header.assignment.tag ≤ 15) (hs : ∀ s ∈ f.subframes, s.WF) :
    ∃ b, f.bits p8 p16 = some b ∧ f.count = some b.length ∧ 8 ∣ b.length :=
  Count.frame_count p8 p16 f hn ht hs

/-- STREAMINFO body: always 272 bits (the constant `Stream::count_bits` uses). -/
theorem C08_streaminfo (s : StreamInfo) (hm : s.md5.length = 16) : s.bits.length = 272 :=
  Layout.streaminfo_length s hm

open Count in
theorem C08_stream (p8 p16 : CrcParams) (s : Stream) (hm : s.info.md5.length = 16)
    (hf : ∀ f ∈ s.frames, f.header.number < 2 ^ 36 ∧ f.header.assignment.tag ≤ 15 ∧ ∀ sf ∈ f.subframes, sf.WF) :
    ∃ b, s.bits p8 p16 = some b ∧ s.count = some b.length := by
  obtain ⟨fbs, hfb, hfc⟩ := mapM_pair (Frame.bits p8 p16) Frame.count List.length s.frames
    (fun f hfm => by
      obtain ⟨hn, ht, hs⟩ := hf f hfm
      obtain ⟨b, hb, hc, _⟩ := frame_count p8 p16 f hn ht hs
      exact ⟨b, hb, hc⟩)
  refine ⟨_, (Layout.stream_bits_iff s _).2 ⟨fbs, hfb, rfl⟩, ?_⟩
  simp only [Stream.count, hfc, Option.bind_eq_bind, Option.bind_some, ← List.sum_eq_foldl, List.length_append,
    Layout.metasFrom_length, Layout.blockHeader_length, bytesToBits_length, Layout.streaminfo_length s.info hm,
    List.length_flatten, List.length_cons, List.length_nil]
  congr 1
  omega

/-! ### non-vacuity: the premises are satisfiable by non-trivial objects -/

/-- Order 1, block size 8, warm-up 2, non-zero quotients: well formed, 43 bits. -/
example :
    let r : Residual := ⟨1, 8, 2, [2, 3], [0, 0, 1, 2, 0, 3, 1, 0], [0, 0, 3, 1, 2, 7, 0, 5]⟩
    r.WF ∧ r.count = some 43 ∧ r.bits.length = 43 := by decide

/-- A second-order LPC subframe over that residual: well formed, 100 bits. -/
example :
    let s : SubFrame := .lpc [5, -3] [7, -2] 3 4
      ⟨1, 8, 2, [2, 3], [0, 0, 1, 2, 0, 3, 1, 0], [0, 0, 3, 1, 2, 7, 0, 5]⟩ 16
    s.WF ∧ s.count = some 100 ∧ s.bits.length = 100 := by decide +kernel

/-- A stereo frame (LPC + constant subframe) meeting all premises of `C08_frame` / `C08_stream`. -/
example :
    let f : Frame :=
      { header := ⟨false, .extraByte 7, .leftSide, 4, .fixed 9, 300, 0⟩,
        subframes := [.lpc [5, -3] [7, -2] 3 4
            ⟨1, 8, 2, [2, 3], [0, 0, 1, 2, 0, 3, 1, 0], [0, 0, 3, 1, 2, 7, 0, 5]⟩ 16,
          .constant 8 (-5) 17] }
    f.header.number < 2 ^ 36 ∧ f.header.assignment.tag ≤ 15 ∧ (∀ s ∈ f.subframes, s.WF) ∧
      f.count = some 208 := by decide

/-! ### necessity: dropping any one of five `WF` clauses breaks `C08_residual`

Each residual below satisfies every clause of `Residual.WF` except the one named, and its reported
count differs from the written length (or `count_bits` panics). -/

/-- Block size not divisible by `2 ^ order` (3 samples, 2 partitions): reports 17, writes 16. -/
example :
    let r : Residual := ⟨1, 3, 0, [0, 0], [0, 0, 0], [0, 0, 0]⟩
    ¬ 2 ^ r.order ∣ r.blockSize ∧
    (r.order ≤ 15 ∧ r.params.length = 2 ^ r.order ∧ r.warmup ≤ r.partLen ∧ 0 < r.blockSize ∧
      r.quotients.length = r.blockSize ∧ r.remainders.length = r.blockSize ∧ (∀ p ∈ r.params, p ≤ 14) ∧
      (∀ t, t < r.warmup → r.quotients.getD t 0 = 0 ∧ r.remainders.getD t 0 = 0) ∧
      (∀ t, t < r.blockSize → r.remainders.getD t 0 < 2 ^ (r.params.getD (t / r.partLen) 0))) ∧
    r.count = some 17 ∧ r.bits.length = 16 ∧ r.count ≠ some r.bits.length := by decide

/-- `params.length ≠ 2 ^ order` (a stale third parameter): reports 28, writes 18. -/
example :
    let r : Residual := ⟨1, 4, 0, [0, 0, 5], [0, 0, 0, 0], [0, 0, 0, 0]⟩
    r.params.length ≠ 2 ^ r.order ∧
    (r.order ≤ 15 ∧ 2 ^ r.order ∣ r.blockSize ∧ r.warmup ≤ r.partLen ∧ 0 < r.blockSize ∧
      r.quotients.length = r.blockSize ∧ r.remainders.length = r.blockSize ∧ (∀ p ∈ r.params, p ≤ 14) ∧
      (∀ t, t < r.warmup → r.quotients.getD t 0 = 0 ∧ r.remainders.getD t 0 = 0) ∧
      (∀ t, t < r.blockSize → r.remainders.getD t 0 < 2 ^ (r.params.getD (t / r.partLen) 0))) ∧
    r.count = some 28 ∧ r.bits.length = 18 ∧ r.count ≠ some r.bits.length := by decide

/-- Non-zero quotient on the warm-up (never written, but summed): reports 15, writes 13. -/
example :
    let r : Residual := ⟨0, 4, 1, [0], [2, 0, 0, 0], [0, 0, 0, 0]⟩
    ¬ (∀ t, t < r.warmup → r.quotients.getD t 0 = 0 ∧ r.remainders.getD t 0 = 0) ∧
    (r.order ≤ 15 ∧ r.params.length = 2 ^ r.order ∧ 2 ^ r.order ∣ r.blockSize ∧ r.warmup ≤ r.partLen ∧
      0 < r.blockSize ∧ r.quotients.length = r.blockSize ∧ r.remainders.length = r.blockSize ∧
      (∀ p ∈ r.params, p ≤ 14) ∧
      (∀ t, t < r.blockSize → r.remainders.getD t 0 < 2 ^ (r.params.getD (t / r.partLen) 0))) ∧
    r.count = some 15 ∧ r.bits.length = 13 ∧ r.count ≠ some r.bits.length := by decide

/-- Warm-up longer than a partition (`warmup ≤ partLen` fails):
`count_bits` underflows (`none` = panic) although `write` emits 15 bits. -/
example :
    let r : Residual := ⟨1, 4, 3, [1, 0], [0, 0, 0, 0], [0, 0, 0, 0]⟩
    ¬ r.warmup ≤ r.partLen ∧
    (r.order ≤ 15 ∧ r.params.length = 2 ^ r.order ∧ 2 ^ r.order ∣ r.blockSize ∧ 0 < r.blockSize ∧
      r.quotients.length = r.blockSize ∧ r.remainders.length = r.blockSize ∧ (∀ p ∈ r.params, p ≤ 14) ∧
      (∀ t, t < r.warmup → r.quotients.getD t 0 = 0 ∧ r.remainders.getD t 0 = 0) ∧
      (∀ t, t < r.blockSize → r.remainders.getD t 0 < 2 ^ (r.params.getD (t / r.partLen) 0))) ∧
    r.count = none ∧ r.bits.length = 15 := by decide

/-- A stale quotient beyond the block (`quotients.length = blockSize` fails): reports 19, writes 12. -/
example :
    let r : Residual := ⟨0, 2, 0, [0], [0, 0, 7], [0, 0]⟩
    r.quotients.length ≠ r.blockSize ∧
    (r.order ≤ 15 ∧ r.params.length = 2 ^ r.order ∧ 2 ^ r.order ∣ r.blockSize ∧ r.warmup ≤ r.partLen ∧
      0 < r.blockSize ∧ r.remainders.length = r.blockSize ∧ (∀ p ∈ r.params, p ≤ 14) ∧
      (∀ t, t < r.warmup → r.quotients.getD t 0 = 0 ∧ r.remainders.getD t 0 = 0) ∧
      (∀ t, t < r.blockSize → r.remainders.getD t 0 < 2 ^ (r.params.getD (t / r.partLen) 0))) ∧
    r.count = some 19 ∧ r.bits.length = 12 := by decide

end FlacVerif
