/-
C18 — every public component constructor either returns an error or returns a component that
verifies and serialises, without panicking, to exactly the number of bits it reports; every
out-of-domain argument (including values that would wrap around in a narrower machine type, such as
`2^8 + k` or `2^32 + k`) is rejected.

`Model/Verify.lean` mirrors the constructors / `Verify` impls as total decision procedures over
UNBOUNDED naturals (`none` = `Err(VerifyError)`); that the Rust functions do not panic and decide what
the mirror decides is `Theorems/C18Gen.lean`. This file
is the logical core: accepted ⇒ well formed ⇒ `count_bits` does not underflow and equals the number
of bits `write` emits (C08), every sink call of `write` is within the sinks' contract and produces
exactly the component's bit string (C12).

`SubFrame.WF'` (`Lemmas/WeakWF.lean`) is `SubFrame.WF` with `warm.length ≤ blockSize` instead of
`<`: the constructors do accept a predicted subframe made of warm-up samples only (see
`C18_fixed_not_WF`), and everything C08 / C12 need holds for it.
-/
import FlacVerif.Lemmas.Verify
import FlacVerif.Theorems.C12
namespace FlacVerif
open FlacVerif.C11 FlacVerif.VerifyL

/-- `Residual::verify` accepts exactly the well-formed residuals of at most 32767 samples. -/
theorem C18_residual_verify_iff (r : Residual) : r.verify = true ↔ (r.WF ∧ r.blockSize ≤ 32767) :=
  residual_verify_iff r

/-- An accepted residual is the one described by the arguments, verifies, is well formed, reports
exactly the bits it writes, and its sink calls are all valid and write those bits. -/
theorem C18_residual_sound (o n w : Nat) (ps qs rs : List Nat) (r : Residual)
    (h : Residual.new o n w ps qs rs = some r) :
    r = ⟨o, n, w, ps, qs, rs⟩ ∧ r.verify = true ∧ r.WF ∧ r.count = some r.bits.length ∧
    (∀ op ∈ r.ops, op.Valid) ∧ idealRun 0 r.ops = r.bits := by
  obtain ⟨he, hv⟩ := (residual_new_some o n w ps qs rs r).mp h
  have hwf := ((residual_verify_iff r).mp hv).1
  exact ⟨he, hv, hwf, C08_residual r hwf, C12_ops_valid_residual r hwf, C12_residual_ops r hwf 0⟩

/-- Every out-of-domain argument is rejected — over unbounded naturals, so also `o = 2^8 + k`,
`n = 2^16 + k`, … -/
theorem C18_residual_rejects (o n w : Nat) (ps qs rs : List Nat) :
    (o > 15 ∨ ps.length ≠ 2 ^ o ∨ n % 2 ^ o ≠ 0 ∨ n = 0 ∨ n > 32767 ∨ w > n / 2 ^ o ∨ qs.length ≠ n ∨
      rs.length ≠ n ∨ (∃ p ∈ ps, p > 14)) →
    Residual.new o n w ps qs rs = none := by
  intro hbad
  rw [residual_new_none]
  rintro ⟨⟨h1, h2, h3, h4, h5, h6, h7, h8, _⟩, hn⟩
  rw [partLen_eq] at h4
  simp only at h1 h2 h3 h4 h5 h6 h7 h8 hn
  rcases hbad with hb | hb | hb | hb | hb | hb | hb | hb | ⟨p, hp, hb⟩
  · omega
  · exact hb h2
  · exact hb (Nat.mod_eq_zero_of_dvd h3)
  · omega
  · omega
  · omega
  · exact hb h6
  · exact hb h7
  · have := h8 p hp; omega

/-- Completeness of the constructor: it fails *only* for the reasons listed in
`C18_residual_rejects`, the zero-warm-up rule, or an oversized remainder. -/
theorem C18_residual_complete (o n w : Nat) (ps qs rs : List Nat)
    (h : (⟨o, n, w, ps, qs, rs⟩ : Residual).WF) (hn : n ≤ 32767) :
    Residual.new o n w ps qs rs = some ⟨o, n, w, ps, qs, rs⟩ :=
  (residual_new_some o n w ps qs rs _).mpr ⟨rfl, (residual_verify_iff _).mpr ⟨h, hn⟩⟩

theorem C18_qparams_sound (coefs : List Int) (order : Nat) (shift : Int) (precision : Nat) (q : QParams)
    (h : QParams.new coefs order shift precision = some q) :
    q = ⟨coefs, shift, precision⟩ ∧ q.verify = true ∧ q.coefs = coefs ∧ coefs.length = order ∧ order ≤ 24 ∧
    0 ≤ shift ∧ shift ≤ 15 ∧ 1 ≤ precision ∧ precision ≤ 15 ∧ ∀ c ∈ coefs, SubFrame.inRange precision c = true := by
  obtain ⟨rfl, hl, hv⟩ := (qparams_new_some coefs order shift precision q).mp h
  obtain ⟨h1, h2, h3, h4, h5, h6⟩ := (qparams_verify_iff _).mp hv
  simp only at h1 h2 h3 h4 h5 h6
  exact ⟨rfl, hv, rfl, hl, by omega, h2, h3, h4, h5, h6⟩

theorem C18_qparams_rejects (coefs : List Int) (order : Nat) (shift : Int) (precision : Nat) :
    (coefs.length ≠ order ∨ order > 24 ∨ precision = 0 ∨ precision > 15 ∨ shift < 0 ∨ shift > 15 ∨
      (∃ c ∈ coefs, SubFrame.inRange precision c = false)) →
    QParams.new coefs order shift precision = none := by
  intro hbad
  cases hq : QParams.new coefs order shift precision with
  | none => rfl
  | some q =>
    exfalso
    obtain ⟨_, _, _, h1, h2, h3, h4, h5, h6, h7⟩ := C18_qparams_sound coefs order shift precision q hq
    rcases hbad with hb | hb | hb | hb | hb | hb | ⟨c, hc, hb⟩
    · exact hb h1
    · omega
    · omega
    · omega
    · omega
    · omega
    · rw [h7 c hc] at hb; cases hb

theorem C18_constant_sound (n : Nat) (dc : Int) (bps : Nat) (s : SubFrame)
    (h : Constant.new n dc bps = some s) :
    s = .constant n dc bps ∧ s.WF ∧ s.count = some s.bits.length ∧ (∀ op ∈ s.ops, op.Valid) ∧
    idealRun 0 s.ops = s.bits ∧ 1 ≤ n ∧ n ≤ 32767 := by
  obtain ⟨rfl, h1, h2, h3, h4⟩ := (constant_new_some n dc bps s).mp h
  have hb := bps_bounds h3
  have hwf : (SubFrame.constant n dc bps).WF := ⟨h1, hb.1, hb.2, h4⟩
  exact ⟨rfl, hwf, C08_subframe _ hwf, C12_ops_valid_subframe _ hwf, C12_subframe_ops _ hwf 0, h1, h2⟩

theorem C18_verbatim_sound (xs : List Int) (bps : Nat) (s : SubFrame) (h : Verbatim.new xs bps = some s) :
    s = .verbatim xs bps ∧ s.WF ∧ s.count = some s.bits.length ∧ (∀ op ∈ s.ops, op.Valid) ∧
    idealRun 0 s.ops = s.bits ∧ 1 ≤ xs.length ∧ xs.length ≤ 32767 := by
  obtain ⟨rfl, h1, h2, h3, h4⟩ := (verbatim_new_some xs bps s).mp h
  have hb := bps_bounds h3
  have hwf : (SubFrame.verbatim xs bps).WF := ⟨h1, hb.1, hb.2, h4⟩
  exact ⟨rfl, hwf, C08_subframe _ hwf, C12_ops_valid_subframe _ hwf, C12_subframe_ops _ hwf 0, h1, h2⟩

/-- `FixedLpc::new`: well formed in the weak sense (`warm.length ≤ blockSize`), and in the strong
sense of `SubFrame.WF` unless the subframe has no residual sample at all, which happens only with a
single partition and `blockSize = warm.length ≤ 4`. -/
theorem C18_fixed_sound (warm : List Int) (res : Residual) (bps : Nat) (s : SubFrame)
    (h : FixedLpc.new warm res bps = some s) :
    s = .fixed warm res bps ∧ s.WF' ∧ s.count = some s.bits.length ∧ (∀ op ∈ s.ops, op.Valid) ∧
    idealRun 0 s.ops = s.bits ∧ res.verify = true ∧
    (s.WF ∨ (res.order = 0 ∧ res.blockSize = warm.length ∧ res.blockSize ≤ 4)) := by
  obtain ⟨rfl, h1, h2, h3, h4, h5⟩ := (fixed_new_some warm res bps s).mp h
  have hb := bps_bounds h1
  have hr := ((residual_verify_iff res).mp h5).1
  have hle : warm.length ≤ res.blockSize := h4 ▸ hr.warmup_le_blockSize
  have hwf : (SubFrame.fixed warm res bps).WF' := ⟨h3, h4, hr, hle, hb.1, hb.2, h2⟩
  exact ⟨rfl, hwf, Count.subframe_count' _ hwf, OpsL.subframe_valid' _ hwf, OpsL.subframe_ops' _ hwf 0, h5,
    (wf_or_all_warmup _ res hwf hr h4 rfl).imp_right fun ⟨ho, hb⟩ => ⟨ho, hb, hb ▸ h3⟩⟩

/-- `Lpc::new`: same shape (the degenerate case needs `blockSize = order ≤ 24`). -/
theorem C18_lpc_sound (warm : List Int) (q : QParams) (res : Residual) (bps : Nat) (s : SubFrame)
    (h : Lpc.new warm q res bps = some s) :
    s = .lpc warm q.coefs q.shift q.precision res bps ∧ s.WF' ∧ s.count = some s.bits.length ∧
    (∀ op ∈ s.ops, op.Valid) ∧ idealRun 0 s.ops = s.bits ∧ q.verify = true ∧ res.verify = true ∧
    (s.WF ∨ (res.order = 0 ∧ res.blockSize = warm.length ∧ res.blockSize ≤ 24)) := by
  obtain ⟨rfl, h1, h2, h3, h4, h5, h6, h7, h8⟩ := (lpc_new_some warm q res bps s).mp h
  have hb := bps_bounds h1
  have hr := ((residual_verify_iff res).mp h8).1
  obtain ⟨q1, q2, q3, q4, q5, q6⟩ := (qparams_verify_iff q).mp h5
  have hle : warm.length ≤ res.blockSize := h7 ▸ hr.warmup_le_blockSize
  have hwf : (SubFrame.lpc warm q.coefs q.shift q.precision res bps).WF' :=
    ⟨h6, by omega, h4, h7, hr, hle, q4, q5, q2, q3, q6, hb.1, hb.2, h2⟩
  exact ⟨rfl, hwf, Count.subframe_count' _ hwf, OpsL.subframe_valid' _ hwf, OpsL.subframe_ops' _ hwf 0, h5, h8,
    (wf_or_all_warmup _ res hwf hr h7 rfl).imp_right fun ⟨ho, hb⟩ => ⟨ho, hb, hb ▸ h3⟩⟩

/-- Under `WF'` (hence for every accepted subframe) both in-memory sinks end up holding the
subframe's bits, and their length is the reported count: serialisation does not panic. -/
theorem C18_subframe_through_sinks (s : SubFrame) (h : s.WF') :
    (∃ w, WordSink.empty.run s.ops = some w ∧ w.abs = s.bits ∧ some w.len = s.count) ∧
    (∃ y, ByteSink.empty.run s.ops = some y ∧ y.abs = s.bits ∧ some y.len = s.count) :=
  through_sinks s.ops (OpsL.subframe_valid' s h) s.bits (OpsL.subframe_ops' s h 0) s.count (Count.subframe_count' s h)

/-- `WF` is `WF'` plus "some residual sample is coded (or there is no warm-up)". -/
theorem C18_WF_iff_WF' (s : SubFrame) : s.WF ↔ (s.WF' ∧ (s.warmLen = 0 ∨ s.warmLen < s.blockSize)) :=
  wf_iff_wf' s

/-- The strict clause of `SubFrame.WF` does not follow from acceptance: block size 4, one
partition, warm-up 4 is accepted by `Residual::new` and `FixedLpc::new`, is not `WF`, yet is `WF'`,
counts its 82 bits exactly and writes them. -/
theorem C18_fixed_not_WF :
    let res : Residual := ⟨0, 4, 4, [0], [0, 0, 0, 0], [0, 0, 0, 0]⟩
    let s : SubFrame := .fixed [1, -2, 3, -4] res 16
    Residual.new 0 4 4 [0] [0, 0, 0, 0] [0, 0, 0, 0] = some res ∧ FixedLpc.new [1, -2, 3, -4] res 16 = some s ∧
    ¬ s.WF ∧ s.WF' ∧ s.count = some 82 ∧ s.bits.length = 82 ∧ idealRun 0 s.ops = s.bits := by decide +kernel

theorem C18_header_rejects (n : Nat) (asg : ChannelAssignment) (bps rate : Nat) (v : Bool) (num : Nat) :
    (n = 0 ∨ n > 32767 ∨ bps ≥ 256 ∨ rate ≥ 2 ^ 32 ∨ asg.verify = false ∨ (v = true ∧ num ≥ 2 ^ 36) ∨
      ¬ (bps = 8 ∨ bps = 12 ∨ bps = 16 ∨ bps = 20 ∨ bps = 24)) →
    FrameHeader.new n asg bps rate v num = none := by
  intro hbad
  cases hn : FrameHeader.new n asg bps rate v num with
  | none => rfl
  | some h =>
    exfalso
    obtain ⟨h1, h2, _, h4, h5, h6, h7, h8, h9, _⟩ := header_new_some_imp n asg bps rate v num h hn
    have hb := Repo.sampleSizeTag_ok bps h6 h7
    rcases hbad with hb' | hb' | hb' | hb' | hb' | hb' | hb'
    · omega
    · omega
    · omega
    · omega
    · rw [h8] at hb'; cases hb'
    · have := h9 hb'.1; omega
    · exact hb' hb

theorem C18_block_size_zero (dc : Int) (bps : Nat) (asg : ChannelAssignment) (rate : Nat) (v : Bool) (num : Nat) :
    Constant.new 0 dc bps = none ∧ Verbatim.new [] bps = none ∧ FrameHeader.new 0 asg bps rate v num = none ∧
    (∀ o w ps qs rs, Residual.new o 0 w ps qs rs = none) := by
  refine ⟨?_, ?_, C18_header_rejects _ _ _ _ _ _ (Or.inl rfl), ?_⟩
  · cases hc : Constant.new 0 dc bps with
    | none => rfl
    | some s => have := (C18_constant_sound 0 dc bps s hc).2.2.2.2.2.1; omega
  · cases hc : Verbatim.new [] bps with
    | none => rfl
    | some s => have := (C18_verbatim_sound [] bps s hc).2.2.2.2.2.1; simp at this
  · intro o w ps qs rs
    exact C18_residual_rejects o 0 w ps qs rs (Or.inr (Or.inr (Or.inr (Or.inl rfl))))

/-- An accepted frame header has the requested fields, a non-reserved block-size code that decodes
to `n`, a verified channel assignment, a FLAC sample size, and serialises (with the FLAC CRC-8)
to exactly the number of bits it reports. For fixed blocking the frame number is a `u32` in the
Rust signature (`num < 2^32`); for variable blocking the constructor itself checks `num < 2^36`. -/
theorem C18_header_sound (n : Nat) (asg : ChannelAssignment) (bps rate : Nat) (v : Bool) (num : Nat)
    (h : FrameHeader) (hh : FrameHeader.new n asg bps rate v num = some h) :
    1 ≤ n ∧ n ≤ 32767 ∧ h.blockSizeSpec.blockSize = some n ∧ h.blockSizeSpec ≠ .reserved ∧
    asg.verify = true ∧ bps ∈ [8, 12, 16, 20, 24] ∧ rate < 2 ^ 32 ∧
    h.isVariable = v ∧ h.assignment = asg ∧ h.sampleSizeTag = sampleSizeTag bps ∧
    SampleRateSpec.fromFreq rate = some h.sampleRateSpec ∧ h.number = num ∧ h.assignment.tag ≤ 15 ∧
    (v = true → num < 2 ^ 36) ∧
    ((v = false → num < 2 ^ 32) → ∃ b, h.bits rfcCrc8 = some b ∧ b.length = h.count) := by
  obtain ⟨h1, h2, h3, h4, h5, h6, h7, h8, h9, h10, h11, h12, h13, h14, -⟩ :=
    header_new_some_imp n asg bps rate v num h hh
  obtain ⟨bss, hb1, hb2, hb3⟩ := fromSize_spec n h1 h2
  rw [h3] at hb1
  cases hb1
  have htag : h.assignment.tag ≤ 15 := h12 ▸ Nat.le_trans (Repo.chTag_le asg (Repo.chOk_of_verify asg h8)) (by decide)
  have hbps : bps ∈ [8, 12, 16, 20, 24] := by
    rcases Repo.sampleSizeTag_ok bps h6 h7 with hb | hb | hb | hb | hb <;> subst hb <;> decide
  refine ⟨h1, h2, hb2, hb3, h8, hbps, h5, h11, h12, h13, h10, h14, htag, h9, fun hnum => ?_⟩
  have hlt : h.number < 2 ^ 36 := by
    rw [h14]
    cases v with
    | true => exact h9 rfl
    | false => have := hnum rfl; omega
  exact C08_header rfcCrc8 h hlt htag

/-- Wrap-around arguments: a sample size `256 + k` (which a `u8` cast would turn into `k`, e.g. 16),
a rate `2^32 + k`, a block size `2^16 + k`, and a channel count `256 + k` are all rejected. -/
theorem C18_header_rejects_wraparound (k n : Nat) (asg : ChannelAssignment) (bps rate : Nat) (v : Bool) (num : Nat) :
    FrameHeader.new n asg (256 + k) rate v num = none ∧
    FrameHeader.new n asg bps (2 ^ 32 + k) v num = none ∧
    FrameHeader.new (2 ^ 16 + k) asg bps rate v num = none ∧
    FrameHeader.new n (.independent (256 + k)) bps rate v num = none ∧
    FrameHeader.new n asg (256 + 16) rate v num = none ∧
    FrameHeader.new n asg 16 (2 ^ 32 + 44100) v num = none := by
  have hbps : ∀ k rate', FrameHeader.new n asg (256 + k) rate' v num = none := fun k _ =>
    C18_header_rejects _ _ _ _ _ _ (Or.inr (Or.inr (Or.inl (by omega))))
  have hrate : ∀ k bps', FrameHeader.new n asg bps' (2 ^ 32 + k) v num = none := fun k _ =>
    C18_header_rejects _ _ _ _ _ _ (Or.inr (Or.inr (Or.inr (Or.inl (by omega)))))
  refine ⟨hbps k rate, hrate k bps, ?_, ?_, hbps 16 rate, hrate 44100 16⟩ <;> apply C18_header_rejects
  · exact Or.inr (Or.inl (by omega))
  · refine Or.inr (Or.inr (Or.inr (Or.inr (Or.inl ?_))))
    simp only [ChannelAssignment.verify, Bool.and_eq_false_iff, decide_eq_false_iff_not]
    omega

theorem C18_streaminfo_iff (rate ch bps : Nat) :
    (StreamInfo.new rate ch bps).isSome ↔
      (rate ≤ 96000 ∧ 1 ≤ ch ∧ ch ≤ 8 ∧ (bps = 8 ∨ bps = 12 ∨ bps = 16 ∨ bps = 20 ∨ bps = 24)) := by
  rw [Option.isSome_iff_exists]
  exact ⟨fun ⟨s, hs⟩ => ((streaminfo_new_some rate ch bps s).mp hs).2,
    fun h => ⟨_, (streaminfo_new_some rate ch bps _).mpr ⟨rfl, h⟩⟩⟩

/-- The accepted STREAMINFO is the empty one for these parameters, and serialises to 272 bits. -/
theorem C18_streaminfo_sound (rate ch bps : Nat) (s : StreamInfo) (h : StreamInfo.new rate ch bps = some s) :
    s = StreamInfo.empty rate ch bps ∧ s.bits.length = 272 ∧ idealRun 0 s.ops = s.bits := by
  obtain ⟨rfl, -⟩ := (streaminfo_new_some rate ch bps s).mp h
  exact ⟨rfl, C08_streaminfo _ (by simp [StreamInfo.empty]), C12_streaminfo_ops _ 0 rfl⟩

/-- `new_unknown` accepts exactly the types `1..=126`: 127 is invalid, 0 is STREAMINFO's. -/
theorem C18_unknown_iff (tag : Nat) (data : List Nat) :
    (UnknownBlock.new tag data).isSome ↔ (1 ≤ tag ∧ tag ≤ 126) := by
  unfold UnknownBlock.new
  by_cases h : 1 ≤ tag ∧ tag ≤ 126
  · simp [h]
  · simp [h]

example :
    let r : Residual := ⟨1, 8, 2, [2, 3], [0, 0, 1, 2, 0, 3, 1, 0], [0, 0, 3, 1, 2, 7, 0, 5]⟩
    Residual.new 1 8 2 [2, 3] [0, 0, 1, 2, 0, 3, 1, 0] [0, 0, 3, 1, 2, 7, 0, 5] = some r ∧
    r.count = some 43 ∧ r.bits.length = 43 := by decide

example :
    let r : Residual := ⟨1, 8, 2, [2, 3], [0, 0, 1, 2, 0, 3, 1, 0], [0, 0, 3, 1, 2, 7, 0, 5]⟩
    QParams.new [7, -2] 2 3 4 = some ⟨[7, -2], 3, 4⟩ ∧
    Lpc.new [5, -3] ⟨[7, -2], 3, 4⟩ r 16 = some (.lpc [5, -3] [7, -2] 3 4 r 16) ∧
    (SubFrame.lpc [5, -3] [7, -2] 3 4 r 16).WF ∧
    (SubFrame.lpc [5, -3] [7, -2] 3 4 r 16).count = some 100 := by decide

example :
    (Constant.new 8 (-5) 17).isSome = true ∧ (Verbatim.new [1, -128, 127] 8).isSome = true ∧
    (FixedLpc.new [5, -3] ⟨1, 8, 2, [2, 3], [0, 0, 1, 2, 0, 3, 1, 0], [0, 0, 3, 1, 2, 7, 0, 5]⟩ 16).isSome = true := by
  decide

example :
    FrameHeader.new 8 .leftSide 16 44100 false 300 = some ⟨false, .extraByte 7, .leftSide, 4, .fixed 9, 300, 0⟩ ∧
    (FrameHeader.new 4096 (.independent 2) 24 96000 true (2 ^ 36 - 1)).isSome = true ∧
    ((FrameHeader.new 8 .leftSide 16 44100 false 300).bind (·.bits rfcCrc8)).map (·.length) = some 64 ∧
    (FrameHeader.new 8 .leftSide 16 44100 false 300).map (·.count) = some 64 := by decide

example : (StreamInfo.new 44100 2 16).isSome = true ∧ (UnknownBlock.new 126 [1, 2, 3]).isSome = true ∧
    (UnknownBlock.new 1 []).isSome = true := by decide

example : UnknownBlock.new 0 [1, 2, 3] = none ∧ UnknownBlock.new 127 [] = none := by decide

/-- Wrap-around arguments are rejected: order `257 ≡ 1 (mod 2^8)`, an LPC order that disagrees
with the coefficient list, a rate `≡ 44100 (mod 2^32)`, a channel count `≡ 2 (mod 2^8)`,
a sample size `≡ 16 (mod 2^8)`, a metadata type `≡ 4 (mod 2^7)`. -/
example :
    Residual.new 257 8 2 [2, 3] [0, 0, 1, 2, 0, 3, 1, 0] [0, 0, 3, 1, 2, 7, 0, 5] = none ∧
    Residual.new 1 (2 ^ 16 + 8) 2 [2, 3] [0, 0, 1, 2, 0, 3, 1, 0] [0, 0, 3, 1, 2, 7, 0, 5] = none ∧
    QParams.new [1, 2] 3 3 4 = none ∧ QParams.new [1, 2] 2 3 (16 + 4) = none ∧ QParams.new [1, 2] 2 (32 + 3) 4 = none ∧
    StreamInfo.new (2 ^ 32 + 44100) 2 16 = none ∧ StreamInfo.new 44100 258 16 = none ∧
    StreamInfo.new 44100 2 (256 + 16) = none ∧ UnknownBlock.new (128 + 4) [] = none ∧
    FrameHeader.new 8 .leftSide (256 + 16) 44100 false 300 = none ∧
    FrameHeader.new 8 .leftSide 16 (2 ^ 32 + 44100) false 300 = none ∧
    FrameHeader.new 8 (.independent 258) 16 44100 false 300 = none ∧
    FrameHeader.new 8 .leftSide 16 44100 true (2 ^ 36) = none := by decide

end FlacVerif
