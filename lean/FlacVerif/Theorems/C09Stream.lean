/-
C09 at frame and stream level, in BITS WRITTEN — "no frame is larger than its verbatim encoding".

`C09_subframe` / `C09_frame` (Theorems/C09.lean) bound the sizes the sub-frames REPORT (`count_bits`).
Here: every sub-frame `encode_frame` returns is well-formed for EVERY oracle log satisfying `OEvent.Ok`
(no hypothesis on the LPC residual), so by C08 the
reported sizes are the written sizes, `Frame::write` / `Stream::write` succeed, and

* every emitted frame is at most as long as the frame with the same header fields and only verbatim
  sub-frames (`verbatimFrame`), whose length is `verbatimFrameBits` of the frame's own header;
* the emitted stream is at most `42` bytes (marker, STREAMINFO block) plus the sum of those frame bounds,
  with the EXACT header size of every frame (`frameHeaderBits`: 40 bits + UTF-8-like frame number +
  block-size and sample-rate immediates), hence also with the coarse header bound of 128 bits.
-/
import FlacVerif.Lemmas.WrittenSize
namespace FlacVerif

/-- Every sub-frame `encode_subframe` returns is well-formed — for every oracle log satisfying
`OEvent.Ok` (`C01_subframe_strict'` proves this together with losslessness). -/
theorem C09_subframe_wf (cfg : SubCfg) (xs : List Int) (bps : Nat) (log log' : List OEvent) (s : SubFrame)
    (hn : 1 ≤ xs.length) (hlen : xs.length < 2 ^ 16) (hb : 1 ≤ bps ∧ bps ≤ 25)
    (hx : ∀ x ∈ xs, SubFrame.inRange bps x = true) (hmax : cfg.maxP ≤ 14)
    (hlog : ∀ e ∈ log, e.Ok)
    (h : encodeSubframe cfg xs bps log = some (s, log')) :
    s.WF ∧ ∃ c, s.count = some c ∧ c = s.bits.length ∧ c ≤ verbatimBits xs.length bps := by
  have hwf := (Strict.encodeSubframe_outcome cfg xs bps log log' s hlen hb hx hmax hlog h).wf hn
  obtain ⟨c, hc, hle⟩ := C09.C09_subframe cfg xs bps log log' s hn h
  have := C08_subframe s hwf
  rw [hc] at this
  exact ⟨hwf, c, hc, by simpa using this, hle⟩

/-- **C09, frame, bits written.** For every configuration (`maxP ≤ 14`), 1 to 8 channels of
`1 ≤ n < 2^16` samples of width `1 ≤ bps ≤ 24`, every rate, every frame number below `2^36` and EVERY
oracle log satisfying `OEvent.Ok`: if `encode_frame` returns `f`, then `Frame::write` succeeds, writes
exactly `count_bits` bits, a whole number of bytes, the header takes `frameHeaderBits n rate number`
bits, and the frame is at most as long as the header followed by one verbatim sub-frame per channel
(padded, plus CRC-16). -/
theorem C09_frame_bits (cfg : SubCfg) (st : StereoCfg) (chans : List (List Int)) (bps rate number n : Nat)
    (log log' : List OEvent) (f : Frame)
    (hch : 1 ≤ chans.length ∧ chans.length ≤ 8) (hlen : ∀ c ∈ chans, c.length = n) (hn : 1 ≤ n ∧ n < 2 ^ 16)
    (hb : 1 ≤ bps ∧ bps ≤ 24) (hx : ∀ c ∈ chans, ∀ x ∈ c, SubFrame.inRange bps x = true)
    (hnum : number < 2 ^ 36) (hmax : cfg.maxP ≤ 14) (hlog : ∀ e ∈ log, e.Ok)
    (h : encodeFrame cfg st chans bps rate number log = some (f, log')) :
    ∃ fb, f.bits rfcCrc8 rfcCrc16 = some fb ∧ f.count = some fb.length ∧ 8 ∣ fb.length ∧
      f.header.count = frameHeaderBits n rate number ∧
      fb.length ≤ verbatimFrameBits (frameHeaderBits n rate number) chans.length n bps := by
  obtain ⟨_, _, fo⟩ := Strict.encodeFrame_outcome cfg st chans bps rate number n log log' f hch hlen hn hb hx hmax hlog h
  exact fo.written hnum

/-- **C09, frame, against the all-verbatim frame.** Under the same hypotheses: the frame with the same
header fields (block size, rate and sample-size codes, frame number; independent channels) and one
verbatim sub-frame per input channel is serialisable, and the emitted frame has at most as many bytes. -/
theorem C09_frame_vs_verbatim (cfg : SubCfg) (st : StereoCfg) (chans : List (List Int)) (bps rate number n : Nat)
    (log log' : List OEvent) (f : Frame)
    (hch : 1 ≤ chans.length ∧ chans.length ≤ 8) (hlen : ∀ c ∈ chans, c.length = n) (hn : 1 ≤ n ∧ n < 2 ^ 16)
    (hb : 1 ≤ bps ∧ bps ≤ 24) (hx : ∀ c ∈ chans, ∀ x ∈ c, SubFrame.inRange bps x = true)
    (hnum : number < 2 ^ 36) (hmax : cfg.maxP ≤ 14) (hlog : ∀ e ∈ log, e.Ok)
    (h : encodeFrame cfg st chans bps rate number log = some (f, log')) :
    ∃ fb vb, f.bits rfcCrc8 rfcCrc16 = some fb ∧
      (verbatimFrame f chans bps).bits rfcCrc8 rfcCrc16 = some vb ∧
      8 ∣ fb.length ∧ 8 ∣ vb.length ∧ fb.length / 8 ≤ vb.length / 8 := by
  obtain ⟨asg, _, fo⟩ := Strict.encodeFrame_outcome cfg st chans bps rate number n log log' f hch hlen hn hb hx hmax hlog h
  obtain ⟨fb, hfb, _, h8, hhc, hle⟩ := fo.written hnum
  have hnumber := (Strict.headerFor_fields fo.header).1
  obtain ⟨vb, hvb, hvl⟩ := Extras.verbatimFrame_size f chans bps n (by omega) hlen hn.1 ⟨hb.1, by omega⟩ hx
    (by rw [hnumber]; exact hnum)
  rw [hhc] at hvl
  refine ⟨fb, vb, hfb, hvb, h8, ?_, ?_⟩
  · rw [hvl]; unfold verbatimFrameBits; omega
  · rw [hvl]; exact Nat.div_le_div_right hle

/-- **C09, stream, bits written (exact headers).** For every configuration (`maxP ≤ 14`), block size
`1 ≤ bs < 2^16`, 1 to 8 channels of equal length `total < 2^36`, sample width `1 ≤ bps ≤ 24`, every rate,
every MD5 function producing 16 bytes and EVERY oracle log satisfying `OEvent.Ok`: if
`encode_with_fixed_block_size` returns a stream, `Stream::write` succeeds, writes exactly `count_bits`
bits, and at most 42 bytes plus, for block `i` of `n_i` samples, the frame made of its own header
(frame number `i`) and verbatim sub-frames. -/
theorem C09_stream (md5 : List Nat → List Nat) (cfg : SubCfg) (st : StereoCfg) (bs : Nat)
    (chans : List (List Int)) (bps rate : Nat) (log log' : List OEvent) (s : Stream) (total : Nat)
    (hmd5 : ∀ x, (md5 x).length = 16)
    (hch : 1 ≤ chans.length ∧ chans.length ≤ 8) (hlen : ∀ c ∈ chans, c.length = total) (htot : total < 2 ^ 36)
    (hbs : 1 ≤ bs ∧ bs < 2 ^ 16) (hb : 1 ≤ bps ∧ bps ≤ 24)
    (hx : ∀ c ∈ chans, ∀ x ∈ c, SubFrame.inRange bps x = true) (hmax : cfg.maxP ≤ 14)
    (hlog : ∀ e ∈ log, e.Ok)
    (h : encodeStream md5 cfg st bs chans bps rate log = some (s, log')) :
    ∃ sb, s.bits rfcCrc8 rfcCrc16 = some sb ∧ s.count = some sb.length ∧
      sb.length ≤ 8 * 42 + (((blocksOf bs chans).zipIdx).map fun (b, i) =>
        8 * ((frameHeaderBits (b.headD []).length rate i + chans.length * (8 + (b.headD []).length * bps) + 7) / 8 + 2)).sum := by
  obtain ⟨sb, h1, h2, h3, _⟩ :=
    Extras.stream_size md5 cfg st bs chans bps rate log log' s total hmd5 hch hlen htot hbs hb hx hmax hlog h
  refine ⟨sb, h1, h2, ?_⟩
  simp only [Extras.framesBound, Extras.verbatimFrameBits_eq] at h3
  exact h3

/-- **C09, stream, coarse form**: every header is at most `40 + 8·7 + 16 + 16 = 128`
bits (sync/codes/CRC-8, a 7-byte number, a 16-bit block-size and a 16-bit sample-rate immediate). -/
theorem C09_stream_coarse (md5 : List Nat → List Nat) (cfg : SubCfg) (st : StereoCfg) (bs : Nat)
    (chans : List (List Int)) (bps rate : Nat) (log log' : List OEvent) (s : Stream) (total : Nat)
    (hmd5 : ∀ x, (md5 x).length = 16)
    (hch : 1 ≤ chans.length ∧ chans.length ≤ 8) (hlen : ∀ c ∈ chans, c.length = total) (htot : total < 2 ^ 36)
    (hbs : 1 ≤ bs ∧ bs < 2 ^ 16) (hb : 1 ≤ bps ∧ bps ≤ 24)
    (hx : ∀ c ∈ chans, ∀ x ∈ c, SubFrame.inRange bps x = true) (hmax : cfg.maxP ≤ 14)
    (hlog : ∀ e ∈ log, e.Ok)
    (h : encodeStream md5 cfg st bs chans bps rate log = some (s, log')) :
    ∃ sb, s.bits rfcCrc8 rfcCrc16 = some sb ∧
      sb.length ≤ 8 * 42 + ((blocksOf bs chans).map fun b =>
        8 * ((128 + chans.length * (8 + (b.headD []).length * bps) + 7) / 8 + 2)).foldl (· + ·) 0 := by
  obtain ⟨sb, h1, _, h3, h4⟩ :=
    Extras.stream_size md5 cfg st bs chans bps rate log log' s total hmd5 hch hlen htot hbs hb hx hmax hlog h
  refine ⟨sb, h1, ?_⟩
  have := Extras.framesBound_le chans.length bps rate 128 (blocksOf bs chans) 0 (by omega) (Nat.le_refl _)
  simp only [Extras.verbatimFrameBits_eq] at this
  rw [← List.sum_eq_foldl]
  omega

/-- The header size used above is the header's `count_bits`, and never exceeds 128 bits. -/
theorem C09_header_bits (asg : ChannelAssignment) (n bps rate number : Nat) (hdr : FrameHeader)
    (h : headerFor asg n bps rate number = some hdr) (hnum : number < 2 ^ 36) :
    hdr.count = frameHeaderBits n rate number ∧ frameHeaderBits n rate number ≤ 128 :=
  ⟨Extras.headerFor_count asg n bps rate number hdr h, Extras.frameHeaderBits_le n rate number hnum⟩

/-! ### non-vacuity -/

namespace C09StreamEx

def toyMd5 (x : List Nat) : List Nat := List.replicate 16 (x.length % 256)
def streamL : List Int := (List.range 40).map fun (t : Nat) => ((t : Int) * (t : Int)) / 7 - 30
def streamR : List Int := (List.range 40).map fun (t : Nat) => ((t : Int) * 37 % 11) - 5

set_option maxRecDepth 100000 in
/-- Two channels of 40 samples in blocks of 16 (three frames, the last one short): the hypotheses of
`C09_stream` hold, the encoder returns, and the conclusion follows. Every header takes 56 bits
(40 + 1-byte number + 8-bit block-size immediate); the bound evaluates to `336 + 600 + 600 + 344 = 1880`
bits. -/
example : ∃ s log' sb,
    encodeStream toyMd5 ⟨true, true, false, 4, true, 14⟩ ⟨true, true, true⟩ 16 [streamL, streamR] 16 44100 [] = some (s, log') ∧
    s.bits rfcCrc8 rfcCrc16 = some sb ∧ s.count = some sb.length ∧
    sb.length ≤ 8 * 42 + (((blocksOf 16 [streamL, streamR]).zipIdx).map fun (b, i) =>
        8 * ((frameHeaderBits (b.headD []).length 44100 i + 2 * (8 + (b.headD []).length * 16) + 7) / 8 + 2)).sum := by
  obtain ⟨⟨s, log'⟩, h⟩ : ∃ r, encodeStream toyMd5 ⟨true, true, false, 4, true, 14⟩ ⟨true, true, true⟩ 16
      [streamL, streamR] 16 44100 [] = some r := Option.isSome_iff_exists.1 (by decide)
  obtain ⟨sb, h1, h2, h3⟩ := C09_stream toyMd5 _ _ 16 [streamL, streamR] 16 44100 [] log' s 40
    (fun x => List.length_replicate) (by decide) (by decide) (by decide) (by decide)
    (by decide) (by decide) (by decide) (by intro e he; cases he) h
  exact ⟨s, log', sb, h, h1, h2, h3⟩

end C09StreamEx

end FlacVerif
