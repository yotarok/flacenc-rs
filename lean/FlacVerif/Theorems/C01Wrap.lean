/-
C01, losslessness for decoders that reduce to 32 bits — here the mirror of the repository's own decoder in
the release build (`Repo.decodeFrameMode false`, `Model/RepoParser.lean`: `i64` prediction sum,
`(pred >> shift) as i32`, wrapping `i32` additions; claxon and libFLAC compute the same way).

An emitted LPC residual is always exact (`compute_error` reports values that are not FLAC residuals through
its flag, and `estimated_qlpc` then drops the candidate), so for emitted LPC sub-frames the 32-bit reduction
below is the identity; the building blocks (`C01_computeError_wrap`, `C01_lpcLoop_wrap`) hold for every
parameter set and whatever the flag of `compute_error` says: the encoder's stored value is
`wrap32 (x - prediction)`, the decoder's sample is `wrap32 (residual + wrap32 prediction)`, and the two
predictions are computed from identical histories.
What this family adds to the strict one: the repository's own read path (`parser::frame`, `Frame::decode()`),
frames within the parser's limits, and no bound on the frame number.
-/
import FlacVerif.Lemmas.WrapStream
import FlacVerif.Lemmas.WrapParse
import FlacVerif.Lemmas.TotalFrame
import FlacVerif.Theorems.C01Strict
namespace FlacVerif

theorem C01_i32op_release (site : String) (v : Int) : Repo.i32op false site v = .ok (wrap32 v) :=
  Wrap.i32op_false site v

/-- `compute_error` with NO hypothesis on the parameters: whenever it returns, WHATEVER its flag, every
entry of the buffer is an `i32` and the entries after the warm-up are the 32-bit reductions of the exact
LPC residual (on the checked `i32` path nothing wraps, on the `i64` path the result is cast). -/
theorem C01_computeError_wrap (coefs : List Int) (shift : Nat) (xs errors : List Int) (fits : Bool)
    (h : computeError coefs shift xs = some (errors, fits)) :
    errors.length = xs.length ∧ (∀ e ∈ errors, fitsI32 e = true) ∧
    errors.drop coefs.length = (lpcResidual coefs shift xs).map wrap32 := by
  obtain ⟨hl, hf⟩ := Strict.computeError_fits coefs shift xs errors h
  refine ⟨hl, hf, ?_⟩
  rw [Total.computeError_buffer coefs shift xs errors h, map_ite_drop, Strict.lpcResidual_eq, List.map_map]
  rfl

/-- The prediction loop of `decode_lpc` in the release build inverts the 32-bit residual for EVERY
coefficient set of at most 32 coefficients of at most 16 bits, every shift, and every `i32` signal:
starting from any `i32` history at least as long as the predictor, it appends exactly `xs`. -/
theorem C01_lpcLoop_wrap (coefs : List Int) (shift : Nat) (hlen : coefs.length ≤ 32)
    (hc : ∀ c ∈ coefs, -(2 ^ 15 : Int) ≤ c ∧ c ≤ 2 ^ 15) (xs hist : List Int) (hh : coefs.length ≤ hist.length)
    (hhist : ∀ h ∈ hist, -(2 ^ 31 : Int) ≤ h ∧ h < 2 ^ 31) (hx : ∀ x ∈ xs, -(2 ^ 31 : Int) ≤ x ∧ x < 2 ^ 31) :
    Repo.lpcLoop false coefs shift ((residualFrom coefs shift hist xs).map wrap32) hist = .ok (hist.reverse ++ xs) :=
  Wrap.lpcLoop_wrap coefs shift hlen hc xs hist hh hhist hx

/-- `Residual::copy_signal` (either build mode) on the residual component the encoder builds returns the
errors, zero on the warm-up, and hits no panic site. -/
theorem C01_residualSignal (debug : Bool) (errors : List Int) (w o : Nat) (ps : List Nat)
    (hpos : 0 < errors.length) (ho : o ≤ 15) (hps : ps.length = 2 ^ o) (hdvd : 2 ^ o ∣ errors.length)
    (hp : ∀ p ∈ ps, p ≤ 14)
    (herr : ∀ e ∈ errors, -(2 ^ 31 : Int) < e ∧ e < (2 ^ 31 : Int)) :
    Repo.residualSignal debug (Residual.ofErrors errors w o ps) =
      .ok ((List.range errors.length).map fun t => if t < w then 0 else errors.getD t 0) :=
  Wrap.residualSignal_ofErrors debug errors w o ps hpos ho hps hdvd hp herr

/-- Stereo un-mixing in wrapping `i32` arithmetic (left/side, right/side, mid/side) for channels of at
most 30 bits. -/
theorem C01_decorrelate_wrap (l r : List Int) (h : l.length = r.length)
    (hl : ∀ x ∈ l, -(2 ^ 29 : Int) ≤ x ∧ x < 2 ^ 29) (hr : ∀ x ∈ r, -(2 ^ 29 : Int) ≤ x ∧ x < 2 ^ 29) :
    Repo.decorrelate false .leftSide l.length l (Strict.sideOf l r) = .ok (l, r) ∧
    Repo.decorrelate false .rightSide l.length (Strict.sideOf l r) r = .ok (l, r) ∧
    Repo.decorrelate false .midSide l.length (Strict.midOf l r) (Strict.sideOf l r) = .ok (l, r) :=
  Wrap.decorrelate_wrap l r h hl hr

/-- **C01, sub-frame, 32-bit decoder.** For every sub-frame configuration with `maxP ≤ 14`, every block
of fewer than `2^16` samples of width `1 ≤ bps ≤ 25` and EVERY oracle log whose quantised LPC parameter sets
satisfy `OEvent.Ok`: if `encode_subframe` returns a sub-frame `s`, then
`SubFrame::decode()` of the release build returns exactly the input block (no panic site is hit). -/
theorem C01_subframe_wrapdec (cfg : SubCfg) (xs : List Int) (bps : Nat) (log log' : List OEvent) (s : SubFrame)
    (hlen : xs.length < 2 ^ 16) (hb : 1 ≤ bps ∧ bps ≤ 25)
    (hx : ∀ x ∈ xs, SubFrame.inRange bps x = true) (hmax : cfg.maxP ≤ 14)
    (hlog : ∀ e ∈ log, e.Ok)
    (h : encodeSubframe cfg xs bps log = some (s, log')) :
    Repo.decodeSubframe false s = .ok xs :=
  Wrap.decodeSubframe_outcome (Strict.encodeSubframe_outcome cfg xs bps log log' s hlen hb hx hmax hlog h)

/-- **C01, frame, 32-bit decoder.** Same hypotheses as `C01_frame_strict` but without the bound on the
frame number, which the decoder does not look at: for every sub-frame and
stereo configuration (`maxP ≤ 14`), every block of 1 to 8 channels of equal length `1 ≤ n < 2^16` with
samples of width `1 ≤ bps ≤ 24`, every rate and frame number and EVERY oracle log satisfying
`OEvent.Ok`: if `encode_frame` returns a frame `f`, then `Frame::decode()` of the release build — block
size from the header, every sub-frame, stereo un-mixing, interleaving — returns exactly the interleaved
input. -/
theorem C01_frame_wrapdec (cfg : SubCfg) (st : StereoCfg) (chans : List (List Int)) (bps rate number n : Nat)
    (log log' : List OEvent) (f : Frame)
    (hch : 1 ≤ chans.length ∧ chans.length ≤ 8) (hlen : ∀ c ∈ chans, c.length = n) (hn : 1 ≤ n ∧ n < 2 ^ 16)
    (hb : 1 ≤ bps ∧ bps ≤ 24) (hx : ∀ c ∈ chans, ∀ x ∈ c, SubFrame.inRange bps x = true)
    (hmax : cfg.maxP ≤ 14) (hlog : ∀ e ∈ log, e.Ok)
    (h : encodeFrame cfg st chans bps rate number log = some (f, log')) :
    Repo.decodeFrameMode false f = .ok (Rfc.interleave chans) := by
  obtain ⟨_, _, fo⟩ := Strict.encodeFrame_outcome cfg st chans bps rate number n log log' f hch hlen hn hb hx hmax hlog h
  exact fo.wrapdec

/-- Every frame `encode_frame` returns is serialisable, its reported size is its written
size, and it lies within the limits of the repository's own parser (`Repo.FrameOk`, the hypothesis of
C15): `OEvent.Ok` bounds the oracle's LPC orders by the parser's limit `MAX_LPC_ORDER = 24` (which
`Encoder::verify` enforces on `lpc_order`, `C07_verified_cfg`). -/
theorem C01_frame_parserOk (cfg : SubCfg) (st : StereoCfg) (chans : List (List Int)) (bps rate number n : Nat)
    (log log' : List OEvent) (f : Frame)
    (hch : 1 ≤ chans.length ∧ chans.length ≤ 8) (hlen : ∀ c ∈ chans, c.length = n) (hn : 1 ≤ n ∧ n < 2 ^ 16)
    (hb : 1 ≤ bps ∧ bps ≤ 24) (hx : ∀ c ∈ chans, ∀ x ∈ c, SubFrame.inRange bps x = true)
    (hnum : number < 2 ^ 32) (hmax : cfg.maxP ≤ 14) (hlog : ∀ e ∈ log, e.Ok)
    (h : encodeFrame cfg st chans bps rate number log = some (f, log'))
    (info : StreamInfo) (hinfo : info.channels = chans.length ∧ info.bps = bps) :
    Repo.FrameOk info f ∧ ∃ fb, f.bits rfcCrc8 rfcCrc16 = some fb ∧ f.count = some fb.length := by
  obtain ⟨_, _, fo⟩ := Strict.encodeFrame_outcome cfg st chans bps rate number n log log' f hch hlen hn hb hx hmax hlog h
  obtain ⟨fb, h1, h2, _⟩ := fo.bits (Nat.lt_trans hnum (by decide))
  exact ⟨fo.good hnum info hinfo, fb, h1, h2⟩

/-- **C01, frame, the repository's own read path.** `Frame::write`, then `parser::frame` (with or without
CRC check, arbitrary bytes following), then `Frame::decode()` of the release build: the parser returns
exactly the emitted frame and the remaining bytes, and the decoder returns exactly the interleaved input —
for every oracle log satisfying `OEvent.Ok` (which includes: LPC orders at most 24). -/
theorem C01_frame_wrap_roundtrip (cfg : SubCfg) (st : StereoCfg) (chans : List (List Int)) (bps rate number n : Nat)
    (log log' : List OEvent) (f : Frame)
    (hch : 1 ≤ chans.length ∧ chans.length ≤ 8) (hlen : ∀ c ∈ chans, c.length = n) (hn : 1 ≤ n ∧ n < 2 ^ 16)
    (hb : 1 ≤ bps ∧ bps ≤ 24) (hx : ∀ c ∈ chans, ∀ x ∈ c, SubFrame.inRange bps x = true)
    (hnum : number < 2 ^ 32) (hmax : cfg.maxP ≤ 14) (hlog : ∀ e ∈ log, e.Ok)
    (h : encodeFrame cfg st chans bps rate number log = some (f, log'))
    (info : StreamInfo) (hinfo : info.channels = chans.length ∧ info.bps = bps) (checkCrc : Bool) (more : List Nat) :
    ∃ fb, f.bits rfcCrc8 rfcCrc16 = some fb ∧
      Repo.parseFrame info checkCrc (packBytes fb ++ more) = .ok (f, more) ∧
      Repo.decodeFrameMode false f = .ok (Rfc.interleave chans) := by
  obtain ⟨_, _, fo⟩ := Strict.encodeFrame_outcome cfg st chans bps rate number n log log' f hch hlen hn hb hx hmax hlog h
  obtain ⟨fb, hfb, _⟩ := fo.bits (Nat.lt_trans hnum (by decide))
  exact ⟨fb, hfb, Repo.parseFrame_read f info checkCrc fb more hfb (fo.good hnum info hinfo), fo.wrapdec⟩

theorem C01_interleave_blocks (bs : Nat) (chans : List (List Int)) (total : Nat) (hbs : 1 ≤ bs)
    (hne : 1 ≤ chans.length) (hlen : ∀ c ∈ chans, c.length = total) :
    (blocksOf bs chans).flatMap Rfc.interleave = Rfc.interleave chans :=
  Wrap.interleave_blocks bs chans total hbs hne hlen

/-- **C01, stream, 32-bit decoder.** Same hypotheses as `C01_stream_strict` without the bounds that only
concern STREAMINFO: the release-build decoder applied, frame after frame,
to the frames `encode_with_fixed_block_size` emits (`Repo.decodeAll false`, what the harness outcome
compares with the original) returns exactly the interleaved input audio. -/
theorem C01_stream_wrapdec (md5 : List Nat → List Nat) (cfg : SubCfg) (st : StereoCfg) (bs : Nat)
    (chans : List (List Int)) (bps rate : Nat) (log log' : List OEvent) (s : Stream) (total : Nat)
    (hch : 1 ≤ chans.length ∧ chans.length ≤ 8) (hlen : ∀ c ∈ chans, c.length = total)
    (hbs : 1 ≤ bs ∧ bs < 2 ^ 16) (hb : 1 ≤ bps ∧ bps ≤ 24)
    (hx : ∀ c ∈ chans, ∀ x ∈ c, SubFrame.inRange bps x = true) (hmax : cfg.maxP ≤ 14)
    (hlog : ∀ e ∈ log, e.Ok)
    (h : encodeStream md5 cfg st bs chans bps rate log = some (s, log')) :
    Repo.decodeAll false s.frames = .ok (Rfc.interleave chans) := by
  obtain ⟨frames, counts, ho, _, rfl⟩ := Strict.encodeStream_outcome total hch hlen hbs hb hx hmax hlog h
  rw [← Wrap.interleave_blocks bs chans total hbs.1 hch.1 hlen]
  exact Wrap.encodeFrames_wrapdec ho

/-! ### non-vacuity -/

namespace C01WrapEx
open C01StrictEx

set_option maxRecDepth 100000 in
/-- The witness of `C01_flag_needed` (`coefs = [-16384, 1]`, `shift = 0`, `precision = 15`, 24-bit
`wrapBlock`: exact residual `2^33, 2^32, …`, flag `false`, LPC candidate dropped): the release build of the
repository's decoder returns the input from what `encode_subframe` emits: `encode_subframe` returns (C07, the
log has the shape it consumes), and `C01_subframe_wrapdec` applies. -/
example : (encodeSubframe ⟨true, false, true, 4, true, 14⟩ wrapBlock 24 [.qlpc [-16384, 1] 0 15]).map
    (fun r => Repo.decodeSubframe false r.1) = some (.ok wrapBlock) := by
  have hx : ∀ x ∈ wrapBlock, SubFrame.inRange 24 x = true := by decide
  obtain ⟨s, hs⟩ := Total.encodeSubframe_total ⟨true, false, true, 4, true, 14⟩ wrapBlock 24 [.qlpc [-16384, 1] 0 15]
    (by decide) (by decide) hx (by decide) (by decide)
  rw [hs]
  exact congrArg some (C01_subframe_wrapdec _ _ 24 _ _ s (by decide) (by decide) hx (by decide) (by decide) hs)

set_option maxRecDepth 100000 in
/-- … and the LPC sub-frame the code emitted BEFORE the fix on that witness (the stored, wrapped values — all
zeros — encoded regardless of the flag; REJECTED by the strict decoder, `C01_flag_needed`) is decoded to the
input by the release build: a decoder that wraps at 32 bits inverts the wrapped residual
(`C01_computeError_wrap`, `C01_lpcLoop_wrap`). -/
example : (((computeError [-16384, 1] 0 wrapBlock).bind fun r => encodeResidual 14 r.1 2).map fun res =>
    Repo.decodeSubframe false (SubFrame.lpc (wrapBlock.take 2) [-16384, 1] 0 15 res 24)) = some (.ok wrapBlock) := by
  decide +kernel

set_option maxRecDepth 100000 in
/-- The hypotheses of `C01_subframe_wrapdec` (and of `C01_subframe_strict`) hold for that witness. -/
example : (∀ x ∈ wrapBlock, SubFrame.inRange 24 x = true) ∧ (∀ e ∈ [OEvent.qlpc [-16384, 1] 0 15], e.Ok) ∧
    (computeError [-16384, 1] 0 wrapBlock).map (·.2) = some false := by
  decide +kernel

set_option maxRecDepth 100000 in
/-- The fixed-predictor path (entropy estimates from the log), in the same way. -/
example : (encodeSubframe ⟨true, true, false, 4, false, 14⟩ smooth64 16
      [.est 0 900, .est 1 700, .est 2 300, .est 3 400, .est 4 500]).map
    (fun r => Repo.decodeSubframe false r.1) = some (.ok smooth64) := by
  have hx : ∀ x ∈ smooth64, SubFrame.inRange 16 x = true := by decide
  obtain ⟨s, hs⟩ := Total.encodeSubframe_total ⟨true, true, false, 4, false, 14⟩ smooth64 16
    [.est 0 900, .est 1 700, .est 2 300, .est 3 400, .est 4 500] (by decide) (by decide) hx (by decide) (by decide)
  rw [hs]
  exact congrArg some (C01_subframe_wrapdec _ _ 16 _ _ s (by decide) (by decide) hx (by decide) (by decide) hs)

/-- `encode_frame` returns on the two-channel witness of the examples below: it is total (C07) on a log of the
shape it consumes, here one `qlpc` event for each of the four sub-frames it tries. -/
private theorem wrapFrame_returns :
    (encodeFrame ⟨true, true, true, 4, true, 14⟩ ⟨true, true, true⟩ [wrapBlock, stereoR] 24 44100 7
      [.qlpc [-16384, 1] 0 15, .qlpc [2, -1] 0 3, .qlpc [-16384, 1] 0 15, .qlpc [-16384, 1] 0 15]).isSome = true := by
  obtain ⟨f, hf⟩ := Total.encodeFrame_total ⟨true, true, true, 4, true, 14⟩ ⟨true, true, true⟩ [wrapBlock, stereoR]
    24 44100 7 64 [.qlpc [-16384, 1] 0 15, .qlpc [2, -1] 0 3, .qlpc [-16384, 1] 0 15, .qlpc [-16384, 1] 0 15]
    (by decide) (by decide) (by decide) (by decide) (by decide +kernel) (by decide) (by decide)
  rw [hf]
  rfl

set_option maxRecDepth 100000 in
/-- A two-channel frame: `wrapBlock` with the parameter set of `C01_flag_needed` on the left, a correlated channel
on the right; the hypotheses of `C01_frame_wrapdec` hold, `encode_frame` returns, and the theorem gives
the decoded audio. -/
example : ∃ f log',
    encodeFrame ⟨true, true, true, 4, true, 14⟩ ⟨true, true, true⟩ [wrapBlock, stereoR] 24 44100 7
      [.qlpc [-16384, 1] 0 15, .qlpc [2, -1] 0 3, .qlpc [-16384, 1] 0 15, .qlpc [-16384, 1] 0 15] = some (f, log') ∧
    Repo.decodeFrameMode false f = .ok (Rfc.interleave [wrapBlock, stereoR]) := by
  obtain ⟨⟨f, log'⟩, h⟩ := Option.isSome_iff_exists.1 wrapFrame_returns
  exact ⟨f, log', h, C01_frame_wrapdec _ _ _ 24 44100 7 64 _ log' f (by decide) (by decide) (by decide)
    (by decide) (by decide +kernel) (by decide) (by decide) h⟩

set_option maxRecDepth 100000 in
/-- Stereo recombination through the fixed predictors (left/side is chosen, see `C01Strict.lean`). -/
example : ∃ f log',
    encodeFrame ⟨true, true, false, 4, true, 14⟩ ⟨true, true, true⟩ [stereoL, stereoR] 16 44100 70000 [] = some (f, log') ∧
    f.header.assignment = .leftSide ∧
    Repo.decodeFrameMode false f = .ok (Rfc.interleave [stereoL, stereoR]) := by
  obtain ⟨⟨f, log'⟩, h, ha⟩ := Option.map_eq_some_iff.1 stereoFrame_leftSide
  exact ⟨f, log', h, ha, C01_frame_wrapdec _ _ _ 16 44100 70000 64 _ log' f (by decide) (by decide) (by decide)
    (by decide) (by decide +kernel) (by decide) (by intro e he; cases he) h⟩

set_option maxRecDepth 100000 in
/-- The read path of the repository on that frame: written, parsed back (CRC checked, one more
byte following) and decoded. -/
example : ∃ f log' fb,
    encodeFrame ⟨true, true, true, 4, true, 14⟩ ⟨true, true, true⟩ [wrapBlock, stereoR] 24 44100 7
      [.qlpc [-16384, 1] 0 15, .qlpc [2, -1] 0 3, .qlpc [-16384, 1] 0 15, .qlpc [-16384, 1] 0 15] = some (f, log') ∧
    f.bits rfcCrc8 rfcCrc16 = some fb ∧
    Repo.parseFrame ⟨64, 64, 0, 0, 44100, 2, 24, 64, []⟩ true (packBytes fb ++ [9]) = .ok (f, [9]) ∧
    Repo.decodeFrameMode false f = .ok (Rfc.interleave [wrapBlock, stereoR]) := by
  obtain ⟨⟨f, log'⟩, h⟩ := Option.isSome_iff_exists.1 wrapFrame_returns
  obtain ⟨fb, h1, h2, h3⟩ := C01_frame_wrap_roundtrip _ _ _ 24 44100 7 64 _ log' f (by decide) (by decide) (by decide)
    (by decide) (by decide +kernel) (by decide) (by decide) (by decide) h
    ⟨64, 64, 0, 0, 44100, 2, 24, 64, []⟩ (by decide) true [9]
  exact ⟨f, log', fb, h, h1, h2, h3⟩

set_option maxRecDepth 100000 in
/-- Stream level: two channels of 40 samples in blocks of 16 (three frames, the last one short). -/
example : ∃ s log',
    encodeStream toyMd5 ⟨true, true, false, 4, true, 14⟩ ⟨true, true, true⟩ 16 [streamL, streamR] 16 44100 [] = some (s, log') ∧
    s.frames.length = 3 ∧ Repo.decodeAll false s.frames = .ok (Rfc.interleave [streamL, streamR]) := by
  obtain ⟨⟨s, log'⟩, h, hl⟩ := Option.map_eq_some_iff.1
    (show (encodeStream toyMd5 ⟨true, true, false, 4, true, 14⟩ ⟨true, true, true⟩ 16 [streamL, streamR] 16 44100 []).map
      (fun r => r.1.frames.length) = some 3 by decide)
  exact ⟨s, log', h, hl, C01_stream_wrapdec toyMd5 _ _ 16 [streamL, streamR] 16 44100 [] log' s 40 (by decide) (by decide)
    (by decide) (by decide) (by decide) (by decide) (by intro e he; cases he) h⟩

end C01WrapEx

end FlacVerif
