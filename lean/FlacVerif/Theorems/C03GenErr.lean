/-
C03GenErr — the FAILURE direction of the generated stream driver (Gen/Driver.lean) on the generated `MemSource`: a block with a
sample outside the declared width makes `encode_with_fixed_block_size` return `Err` — not a panic — at the first such block
(C17's clause for out-of-range samples, C07's no-panic clause on the stream entry point).

A good prefix of the loop is continued by an iteration whose buffer fails `verify_samples`; `C03G_driver_mem_total_any`
concludes that the driver does not panic on any input, `C03G_driver_mem_total` is its case of samples inside the width.
The relations of namespace `C03GenErr` and their first theorems stand where the success direction needs them: `RunPre`,
`DeliversPre`, `C03G_frames_contract_pre` in C03Gen.lean, `blockAt`, `mem_delivers_pre` in C03GenMem.lean.
-/
import FlacVerif.Lemmas.GenCfg
import FlacVerif.Theorems.C03GenMem
import FlacVerif.Theorems.C07Total
namespace FlacVerif
namespace C03GenErr
open FlacVerif.C03Gen FlacVerif.C03GenMem FlacVerif.Gen.Driver
open FlacVerif.Gen.Coding (M pureM bindM liftO)
open Total Strict

/-- **a good prefix of the `loop`** costs one unit of `fuel` per frame and leaves `loopM` in the prefix's final state and log -/
theorem C03G_loop_pre {T : Type} (ops : SourceOps T) (s1 : Nat → List (List Int)) (s2 : Nat → List Int) (s3 : Nat → Gen.Coding.FrameBuf)
    (config : Gen.Encoder) (bs : Nat) (s fin : LoopState T) (log logf : List OEvent) (gs : List Gen.Writer.Frame)
    (h : RunPre ops s1 s2 s3 config bs s log fin logf gs) :
    ∀ fuel, loopM (fuel + gs.length) s (loopBody ops s1 s2 s3 config bs) log = loopM fuel fin (loopBody ops s1 s2 s3 config bs) logf := by
  induction h with
  | nil s log => intro fuel; rfl
  | step src src' st st1 fbc fbc' k num g log log1 logf fin gs hr hk hnum hex henc hadd _ ih =>
    intro fuel
    rw [List.length_cons, ← Nat.add_assoc, loopM_succ, loopBody_block ops s1 s2 s3 config bs src src' st fbc fbc' log k num hr hk hnum hex,
      henc]
    simp only [Option.bind_some, hadd, Option.map_some]
    exact ih fuel

/-- **`encode_fixed_size_frame` returns `Err` when `verify_samples` does** (frame number and buffer shape accepted): nothing is
consumed from the log, no panic. -/
theorem encode_rejects_samples (vs : Gen.Coding.FrameBuf → Nat → Gen.Verify.VR) (s1 : List (List Int)) (s2 : List Int)
    (s3 : Gen.Coding.FrameBuf) (c : Gen.Encoder) (fb : Gen.Coding.FrameBuf) (number : Nat) (info : StreamInfo) (log : List OEvent)
    (hnum : number < 2 ^ 31) (hsz : fb.size ≠ 0) (hcn : fb.samples.length / fb.size = info.channels) (hfill : 0 < fb.filled_size)
    (hvs : vs fb info.bps = some false) :
    Gen.Coding.encode_fixed_size_frame vs s1 s2 s3 c fb number info log = some (none, log) := by
  rw [C09Gen.encode_fixed_size_frame_eq, if_neg (by omega), if_neg hsz, if_pos ⟨hcn, hfill⟩, hvs]

/-- **the whole driver, failing**: accepted arguments, a good prefix of the loop from `entryState`, then an iteration that delivers
a non-empty block whose buffer fails `verify_samples`: the driver returns `Err` with the log the prefix left. -/
theorem C03G_driver_pre_err {T : Type} (ops : SourceOps T) (featPar : Bool) (par : Gen.Encoder → T → Nat → M (Option Gen.Writer.Stream))
    (md5f : List Nat → List Nat) (s1 : Nat → List (List Int)) (s2 : Nat → List Int) (s3 : Nat → Gen.Coding.FrameBuf)
    (config : Gen.Encoder) (src srcp src' : T) (bs : Nat) (log logp : List OEvent) (i0 : StreamInfo) (m0 : FlacVerif.FrameBuf)
    (stp : Gen.Writer.Stream) (fbcp fbc' : Gen.Source.FrameBuf × Gen.Source.Context) (gs : List Gen.Writer.Frame) (k num : Nat)
    (hmt : config.multithread = false)
    (hnew : FlacVerif.StreamInfo.new (ops.sample_rate src) (ops.channels src) (ops.bits_per_sample src) = some i0)
    (hfb : FlacVerif.FrameBuf.withSize (ops.channels src) bs = some m0)
    (hrun : RunPre ops s1 s2 s3 config bs (entryState src i0 m0 bs (ops.bits_per_sample src) (ops.channels src)) log
      (srcp, stp, fbcp) logp gs)
    (hr : ops.read_samples srcp bs fbcp = some (some k, src', fbc')) (hk : k ≠ 0)
    (hnum : Gen.Source.Context.current_frame_number fbc'.2 = some (some num))
    (hex : Gen.Verify.Stream.stream_info_exact stp = true)
    (henc : Gen.Coding.encode_fixed_size_frame verifySamples (s1 num) (s2 num) (s3 num) config (fbToCoding fbc'.1) num
        (Gen.Verify.Stream.stream_info stp) logp = some (none, logp)) :
    ∀ fuel, gs.length < fuel →
      encode_with_fixed_block_size featPar ops par md5f s1 s2 s3 fuel config src bs log = some (none, logp) := by
  intro fuel hf
  obtain ⟨f, rfl⟩ : ∃ f, fuel = (f + 1) + gs.length := ⟨fuel - gs.length - 1, by omega⟩
  rw [driver_entry ops featPar par md5f s1 s2 s3 _ config src bs log i0 m0 hmt hnew hfb,
    C03G_loop_pre ops s1 s2 s3 config bs _ _ log logp gs hrun (f + 1),
    C03G_loop_encode_err ops s1 s2 s3 config bs f srcp src' stp fbcp fbc' k num logp logp hr hk hnum hex henc]
  rfl

/-- **out-of-range samples on the generated `MemSource`**: accepted arguments, blocks `0 .. j0-1` inside the declared width (and
encoded by the model's frame loop, leaving the log `logp`), block `j0` with a sample outside the width: the generated driver returns
`Err` — it does not panic — with the remaining log `logp`: the error arises at the FIRST such block, after `j0` frames. -/
theorem C03G_driver_mem_err (featPar : Bool) (par : Gen.Encoder → Gen.Source.MemSource → Nat → M (Option Gen.Writer.Stream))
    (md5f : List Nat → List Nat) (s1 : Nat → List (List Int)) (s2 : Nat → List Int) (s3 : Nat → Gen.Coding.FrameBuf)
    (c : Gen.Encoder) (chans : List (List Int)) (ch bps rate bs total j0 : Nat) (log logp : List OEvent) (i0 : StreamInfo)
    (m0 : FlacVerif.FrameBuf) (fs : List Frame)
    (hmt : c.multithread = false)
    (hnew : FlacVerif.StreamInfo.new rate ch bps = some i0) (hfb : FlacVerif.FrameBuf.withSize ch bs = some m0)
    (hst : ∀ n, C09Gen.StereoBuf (s3 n)) (hb : 1 ≤ bps ∧ bps ≤ 24)
    (hmax : c.subframe_coding.prc.max_parameter ≤ 14) (hmo : c.subframe_coding.fixed.max_order + 1 < 2 ^ 64)
    (hcl : chans.length = ch) (hlen : ∀ x ∈ chans, x.length = total) (htot : total < 2 ^ 40)
    (hj0 : j0 < (total + bs - 1) / bs) (hj31 : j0 < 2 ^ 31)
    (hgood : ∀ i, i < j0 → ∀ x ∈ blockAt chans bs i, ∀ v ∈ x, SubFrame.inRange bps v = true)
    (hbad : ∃ cc, cc < ch ∧ ∃ v ∈ (blockAt chans bs j0).getD cc [], SubFrame.inRange bps v = false)
    (henc : encodeFrames (subCfgOf c.subframe_coding) (stereoCfgOf c.stereo_coding) bps rate
      ((List.range' 0 j0).map (blockAt chans bs)) 0 log = some (fs, logp))
    (hlog : C09Gen.LogFits log) (hlogok : ∀ e ∈ log, e.Ok) :
    ∀ fuel, j0 < fuel →
      encode_with_fixed_block_size featPar memOps par md5f s1 s2 s3 fuel c
        (Gen.Source.MemSource.from_samples (Rfc.interleave chans) ch bps rate) bs log = some (none, logp) := by
  have hch := (SourceLemmas.withSize_some.mp hfb).1
  obtain ⟨hshape, hsize⟩ := withSize_shape hfb
  obtain ⟨hr96, _, hi0⟩ := streamInfo_new_some hnew
  have hrate : rate < 2 ^ 32 := by omega
  obtain ⟨gp, cp, hd, hgp, hgps, hcp1, hcp2, hcp3, hcp4⟩ := mem_delivers_pre chans ch bps rate bs total hcl ⟨hch.1, hch.2.1⟩ hlen hb
    (by omega) htot j0 0 (C14Gen.ofModel m0 []) ⟨[], (bps + 7) / 8, ch, 0, 0⟩ (by omega)
    (fun i _ hi => hgood i (by omega)) hshape hsize rfl rfl (by simp) rfl
  simp only [Nat.zero_mul, Nat.zero_min, Nat.zero_add] at hd hcp3 hcp4
  obtain ⟨gs, hrun, _, hsz, _⟩ := C03G_frames_contract_pre memOps s1 s2 s3 c bs ch bps rate hst ⟨hch.1, hch.2.1⟩ hb hmax hmo hrate
    _ _ _ _ _ hd ⟨⟨true, .StreamInfo { i0 with minBlock := bs, maxBlock := bs }⟩, [], []⟩ { i0 with minBlock := bs, maxBlock := bs }
    log logp fs rfl (by subst hi0; rfl) (by subst hi0; rfl) (by subst hi0; rfl) henc hlog hlogok (by simp; omega)
    (by subst hi0; simp [StreamInfo.empty]; omega)
  have hgl : gs.length = j0 := by
    have := congrArg List.length hsz
    simpa using this
  have hjlt := Strict.lt_ceil total bs j0 (by omega) hj0
  have hminj : min (j0 * bs) total = j0 * bs := by omega
  rw [hminj] at hrun hcp3
  have hjt : j0 ≤ total := by
    have : j0 * 1 ≤ j0 * bs := Nat.mul_le_mul_left j0 (by omega)
    omega
  obtain ⟨gb, ⟨hb1, hb2, hb3, hb4⟩, hread⟩ := mem_block_bad chans ch bps rate bs total j0 gp cp hcl ⟨hch.1, hch.2.1⟩ hlen hbad hb
    (by omega) htot hjlt hgp hgps hcp1 hcp2 (by omega) (by omega)
  obtain ⟨_, hfc, hfb', _⟩ := foldInfo_fields gs { i0 with minBlock := bs, maxBlock := bs }
  have hinfo : Gen.Verify.Stream.stream_info (streamAfter ⟨⟨true, .StreamInfo { i0 with minBlock := bs, maxBlock := bs }⟩, [], []⟩
      { i0 with minBlock := bs, maxBlock := bs } gs) = foldInfo { i0 with minBlock := bs, maxBlock := bs } gs := rfl
  have hnumc : Gen.Source.Context.current_frame_number
      (ctxAfter cp (md5Input bps (Rfc.interleave (blockAt chans bs j0))) (min bs (total - j0 * bs))) = some (some j0) :=
    current_frame_number_succ _ j0 (by simp only [ctxAfter, hcp4])
  intro fuel hf
  refine C03G_driver_pre_err memOps featPar par md5f s1 s2 s3 c
    (Gen.Source.MemSource.from_samples (Rfc.interleave chans) ch bps rate) _ _ bs log logp i0 m0 _ _ _ gs _ j0 hmt hnew hfb
    hrun hread (by omega) hnumc rfl ?_ fuel (by omega)
  rw [hinfo]
  exact encode_rejects_samples verifySamples _ _ _ c (fbToCoding gb) j0 _ logp (by omega) hb1
    (by rw [hfc]; subst hi0; exact hb2) hb3 (by rw [hfb']; subst hi0; exact hb4)

theorem driver_mem_new_err (featPar : Bool) (par : Gen.Encoder → Gen.Source.MemSource → Nat → M (Option Gen.Writer.Stream))
    (md5f : List Nat → List Nat) (s1 : Nat → List (List Int)) (s2 : Nat → List Int) (s3 : Nat → Gen.Coding.FrameBuf) (fuel : Nat)
    (c : Gen.Encoder) (xs : List Int) (ch bps rate bs : Nat) (log : List OEvent) (hmt : c.multithread = false)
    (hn : FlacVerif.StreamInfo.new rate ch bps = none) :
    encode_with_fixed_block_size featPar memOps par md5f s1 s2 s3 fuel c (Gen.Source.MemSource.from_samples xs ch bps rate) bs log =
      some (none, log) :=
  C03G_driver_args memOps featPar par md5f s1 s2 s3 fuel c _ bs log hmt (by
    show encodeStreamArgsOk bs ch bps rate = false
    simp [encodeStreamArgsOk, hn])

theorem framesLogOk_prefix (cfg : SubCfg) : ∀ (l1 l2 : List (List (List Int))) (log : List OEvent),
    FramesLogOk cfg (l1 ++ l2) log → FramesLogOk cfg l1 log
  | [], _, _, _ => trivial
  | _ :: bs, l2, _, h => ⟨h.1, framesLogOk_prefix cfg bs l2 _ h.2⟩

theorem first_bad (P : Nat → Prop) : ∀ n, (∃ i, i < n ∧ P i) → ∃ j, j < n ∧ P j ∧ ∀ i, i < j → ¬ P i := by
  intro n
  induction n with
  | zero => intro ⟨i, hi, _⟩; omega
  | succ n ih =>
    intro ⟨i, hi, hp⟩
    by_cases hex : ∃ i, i < n ∧ P i
    · obtain ⟨j, hj, h1, h2⟩ := ih hex
      exact ⟨j, by omega, h1, h2⟩
    · have hin : i = n := by
        by_cases h : i < n
        · exact absurd ⟨i, h, hp⟩ hex
        · omega
      subst hin
      exact ⟨i, by omega, hp, fun k hk hpk => hex ⟨k, hk, hpk⟩⟩

theorem mem_chunk (x : List Int) (bs : Nat) (hbs : 1 ≤ bs) (v : Int) (hv : v ∈ x) :
    ∃ j, j < (x.length + bs - 1) / bs ∧ v ∈ (x.drop (j * bs)).take bs := by
  rw [← Strict.chunks_all x bs hbs] at hv
  simp only [List.mem_flatMap, List.mem_range] at hv
  obtain ⟨j, hj, hm⟩ := hv
  exact ⟨j, hj, hm⟩

/-- **no panic on the stream entry point, EVERY input**: for every list of channels (1..8, equal length `< 2^36`,
samples inside the declared width `1 ≤ bps ≤ 24` or not), any rate, a configuration accepted by `Encoder::verify` (single-thread
path) and EVERY oracle log that is `OEvent.Ok`, shaped as the encoder consumes it (`FramesLogOk`, as C07_total) and `LogFits`
(entropy estimates below `2^63`: the one panic site of the generated code the hand model does not have), the generated driver on
the generated `MemSource` does not panic (the statement: `≠ none`; the proof: `Err` when `StreamInfo::new` rejects rate / width,
`Err` at the first block with a sample outside the width, `Ok(stream)` otherwise, following the model's total `encodeStream`). -/
theorem C03G_driver_mem_total_any (exp : Bool) (c : Gen.Encoder) (hv : Gen.Encoder.verify exp c = true) (featPar : Bool)
    (par : Gen.Encoder → Gen.Source.MemSource → Nat → M (Option Gen.Writer.Stream))
    (md5f : List Nat → List Nat) (s1 : Nat → List (List Int)) (s2 : Nat → List Int) (s3 : Nat → Gen.Coding.FrameBuf)
    (chans : List (List Int)) (bps rate total : Nat) (log : List OEvent)
    (hmt : c.multithread = false) (hst : ∀ n, C09Gen.StereoBuf (s3 n))
    (hch : 1 ≤ chans.length ∧ chans.length ≤ 8) (hlen : ∀ x ∈ chans, x.length = total) (htot : total < 2 ^ 36)
    (hb : 1 ≤ bps ∧ bps ≤ 24)
    (hlogok : ∀ e ∈ log, e.Ok) (hshape : FramesLogOk (subCfgOf c.subframe_coding) (blocksOf c.block_size chans) log)
    (hlog : C09Gen.LogFits log) (hnb : (total + c.block_size - 1) / c.block_size < 2 ^ 31)
    (hmd : ∀ l, (md5f l).length = 16) :
    ∀ fuel, (total + c.block_size - 1) / c.block_size < fuel →
      encode_with_fixed_block_size featPar memOps par md5f s1 s2 s3 fuel c
        (Gen.Source.MemSource.from_samples (Rfc.interleave chans) chans.length bps rate) c.block_size log ≠ none := by
  intro fuel hf
  obtain ⟨hmax, hfo, h32, h32767, _⟩ := verify_limits exp c hv
  cases hn : FlacVerif.StreamInfo.new rate chans.length bps with
  | none =>
    rw [driver_mem_new_err featPar par md5f s1 s2 s3 fuel c _ _ bps rate c.block_size log hmt hn]
    simp
  | some i0 =>
    have hfb : FlacVerif.FrameBuf.withSize chans.length c.block_size =
        some ⟨List.replicate (c.block_size * chans.length) 0, c.block_size, chans.length, 0⟩ :=
      SourceLemmas.withSize_some.mpr ⟨⟨hch.1, hch.2, h32, h32767⟩, rfl⟩
    by_cases hex : ∃ i, i < (total + c.block_size - 1) / c.block_size ∧
        ∃ x ∈ blockAt chans c.block_size i, ∃ v ∈ x, SubFrame.inRange bps v = false
    · obtain ⟨j0, hj0, ⟨xb, hxb, vb, hvb, hvr⟩, hfirst⟩ := first_bad _ _ hex
      have hgood : ∀ i, i < j0 → ∀ x ∈ blockAt chans c.block_size i, ∀ v ∈ x, SubFrame.inRange bps v = true :=
        fun i hi x hx v hvx => Bool.of_not_eq_false fun hr => hfirst i hi ⟨x, hx, v, hvx, hr⟩
      have hbad : ∃ cc, cc < chans.length ∧ ∃ v ∈ (blockAt chans c.block_size j0).getD cc [], SubFrame.inRange bps v = false := by
        obtain ⟨cc, hcc, hget⟩ := List.getElem_of_mem hxb
        refine ⟨cc, by simpa [blockAt] using hcc, vb, ?_, hvr⟩
        rw [List.getD_eq_getElem?_getD, List.getElem?_eq_getElem hcc, Option.getD_some, hget]
        exact hvb
      have hsplit : blocksOf c.block_size chans = (List.range' 0 j0).map (blockAt chans c.block_size) ++
          (List.range' j0 ((total + c.block_size - 1) / c.block_size - j0)).map (blockAt chans c.block_size) := by
        rw [Strict.blocksOf_eq c.block_size chans total hch.1 hlen, List.range_eq_range', ← List.map_append]
        congr 1
        have := List.range'_append (s := 0) (m := j0) (n := (total + c.block_size - 1) / c.block_size - j0) (step := 1)
        simp only [Nat.one_mul, Nat.zero_add] at this
        rw [this]; congr 1; omega
      rw [hsplit] at hshape
      obtain ⟨fs, henc, _⟩ := encodeFrames_total (subCfgOf c.subframe_coding) (stereoCfgOf c.stereo_coding) bps rate chans.length
        c.block_size hch (by omega) hb hmax ((List.range' 0 j0).map (blockAt chans c.block_size)) 0 log (by
          intro b hbm
          simp only [List.mem_map, List.mem_range'_1] at hbm
          obtain ⟨i, ⟨_, hi⟩, rfl⟩ := hbm
          exact Strict.block_ok c.block_size chans total chans.length bps (by omega) hch.1 rfl hlen i (by omega) (hgood i (by omega)))
        (by simp; omega) hlogok (framesLogOk_prefix _ _ _ _ hshape)
      rw [C03G_driver_mem_err featPar par md5f s1 s2 s3 c chans chans.length bps rate c.block_size total j0 log _ i0 _ fs hmt hn hfb
        hst hb (by simpa [subCfgOf] using hmax) (by simp [subCfgOf] at hfo; omega) rfl hlen (by omega) hj0 (by omega) hgood hbad henc
        hlog hlogok fuel (by omega)]
      simp
    · -- every sample is inside the width: the model's stream entry point is total (C07_total), and the driver returns its stream
      have hx : ∀ x ∈ chans, ∀ v ∈ x, SubFrame.inRange bps v = true := by
        intro x hx v hvx
        refine Bool.of_not_eq_false fun hr => hex ?_
        obtain ⟨j, hj, hm⟩ := mem_chunk x c.block_size (by omega) v hvx
        rw [hlen x hx] at hj
        exact ⟨j, hj, (x.drop (j * c.block_size)).take c.block_size, List.mem_map.2 ⟨x, hx, rfl⟩, v, hm, hr⟩
      have hbl := Strict.blocksOf_length c.block_size chans total hch.1 hlen
      obtain ⟨s, hs⟩ := C07_total exp c hv md5f chans bps rate log total hch hlen htot hb hx hlogok hshape
      obtain ⟨G, hg, _⟩ := C03G_driver_mem_stream featPar par md5f s1 s2 s3 c chans chans.length bps rate c.block_size total log _ i0 _ s
        hmt hn hfb hst hb (by simpa [subCfgOf] using hmax) (by simp [subCfgOf] at hfo; omega) rfl hlen hx (by omega) hs hlog hlogok
        (by rw [hbl]; exact hnb) hmd fuel (by rw [hbl]; exact hf)
      rw [hg]
      simp

/-- **no panic on the stream entry point, in-range input**: `C03G_driver_mem_total_any` for samples inside the width (`hx` is
not needed: the statement is that of `C03G_driver_mem_total_any`). -/
theorem C03G_driver_mem_total (exp : Bool) (c : Gen.Encoder) (hv : Gen.Encoder.verify exp c = true) (featPar : Bool)
    (par : Gen.Encoder → Gen.Source.MemSource → Nat → M (Option Gen.Writer.Stream))
    (md5f : List Nat → List Nat) (s1 : Nat → List (List Int)) (s2 : Nat → List Int) (s3 : Nat → Gen.Coding.FrameBuf)
    (chans : List (List Int)) (bps rate total : Nat) (log : List OEvent)
    (hmt : c.multithread = false) (hst : ∀ n, C09Gen.StereoBuf (s3 n))
    (hch : 1 ≤ chans.length ∧ chans.length ≤ 8) (hlen : ∀ x ∈ chans, x.length = total) (htot : total < 2 ^ 36)
    (hb : 1 ≤ bps ∧ bps ≤ 24) (hx : ∀ x ∈ chans, ∀ v ∈ x, SubFrame.inRange bps v = true)
    (hlogok : ∀ e ∈ log, e.Ok) (hshape : FramesLogOk (subCfgOf c.subframe_coding) (blocksOf c.block_size chans) log)
    (hlog : C09Gen.LogFits log) (hnb : (total + c.block_size - 1) / c.block_size < 2 ^ 31)
    (hmd : ∀ l, (md5f l).length = 16) :
    ∀ fuel, (total + c.block_size - 1) / c.block_size < fuel →
      encode_with_fixed_block_size featPar memOps par md5f s1 s2 s3 fuel c
        (Gen.Source.MemSource.from_samples (Rfc.interleave chans) chans.length bps rate) c.block_size log ≠ none :=
  C03G_driver_mem_total_any exp c hv featPar par md5f s1 s2 s3 chans bps rate total log hmt hst hch hlen htot hb hlogok hshape hlog hnb hmd

end C03GenErr
end FlacVerif
