/-
C08Gen3 — `encode_to_utf8like` (src/component/bitrepr.rs), the last function of the writer that part `writer` takes as a
parameter, is tied to the source: the hand model `encodeUtf8like` (Model/Codes.lean, used by `FrameHeader.bits/ops`,
`C02_utf8_strict`, `C08G_header_ops`) equals the code generated from the current text (`Gen/Utf8.lean`, part `utf8`,
tools/translate_utf8.py), in both cargo profiles. No hypothesis on `val` is needed: beyond 2^64 both sides are `Err` as well.

The Rust code keeps the bits still to be written at the top of a 64-bit register and shifts each group out to the left.
With `n` continuation bytes to go the register holds `v % 2 ^ (6 n)` in its top `6 n` bits (`tail_loop`); the bytes that
come out are those of `Lemmas/Utf8Code`.
-/
import FlacVerif.Gen.Utf8
import FlacVerif.Theorems.C08Gen
import FlacVerif.Lemmas.Utf8Code
import FlacVerif.Lemmas.SinkPrelude
namespace FlacVerif.C08Gen3
open FlacVerif.Gen.Sink FlacVerif.Gen.Utf8 FlacVerif.C08Gen

theorem leadingZeros_le (w v : Nat) : Gen.Headers.leadingZeros w v ≤ w := by
  unfold Gen.Headers.leadingZeros; split <;> omega

/-! ### shifts of a value `x` held in the top `k` bits of a 64-bit register, as `x * 2 ^ (64 - k)` -/

theorem shlU_top (x k : Nat) (hx : x < 2 ^ k) (hk : k ≤ 64) : shlU 64 x (64 - k) = x * 2 ^ (64 - k) := by
  have h := Nat.mul_lt_mul_of_lt_of_le hx (Nat.le_refl (2 ^ (64 - k))) (Nat.two_pow_pos _)
  rw [← Nat.pow_add, Nat.add_sub_of_le hk] at h
  rw [shlU, Nat.mod_eq_of_lt h]

/-- shifting right until `j` bits are left reads the top `j` of the `k` bits -/
theorem shrU_top (x k j i : Nat) (hk : k ≤ 64) (hi : i + j = k) : shrU (x * 2 ^ (64 - k)) (64 - j) = x / 2 ^ i := by
  rw [shrU, show 64 - j = 64 - k + i by omega, Nat.pow_add, Nat.mul_comm (2 ^ (64 - k)),
    Nat.mul_div_mul_right _ _ (Nat.two_pow_pos _)]

/-- shifting left by `j` drops the top `j` of the `k` bits -/
theorem shlU_top_drop (x k j i : Nat) (hk : k ≤ 64) (hi : i + j = k) :
    shlU 64 (x * 2 ^ (64 - k)) j = x % 2 ^ i * 2 ^ (64 - i) := by
  rw [shlU, Nat.mul_assoc, ← Nat.pow_add, show 64 - k + j = 64 - i by omega,
    show 2 ^ 64 = 2 ^ i * 2 ^ (64 - i) by rw [← Nat.pow_add, Nat.add_sub_of_le (by omega)], Nat.mul_mod_mul_right]

/-- One turn of the loop over the continuation bytes: the top six of the `6 (n + 1)` bits in the register are the
next group of `v`, and shifting them out leaves the low `6 n`. -/
theorem tail_step (v n : Nat) (hk : 6 * (n + 1) ≤ 64) :
    shrU (v % 2 ^ (6 * (n + 1)) * 2 ^ (64 - 6 * (n + 1))) 58 = v / 64 ^ n % 64 ∧
    shlU 64 (v % 2 ^ (6 * (n + 1)) * 2 ^ (64 - 6 * (n + 1))) 6 = v % 2 ^ (6 * n) * 2 ^ (64 - 6 * n) := by
  constructor
  · rw [shrU_top _ _ 6 (6 * n) hk rfl, Nat.mul_succ, Nat.pow_add, Nat.mod_mul_right_div_self, Nat.pow_mul]
  · rw [shlU_top_drop _ _ 6 (6 * n) hk rfl, Nat.mul_succ, Nat.pow_add, Nat.mod_mul_right_mod]

/-- The loop (its body `f` ignores the index): with `n` turns to go the register holds the low `6 n` bits of `v` at its
top, and the bytes written are `utf8Tail n v`. -/
theorem tail_loop (v : Nat) (f : Nat → Nat × List Nat → Option (Nat × List Nat))
    (hf : ∀ i val ret, f i (val, ret) = (pushCap 7 ret (128 ||| shrU val 58 % 2 ^ 8)).bind fun ret => some (shlU 64 val 6, ret))
    (l : List Nat) (n : Nat) (ret : List Nat) (hn : l.length = n) (hret : ret.length + n ≤ 7) :
    forO l (v % 2 ^ (6 * n) * 2 ^ (64 - 6 * n), ret) f = some (0, ret ++ utf8Tail n v) := by
  subst hn
  induction l generalizing ret with
  | nil =>
    rw [forO, List.length_nil, Nat.mul_zero, Nat.pow_zero, Nat.mod_one, Nat.zero_mul, show utf8Tail 0 v = [] from rfl,
      List.append_nil]
  | cons i l ih =>
    rw [List.length_cons] at hret ⊢
    obtain ⟨hs, hl⟩ := tail_step v l.length (by omega)
    have hd : v / 64 ^ l.length % 64 < 64 := Nat.mod_lt _ (by decide)
    rw [forO, hf, hs, hl, pushCap, if_pos (by omega), Option.bind_some, Option.bind_some,
      ih _ (by rw [List.length_append, List.length_singleton]; omega), utf8Tail_succ,
      Nat.mod_eq_of_lt (Nat.lt_trans hd (by decide)), or_add 6 2 _ hd, List.append_assoc, List.singleton_append]

/-- `head_byte` of the Rust code, computed from a register `r` whose bits from `58 + t` up are `x`: the byte of `utf8_head` -/
theorem head_byte (dbg : Bool) (t r x : Nat) (ht1 : 1 ≤ t) (ht6 : t ≤ 6) (hr : shrU r (64 - (6 - t)) = x)
    (hx : x < 2 ^ (6 - t)) :
    (if t = 6 then some 254 else
      UTF8_HEADS[t]?.bind fun v9 => (subU dbg 64 64 (6 - t)).bind fun v10 => (shAmt dbg 64 v10).bind fun v11 =>
        some (v9 ||| (shrU r v11 &&& 255) % 2 ^ 8)) = some (256 - 2 ^ (7 - t) + x) := by
  rw [← utf8_head t x ht1 ht6 hx]
  by_cases h6 : t = 6
  · rw [if_pos h6, if_pos h6]
  · have ht : t < [128, 192, 224, 240, 248, 252, 254].length := Nat.lt_succ_of_le ht6
    have hx8 : x < 2 ^ 8 := Nat.lt_of_lt_of_le hx (Nat.pow_le_pow_right (by decide) (by omega))
    rw [if_neg h6, if_neg h6, UTF8_HEADS, List.getElem?_eq_getElem ht, Option.bind_some,
      subU_ok dbg 64 _ _ (show 6 - t ≤ 64 by omega), Option.bind_some,
      shAmt_ok dbg 64 _ (show 64 - (6 - t) < 64 by omega), Option.bind_some, hr, (Nat.and_two_pow_sub_one_eq_mod x 8 : x &&& 255 = x % 256), Nat.mod_eq_of_lt hx8,
      Nat.mod_eq_of_lt hx8, Nat.mod_eq_of_lt hx, List.getD_eq_getElem?_getD, List.getElem?_eq_getElem ht,
      Option.getD_some]

/-- `encode_to_utf8like` (generated, both profiles) on EVERY natural: the hand model's bytes, `Err` where it has none, never a
panic.  The value sits at the top of a 64-bit register; the head byte takes its `6 - t` leading bits (`head_byte`), the loop the
`t` groups of six below them (`tail_loop`). -/
theorem C08G3_encode_to_utf8like (dbg : Bool) (v : Nat) :
    encode_to_utf8like dbg v = some (match encodeUtf8like v with | some bs => .ok bs | none => .error ()) := by
  unfold encode_to_utf8like
  simp only [subU_ok dbg 64 _ _ (leadingZeros_le 64 v), Option.bind_some, codeBits_eq]
  by_cases h7 : v < 2 ^ 7
  · rw [encodeUtf8like_small h7, if_pos (Nat.lt_trans h7 (by decide)), if_pos ((bitLen_le_iff v 7).2 h7), pushCap,
      if_pos (by decide), Nat.mod_eq_of_lt (Nat.lt_trans h7 (by decide))]
    rfl
  · by_cases h36 : v < 2 ^ 36
    · obtain ⟨t, ht1, ht6, hx, ht, henc⟩ := encodeUtf8like_multi h7 h36
      rw [henc, if_pos (Nat.lt_trans h36 (by decide))]
      -- the bounds as bit lengths, which is what the code compares
      replace h7 : ¬ bitLen v ≤ 7 := mt (bitLen_le_iff v 7).1 h7
      replace h36 : ¬ bitLen v > 36 := Nat.not_lt_of_le ((bitLen_le_iff v 36).2 h36)
      replace ht : (bitLen v - 2) / 5 = t := by simp only [utf8likeBytesize, h7, if_false] at ht; omega
      -- none of the checked operations overflows and none of the three assertions fires; `capacity` is `5 t + 6`
      have hcb : 5 * t + 6 ≥ bitLen v := by omega
      have hk : 5 * t + 6 ≤ 64 := by omega
      simp only [if_neg h7, if_neg h36, Option.bind_some, ht, subU_ok dbg 64 _ _ (show 2 ≤ bitLen v by omega),
        req_ok _ (decide_eq_true ht1), req_ok _ (decide_eq_true ht6), mulU_ok dbg 64 _ _ (show t * 6 < 2 ^ 64 by omega),
        addU_ok dbg 64 _ _ (show t * 6 + 6 < 2 ^ 64 by omega), subU_ok dbg 64 _ _ (show t ≤ t * 6 + 6 by omega),
        show t * 6 + 6 - t = 5 * t + 6 by omega, req_ok _ (decide_eq_true hcb), subU_ok dbg 64 _ _ ht6, subU_ok dbg 64 _ _ hk,
        shAmt_ok dbg 64 _ (show 64 - (5 * t + 6) < 64 by omega)]
      -- `v` goes to the top `5 t + 6` bits; the head byte takes the `6 - t` above the `6 t` of the tail
      have hi : 6 * t + (6 - t) = 5 * t + 6 := by omega
      have hr := shrU_top v _ (6 - t) (6 * t) hk hi
      rw [Nat.pow_mul] at hr
      rw [shlU_top v _ ((bitLen_le_iff v _).1 hcb) hk, head_byte dbg t _ _ ht1 ht6 hr hx, Option.bind_some, pushCap,
        if_pos (by decide), Option.bind_some, shAmt_ok dbg 64 _ (show 6 - t < 64 by omega), Option.bind_some,
        shlU_top_drop v _ (6 - t) (6 * t) hk hi,
        tail_loop v _ (fun _ _ _ => rfl) (rangeL 0 t) t _ (List.length_range' ..) (by show 1 + t ≤ 7; omega)]
      rfl
    · have hb : 36 < bitLen v := Nat.lt_of_not_le (mt (bitLen_le_iff v 36).1 h36)
      have hcb : 36 < (if v < 2 ^ 64 then bitLen v else 64) := by split <;> omega
      rw [encodeUtf8like_big hb, if_neg (by omega), if_pos hcb]

/-- For every value: `Err` exactly above 36 bits, never a panic (neither the three `assert!`s nor an `unwrap` nor an index can
fire, in either profile), the same bytes as the hand model -/
theorem C08G3_utf8_cases (dbg : Bool) (v : Nat) :
    (bitLen v ≤ 36 → ∃ bs, encode_to_utf8like dbg v = some (.ok bs) ∧ encodeUtf8like v = some bs) ∧
    (36 < bitLen v → encode_to_utf8like dbg v = some (.error ()) ∧ encodeUtf8like v = none) ∧
    encode_to_utf8like dbg v ≠ none := by
  have h := C08G3_encode_to_utf8like dbg v
  refine ⟨fun hb => ?_, fun hb => ?_, by rw [h]; exact Option.some_ne_none _⟩
  · obtain ⟨bs, he, -⟩ := C08_utf8 v ((bitLen_le_iff v 36).1 hb)
    exact ⟨bs, by rw [h, he], he⟩
  · have he := encodeUtf8like_big hb
    exact ⟨by rw [h, he], he⟩

/-- the parameter of `Gen.Writer.FrameHeader.write` / `Frame.write` / `Stream.write` that stands for `encode_to_utf8like`,
instantiated with the GENERATED function (`none` = `Err`; a panic would also be `none`, but `utf8Exact` shows there is none) -/
def utf8Param (dbg : Bool) (v : Nat) : Option (List Nat) :=
  match encode_to_utf8like dbg v with
  | some (.ok bs) => some bs
  | _ => none

/-- the `_exact` companion parameter: the generated function does not panic -/
def utf8Exact (dbg : Bool) (v : Nat) : Bool := (encode_to_utf8like dbg v).isSome

theorem C08G3_param (dbg : Bool) : utf8Param dbg = encodeUtf8like ∧ utf8Exact dbg = fun _ => true := by
  constructor
  · funext v
    simp only [utf8Param, C08G3_encode_to_utf8like dbg v]
    cases encodeUtf8like v <;> rfl
  · funext v
    simp [utf8Exact, C08G3_encode_to_utf8like dbg v]

/-- The C08 fact: the number of bytes written is the generated `utf8like_bytesize`, for every value the encoder accepts -/
theorem C08G3_bytesize (dbg : Bool) (v : Nat) (hv : v < 2 ^ 36) :
    ∃ bs, encode_to_utf8like dbg v = some (.ok bs) ∧ bs.length = Gen.Writer.utf8like_bytesize v := by
  obtain ⟨bs, he, hl, -⟩ := C08_utf8 v hv
  exact ⟨bs, by rw [C08G3_encode_to_utf8like, he], by rw [hl, C08G_utf8like_bytesize v (Nat.lt_trans hv (by decide))]⟩

/-- `C08G_header_ops` with the parameter discharged: `FrameHeader::write` with the GENERATED `encode_to_utf8like` (both
profiles) issues the hand model's header operations -/
theorem C08G3_header_write_closed (dbg : Bool) (p8 : CrcParams) (g : Gen.Writer.FrameHeader) (hc : ChanOk g.channel_assignment) :
    Gen.Writer.FrameHeader.write (utf8Param dbg) (utf8Exact dbg) scratchBytes (crc p8) g = (hdrOfGen g).ops p8 := by
  rw [(C08G3_param dbg).1]
  exact C08G_header_ops p8 g _ hc

/-- the `_exact` side: the encoder contributes no panic condition to `FrameHeader::write` -/
theorem C08G3_header_write_exact_closed (dbg : Bool) (bs : List Op → List Nat) (ck : List Nat → Nat) (g : Gen.Writer.FrameHeader) :
    Gen.Writer.FrameHeader.write_exact (utf8Param dbg) (utf8Exact dbg) bs ck g
      = Gen.Writer.FrameHeader.write_exact encodeUtf8like (fun _ => true) bs ck g := by
  rw [(C08G3_param dbg).1, (C08G3_param dbg).2]

example : encode_to_utf8like true 300 = some (.ok [0xC4, 0xAC]) ∧ encode_to_utf8like false (2 ^ 36 - 1) = some (.ok [0xFE, 0xBF, 0xBF, 0xBF, 0xBF, 0xBF, 0xBF])
    ∧ encode_to_utf8like true (2 ^ 36) = some (.error ()) := by
  have h1 : encodeUtf8like 300 = some [0xC4, 0xAC] := by decide
  have h2 : encodeUtf8like (2 ^ 36 - 1) = some [0xFE, 0xBF, 0xBF, 0xBF, 0xBF, 0xBF, 0xBF] := by decide
  have h3 : encodeUtf8like (2 ^ 36) = none := by decide
  simp only [C08G3_encode_to_utf8like, h1, h2, h3, and_self]
end FlacVerif.C08Gen3
