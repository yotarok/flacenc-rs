/-
C07, second half — "Every accepted configuration encodes every valid input without panicking."

The functional encoder (`Model/Encode.lean`, `Model/EncodeStream.lean`) returns `none` at a panic site of
the Rust code (overflow-checked arithmetic, `assert!`, `expect`) or when the oracle log is exhausted or
ill-shaped.  `Total.FramesLogOk` says the log has the SHAPE the encoder consumes for this input (the `est`
events of the `ApproxEnt` fixed stage, then the `qlpc` event of the LPC stage, sub-frame after sub-frame,
the two extra sub-frames of the stereo trial included), so that `none` can only mean a panic site.  The
theorems below say: with a log of the right shape whose parameter sets satisfy `OEvent.Ok` (in particular: at
most `maxLpcOrder = 24` coefficients, the capacity of the LPC warm-up vector — a panic site of the code and of the
model, `C07_lpcCandidate_over_capacity`), there is none.

Nothing else is asked of the quantised LPC parameter sets: under
its guard `maxabs·(Σ|coef| + 1) < i32::MAX` the checked `i32` path of `compute_error` never overflows
(`C07_computeError32_total`), the `i64` path reports values that are not FLAC residuals through its flag
(`C07_computeError_flag`), and `estimated_qlpc` drops the candidate in that case (`C07_lpcCandidate_total`).
`C07_i32min_dropped`, `C07_i32min_16bit_dropped` and `C07_sub_overflow_dropped` revisit the witnesses on
which the code before the fix reached a panic site (`Total.computeErrorOld` is that old dispatch): the
fixed `compute_error` returns with flag `false` on each of them and `encode_subframe` returns a sub-frame.
-/
import FlacVerif.Lemmas.TotalStream
import FlacVerif.Lemmas.ExampleInputs
namespace FlacVerif
open Total

/-- **The checked `i32` path never overflows.** Under the guard `maxabs(signal)·(Σ|coef| + 1) < i32::MAX`
of `compute_error` — for ANY coefficients, shift and signal; no hypothesis on the samples is needed, the
guard bounds them — no product, no partial sum of the accumulator and no final subtraction
`x[t] - (acc >> shift)` leaves the `i32` range, at any position `t` (warm-up positions included):
`compute_error_impl::<i32>` returns the exact values, and every exact error is smaller in absolute value
than `2^31 - 1` (so none is `i32::MIN`). -/
theorem C07_computeError32_total (coefs : List Int) (shift : Nat) (xs : List Int)
    (hg : (xs.foldl (fun m x => max m x.natAbs) 0) * ((coefs.foldl (fun s c => s + c.natAbs) 0) + 1) < 2 ^ 31 - 1) :
    computeError32 coefs shift xs =
      some ((List.range xs.length).map fun t => if t < coefs.length then 0 else Strict.errE coefs shift xs t) ∧
    ∀ t, (Strict.errE coefs shift xs t).natAbs < 2 ^ 31 - 1 :=
  computeError32_total coefs shift xs hg

/-- **`compute_error` never panics**, for ANY coefficients, shift and signal; its buffer has one entry per
sample; and when its flag is `true` every entry lies strictly inside `(-2^31, 2^31)` — `encode_signbit`
never meets `i32::MIN` — and the entries after the warm-up are the exact LPC residual. -/
theorem C07_computeError_total (coefs : List Int) (shift : Nat) (xs : List Int) :
    ∃ errors fits, computeError coefs shift xs = some (errors, fits) ∧ errors.length = xs.length ∧
      (fits = true → (∀ e ∈ errors, -(2 ^ 31 : Int) < e ∧ e < (2 ^ 31 : Int)) ∧
        errors.drop coefs.length = lpcResidual coefs shift xs) :=
  computeError_total coefs shift xs

/-- **The flag is exact**: it is `true` iff every value of the exact LPC residual lies in
`-(2^31-1) ..= 2^31-1`, the range of FLAC residuals (always, on the checked `i32` path). -/
theorem C07_computeError_flag (coefs : List Int) (shift : Nat) (xs errors : List Int) (fits : Bool)
    (h : computeError coefs shift xs = some (errors, fits)) :
    fits = true ↔ ∀ e ∈ lpcResidual coefs shift xs, e.natAbs ≤ 2 ^ 31 - 1 :=
  computeError_flag_iff coefs shift xs errors fits h

/-- **The LPC stage never panics.** For a block of `64 ≤ n < 2^16` samples and ANY parameter set of at most
`maxLpcOrder = 24` coefficients (`qlpc::MAX_ORDER`, the capacity of the warm-up vector of an `Lpc` sub-frame),
`estimated_qlpc` (`compute_error`, Rice parameter search with `encode_signbit`, residual construction, warm-up
vector) consumes its `qlpc` event and returns; it returns a candidate iff every value of the exact
LPC residual is a FLAC residual, and drops the candidate otherwise. -/
theorem C07_lpcCandidate_total (cfg : SubCfg) (xs : List Int) (bps : Nat) (c : List Int) (s : Int) (p : Nat)
    (rest : List OEvent) (hn : 64 ≤ xs.length) (hlen : xs.length < 2 ^ 16) (hc : c.length ≤ maxLpcOrder) :
    ∃ f, lpcCandidate cfg xs bps (.qlpc c s p :: rest) = some (f, rest) ∧
      (f.isSome = true ↔ ∀ e ∈ lpcResidual c s.toNat xs, e.natAbs ≤ 2 ^ 31 - 1) :=
  let ⟨f, h1, h2, _⟩ := lpcCandidate_total cfg xs bps c s p rest hn hlen hc
  ⟨f, h1, h2⟩

/-- **The bound 24 is exact**: with more than `maxLpcOrder = 24` coefficients (a parameter set `OEvent.Ok` excludes; the
quantiser returns at most `lpc_order ≤ 24` coefficients under a verified configuration) `estimated_qlpc` panics
whenever the exact LPC residual is a FLAC residual — in `encode_residual`, or else at
`heapless::Vec::from_slice(..).expect("LPC order exceeded the maximum")` — and drops the candidate otherwise, for
ANY block. -/
theorem C07_lpcCandidate_over_capacity (cfg : SubCfg) (xs : List Int) (bps : Nat) (c : List Int) (s : Int) (p : Nat)
    (rest : List OEvent) (hc : maxLpcOrder < c.length) :
    lpcCandidate cfg xs bps (.qlpc c s p :: rest) =
      if ∀ e ∈ lpcResidual c s.toNat xs, e.natAbs ≤ 2 ^ 31 - 1 then none else some (none, rest) := by
  obtain ⟨errors, fits, he, hel, her⟩ := computeError_total c s.toNat xs
  have hflag := computeError_flag_iff c s.toNat xs errors fits he
  unfold lpcCandidate
  simp only [he, Option.bind_some]
  cases fits with
  | false =>
    have : ¬ ∀ e ∈ lpcResidual c s.toNat xs, e.natAbs ≤ 2 ^ 31 - 1 := by rw [← hflag]; simp
    rw [if_neg this]
    simp
  | true =>
    have : ∀ e ∈ lpcResidual c s.toNat xs, e.natAbs ≤ 2 ^ 31 - 1 := hflag.mp rfl
    rw [if_pos this]
    have hnc : ¬ c.length ≤ maxLpcOrder := by omega
    simp only [if_true, if_neg hnc]
    cases encodeResidual cfg.maxP errors c.length <;> rfl

/-! ### the witnesses on which the code before the fix reached a panic site -/

namespace C07TotalEx

def minBlock : List Int := (2 ^ 17 : Int) :: List.replicate 63 0
def minBlock16 : List Int := [-(2 ^ 15 : Int), -(2 ^ 15 : Int), -(2 ^ 15 : Int), -(2 ^ 15 : Int), 0] ++ List.replicate 59 1
def subBlock : List Int := (2 ^ 17 : Int) :: (2 ^ 17 : Int) :: List.replicate 62 0

/-- What `encode_subframe` returned: `0` constant, `1` verbatim, `2` fixed, `3` LPC. -/
def kindOf : SubFrame → Nat
  | .constant _ _ _ => 0 | .verbatim _ _ => 1 | .fixed _ _ _ => 2 | .lpc _ _ _ _ _ _ => 3

end C07TotalEx
open C07TotalEx

/-- **The `i32::MIN` witness (i64 path → `i32::MIN`), after the fix.** `coefs = [-16384]`,
`shift = 0`, `precision = 15` satisfies `OEvent.Ok`; on `minBlock` (24 bit) `compute_error` takes the `i64`
path, the exact error at `t = 1` is `0 - (-2^31) = 2^31`, its cast to `i32` is `i32::MIN`.
Before the fix that value went to `encode_signbit`, which overflows (`rice.rs:145`, a panic in the dev
profile). Now `compute_error` does not panic and returns the flag `false` (the wrapped value is still
stored), the LPC candidate is dropped, and `encode_subframe` returns a fixed-predictor sub-frame, consuming
the `qlpc` event. -/
theorem C07_i32min_dropped :
    OEvent.Ok (.qlpc [-16384] 0 15) ∧ (∀ x ∈ minBlock, SubFrame.inRange 24 x = true) ∧
    Strict.lpcWide [-16384] minBlock ∧
    (computeError [-16384] 0 minBlock).map (fun r => (r.1.take 3, r.2)) = some ([0, -(2 ^ 31 : Int), 0], false) ∧
    (computeErrorOld [-16384] 0 minBlock).map (·.take 3) = some [0, -(2 ^ 31 : Int), 0] ∧
    (lpcCandidate ⟨true, true, true, 4, true, 14⟩ minBlock 24 [.qlpc [-16384] 0 15]) = some (none, []) ∧
    (encodeSubframe ⟨true, true, true, 4, true, 14⟩ minBlock 24 [.qlpc [-16384] 0 15]).map
      (fun r => (kindOf r.1, r.2)) = some (2, []) := by
  decide +kernel

/-- **The `i32::MIN` witness with 16-bit audio, after the fix** (four coefficients
`-16384`, `shift = 0`: the prediction at `t = 4` is `4·(-16384)·(-32768) = 2^31`): flag `false`, candidate
dropped, no panic. -/
theorem C07_i32min_16bit_dropped :
    OEvent.Ok (.qlpc [-16384, -16384, -16384, -16384] 0 15) ∧ (∀ x ∈ minBlock16, SubFrame.inRange 16 x = true) ∧
    Strict.lpcWide [-16384, -16384, -16384, -16384] minBlock16 ∧
    (computeError [-16384, -16384, -16384, -16384] 0 minBlock16).map (fun r => (r.1.take 5, r.2))
      = some ([0, 0, 0, 0, -(2 ^ 31 : Int)], false) ∧
    (lpcCandidate ⟨true, true, true, 4, true, 14⟩ minBlock16 16 [.qlpc [-16384, -16384, -16384, -16384] 0 15])
      = some (none, []) ∧
    (encodeSubframe ⟨true, true, true, 4, true, 14⟩ minBlock16 16 [.qlpc [-16384, -16384, -16384, -16384] 0 15]).map
      (fun r => (kindOf r.1, r.2)) = some (2, []) := by
  decide +kernel

/-- **The witness of the overflowing final subtraction (the old guard did not cover it), after the
fix.** `coefs = [-16383]`, `shift = 0`, `precision = 15` satisfies `OEvent.Ok`; on `subBlock` the OLD guard
held (`2^17·16383 = 2^31 - 2^17 < i32::MAX`), the `i32` path was taken, and at `t = 1`
`x[1] - acc = 2^17 + 2^31 - 2^17 = 2^31` overflowed `i32` (`lpc.rs:361`, a panic in the dev profile:
`computeErrorOld … = none`). The NEW guard fails (`2^17·(16383 + 1) = 2^31 ≥ i32::MAX`), the `i64` path is
taken, the flag is `false` (the exact error `2^31` at `t = 1` is not a FLAC residual), the candidate is
dropped, and `encode_subframe` returns a fixed-predictor sub-frame. -/
theorem C07_sub_overflow_dropped :
    OEvent.Ok (.qlpc [-16383] 0 15) ∧ (∀ x ∈ subBlock, SubFrame.inRange 24 x = true) ∧
    Strict.lpcWide [-16383] subBlock ∧ Strict.errE [-16383] 0 subBlock 1 = 2 ^ 31 ∧
    computeErrorOld [-16383] 0 subBlock = none ∧
    (computeError [-16383] 0 subBlock).map (fun r => (r.1.take 4, r.2))
      = some ([0, -(2 ^ 31 : Int), 2 ^ 31 - 2 ^ 17, 0], false) ∧
    (lpcCandidate ⟨true, true, true, 4, true, 14⟩ subBlock 24 [.qlpc [-16383] 0 15]) = some (none, []) ∧
    (encodeSubframe ⟨true, true, true, 4, true, 14⟩ subBlock 24 [.qlpc [-16383] 0 15]).map
      (fun r => (kindOf r.1, r.2)) = some (2, []) := by
  decide +kernel

/-- **C07 (totality), sub-frame.** For every sub-frame configuration, every block of fewer than `2^16`
samples of width `1 ≤ bps ≤ 25`, and every oracle log that satisfies `OEvent.Ok` and starts with the
events this sub-frame asks for (`SubLogOk`: shape only, nothing is asked of the parameter set):
`encode_subframe` hits no panic site, and consumes exactly `subTake cfg xs` events. (`maxP` is arbitrary:
the search is total for every `max_p`.) -/
theorem C07_subframe_total (cfg : SubCfg) (xs : List Int) (bps : Nat) (log : List OEvent)
    (hlen : xs.length < 2 ^ 16) (hb : 1 ≤ bps ∧ bps ≤ 25)
    (hx : ∀ x ∈ xs, SubFrame.inRange bps x = true) (hlog : ∀ e ∈ log, e.Ok)
    (hshape : SubLogOk cfg xs log) :
    ∃ s, encodeSubframe cfg xs bps log = some (s, log.drop (subTake cfg xs)) :=
  encodeSubframe_total cfg xs bps log hlen hb hx hlog hshape

/-- **`SubLogOk` is exact**: under the same hypotheses, `encode_subframe` returns iff `SubLogOk` holds — `none`
never means "a panic site was reached", only "the log does not supply the events asked for". -/
theorem C07_SubLogOk_exact (cfg : SubCfg) (xs : List Int) (bps : Nat) (log : List OEvent)
    (hlen : xs.length < 2 ^ 16) (hb : 1 ≤ bps ∧ bps ≤ 25)
    (hx : ∀ x ∈ xs, SubFrame.inRange bps x = true) (hlog : ∀ e ∈ log, e.Ok) :
    (encodeSubframe cfg xs bps log).isSome = true ↔ SubLogOk cfg xs log := by
  constructor
  · intro h
    obtain ⟨⟨s, log'⟩, hes⟩ := Option.isSome_iff_exists.1 h
    exact (Strict.encodeSubframe_emits cfg xs bps log log' s hes).2.1
  · intro h
    obtain ⟨s, hs⟩ := encodeSubframe_total cfg xs bps log hlen hb hx hlog h
    rw [hs]; rfl

/-- **C07 (totality), frame.** Any number `≥ 1` of channels of equal length `1 ≤ n < 2^16`, width
`1 ≤ bps ≤ 24` (the side channel is one bit wider), any rate and frame number: `encode_frame` hits no
panic site (per-channel loop, stereo trial with its two extra sub-frames, `BlockSizeSpec::from_size`,
header construction). -/
theorem C07_frame_total (cfg : SubCfg) (st : StereoCfg) (chans : List (List Int)) (bps rate number n : Nat)
    (log : List OEvent)
    (hch : 1 ≤ chans.length) (hlen : ∀ c ∈ chans, c.length = n) (hn : 1 ≤ n ∧ n < 2 ^ 16)
    (hb : 1 ≤ bps ∧ bps ≤ 24) (hx : ∀ c ∈ chans, ∀ x ∈ c, SubFrame.inRange bps x = true)
    (hlog : ∀ e ∈ log, e.Ok) (hshape : FrameLogOk cfg chans log) :
    ∃ f, encodeFrame cfg st chans bps rate number log = some (f, log.drop (frameTake cfg chans)) :=
  encodeFrame_total cfg st chans bps rate number n log hch hlen hn hb hx hlog hshape

/-- **C07 (totality), stream.** `encode_with_fixed_block_size`: every frame is encoded, `Frame::count_bits`
succeeds on every frame, STREAMINFO is assembled. -/
theorem C07_stream_total (md5 : List Nat → List Nat) (cfg : SubCfg) (st : StereoCfg) (bs : Nat)
    (chans : List (List Int)) (bps rate : Nat) (log : List OEvent) (total : Nat)
    (hch : 1 ≤ chans.length ∧ chans.length ≤ 8) (hlen : ∀ c ∈ chans, c.length = total)
    (hbs : 1 ≤ bs ∧ bs < 2 ^ 16) (hb : 1 ≤ bps ∧ bps ≤ 24)
    (hx : ∀ c ∈ chans, ∀ x ∈ c, SubFrame.inRange bps x = true) (hmax : cfg.maxP ≤ 14)
    (hnb : (total + bs - 1) / bs ≤ 2 ^ 32)
    (hlog : ∀ e ∈ log, e.Ok) (hshape : FramesLogOk cfg (blocksOf bs chans) log) :
    ∃ s, encodeStream md5 cfg st bs chans bps rate log = some (s, log.drop (framesTake cfg (blocksOf bs chans))) := by
  obtain ⟨frames, hf, counts, hc⟩ := encodeFrames_total cfg st bps rate chans.length bs hch hbs.2 hb hmax
    (blocksOf bs chans) 0 log (Strict.blocksOf_ok bs chans total chans.length bps hbs.1 hch.1 rfl hlen hx)
    (by rw [Strict.blocksOf_length bs chans total hch.1 hlen]; omega) hlog hshape
  unfold encodeStream
  simp only [hf, hc, Option.bind_eq_bind, Option.bind_some]
  exact ⟨_, rfl⟩

/-- What the integer pipeline needs from an accepted configuration (via the clauses of `C07_exact`):
Rice parameter limit, fixed order limit, block size within `32..=32767`, LPC order and precision limits. -/
theorem C07_verified_cfg (exp : Bool) (c : Gen.Encoder) (h : Gen.Encoder.verify exp c = true) :
    (subCfgOf c.subframe_coding).maxP ≤ 14 ∧ (subCfgOf c.subframe_coding).fixedMaxOrder ≤ 4 ∧
    32 ≤ c.block_size ∧ c.block_size ≤ 32767 ∧ c.subframe_coding.qlpc.lpc_order ≤ 24 ∧
    1 ≤ c.subframe_coding.qlpc.quant_precision ∧ c.subframe_coding.qlpc.quant_precision ≤ 15 :=
  verify_limits exp c h

/-- **C07 (totality).** Every configuration accepted by `Encoder::verify` encodes every valid input — 1 to
8 channels of equal length `total < 2^36`, `1 ≤ bps ≤ 24` bits, samples in range, any rate — without
reaching a panic site of the integer pipeline, for EVERY admissible oracle: `OEvent.Ok` and shaped as the
encoder consumes it (`FramesLogOk`). No further hypothesis on the quantised LPC parameter sets. -/
theorem C07_total (exp : Bool) (c : Gen.Encoder) (h : Gen.Encoder.verify exp c = true)
    (md5 : List Nat → List Nat) (chans : List (List Int)) (bps rate : Nat) (log : List OEvent) (total : Nat)
    (hch : 1 ≤ chans.length ∧ chans.length ≤ 8) (hlen : ∀ c ∈ chans, c.length = total) (htot : total < 2 ^ 36)
    (hb : 1 ≤ bps ∧ bps ≤ 24) (hx : ∀ c ∈ chans, ∀ x ∈ c, SubFrame.inRange bps x = true)
    (hlog : ∀ e ∈ log, e.Ok)
    (hshape : FramesLogOk (subCfgOf c.subframe_coding) (blocksOf c.block_size chans) log) :
    ∃ s, encodeStream md5 (subCfgOf c.subframe_coding) (stereoCfgOf c.stereo_coding) c.block_size chans bps rate log =
      some (s, log.drop (framesTake (subCfgOf c.subframe_coding) (blocksOf c.block_size chans))) := by
  obtain ⟨hmax, _, h32, h32767, _⟩ := verify_limits exp c h
  refine C07_stream_total md5 _ _ c.block_size chans bps rate log total hch hlen ⟨by omega, by omega⟩ hb hx hmax ?_
    hlog hshape
  apply Nat.div_le_of_le_mul
  omega

/-- Without oracle: LPC disabled and the fixed stage disabled or selecting by exact bit count
(`OrderSel::BitCount`). No hypothesis on the log is left. -/
theorem C07_total_noOracle (exp : Bool) (c : Gen.Encoder) (h : Gen.Encoder.verify exp c = true)
    (hl : c.subframe_coding.use_lpc = false)
    (hf : c.subframe_coding.fixed.order_sel = .BitCount ∨ c.subframe_coding.use_fixed = false)
    (md5 : List Nat → List Nat) (chans : List (List Int)) (bps rate : Nat) (log : List OEvent) (total : Nat)
    (hch : 1 ≤ chans.length ∧ chans.length ≤ 8) (hlen : ∀ c ∈ chans, c.length = total) (htot : total < 2 ^ 36)
    (hb : 1 ≤ bps ∧ bps ≤ 24) (hx : ∀ c ∈ chans, ∀ x ∈ c, SubFrame.inRange bps x = true)
    (hlog : ∀ e ∈ log, e.Ok) :
    ∃ s, encodeStream md5 (subCfgOf c.subframe_coding) (stereoCfgOf c.stereo_coding) c.block_size chans bps rate log =
      some (s, log) := by
  have hf' : (subCfgOf c.subframe_coding).bitCount = true ∨ (subCfgOf c.subframe_coding).useFixed = false := by
    rcases hf with hf | hf
    · left; simp [subCfgOf, hf]
    · right; exact hf
  obtain ⟨h1, h2⟩ := framesLogOk_of_cfg (subCfgOf c.subframe_coding) hl hf' (blocksOf c.block_size chans) log
  have := C07_total exp c h md5 chans bps rate log total hch hlen htot hb hx hlog h1
  rw [h2, List.drop_zero] at this
  exact this

/-- Blocks shorter than `MIN_BLOCK_SIZE_FOR_PREDICTION = 64` (block size `32..=63`): only constant and
verbatim sub-frames, no oracle, no hypothesis on the log. -/
theorem C07_total_smallBlocks (exp : Bool) (c : Gen.Encoder) (h : Gen.Encoder.verify exp c = true)
    (hsmall : c.block_size < 64)
    (md5 : List Nat → List Nat) (chans : List (List Int)) (bps rate : Nat) (log : List OEvent) (total : Nat)
    (hch : 1 ≤ chans.length ∧ chans.length ≤ 8) (hlen : ∀ c ∈ chans, c.length = total) (htot : total < 2 ^ 36)
    (hb : 1 ≤ bps ∧ bps ≤ 24) (hx : ∀ c ∈ chans, ∀ x ∈ c, SubFrame.inRange bps x = true)
    (hlog : ∀ e ∈ log, e.Ok) :
    ∃ s, encodeStream md5 (subCfgOf c.subframe_coding) (stereoCfgOf c.stereo_coding) c.block_size chans bps rate log =
      some (s, log) := by
  obtain ⟨h1, h2⟩ := framesLogOk_short (subCfgOf c.subframe_coding) (blocksOf c.block_size chans) log
    (blocksOf_short c.block_size chans hsmall)
  have := C07_total exp c h md5 chans bps rate log total hch hlen htot hb hx hlog h1
  rw [h2, List.drop_zero] at this
  exact this

/-! ### non-vacuity -/

namespace C07TotalEx
open C01StrictEx

set_option maxRecDepth 100000 in
/-- Fixed stage by entropy estimates and LPC stage: the log `5 × est, qlpc [2,-1] 0 3` has the shape
`encode_subframe` consumes for `smooth64`; the theorem applies, and the kernel confirms the result and that
all six events are consumed. -/
example : SubLogOk ⟨true, true, true, 4, false, 14⟩ smooth64
    [.est 0 900, .est 1 700, .est 2 300, .est 3 400, .est 4 500, .qlpc [2, -1] 0 3] ∧
    subTake ⟨true, true, true, 4, false, 14⟩ smooth64 = 6 := by
  decide

set_option maxRecDepth 100000 in
example : ((encodeSubframe ⟨true, true, true, 4, false, 14⟩ smooth64 16
    [.est 0 900, .est 1 700, .est 2 300, .est 3 400, .est 4 500, .qlpc [2, -1] 0 3]).map (·.2)) = some [] := by
  decide +kernel

set_option maxRecDepth 100000 in
/-- `C07_subframe_total` applies to the witness on which the code before the fix reached a panic site
(`C07_i32min_dropped`): the log `qlpc [-16384] 0 15` is `OEvent.Ok` and has the right shape for `minBlock`. -/
example : ∃ s, encodeSubframe ⟨true, true, true, 4, true, 14⟩ minBlock 24 [.qlpc [-16384] 0 15] = some (s, []) :=
  C07_subframe_total ⟨true, true, true, 4, true, 14⟩ minBlock 24 [.qlpc [-16384] 0 15] (by decide) (by decide)
    (by decide) (by decide)
    (by decide)

set_option maxRecDepth 100000 in
/-- The capacity of the LPC warm-up vector: 24 coefficients pass (`OEvent.Ok`, an LPC candidate is returned), 25 panic
(not `OEvent.Ok`; `C07_lpcCandidate_over_capacity`). -/
example : OEvent.Ok (.qlpc (List.replicate 24 0) 0 1) ∧ ¬ OEvent.Ok (.qlpc (List.replicate 25 0) 0 1) ∧
    ((lpcCandidate ⟨true, true, true, 4, true, 14⟩ smooth64 16 [.qlpc (List.replicate 24 0) 0 1]).map
      fun r => (r.1.map kindOf, r.2)) = some (some 3, []) ∧
    lpcCandidate ⟨true, true, true, 4, true, 14⟩ smooth64 16 [.qlpc (List.replicate 25 0) 0 1] = none ∧
    encodeSubframe ⟨true, true, true, 4, true, 14⟩ smooth64 16 [.qlpc (List.replicate 25 0) 0 1] = none := by
  -- zero coefficients: the exact residual is the signal itself, a FLAC residual; with 25 of them the capacity
  -- site is reached, with 24 a candidate is returned, and it is an `Lpc` sub-frame
  have h25 : lpcCandidate ⟨true, true, true, 4, true, 14⟩ smooth64 16 [.qlpc (List.replicate 25 0) 0 1] = none := by
    rw [C07_lpcCandidate_over_capacity _ _ _ _ _ _ _ (by decide)]
    exact if_pos (by decide +kernel)
  have h24 : ((lpcCandidate ⟨true, true, true, 4, true, 14⟩ smooth64 16 [.qlpc (List.replicate 24 0) 0 1]).map
      fun r => (r.1.map kindOf, r.2)) = some (some 3, []) := by
    obtain ⟨f, hf, hiff, hkind⟩ := lpcCandidate_total ⟨true, true, true, 4, true, 14⟩ smooth64 16
      (List.replicate 24 0) 0 1 [] (by decide) (by decide) (by decide)
    obtain ⟨sf, rfl⟩ := Option.isSome_iff_exists.1 (hiff.2 (by decide +kernel))
    obtain ⟨res, rfl⟩ := hkind sf rfl
    rw [hf]
    rfl
  exact ⟨by decide, by decide, h24, h25,
    encodeSubframe_none_of_lpcCandidate _ _ _ _ (by decide) (by decide) (by decide) (by decide)
      (by decide) rfl (by decide) (by decide) h25⟩

/-- The default configuration (LPC order 10, `ApproxEnt`, block size 4096) is accepted, and its
integer-relevant part is the `SubCfg` the model runs with. -/
example : Gen.Encoder.verify false (Gen.Encoder.default true) = true ∧
    subCfgOf (Gen.Encoder.default true).subframe_coding = ⟨true, true, true, 4, false, 14⟩ ∧
    (Gen.Encoder.default true).block_size = 4096 := by decide

/-- A stream through `C07_total`: the default configuration with block size 32 (accepted), two channels
of 40 samples; no oracle event is needed. -/
example : ∃ s, encodeStream toyMd5 (subCfgOf (Gen.Encoder.default true).subframe_coding)
    (stereoCfgOf (Gen.Encoder.default true).stereo_coding) 32 [streamL, streamR] 16 44100 [] = some (s, []) :=
  C07_total_smallBlocks false { Gen.Encoder.default true with block_size := 32 } (by decide) (by decide)
    toyMd5 [streamL, streamR] 16 44100 [] 40 (by decide) (by decide) (by decide) (by decide) (by decide)
    (by intro e he; cases he)

end C07TotalEx

end FlacVerif
