/-
C08Gen4 — the scratch-sink PARAMETERS of Gen/Writer.lean (`ByteSink_as_slice`, `MemSink_len`; WR_EXTERNAL of part `writer`)
discharged with the GENERATED sinks of part `sink` (Gen/Sink.lean).

A sink satisfying its invariant stores `packBytes` of the bits written (`byte_export_pack`, `word_export_pack`), so the
read-outs `as_slice()`, `len()`, `write_to_byte_slice()` after `clear(); <ops>` are the closed forms the writer's theorems
take as parameters; `FrameHeader.write`, `Frame.write`, `Stream.write` of Gen/Writer are then the hand model's operations.
Remaining parameters: the CRC-8 / CRC-16 `checksum`s only (and the stale buffer / stale sinks, universally quantified).
`Small ops` = every op valid and fewer than 2^64 - 64 bits in all; `hsmall` of the header corollary asks this of the
operations the scratch sink receives (satisfiable: the `example` after `C08G4_header_write_closed`).
-/
import FlacVerif.Theorems.C08Gen3
import FlacVerif.Theorems.C11Gen
namespace FlacVerif.C08Gen4
open FlacVerif.Gen.Sink FlacVerif.C11Gen FlacVerif.C08Gen FlacVerif.C08Gen3 FlacVerif.C11

theorem packBytes_pad : ∀ (n : Nat) (b : Bits) (k : Nat), b.length = n → k < 8 → (b.length + k) % 8 = 0 →
    packBytes (b ++ List.replicate k false) = packBytes b :=
  fun _ b k _ => packBytes_append_zeros b k

/-- the storage of a `ByteSink` satisfying its invariant is the packed form of the bits written -/
theorem byte_export_pack (s : ByteSink) (hi : s.Inv) : s.exportBytes = packBytes s.abs := by
  obtain ⟨k, hk, hst, hlen⟩ := ((ByteSink.stores_iff s _).mpr ⟨hi, rfl⟩).length_eq
  have h := Strict.packBytes_bytesToBits s.exportBytes (by
    intro b hb
    obtain ⟨x, _, rfl⟩ := List.mem_map.mp hb
    exact x.isLt)
  rw [ByteSink.exportBytes, bytesToBits_toNat, hst] at h
  rw [ByteSink.exportBytes, ← h]
  exact packBytes_append_zeros _ k hk (by omega)

/-- `scratch.clear(); <ops on scratch>; scratch.as_slice()` on the generated `MemSink<u8>` (a panic would give `[]`) -/
def genAsSlice (dbg : Bool) (g : MemSink 8) (ops : List Op) : List Nat :=
  match ops.foldlM (genStepByte dbg) (MemSink.clear g) with
  | some g' => (MemSink.as_slice g').map BitVec.toNat
  | none => []

/-- `.. ; sink.len()` on the generated `MemSink<u64>` -/
def genLenWord (dbg : Bool) (g : MemSink 64) (ops : List Op) : Nat :=
  match ops.foldlM (genStepWord dbg) (MemSink.clear g) with
  | some g' => MemSink.len g'
  | none => 0

def genLenByte (dbg : Bool) (g : MemSink 8) (ops : List Op) : Nat :=
  match ops.foldlM (genStepByte dbg) (MemSink.clear g) with
  | some g' => MemSink.len g'
  | none => 0

/-- the op lists a scratch sink receives: valid, and far from 2^64 bits -/
def Small (ops : List Op) : Prop := (∀ op ∈ ops, op.Valid) ∧ (ops.map grow).sum + 64 < 2 ^ 64

/-- A cleared generated `MemSink<u8>` that receives a small op list does not panic and is a `ByteSink` that holds exactly the
ideal bit string. -/
theorem Small.byte_run {ops : List Op} (h : Small ops) (dbg : Bool) (g : MemSink 8) :
    ∃ s', ops.foldlM (genStepByte dbg) (MemSink.clear g) = some (ofByte s') ∧ s'.Inv ∧ s'.abs = idealRun 0 ops ∧
      s'.len = idealLen ops := by
  obtain ⟨s', hs', r⟩ := C11_byte_run ops h.1
  exact ⟨s', (C11G_byte_run dbg (MemSink.new 8) ops ByteSink.inv_empty h.1 ((Nat.zero_add _).symm ▸ h.2)).trans (congrArg _ hs'), r⟩

theorem Small.word_run {ops : List Op} (h : Small ops) (dbg : Bool) (g : MemSink 64) :
    ∃ s', ops.foldlM (genStepWord dbg) (MemSink.clear g) = some (ofWord s') ∧ s'.Inv ∧ s'.abs = idealRun 0 ops ∧
      s'.len = idealLen ops := by
  obtain ⟨s', hs', r⟩ := C11_word_run ops h.1
  exact ⟨s', (C11G_word_run dbg (MemSink.new 64) ops WordSink.inv_empty h.1 ((Nat.zero_add _).symm ▸ h.2)).trans (congrArg _ hs'), r⟩

theorem C11G_readout_as_slice (dbg : Bool) (g : MemSink 8) (ops : List Op) (h : Small ops) :
    genAsSlice dbg g ops = scratchBytes ops := by
  obtain ⟨s', hrun, hinv, habs, _⟩ := h.byte_run dbg g
  rw [genAsSlice, hrun, scratchBytes, ← habs, ← byte_export_pack s' hinv]
  rfl

theorem C11G_readout_len_byte (dbg : Bool) (g : MemSink 8) (ops : List Op) (h : Small ops) :
    genLenByte dbg g ops = idealLen ops := by
  obtain ⟨s', hrun, _, _, hlen⟩ := h.byte_run dbg g
  rw [genLenByte, hrun]
  exact hlen

theorem C11G_readout_len_word (dbg : Bool) (g : MemSink 64) (ops : List Op) (h : Small ops) :
    genLenWord dbg g ops = idealLen ops := by
  obtain ⟨s', hrun, _, _, hlen⟩ := h.word_run dbg g
  rw [genLenWord, hrun]
  exact hlen

open FlacVerif.Gen.Writer in
/-- the statements of the generated `FrameHeader.write` that fill the scratch sink (the first argument of its `bindW`) -/
def headerFill (u : Nat → Option (List Nat)) (self : Gen.Writer.FrameHeader) : W :=
  (let header_word := (65528 + (if self.variable_block_size then 1 else 0))
   emit [Op.writeLsbs 16 header_word 16] <|
   emit [Op.writeLsbs 8 ((((FlacVerif.Gen.Headers.BlockSizeSpec.tag self.block_size_spec) <<< 4) % 256) ||| (FlacVerif.Gen.Headers.SampleRateSpec.tag self.sample_rate_spec)) 8] <|
   seqW (hdrOps (FlacVerif.Gen.Headers.ChannelAssignment.write self.channel_assignment)) <|
   emit [Op.writeLsbs 8 (((FlacVerif.Gen.Headers.SampleSizeSpec.into_tag self.sample_size_spec) <<< 1) % 256) 4] <|
   seqW (if self.variable_block_size then
      (bindO (u self.start_sample_number) fun v =>
       emit [Op.writeBytesAligned v] <|
       some [])
    else
      (bindO (u self.frame_number) fun v =>
       emit [Op.writeBytesAligned v] <|
       some [])) <|
   seqW (hdrOps (FlacVerif.Gen.Headers.BlockSizeSpec.write_extra_bits self.block_size_spec)) <|
   hdrOps (FlacVerif.Gen.Headers.SampleRateSpec.write_extra_bits self.sample_rate_spec))

open FlacVerif.Gen.Writer in
theorem header_write_unfold (u : Nat → Option (List Nat)) (ex : Nat → Bool) (A : List Op → List Nat) (ck : List Nat → Nat)
    (g : Gen.Writer.FrameHeader) :
    Gen.Writer.FrameHeader.write u ex A ck g = bindW (headerFill u g) fun header_buffer =>
      emit [Op.writeBytesAligned (A header_buffer)] <| emit [Op.write 8 (ck (A header_buffer))] <| some [] := rfl

/-- `C08G_header_ops` with BOTH the UTF-8-like encoder and the scratch sink's `as_slice()` read-out instantiated by generated
functions (`Gen/Utf8.lean`, `Gen/Sink.lean`), in both profiles, from any stale scratch sink `g0`; the remaining parameter is
the CRC-8 `checksum`.  `hsmall`: the operations the scratch sink receives are within the sinks' contract. -/
theorem C08G4_header_write_closed (dbg : Bool) (p8 : CrcParams) (g : Gen.Writer.FrameHeader) (g0 : MemSink 8)
    (hc : ChanOk g.channel_assignment) (hsmall : ∀ hb, headerFill encodeUtf8like g = some hb → Small hb) :
    Gen.Writer.FrameHeader.write (utf8Param dbg) (utf8Exact dbg) (genAsSlice dbg g0) (crc p8) g = (hdrOfGen g).ops p8 := by
  rw [← C08G_header_ops p8 g (utf8Exact dbg) hc, (C08G3_param dbg).1, header_write_unfold, header_write_unfold]
  cases hf : headerFill encodeUtf8like g with
  | none => rfl
  | some hb => simp only [Gen.Writer.bindW, C11G_readout_as_slice dbg g0 hb (hsmall hb hf)]

instance (ops : List Op) : Decidable (Small ops) := by unfold Small; infer_instance

/-- `hsmall` is satisfiable: the scratch operations of the example header of C08Gen -/
example : ∃ hb, headerFill encodeUtf8like exHeader = some hb ∧ Small hb := ⟨_, rfl, by decide⟩

def wordBytes (s : WordSink) : List Nat := (s.storage.flatMap beBytes).map BitVec.toNat

theorem wordBytes_len (s : WordSink) : (wordBytes s).length = 8 * s.storage.length := by
  simp only [wordBytes, List.length_map]
  induction s.storage with
  | nil => rfl
  | cons x xs ih => simp [List.flatMap_cons, beBytes_length, ih]; omega

theorem bytesToBits_wordBytes (s : WordSink) : bytesToBits (wordBytes s) = storeBits s.storage := by
  rw [wordBytes, bytesToBits_toNat]
  induction s.storage with
  | nil => rfl
  | cons v st ih =>
    rw [List.flatMap_cons, storeBits_append, ih, ← List.singleton_append, storeBits_append, storeBits_singleton]
    exact congrArg (· ++ _) ((storeBits_bytes v 8 (by decide)).trans (List.take_of_length_le (by simp)))

theorem wordBytes_bit (s : WordSink) (i : Nat) (hi : i < 64 * s.storage.length) :
    ((wordBytes s).getD (i / 8) 0).testBit (7 - i % 8) = s.bitAt i := by
  have h := getD_storeBits (W := 64) (by decide) s.storage i
  rw [← bytesToBits_wordBytes, List.getD_eq_getElem?_getD,
    getElem?_bytesToBits _ i (by rw [wordBytes_len]; omega)] at h
  exact h

theorem wordBytes_bits (s : WordSink) (hi : s.Inv) :
    bytesToBits (wordBytes s) = s.abs ++ List.replicate (64 * s.storage.length - s.len) false := by
  have hs := (WordSink.stores_iff s _).mpr ⟨hi, rfl⟩
  have hl := hs.len
  obtain ⟨k, hk, hst, hlen⟩ := hs.length_eq
  rw [bytesToBits_wordBytes, hst, show 64 * s.storage.length - s.len = k by omega]

theorem packBytes_zeros (q : Nat) : packBytes (List.replicate (8 * q) false) = List.replicate q 0 := by
  have h := Strict.packBytes_bytesToBits (List.replicate q 0) (by intro b hb; simp at hb; omega)
  rwa [← storeBits_ofNat8, List.map_replicate, show BitVec.ofNat 8 0 = 0 from rfl, storeBits_replicate_zero] at h

/-- word-level analogue of `byte_export_pack`: the big-endian bytes of the storage words are `packBytes` of the bits
written, zero-padded to whole words (the shape `wordExport` has) -/
theorem word_export_pack (s : WordSink) (hi : s.Inv) :
    wordBytes s = packBytes s.abs ++ List.replicate ((8 - (packBytes s.abs).length % 8) % 8) 0 := by
  obtain ⟨k, hk, hst, hlen⟩ := ((WordSink.stores_iff s _).mpr ⟨hi, rfl⟩).length_eq
  -- the padding: `k0` bits up to the byte boundary (`m` bytes so far), then `q` whole zero bytes
  obtain ⟨k0, q, hk0, hkq⟩ : ∃ k0 q, k0 < 8 ∧ k = k0 + 8 * q :=
    ⟨k % 8, k / 8, Nat.mod_lt _ (by decide), (Nat.mod_add_div k 8).symm⟩
  obtain ⟨m, hm⟩ : ∃ m, s.abs.length + k0 = 8 * m := ⟨8 * s.storage.length - q, by omega⟩
  have hm' : (s.abs ++ List.replicate k0 false).length = 8 * m := by rw [List.length_append, List.length_replicate, hm]
  have hpad := packBytes_append_zeros s.abs k0 hk0 (by omega)
  have h := Strict.packBytes_bytesToBits (wordBytes s) (by
    intro b hb
    obtain ⟨x, _, rfl⟩ := List.mem_map.mp hb
    exact x.isLt)
  rw [bytesToBits_wordBytes, hst, hkq, ← List.replicate_append_replicate, ← List.append_assoc,
    packBytes_append m _ _ hm', packBytes_zeros, hpad] at h
  have hpl : (packBytes s.abs).length = m := by rw [← hpad]; exact packBytes_length m _ hm'
  rw [← h, hpl]
  congr 2; omega

/-- `sink.clear(); <ops>; sink.write_to_byte_slice(&mut dest)` on the generated `MemSink<u64>` (a panic would give `[]`) -/
def genWordExport (dbg : Bool) (g : MemSink 64) (ops : List Op) (old : List Nat) : List Nat :=
  match ops.foldlM (genStepWord dbg) (MemSink.clear g) with
  | some g' =>
    match MemSink.write_to_byte_slice dbg g' (old.map (BitVec.ofNat 8)) with
    | some d => d.map BitVec.toNat
    | none => []
  | none => []

theorem C11G_readout_word_export (dbg : Bool) (g : MemSink 64) (ops : List Op) (old : List Nat) (h : Small ops)
    (hold : ∀ b ∈ old, b < 256) (hlen : idealLen ops / 8 ≤ old.length) :
    genWordExport dbg g ops old = wordExport ops old := by
  obtain ⟨s', hrun, hinv, habs, hl⟩ := h.word_run dbg g
  rw [idealLen] at hl
  have hsz := hinv.size
  have hgrow : s'.len ≤ (ops.map grow).sum := hl ▸ idealRun_length_le 0 ops
  have hb := h.2
  have hmap := map_toNat_ofNat8 old hold
  have hw := C11G_write_to_byte_slice dbg (by decide) (ofWord s') (old.map (BitVec.ofNat 8))
    (by simp only [ofWord]; omega)
  have hcond : (ofWord s').storage = [] ∨ ((ofWord s').storage.length - 1) * (64 / 8) ≤ (old.map (BitVec.ofNat 8)).length := by
    right
    simp only [ofWord, List.length_map, idealLen, ← hl] at hlen ⊢
    omega
  simp only [genWordExport, hrun, hw, List.length_map]
  have hwb := word_export_pack s' hinv
  simp only [wordExport, ← habs, ← hwb]
  have : (wordBytes s').length = s'.storage.length * (64 / 8) := by rw [wordBytes_len]; omega
  rw [this]
  simp only [List.length_map, ofWord] at hcond
  simp only [wordBytes, ofWord, hcond, if_true, List.map_append, List.map_take, List.map_drop, hmap]

open FlacVerif.Gen.Writer in
/-- the operations the frame's `MemSink<u64>` scratch sink receives (first argument of the `bindW` of the generated `Frame.write`) -/
def frameFill (p8 : CrcParams) (self : Gen.Writer.Frame) : W :=
  seqW (FrameHeader.write encodeUtf8like (fun _ => true) scratchBytes (crc p8) self.header) <|
  seqW (forW self.subframes (fun sub => SubFrame.write sub)) <|
  emit [Op.alignToByte] <|
  some []

-- `Scratch.vecResize_length` for the `vecResize` of the writer's prelude (the scratch model is not imported here)
theorem vecResize_length (v : List Nat) (n x : Nat) : (Gen.Writer.vecResize v n x).length = n := by
  simp only [Gen.Writer.vecResize, List.length_append, List.length_take, List.length_replicate]; omega

theorem vecResize_lt (v : List Nat) (n : Nat) (h : ∀ b ∈ v, b < 256) : ∀ b ∈ Gen.Writer.vecResize v n 0, b < 256 := by
  intro b hb
  simp only [Gen.Writer.vecResize, List.mem_append, List.mem_replicate] at hb
  rcases hb with hb | ⟨_, rfl⟩
  · exact h b (List.mem_of_mem_take hb)
  · decide

/-- `C08G_frame_ops` with the UTF-8-like encoder, the header scratch sink (`as_slice`) and the frame scratch sink (`len`,
`write_to_byte_slice`) all instantiated by GENERATED functions, both profiles, from any stale sinks / buffer; only the two
CRC `checksum`s remain parameters -/
theorem C08G4_frame_write_closed (dbg : Bool) (p8 p16 : CrcParams) (g : Gen.Writer.Frame) (stale : List Nat)
    (g8 : MemSink 8) (g64 : MemSink 64)
    (hp : g.precomputed_bitstream = none) (hc : ChanOk g.header.channel_assignment) (hs : ∀ s ∈ g.subframes, s.WF)
    (hstale : ∀ b ∈ stale, b < 256)
    (hsmallH : ∀ hb, headerFill encodeUtf8like g.header = some hb → Small hb)
    (hsmallF : ∀ fs, frameFill p8 g = some fs → Small fs) :
    Gen.Writer.Frame.write stale (utf8Param dbg) (utf8Exact dbg) (genAsSlice dbg g8) (crc p8) (genLenWord dbg g64)
      (genWordExport dbg g64) (crc p16) g = Frame.ops p8 p16 (frameOfGen g) := by
  rw [← C08G_frame_ops p8 p16 g stale (fun _ => true) hp hc hs]
  have hh : Gen.Writer.FrameHeader.write (utf8Param dbg) (utf8Exact dbg) (genAsSlice dbg g8) (crc p8) g.header
      = Gen.Writer.FrameHeader.write encodeUtf8like (fun _ => true) scratchBytes (crc p8) g.header := by
    rw [C08G4_header_write_closed dbg p8 g.header g8 hc hsmallH, C08G_header_ops p8 g.header _ hc]
  simp only [Gen.Writer.Frame.write, hp, hh]
  have hf : frameFill p8 g = (Gen.Writer.seqW (Gen.Writer.FrameHeader.write encodeUtf8like (fun _ => true) scratchBytes (crc p8) g.header) <|
      Gen.Writer.seqW (Gen.Writer.forW g.subframes (fun sub => Gen.Writer.SubFrame.write sub)) <|
      Gen.Writer.emit [Op.alignToByte] <| some []) := rfl
  rw [← hf]
  cases hfill : frameFill p8 g with
  | none => rfl
  | some fs =>
    have hsm := hsmallF fs hfill
    have hl := C11G_readout_len_word dbg g64 fs hsm
    simp only [Gen.Writer.bindW, hl]
    rw [C11G_readout_word_export dbg g64 fs _ hsm (vecResize_lt stale _ hstale)
      (by rw [vecResize_length, Nat.shiftRight_eq_div_pow]; exact Nat.le_refl _)]

theorem forW_congr {α : Type} (xs : List α) (f f' : α → Gen.Writer.W) (h : ∀ x ∈ xs, f x = f' x) :
    Gen.Writer.forW xs f = Gen.Writer.forW xs f' := by
  induction xs with
  | nil => rfl
  | cons x xs ih =>
    simp only [Gen.Writer.forW, h x (by simp), ih (fun y hy => h y (by simp [hy]))]

/-- `C08G_stream_ops` with every scratch-sink parameter and the UTF-8-like encoder generated; only the CRC `checksum`s remain -/
theorem C08G4_stream_write_closed (dbg : Bool) (p8 p16 : CrcParams) (s : Stream) (gfs : List Gen.Writer.Frame) (stale : List Nat)
    (g8 : MemSink 8) (g64 : MemSink 64)
    (hf : gfs.map frameOfGen = s.frames) (hg : ∀ g ∈ gfs, FrameOk g)
    (ht : s.info.total < 2 ^ 64) (htag : ∀ m ∈ s.metadata, m.tag < 128)
    (hstale : ∀ b ∈ stale, b < 256)
    (hsmallH : ∀ g ∈ gfs, ∀ hb, headerFill encodeUtf8like g.header = some hb → Small hb)
    (hsmallF : ∀ g ∈ gfs, ∀ fs, frameFill p8 g = some fs → Small fs) :
    Gen.Writer.Stream.write stale (utf8Param dbg) (utf8Exact dbg) (genAsSlice dbg g8) (crc p8) (genLenWord dbg g64)
      (genWordExport dbg g64) (crc p16) (streamToGen s gfs) = s.ops p8 p16 := by
  rw [← C08G_stream_ops p8 p16 s gfs stale (fun _ => true) hf hg ht htag]
  unfold Gen.Writer.Stream.write
  have hfr : (streamToGen s gfs).frames = gfs := rfl
  rw [hfr]
  rw [forW_congr gfs _ (fun frame => Gen.Writer.Frame.write stale encodeUtf8like (fun _ => true) scratchBytes (crc p8) idealLen
    wordExport (crc p16) frame)]
  intro g hgm
  obtain ⟨hp, hc, hs⟩ := hg g hgm
  rw [C08G4_frame_write_closed dbg p8 p16 g stale g8 g64 hp hc hs hstale (hsmallH g hgm) (hsmallF g hgm),
    C08G_frame_ops p8 p16 g stale _ hp hc hs]
end FlacVerif.C08Gen4
