/-
C06GenCor — the top theorems of C05 / C06 (stated about the hand transition system `Par.step`) transferred to the
semantics of the programs generated from the current `src/par.rs` (`Model/ParProg.lean` on `Gen/Par.lean`), through the
simulation theorems of `Theorems/C06Gen.lean`.  `PReach p fill g s`: `g` is reached from the start state of the generated
programs by canonical macro steps, `s` being the hand state it corresponds to.

First over `PReach` (closed under every protocol step the programs can take, `C06GC_step`): deadlock freedom, the bound on
the number of protocol steps, the result and the returned closures when the main program returns, the fault-free case;
then the same over `ParProg.ProgRun` from `start0 p`, runs of the programs' own semantics with no hand state in the
statement (`*_prog`); the `*_src` versions have `0 < p.W` discharged by `C06G_worker_count_pos`.
-/
import FlacVerif.Theorems.C05
import FlacVerif.Theorems.C06
import FlacVerif.Theorems.C06Gen

namespace FlacVerif.C06Gen
open FlacVerif.Par FlacVerif.ParProg FlacVerif.Gen.Par

/-- reachable states of the generated programs (canonical macro steps), with the hand state they correspond to -/
inductive PReach (p : Params) (fill : List Stmt) : PState → State → Prop
  | start {g : PState} : Corr p g (init p) → (∃ g1, runTau (env p fill) .main 6 (start p) = some g1 ∧
      runTau (env p fill) .hasher 1 g1 = some g) → PReach p fill g (init p)
  | step {g g1 g2 g3 : PState} {s s1 : State} {tid : Tid} {a b : Nat} {e : Ev} :
      PReach p fill g s → runTau (env p fill) tid a g = some g1 → visStep (env p fill) tid g1 = some (e, g2) →
      runTau (env p fill) tid b g2 = some g3 → Par.step p s e = some s1 → Corr p g3 s1 → PReach p fill g3 s1

theorem C06GC_start (p : Params) (fill : List Stmt) : ∃ g, PReach p fill g (init p) := by
  obtain ⟨g1, g0, h1, h2, hc⟩ := C06G_init p fill
  exact ⟨g0, .start hc ⟨g1, h1, h2⟩⟩

theorem C06GC_reach_hand {p : Params} {fill : List Stmt} {g : PState} {s : State} (h : PReach p fill g s) :
    Reaches p s ∧ Corr p g s := by
  induction h with
  | start hc _ => exact ⟨.init, hc⟩
  | step _ _ _ _ hs hc ih => exact ⟨.step ih.1 hs, hc⟩

/-- closure under everything the program can do: any thread, any protocol step it can reach -/
theorem C06GC_step {p : Params} {fill : List Stmt} (hf : fill = fillInterleaved ∨ fill = fillLeBytes)
    {g : PState} {s : State} (h : PReach p fill g s) (tid : Tid) {a : Nat} {g1 g2 : PState} {e : Ev}
    (h1 : runTau (env p fill) tid a g = some g1) (h2 : visStep (env p fill) tid g1 = some (e, g2)) :
    ∃ s1 b g3, runTau (env p fill) tid b g2 = some g3 ∧ PReach p fill g3 s1 := by
  obtain ⟨s1, hs, _, b, g3, hb, hc3⟩ := C06G_bwd hf (C06GC_reach_hand h).2 tid h1 h2
  exact ⟨s1, b, g3, hb, .step h h1 h2 hb hs hc3⟩

theorem C06GC_deadlock_free {p : Params} {fill : List Stmt} (hf : fill = fillInterleaved ∨ fill = fillLeBytes)
    (hW : 0 < p.W) (hne : p.NonemptyBlocks) {g : PState} {s : State} (h : PReach p fill g s) (hnf : s.main ≠ .done) :
    ∃ tid a b e g', macroStep (env p fill) tid a b g = some (e, g') := by
  obtain ⟨hr, hc⟩ := C06GC_reach_hand h
  obtain ⟨e, s', hs⟩ := C06_deadlock_free p hW hne s hr hnf
  obtain ⟨a, b, g', hm, _⟩ := C06G_fwd hf e hc hs
  exact ⟨tidOf e, a, b, e, g', hm⟩

-- The bound of `C06_run_length` for the hand run that a `CanonRun` carries (`C06G_canon_run_sound`), whatever program state
-- it starts in: `hc` is not needed.  The bound for the runs of the programs alone is `C06GC_terminates_prog`.
set_option linter.unusedVariables false in
theorem C06GC_terminates {p : Params} {fill : List Stmt} {g : PState} (hc : Corr p g (init p)) (evs : List Ev) (s' : State)
    (h : CanonRun p (env p fill) g (init p) evs s') : evs.length ≤ 9 * p.blocks.length + 3 * p.W + 7 :=
  C06_run_length p evs s' (replay_ok_iff.2 (C06G_canon_run_sound evs g (init p) s' h))

theorem WsCorr.all_exited {ts pcs} (h : WsCorr ts pcs) (hex : ∀ pc ∈ pcs, pc = .exited) : ∀ t ∈ ts, t.cont = [] := by
  induction h with
  | nil => exact fun _ ht => (List.not_mem_nil ht).elim
  | cons hw _ ih =>
    intro t ht
    rcases List.mem_cons.mp ht with rfl | ht
    · cases hex _ List.mem_cons_self
      exact hw.1
    · exact ih (fun pc hpc => hex pc (List.mem_cons_of_mem _ hpc)) t ht

theorem corr_final {p : Params} {g : PState} {s : State} (hW : 0 < p.W) (hc : Corr p g s) (hr : Reaches p s)
    (hd : s.main = .done) : s.result = seqResult p ∧ (∀ t ∈ g.workers, t.cont = []) ∧ g.hasher.cont = [] :=
  have hfin := C06_final p hW s hr hd
  ⟨hfin.1, WsCorr.all_exited hc.ws hfin.2.1, (hfin.2.2.2.1 ▸ hc.hs : HCorr g.hasher .exited).1⟩

-- the implicit `g'` occurs nowhere in the statement (the `g'` of the conclusion is bound there)
set_option linter.unusedVariables false in
/-- failure propagation / no thread left: when the generated main program has returned -/
theorem C06GC_final {p : Params} {fill : List Stmt} (hW : 0 < p.W) {g g' : PState} {s s' : State} (h : PReach p fill g s)
    (e : Ev) (he : e = .m_joined_hasher ∨ e = .m_joined_worker) (hs : Par.step p s e = some s') (hd : s'.main = .done) :
    ∃ a b g', macroStep (env p fill) .main a b g = some (e, g') ∧ g'.main.cont = [] ∧
      g'.main.result = some (seqResult p) ∧ (∀ t ∈ g'.workers, t.cont = []) ∧ g'.hasher.cont = [] := by
  obtain ⟨hr, hc⟩ := C06GC_reach_hand h
  obtain ⟨a, b, g', hm, hc', hcont, hres, _⟩ := C06G_result (fill := fill) e he hc hs hd
  obtain ⟨h1, h2⟩ := corr_final hW hc' (.step hr hs) hd
  exact ⟨a, b, g', hm, hcont, by rw [hres, h1], h2⟩

/-- multi-thread = single-thread on a fault-free run: all frames in order, the digest input is the blocks' bytes -/
theorem C06GC_deterministic {p : Params} {fill : List Stmt} (hW : 0 < p.W) (hnf : p.readFailAt = none)
    (hv : ∀ b ∈ p.blocks, b.valid) (hne : p.NonemptyBlocks) {g : PState} {s s' : State} (h : PReach p fill g s)
    (e : Ev) (he : e = .m_joined_hasher ∨ e = .m_joined_worker) (hs : Par.step p s e = some s') (hd : s'.main = .done) :
    ∃ a b g', macroStep (env p fill) .main a b g = some (e, g') ∧
      g'.main.result = some (.ok (List.range p.blocks.length)) ∧
      g'.main.digest = (p.blocks.map (·.bytes)).flatten ∧ g'.main.sizesSet = true ∧ g'.main.totalSet = true := by
  obtain ⟨hr, hc⟩ := C06GC_reach_hand h
  obtain ⟨a, b, g', hm, _, _, hres, hok⟩ := C06G_result (fill := fill) e he hc hs hd
  obtain ⟨hdet, hhash⟩ := C05_deterministic p hW hnf hv hne s' (.step hr hs) hd
  obtain ⟨h1, h2, h3⟩ := hok _ hdet
  exact ⟨a, b, g', hm, by rw [hres, hdet], by rw [h1, hhash], h2, h3⟩

/-- `C06GC_deadlock_free` with its hypothesis `0 < p.W` discharged for the current source: `p.W` is the value the generated
`determine_worker_count` returns, for any value of the environment variable and any configuration. -/
theorem C06GC_deadlock_free_src {p : Params} {fill : List Stmt} (hf : fill = fillInterleaved ∨ fill = fillLeBytes)
    (ap : Nat) (hap : 1 ≤ ap) (envv : Option String) (config : FlacVerif.Gen.Encoder)
    (hcfg : ∀ n, config.workers = some n → 0 < n) (hW : determineWorkerCount (some ap) envv config = some p.W)
    (hne : p.NonemptyBlocks) {g : PState} {s : State} (h : PReach p fill g s) (hnf : s.main ≠ .done) :
    ∃ tid a b e g', macroStep (env p fill) tid a b g = some (e, g') :=
  C06GC_deadlock_free hf (C06G_worker_count_pos ap hap envv config hcfg p.W hW) hne h hnf

/-- `C06GC_final` likewise: result = single-thread result, all closures returned, with the worker count of the source. -/
theorem C06GC_final_src {p : Params} {fill : List Stmt} (ap : Nat) (hap : 1 ≤ ap) (envv : Option String)
    (config : FlacVerif.Gen.Encoder) (hcfg : ∀ n, config.workers = some n → 0 < n)
    (hW : determineWorkerCount (some ap) envv config = some p.W) {g g' : PState} {s s' : State} (h : PReach p fill g s)
    (e : Ev) (he : e = .m_joined_hasher ∨ e = .m_joined_worker) (hs : Par.step p s e = some s') (hd : s'.main = .done) :
    ∃ a b g', macroStep (env p fill) .main a b g = some (e, g') ∧ g'.main.cont = [] ∧
      g'.main.result = some (seqResult p) ∧ (∀ t ∈ g'.workers, t.cont = []) ∧ g'.hasher.cont = [] :=
  C06GC_final (g' := g') (C06G_worker_count_pos ap hap envv config hcfg p.W hW) h e he hs hd

/-- the hand pc `done` is entered by the two join events only -/
theorem step_done_join {p : Params} {s s' : State} {e : Ev} (h : Par.step p s e = some s') (hd : s'.main = .done)
    (hnd : s.main ≠ .done) : e = .m_joined_hasher ∨ e = .m_joined_worker := by
  cases Step_of_step h
  case joined_hasher => exact .inl rfl
  case joined_worker => exact .inr rfl
  case f_eof_plain => exact absurd hd (afterStop_ne_done _)
  case f_eof_empty => exact absurd hd (afterStop_ne_done _)
  case f_read_err => exact absurd hd (afterStop_ne_done _)
  case enc_send_none => exact absurd hd (afterStop_ne_done _)
  -- the other steps of the main thread enter a pc that is not `done`, the other threads leave the main pc alone
  all_goals first | exact absurd hd hnd | cases hd

/-- once the hand model is final nothing can happen -/
theorem final_no_step {p : Params} (hW : 0 < p.W) {s : State} (hr : Reaches p s) (hd : s.main = .done) (e : Ev) :
    Par.step p s e = none := by
  obtain ⟨_, hex, _, hh, _, _⟩ := C06_final p hW s hr hd
  cases hs : Par.step p s e with
  | none => rfl
  | some s' =>
    -- a step needs the main thread at a pc other than `done`, a worker that has not exited, or the hasher running
    cases Step_of_step hs
    all_goals first
      | (cases hd.symm.trans ‹s.main = _›; done)
      | (cases hex _ (List.mem_of_getElem? ‹_›); done)
      | (cases hh.symm.trans ‹s.hasher = _›; done)

/-- what a run of the programs keeps: correspondence with a reachable hand state, and - once the main program has
returned - its result, digest and STREAMINFO updates -/
def RunInv (p : Params) (g : PState) (s : State) : Prop :=
  Corr p g s ∧ Reaches p s ∧
    (s.main = .done → g.main.result = some s.result ∧
      ∀ l, s.result = .ok l → g.main.digest = s.hashed ∧ g.main.sizesSet = true ∧ g.main.totalSet = true)

theorem runInv_step {p : Params} {fill : List Stmt} (hf : fill = fillInterleaved ∨ fill = fillLeBytes) (hW : 0 < p.W)
    {g g3 : PState} {s : State} (hi : RunInv p g s) {tid : Tid} {a b : Nat} {e : Ev}
    (hm : macroStepC (env p fill) tid a b g = some (e, g3)) : ∃ s', Par.step p s e = some s' ∧ RunInv p g3 s' := by
  obtain ⟨hc, hr, _⟩ := hi
  obtain ⟨s', hs, ht, hc3⟩ := C06G_bwdC hf hc hm
  refine ⟨s', hs, hc3, .step hr hs, ?_⟩
  intro hd
  by_cases hnd : s.main = .done
  · rw [final_no_step hW hr hnd e] at hs; cases hs
  · obtain ⟨_, _, _, h1, _, _, h3⟩ := C06G_resultC (fill := fill) e (step_done_join hs hd hnd) hc hs hd
    subst ht
    obtain ⟨_, rfl⟩ := macroStepC_unique hm h1
    exact h3

theorem runInv_run {p : Params} {fill : List Stmt} (hf : fill = fillInterleaved ∨ fill = fillLeBytes) (hW : 0 < p.W)
    {g g' : PState} {evs : List Ev} (hr : ProgRun (env p fill) g evs g') :
    ∀ s, RunInv p g s → ∃ s', Par.run p s evs = some s' ∧ RunInv p g' s' := by
  induction hr with
  | nil g => intro s hi; exact ⟨s, rfl, hi⟩
  | cons hm _ ih =>
    intro s hi
    obtain ⟨s1, hs, hi1⟩ := runInv_step hf hW hi hm
    obtain ⟨s', hrun, hi'⟩ := ih s1 hi1
    exact ⟨s', run_cons_iff.2 ⟨s1, hs, hrun⟩, hi'⟩

theorem runInv_start (p : Params) (fill : List Stmt) : RunInv p (start0 p) (init p) :=
  ⟨(C06G_start0 p fill).2, .init, fun h => by simp [init] at h⟩

/-- main returned (`cont = []`) only at the hand pc `done` -/
theorem done_of_returned {p : Params} {g : PState} {s : State} (hc : Corr p g s) (h : g.main.cont = []) : s.main = .done := by
  have hm := hc.main.1
  rw [MCorrPc] at hm
  obtain ⟨x, hx⟩ := mLocked_shape
  -- at every other pc the canonical continuation starts with a statement; at `done` the `rw` closes the goal
  cases hpc : s.main <;> rw [hpc] at hm
  case recv => rw [hm.1, mRecv_shape] at h; cases h
  case locked => rw [hm.1, hx] at h; cases h
  case eofEmpty => rw [hm.1, mAfterSend_shape] at h; cases h
  case filledMd5 => rw [hm.1, mAfterSend_shape] at h; cases h
  case enq => rw [hm.1, mEnq_shape] at h; cases h
  case stop =>
    obtain ⟨r', _, hok, herr, _⟩ := hm
    cases hre : s.readErr
    · rw [hok hre, mStopOk_shape] at h; cases h
    · rw [herr hre, mStopErr_shape] at h; cases h
  case reqStop => rw [hm.1, mReqStop_shape] at h; cases h
  case joinH => rw [hm.1, mJoinH_shape] at h; cases h
  case joinW =>
    obtain ⟨r, _, hcont, _⟩ := hm
    rw [hcont, mJoinW_shape] at h; cases h

/-- Termination over the programs' own runs: at most 9·N + 3·W + 7 protocol steps. -/
theorem C06GC_terminates_prog {p : Params} {fill : List Stmt} (hf : fill = fillInterleaved ∨ fill = fillLeBytes)
    {evs : List Ev} {g' : PState} (h : ProgRun (env p fill) (start0 p) evs g') :
    evs.length ≤ 9 * p.blocks.length + 3 * p.W + 7 := by
  obtain ⟨s', hrun, _⟩ := ((C06G_traces_prog (p := p) hf evs).2.2) g' h
  exact C06_run_length p evs s' (replay_ok_iff.2 hrun)

/-- Failure propagation / no thread left over the programs' own runs: whenever, in any run of the generated programs, the
main program has returned, its result is the single-thread result, and every worker closure and the hasher closure have
returned. -/
theorem C06GC_final_prog {p : Params} {fill : List Stmt} (hf : fill = fillInterleaved ∨ fill = fillLeBytes) (hW : 0 < p.W)
    {evs : List Ev} {g' : PState} (h : ProgRun (env p fill) (start0 p) evs g') (hret : g'.main.cont = []) :
    g'.main.result = some (seqResult p) ∧ (∀ t ∈ g'.workers, t.cont = []) ∧ g'.hasher.cont = [] := by
  obtain ⟨s', _, hc, hr, hres⟩ := runInv_run hf hW h _ (runInv_start p fill)
  have hd := done_of_returned hc hret
  obtain ⟨h1, h2⟩ := corr_final hW hc hr hd
  exact ⟨by rw [(hres hd).1, h1], h2⟩

/-- Multi-thread = single-thread over the programs' own runs, fault-free input: all frames in order, digest input = the blocks' bytes. -/
theorem C06GC_deterministic_prog {p : Params} {fill : List Stmt} (hf : fill = fillInterleaved ∨ fill = fillLeBytes)
    (hW : 0 < p.W) (hnf : p.readFailAt = none) (hv : ∀ b ∈ p.blocks, b.valid) (hne : p.NonemptyBlocks)
    {evs : List Ev} {g' : PState} (h : ProgRun (env p fill) (start0 p) evs g') (hret : g'.main.cont = []) :
    g'.main.result = some (.ok (List.range p.blocks.length)) ∧
      g'.main.digest = (p.blocks.map (·.bytes)).flatten ∧ g'.main.sizesSet = true ∧ g'.main.totalSet = true := by
  obtain ⟨s', _, hc, hr, hres⟩ := runInv_run hf hW h _ (runInv_start p fill)
  have hd := done_of_returned hc hret
  obtain ⟨hdet, hhash⟩ := C05_deterministic p hW hnf hv hne s' hr hd
  obtain ⟨h0, hok⟩ := hres hd
  obtain ⟨h1, h2, h3⟩ := hok _ hdet
  exact ⟨by rw [h0, hdet], by rw [h1, hhash], h2, h3⟩

/-- `C06GC_final_prog` for the current source's worker count: no hypothesis on `p.W` other than that it is what the
generated `determine_worker_count` returns. -/
theorem C06GC_final_prog_src {p : Params} {fill : List Stmt} (hf : fill = fillInterleaved ∨ fill = fillLeBytes)
    (ap : Nat) (hap : 1 ≤ ap) (envv : Option String) (config : FlacVerif.Gen.Encoder)
    (hcfg : ∀ n, config.workers = some n → 0 < n) (hW : determineWorkerCount (some ap) envv config = some p.W)
    {evs : List Ev} {g' : PState} (h : ProgRun (env p fill) (start0 p) evs g') (hret : g'.main.cont = []) :
    g'.main.result = some (seqResult p) ∧ (∀ t ∈ g'.workers, t.cont = []) ∧ g'.hasher.cont = [] :=
  C06GC_final_prog hf (C06G_worker_count_pos ap hap envv config hcfg p.W hW) h hret

end FlacVerif.C06Gen
