/-
C09 — no frame is larger than its verbatim encoding.

The theorems are about the functional view of the encoder (`Model/Encode.lean`, a statement-by-
statement mirror of `encode_subframe` / `encode_frame`), and hold for **every** oracle log: whatever
coefficients the float estimator produced and however wrong the entropy estimates were, a candidate
displaces `Verbatim` only after its *real* `count_bits` was compared with the verbatim size
(coding.rs:397-420, the comparison the fix of defect F4 put there), and a stereo recombination is taken only if strictly
cheaper than left+right (coding.rs:496-528).
-/
import FlacVerif.Lemmas.EncoderShape
namespace FlacVerif.C09
open Strict

theorem constant_le (n bps : Nat) (hn : 1 ≤ n) : 8 + bps ≤ verbatimBits n bps := by
  unfold verbatimBits
  have : bps ≤ n * bps := Nat.le_mul_of_pos_left bps hn
  omega

/-- **C09 (subframe).** Whatever the oracle says, the subframe `encode_subframe` returns has a
reported size of at most the verbatim size `8 + n·bps`. -/
theorem C09_subframe (cfg : SubCfg) (xs : List Int) (bps : Nat) (log log' : List OEvent) (s : SubFrame)
    (hx : 1 ≤ xs.length) (h : encodeSubframe cfg xs bps log = some (s, log')) :
    ∃ c, s.count = some c ∧ c ≤ verbatimBits xs.length bps := by
  rcases (encodeSubframe_emits cfg xs bps log log' s h).2.2 with ⟨_, rfl⟩ | rfl | ⟨_, ⟨c, h1, h2⟩, _⟩
  · exact ⟨8 + bps, rfl, constant_le _ _ hx⟩
  · exact ⟨_, rfl, Nat.le_refl _⟩
  · exact ⟨c, h1, Nat.le_of_lt h2⟩

theorem count_le_of_encodedFrom {cfg : SubCfg} {log : List OEvent} {xs : List Int} {w : Nat} {s : SubFrame}
    (h : EncodedFrom cfg log xs w s) (hx : 1 ≤ xs.length) : ∃ c, s.count = some c ∧ c ≤ verbatimBits xs.length w :=
  let ⟨li, li', _, he⟩ := h
  C09_subframe cfg xs w li li' s hx he

theorem chooseStereo_le (st : StereoCfg) (cl cr cm cs : Nat) :
    stereoCost cl cr cm cs (chooseStereo st cl cr cm cs) ≤ cl + cr :=
  chooseStereo_induct st cl cr cm cs (fun a => stereoCost cl cr cm cs a ≤ cl + cr) (by simp [stereoCost])
    fun _ _ _ hb hlt => Nat.le_trans (Nat.le_of_lt hlt) hb

theorem selectChannels_cost (l r m s : SubFrame) (a : ChannelAssignment) :
    cnt (selectChannels l r m s a).1 + cnt (selectChannels l r m s a).2 = stereoCost (cnt l) (cnt r) (cnt m) (cnt s) a := by
  cases a <;> simp [selectChannels, stereoCost, Nat.add_comm]

theorem selectChannels_of (P : SubFrame → Prop) (l r m s : SubFrame) (a : ChannelAssignment)
    (hl : P l) (hr : P r) (hm : P m) (hs : P s) : P (selectChannels l r m s a).1 ∧ P (selectChannels l r m s a).2 := by
  cases a with
  | independent _ => exact ⟨hl, hr⟩
  | leftSide => exact ⟨hl, hs⟩
  | rightSide => exact ⟨hs, hr⟩
  | midSide => exact ⟨hm, hs⟩

def subTotal (f : Frame) : Nat := (f.subframes.map cnt).foldl (· + ·) 0

/-- **C09 (frame).** For every oracle log, every stereo configuration and every block of `n ≥ 1`
samples per channel: the subframes of the frame `encode_frame` returns take at most
`channels · (8 + n·bps)` bits — the size of independent verbatim subframes. A side channel is one
bit wider, but a recombination containing it is selected only if strictly cheaper than left+right,
so the bound holds without any slack. -/
theorem C09_frame (cfg : SubCfg) (st : StereoCfg) (chans : List (List Int)) (bps rate number n : Nat)
    (log log' : List OEvent) (f : Frame) (hn : 1 ≤ n) (hlen : ∀ c ∈ chans, c.length = n)
    (h : encodeFrame cfg st chans bps rate number log = some (f, log')) :
    subTotal f ≤ chans.length * verbatimBits n bps ∧ ∀ s ∈ f.subframes, ∃ c, s.count = some c := by
  rcases (encodeFrame_emits cfg st chans bps rate number log log' f h).2 with
    ⟨_, _, hl, hsub⟩ | ⟨l, r, sl, sr, sm, ss, rfl, hsl, hsr, hsm, hss, _, hf⟩
  · have hall : ∀ s ∈ f.subframes, ∃ c, s.count = some c ∧ c ≤ verbatimBits n bps := by
      intro s hs
      obtain ⟨i, hi, rfl⟩ := List.getElem_of_mem hs
      have := count_le_of_encodedFrom (hsub i hi (hl ▸ hi)) (by rw [hlen _ (List.getElem_mem _)]; exact hn)
      rwa [hlen _ (List.getElem_mem _)] at this
    refine ⟨?_, fun s hs => (hall s hs).imp fun c hc => hc.1⟩
    have := foldl_add_le_mul (f.subframes.map cnt) (verbatimBits n bps) 0 (by
      intro x hx
      obtain ⟨s, hs, rfl⟩ := List.mem_map.mp hx
      obtain ⟨c, h1, h2⟩ := hall s hs
      simpa [cnt, h1] using h2)
    simpa [subTotal, hl, Nat.mul_comm] using this
  · have hl := hlen l (by simp)
    have hr := hlen r (by simp)
    obtain ⟨cl, hcl, hbl⟩ := count_le_of_encodedFrom hsl (by omega)
    obtain ⟨cr, hcr, hbr⟩ := count_le_of_encodedFrom hsr (by omega)
    obtain ⟨cm, hcm, _⟩ := count_le_of_encodedFrom hsm (by simp; omega)
    obtain ⟨cs, hcs, _⟩ := count_le_of_encodedFrom hss (by simp; omega)
    rw [hl] at hbl; rw [hr] at hbr
    obtain ⟨h1, h2⟩ := selectChannels_of (fun s => ∃ c, s.count = some c) sl sr sm ss
      (chooseStereo st (cnt sl) (cnt sr) (cnt sm) (cnt ss)) ⟨_, hcl⟩ ⟨_, hcr⟩ ⟨_, hcm⟩ ⟨_, hcs⟩
    refine ⟨?_, by rw [hf]; exact List.forall_mem_cons.2 ⟨h1, List.forall_mem_cons.2 ⟨h2, fun _ h => nomatch h⟩⟩⟩
    simp only [subTotal, hf, List.map_cons, List.map_nil, List.foldl_cons, List.foldl_nil, Nat.zero_add,
      List.length_cons, List.length_nil]
    rw [selectChannels_cost]
    have := chooseStereo_le st (cnt sl) (cnt sr) (cnt sm) (cnt ss)
    have e1 : cnt sl = cl := by simp [cnt, hcl]
    have e2 : cnt sr = cr := by simp [cnt, hcr]
    omega

/-- Non-vacuity: two channels of 4 samples, one constant, both too short for prediction, go through `encodeFrame`
with an empty oracle log. -/
example : (encodeFrame ⟨true, true, true, 4, true, 14⟩ ⟨true, true, true⟩ [[5, 5, 5, 5], [1, -2, 3, 4]] 16 44100 0 []).isSome = true := by
  decide

/-! Two projections of the statements above in the form the proofs about the generated encoder cite. -/

theorem fixedStage_some (cfg : SubCfg) (xs : List Int) (bps limit : Nat) (log log' : List OEvent) (f : SubFrame)
    (h : fixedStage cfg xs bps limit log = some (some f, log')) : ∃ n, f.count = some n ∧ n < limit :=
  ((fixedStage_shape cfg xs bps limit log log' (some f) h).2.1 f rfl).2.2

theorem encodeChannels_bound (cfg : SubCfg) (asg : ChannelAssignment) (bps n : Nat) (hn : 1 ≤ n) :
    ∀ (chans : List (List Int)) (ch : Nat) (log log' : List OEvent) (subs : List SubFrame),
      (∀ c ∈ chans, c.length = n) → encodeChannels cfg asg bps chans ch log = some (subs, log') →
      subs.length = chans.length ∧
      ∀ i (h : i < subs.length), ∃ c, subs[i].count = some c ∧ c ≤ verbatimBits n (bps + asg.bpsOffset (ch + i)) := by
  intro chans ch log log' subs hlen h
  obtain ⟨hl, _, hs⟩ := encodeChannels_spec cfg asg bps chans ch log log' subs h
  refine ⟨hl, fun i hi => ?_⟩
  have hc := hlen _ (List.getElem_mem (hl ▸ hi))
  have := count_le_of_encodedFrom (hs i hi (hl ▸ hi)) (by omega)
  rwa [hc] at this

end FlacVerif.C09

#print axioms FlacVerif.C09.baselineAfter_le
