/-
C02 (header code tables) — the HAND-WRITTEN model of the frame-header codes (`Model/Codes.lean`, and the
table parts of the parser mirror `Model/RepoParser.lean`) agrees with the Rust source.

`Gen/Headers.lean` (translator part `headers`) mirrors `impl BlockSizeSpec / SampleSizeSpec / SampleRateSpec /
ChannelAssignment` of `src/component/datatype.rs` (and `impl BitRepr for ChannelAssignment` of `bitrepr.rs`) arm by arm,
in source order, over `Nat`.  The theorems say that for every input of the Rust parameter type the hand-written function
and the generated one coincide.  The range of that type is an explicit hypothesis, spelled `_hdom` in the statements; most
proofs do not need it, `from_size_arms` (and so `C02H_blockSize_fromSize`, `_fromSize_exact`, `_range_exact`) does, for the
`x + 1 < 2^64` of `block_size_exact`.

Machine arithmetic.  Where the generated `Nat` value is the Rust value only under the translator's `<fn>_exact` condition,
the theorems state what `_exact` is on the domain (e.g. `from_size_exact size` is `size ≠ 0`, which is the hand model's
`none` = "arithmetic overflow panic").

Two enum types are related by explicit constructor maps (`bsToGen`, `caToGen` bijections; `srOfGen` sends
the eleven fixed-rate variants to `.fixed (their generated tag)`), so no table is restated here.

Source mutations tried against these theorems: `notes/headers_mutations.md`.
-/
import FlacVerif.Gen.Headers
import FlacVerif.Model.Codes
import FlacVerif.Model.RepoParser
import FlacVerif.Lemmas.ListFacts
import FlacVerif.Lemmas.HeaderCodes
namespace FlacVerif.C02Hdr

/-- Bits written by a generated writer function: `write_lsbs(v, n)` appends the `n` low bits of `v`,
most significant first. -/
def writesBits : Gen.Headers.Writes → Option Bits
  | none => none
  | some ws => some (ws.flatMap fun p => natToBits p.2 p.1)

def bsToGen : BlockSizeSpec → Gen.Headers.BlockSizeSpec
  | .reserved => .Reserved | .s192 => .S192 | .pow2Mul576 x => .Pow2Mul576 x | .extraByte x => .ExtraByte x
  | .extraTwoBytes x => .ExtraTwoBytes x | .pow2Mul256 x => .Pow2Mul256 x

def bsOfGen : Gen.Headers.BlockSizeSpec → BlockSizeSpec
  | .Reserved => .reserved | .S192 => .s192 | .Pow2Mul576 x => .pow2Mul576 x | .ExtraByte x => .extraByte x
  | .ExtraTwoBytes x => .extraTwoBytes x | .Pow2Mul256 x => .pow2Mul256 x

theorem bsOfGen_toGen (s : BlockSizeSpec) : bsOfGen (bsToGen s) = s := by cases s <;> rfl
theorem bsToGen_ofGen (g : Gen.Headers.BlockSizeSpec) : bsToGen (bsOfGen g) = g := by cases g <;> rfl

def caToGen : ChannelAssignment → Gen.Headers.ChannelAssignment
  | .independent n => .Independent n | .leftSide => .LeftSide | .rightSide => .RightSide | .midSide => .MidSide

def caOfGen : Gen.Headers.ChannelAssignment → ChannelAssignment
  | .Independent n => .independent n | .LeftSide => .leftSide | .RightSide => .rightSide | .MidSide => .midSide

theorem caOfGen_toGen (c : ChannelAssignment) : caOfGen (caToGen c) = c := by cases c <;> rfl
theorem caToGen_ofGen (g : Gen.Headers.ChannelAssignment) : caToGen (caOfGen g) = g := by cases g <;> rfl

/-- The hand model keeps one constructor `fixed t` for the eleven fixed rates; `t` is the tag the Rust
`SampleRateSpec::tag` assigns to the variant (read from the generated function, not restated). -/
def srOfGen : Gen.Headers.SampleRateSpec → SampleRateSpec
  | .Unspecified => .unspecified
  | .KHz v => .kHz v
  | .Hz v => .hz v
  | .DaHz v => .daHz v
  | g => .fixed (Gen.Headers.SampleRateSpec.tag g)

/-- `BlockSizeSpec::from_size`, all `size : u16`, arm by arm: the hand model's value, the derived panic condition
(`size = 0`: `x - 1`), and exactness of `tag` (u8 `2 + x`, `8 + x`) and `block_size` (usize `576 * (1 << x)`, `x + 1`) on the
result. -/
theorem from_size_arms (size : Nat) (hdom : size < 65536) :
    BlockSizeSpec.fromSize size =
      (if Gen.Headers.BlockSizeSpec.from_size_exact size = true
       then some (bsOfGen (Gen.Headers.BlockSizeSpec.from_size size)) else none) ∧
    (Gen.Headers.BlockSizeSpec.from_size_exact size = true ↔ size ≠ 0) ∧
    Gen.Headers.BlockSizeSpec.tag_exact (Gen.Headers.BlockSizeSpec.from_size size) = true ∧
    Gen.Headers.BlockSizeSpec.block_size_exact (Gen.Headers.BlockSizeSpec.from_size size) = true := by
  -- the sizes with an arm of their own (and 0, where `x - 1` panics) are a finite table
  by_cases ht : size ∈ [192, 576, 1152, 2304, 4608, 256, 512, 1024, 2048, 4096, 8192, 16384, 32768, 0]
  · clear hdom; revert size; decide
  simp only [List.mem_cons, List.not_mem_nil, or_false, not_or] at ht
  unfold BlockSizeSpec.fromSize Gen.Headers.BlockSizeSpec.from_size Gen.Headers.BlockSizeSpec.from_size_exact
  -- the two catch-all arms; written so that it does not depend on how the guard is spelled
  -- (`x <= 256` and `x < 256` are equivalent here: 256 was taken by the 256-family arm)
  have hex : decide (1 ≤ size) = true := decide_eq_true (by omega)
  simp only [ht, or_self, ↓reduceIte, hex, ite_self, ne_eq, not_false_eq_true, true_and]
  split <;> simp [bsOfGen, Gen.Headers.BlockSizeSpec.tag_exact, Gen.Headers.BlockSizeSpec.block_size_exact] <;> omega

/-- `BlockSizeSpec::from_size`, all `size : u16`. The hand model's `none` is exactly the failure of the
mechanically derived exactness condition (`x - 1` with `x = 0`). -/
theorem C02H_blockSize_fromSize (size : Nat) (_hdom : size < 65536) :
    BlockSizeSpec.fromSize size =
      if Gen.Headers.BlockSizeSpec.from_size_exact size = true
      then some (bsOfGen (Gen.Headers.BlockSizeSpec.from_size size)) else none :=
  (from_size_arms size _hdom).1

/-- On `u16` the derived panic condition of `from_size` is `size = 0` and nothing else. -/
theorem C02H_blockSize_fromSize_exact (size : Nat) (_hdom : size < 65536) :
    Gen.Headers.BlockSizeSpec.from_size_exact size = true ↔ size ≠ 0 :=
  (from_size_arms size _hdom).2.1

theorem C02H_blockSize_fromSize_some (n : Nat) (h0 : n ≠ 0) (h : n < 65536) :
    BlockSizeSpec.fromSize n = some (bsOfGen (Gen.Headers.BlockSizeSpec.from_size n)) := by
  rw [C02H_blockSize_fromSize n h, (C02H_blockSize_fromSize_exact n h).2 h0, if_pos rfl]

theorem C02H_blockSize_tag (s : BlockSizeSpec) : s.tag = Gen.Headers.BlockSizeSpec.tag (bsToGen s) := by
  cases s <;> rfl

theorem C02H_blockSize_extraBits (s : BlockSizeSpec) :
    some s.extraBits = writesBits (Gen.Headers.BlockSizeSpec.write_extra_bits (bsToGen s)) := by
  cases s <;> simp [BlockSizeSpec.extraBits, bsToGen, Gen.Headers.BlockSizeSpec.write_extra_bits, writesBits]

/-- `BlockSizeSpec::count_extra_bits` is the length of what `write_extra_bits` writes. -/
theorem C02H_blockSize_extraCount (s : BlockSizeSpec) :
    s.extraBits.length = Gen.Headers.BlockSizeSpec.count_extra_bits (bsToGen s) := by
  cases s <;> simp [BlockSizeSpec.extraBits, bsToGen, Gen.Headers.BlockSizeSpec.count_extra_bits]

theorem C02H_blockSize_blockSize (s : BlockSizeSpec) :
    s.blockSize = Gen.Headers.BlockSizeSpec.block_size (bsToGen s) := by
  cases s <;> simp [BlockSizeSpec.blockSize, bsToGen, Gen.Headers.BlockSizeSpec.block_size, Nat.one_shiftLeft]

/-- On every spec `from_size` can produce, `tag` (u8 `2 + x`, `8 + x`) and `block_size`
(usize `576 * (1 << x)`, `x + 1`) are exact. -/
theorem C02H_blockSize_range_exact (size : Nat) (_hdom : size < 65536) :
    Gen.Headers.BlockSizeSpec.tag_exact (Gen.Headers.BlockSizeSpec.from_size size) = true ∧
    Gen.Headers.BlockSizeSpec.block_size_exact (Gen.Headers.BlockSizeSpec.from_size size) = true :=
  (from_size_arms size _hdom).2.2

theorem blockSize_fromSize_gen (n : Nat) (h1 : 1 ≤ n) (h2 : n < 2 ^ 16) :
    Gen.Headers.BlockSizeSpec.block_size (Gen.Headers.BlockSizeSpec.from_size n) = some n ∧
    Gen.Headers.BlockSizeSpec.block_size_exact (Gen.Headers.BlockSizeSpec.from_size n) = true := by
  have hfs := C02H_blockSize_fromSize_some n (by omega) (by omega)
  have hb := (BlockSizeSpec.fromSize_ok n h1 h2 _ hfs).2
  rw [C02H_blockSize_blockSize, bsToGen_ofGen] at hb
  exact ⟨hb, (C02H_blockSize_range_exact n (by omega)).2⟩

/-- Everything the header writer uses of a block size, in one statement: 4-bit code, extra field, and the
size the parser reads back, for all `size : u16`. -/
theorem C02H_blockSize_code (size : Nat) (hdom : size < 65536) (h0 : size ≠ 0) :
    (BlockSizeSpec.fromSize size).map (fun s => (s.tag, some s.extraBits, s.blockSize)) =
      some (Gen.Headers.BlockSizeSpec.tag (Gen.Headers.BlockSizeSpec.from_size size),
            writesBits (Gen.Headers.BlockSizeSpec.write_extra_bits (Gen.Headers.BlockSizeSpec.from_size size)),
            Gen.Headers.BlockSizeSpec.block_size (Gen.Headers.BlockSizeSpec.from_size size)) := by
  rw [C02H_blockSize_fromSize_some size h0 hdom]
  simp only [Option.map_some, C02H_blockSize_tag, C02H_blockSize_extraBits, C02H_blockSize_blockSize,
    bsToGen_ofGen]

/-- `c * (1usize << x)` in checked arithmetic against the derived condition and the `Nat` value. -/
theorem shl_mul_arm (c x : Nat) (s1 s2 : String) :
    (((decide (x < 64) && decide (1 <<< x < 18446744073709551616)) && decide (c * (1 <<< x) < 18446744073709551616)) = true →
      (Repo.ushl 64 s1 1 x >>= fun s => Repo.umul 64 s2 c s) = .ok (c * (1 <<< x))) ∧
    (((decide (x < 64) && decide (1 <<< x < 18446744073709551616)) && decide (c * (1 <<< x) < 18446744073709551616)) = false →
      (Repo.ushl 64 s1 1 x >>= fun s => Repo.umul 64 s2 c s).isPanic = true) := by
  simp only [Repo.ushl, Repo.umul, Nat.one_shiftLeft, Bool.and_eq_true, decide_eq_true_eq, Nat.one_mul]
  by_cases hx : x < 64
  · have hp : 2 ^ x < 2 ^ 64 := Nat.pow_lt_pow_right (by decide) hx
    have hm : 2 ^ x % 2 ^ 64 = 2 ^ x := Nat.mod_eq_of_lt hp
    by_cases hm2 : c * 2 ^ x < 2 ^ 64
    · simp [hx, hm, hm2, hp]
    · simp [hx, hm, hm2, hp, Repo.PResult.isPanic]
  · simp [hx, Repo.PResult.isPanic]

theorem add_one_arm (x : Nat) (s : String) :
    (decide (x + 1 < 18446744073709551616) = true → Repo.uadd 64 s x 1 = .ok (x + 1)) ∧
    (decide (x + 1 < 18446744073709551616) = false → (Repo.uadd 64 s x 1).isPanic = true) := by
  simp only [Repo.uadd, decide_eq_true_eq, decide_eq_false_iff_not]
  constructor
  · intro hx; simp [show x + 1 < 2 ^ 64 from hx]
  · intro hx; simp [show ¬ x + 1 < 2 ^ 64 from hx, Repo.PResult.isPanic]

/-- `FrameHeader::block_size()` of the parser mirror (debug-checked usize arithmetic, 64 bits) against the
generated `block_size` / `block_size_exact`. -/
theorem C02H_headerBlockSize (h : FrameHeader) :
    (Gen.Headers.BlockSizeSpec.block_size_exact (bsToGen h.blockSizeSpec) = true →
      match Gen.Headers.BlockSizeSpec.block_size (bsToGen h.blockSizeSpec) with
      | some n => Repo.headerBlockSize h = .ok n
      | none => (Repo.headerBlockSize h).isPanic = true) ∧
    (Gen.Headers.BlockSizeSpec.block_size_exact (bsToGen h.blockSizeSpec) = false →
      (Repo.headerBlockSize h).isPanic = true) := by
  unfold Repo.headerBlockSize
  cases h.blockSizeSpec with
  | reserved => exact ⟨fun _ => rfl, fun h => nomatch h⟩
  | s192 => exact ⟨fun _ => rfl, fun h => nomatch h⟩
  | extraByte x => exact add_one_arm x _
  | extraTwoBytes x => exact add_one_arm x _
  | pow2Mul576 x => exact shl_mul_arm 576 x _ _
  | pow2Mul256 x => exact shl_mul_arm 256 x _ _

/-- `SampleSizeSpec::from_bits(bits).unwrap_or(Unspecified).into_tag()` (coding.rs builds the header so),
all `bits : u8`; `into_tag` is `self as u8`, i.e. the explicit discriminants of the enum. -/
theorem C02H_sampleSizeTag (bits : Nat) (_hdom : bits < 256) :
    sampleSizeTag bits =
      Gen.Headers.SampleSizeSpec.into_tag
        ((Gen.Headers.SampleSizeSpec.from_bits bits).getD Gen.Headers.SampleSizeSpec.Unspecified) := by
  unfold sampleSizeTag Gen.Headers.SampleSizeSpec.from_bits
  -- case analysis on the HAND model's conditions only, so that a reordering of the (disjoint) source arms
  -- does not disturb the proof
  by_cases h8 : bits = 8; · subst h8; rfl
  by_cases h12 : bits = 12; · subst h12; rfl
  by_cases h16 : bits = 16; · subst h16; rfl
  by_cases h20 : bits = 20; · subst h20; rfl
  by_cases h24 : bits = 24; · subst h24; rfl
  by_cases h32 : bits = 32; · subst h32; rfl
  simp only [h8, h12, h16, h20, h24, h32, ↓reduceIte]
  rfl

/-- `SampleSizeSpec::from_tag` then `into_bits` (parser mirror `sampleSizeBits`), all `tag : u8`. -/
theorem C02H_sampleSizeBits (tag : Nat) (_hdom : tag < 256) :
    Repo.sampleSizeBits tag =
      (Gen.Headers.SampleSizeSpec.from_tag tag).bind Gen.Headers.SampleSizeSpec.into_bits := by
  unfold Repo.sampleSizeBits Gen.Headers.SampleSizeSpec.from_tag
  rcases tag with _ | _ | _ | _ | _ | _ | _ | _ | t
  all_goals rfl

theorem ss_bits_eq (g : Gen.Headers.SampleSizeSpec) :
    Repo.sampleSizeBits (Gen.Headers.SampleSizeSpec.into_tag g) = Gen.Headers.SampleSizeSpec.into_bits g := by
  cases g <;> rfl

/-- `SampleSizeSpec::from_tag` accepts exactly the 3-bit values and `into_tag` gives the tag back (the parser
mirror keeps the tag itself in the header: `if ssTag > 7 then reject`). -/
theorem C02H_sampleSize_fromTag (tag : Nat) (_hdom : tag < 256) :
    (Gen.Headers.SampleSizeSpec.from_tag tag).map Gen.Headers.SampleSizeSpec.into_tag =
      if tag > 7 then none else some tag := by
  unfold Gen.Headers.SampleSizeSpec.from_tag
  rcases tag with _ | _ | _ | _ | _ | _ | _ | _ | t
  all_goals rfl

/-- `into_bits` inverts `from_bits`, all `bits : u8`. -/
theorem C02H_sampleSize_bits_roundtrip (bits : Nat) (_hdom : bits < 256) (s : Gen.Headers.SampleSizeSpec)
    (h : Gen.Headers.SampleSizeSpec.from_bits bits = some s) : Gen.Headers.SampleSizeSpec.into_bits s = some bits := by
  by_cases h8 : bits = 8; · subst h8; cases h; rfl
  by_cases h12 : bits = 12; · subst h12; cases h; rfl
  by_cases h16 : bits = 16; · subst h16; cases h; rfl
  by_cases h20 : bits = 20; · subst h20; cases h; rfl
  by_cases h24 : bits = 24; · subst h24; cases h; rfl
  by_cases h32 : bits = 32; · subst h32; cases h; rfl
  rw [Gen.Headers.SampleSizeSpec.from_bits, if_neg h8, if_neg h12, if_neg h16, if_neg h20, if_neg h24, if_neg h32] at h
  cases h

/-- `p.then(|| if q { Some(x) } else { None }).flatten()`: the shape of each `or_else` fallback of `from_freq`. -/
theorem flatten_boolThen {α : Type} (p q : Prop) [Decidable p] [Decidable q] (x : α) :
    Gen.Headers.flatten (Gen.Headers.boolThen (decide p) fun _ => if q then some x else none) =
      if p ∧ q then some x else none := by
  by_cases hp : p <;> by_cases hq : q <;> simp [hp, hq, Gen.Headers.flatten, Gen.Headers.boolThen]

theorem orElse_ite {α : Type} (c : Prop) [Decidable c] (x : α) (r : Option α) (f : Unit → Option α) :
    Gen.Headers.orElse (if c then some x else r) f = if c then some x else Gen.Headers.orElse r f := by
  by_cases h : c <;> simp [h, Gen.Headers.orElse]

theorem tryInto_map {α : Type} (b v : Nat) (K : Nat → α) :
    (Gen.Headers.tryInto b v).map K = if v < 2 ^ b then some (K v) else none := by
  unfold Gen.Headers.tryInto; split <;> rfl

theorem orElse_none {α : Type} (f : Unit → Option α) : Gen.Headers.orElse none f = f () := rfl

/-- The eleven fixed rates: each row of the hand table is an arm of the Rust `match`. -/
theorem fromFreq_row : ∀ p ∈ sampleRateTable,
    (Gen.Headers.SampleRateSpec.from_freq p.1).map srOfGen = some (.fixed p.2) := by decide

/-- `SampleRateSpec::from_freq`, all `freq : u32` (the match on the eleven fixed rates, then the three
`or_else` fallbacks kHz / daHz / Hz with their `try_into` range checks). `none` exactly when Rust
returns `None`. -/
theorem C02H_sampleRate_fromFreq (freq : Nat) (_hdom : freq < 2 ^ 32) :
    SampleRateSpec.fromFreq freq = (Gen.Headers.SampleRateSpec.from_freq freq).map srOfGen := by
  unfold SampleRateSpec.fromFreq
  cases hl : sampleRateTable.lookup freq with
  | some t => exact (fromFreq_row _ (mem_of_lookup hl)).symm
  | none =>
    -- a miss: `freq` is none of the eleven keys, so the Rust `match` falls to `_ => None`
    have hk := List.lookup_eq_none_iff.1 hl
    simp only [sampleRateTable, List.forall_mem_cons, bne_iff_ne, ne_eq] at hk
    unfold Gen.Headers.SampleRateSpec.from_freq
    -- what is left on both sides is the same chain of the three fallbacks
    simp only [hk, ↓reduceIte, orElse_none, flatten_boolThen, orElse_ite, tryInto_map, apply_ite (Option.map srOfGen),
      Option.map_some, Option.map_none, srOfGen, eq_comm (a := 0), Nat.reducePow]

theorem C02H_sampleRate_tag (g : Gen.Headers.SampleRateSpec) :
    (srOfGen g).tag = Gen.Headers.SampleRateSpec.tag g := by
  cases g <;> rfl

/-- The tags of the eleven fixed-rate variants are 1..11 (never the escape codes 12..14, never 0 or 15). -/
theorem C02H_sampleRate_fixed_tags (g : Gen.Headers.SampleRateSpec) (t : Nat) (h : srOfGen g = .fixed t) :
    1 ≤ t ∧ t ≤ 11 := by
  cases g
  all_goals cases h
  all_goals decide

theorem C02H_sampleRate_extraBits (g : Gen.Headers.SampleRateSpec) :
    some (srOfGen g).extraBits = writesBits (Gen.Headers.SampleRateSpec.write_extra_bits g) := by
  cases g <;> simp [SampleRateSpec.extraBits, srOfGen, Gen.Headers.SampleRateSpec.write_extra_bits, writesBits]

theorem C02H_sampleRate_extraCount (g : Gen.Headers.SampleRateSpec) :
    (srOfGen g).extraBits.length = Gen.Headers.SampleRateSpec.count_extra_bits g := by
  cases g <;> simp [SampleRateSpec.extraBits, srOfGen, Gen.Headers.SampleRateSpec.count_extra_bits]

/-- Everything the header writer uses of a sample rate: 4-bit code and extra field, all `freq : u32`. -/
theorem C02H_sampleRate_code (freq : Nat) (hdom : freq < 2 ^ 32) :
    (SampleRateSpec.fromFreq freq).map (fun s => (s.tag, some s.extraBits)) =
      (Gen.Headers.SampleRateSpec.from_freq freq).map (fun g =>
        (Gen.Headers.SampleRateSpec.tag g, writesBits (Gen.Headers.SampleRateSpec.write_extra_bits g))) := by
  rw [C02H_sampleRate_fromFreq freq hdom]
  cases Gen.Headers.SampleRateSpec.from_freq freq with
  | none => rfl
  | some g => simp [C02H_sampleRate_tag, C02H_sampleRate_extraBits]

/-- `SampleRateSpec::from_tag_and_data`: the `unreachable!()` arm is unreachable, all `tag : u8`. -/
theorem C02H_sampleRate_fromTag_exact (tag : Nat) (_hdom : tag < 256) (v : Option Nat) :
    Gen.Headers.SampleRateSpec.from_tag_and_data_exact tag v = true := by
  unfold Gen.Headers.SampleRateSpec.from_tag_and_data_exact
  by_cases h : tag > 14
  · simp [h]
  · have : tag ≤ 14 := by omega
    rcases tag with _ | _ | _ | _ | _ | _ | _ | _ | _ | _ | _ | _ | _ | _ | _ | t
    all_goals first | rfl | (exfalso; omega)

/-- Parser mirror `sampleRateCode` (parser.rs `sample_rate_code`: read the extra field for tags 12/13/14,
then `from_tag_and_data`), tags without data. -/
theorem C02H_sampleRateCode_nodata (tag : Nat) (_hdom : tag < 256) (ht : tag ≠ 12 ∧ tag ≠ 13 ∧ tag ≠ 14) (i : Bits) :
    Repo.sampleRateCode tag i =
      match (Gen.Headers.SampleRateSpec.from_tag_and_data tag none).map srOfGen with
      | some s => .ok (s, i)
      | none => .error false := by
  by_cases hgt : tag > 14
  · rw [Repo.sampleRateCode, Gen.Headers.SampleRateSpec.from_tag_and_data, if_pos hgt, if_pos hgt]
    rfl
  · have : tag ≤ 11 := by omega
    rcases tag with _ | _ | _ | _ | _ | _ | _ | _ | _ | _ | _ | _ | t
    all_goals first | rfl | omega

/-- Parser mirror `sampleRateCode`, tags with data (`x` = the big-endian value of the 1 or 2 bytes read;
`value? as u8` / `as u16` truncate). -/
theorem C02H_sampleRateCode_data (tag : Nat) (ht : tag = 12 ∨ tag = 13 ∨ tag = 14) (i : Bits) :
    Repo.sampleRateCode tag i =
      (Repo.beUint (if tag = 12 then 1 else 2) i >>= fun (x, i') =>
        match (Gen.Headers.SampleRateSpec.from_tag_and_data tag (some x)).map srOfGen with
        | some s => Repo.PResult.ok (s, i')
        | none => .error false) := by
  unfold Repo.sampleRateCode Gen.Headers.SampleRateSpec.from_tag_and_data
  rcases ht with h | h | h <;> subst h <;> simp <;>
    cases Repo.beUint _ i <;> simp [srOfGen]

theorem C02H_channel_channels (c : ChannelAssignment) :
    c.channels = Gen.Headers.ChannelAssignment.channels (caToGen c) := by
  cases c <;> rfl

theorem C02H_channel_bpsOffset (c : ChannelAssignment) (ch : Nat) :
    c.bpsOffset ch = Gen.Headers.ChannelAssignment.bits_per_sample_offset (caToGen c) ch := by
  cases c <;> rfl

theorem bps_offset_eq (gca : Gen.Headers.ChannelAssignment) (ch : Nat) :
    Gen.Headers.ChannelAssignment.bits_per_sample_offset gca ch = (caOfGen gca).bpsOffset ch := by
  rw [C02H_channel_bpsOffset, caToGen_ofGen]

theorem channels_eq (gca : Gen.Headers.ChannelAssignment) :
    Gen.Headers.ChannelAssignment.channels gca = (caOfGen gca).channels := by
  rw [C02H_channel_channels, caToGen_ofGen]

theorem C02H_channel_countBits (c : ChannelAssignment) :
    Gen.Headers.ChannelAssignment.count_bits (caToGen c) = 4 := rfl

/-- `impl BitRepr for ChannelAssignment::write` for the assignments of a valid stream (1..=8 independent
channels, or one of the three stereo modes): exactly the 4 bits `tag`, no panic, no error. -/
theorem C02H_channel_write (c : ChannelAssignment)
    (hc : match c with | .independent n => 1 ≤ n ∧ n ≤ 8 | _ => True) :
    writesBits (Gen.Headers.ChannelAssignment.write (caToGen c)) = some (natToBits 4 c.tag) ∧
    Gen.Headers.ChannelAssignment.write_exact (caToGen c) = true := by
  cases c with
  | independent n =>
    have h8 : ¬ n > 8 := by omega
    simp [caToGen, Gen.Headers.ChannelAssignment.write, Gen.Headers.ChannelAssignment.write_exact,
      Gen.Headers.seqW, writesBits, ChannelAssignment.tag, h8, hc.1]
  | leftSide => decide
  | rightSide => decide
  | midSide => decide

/-- `write` returns `Err` (RangeError) for more than 8 independent channels. -/
theorem C02H_channel_write_err (n : Nat) (h : 8 < n) :
    Gen.Headers.ChannelAssignment.write (.Independent n) = none := by
  simp [Gen.Headers.ChannelAssignment.write, Gen.Headers.seqW, h]

/-- DISCREPANCY (reported, not fixed): the hand model `FrameHeader.bodyBits` rejects on `assignment.tag > 15`,
the Rust writer on `ch > 8`. For `independent n` with `9 ≤ n ≤ 16` the hand model writes the (reserved)
code `n - 1` where Rust returns `Err(RangeError)`; for `n = 0` Rust computes `0u8 - 1` (panic in a checked
build, code 15 otherwise) where the hand model writes code 0. Both are outside `1 ≤ n ≤ 8`, which
`C02_channel_code` and `C08Gen.ChanOk` establish; `C08_header` / `C08_frame` assume only `tag ≤ 15` and so speak of
the model alone for `9 ≤ n ≤ 16`. -/
theorem C02H_channel_write_discrepancy (n : Nat) (h : 9 ≤ n ∧ n ≤ 16) :
    Gen.Headers.ChannelAssignment.write (caToGen (.independent n)) = none ∧
    ¬ (ChannelAssignment.independent n).tag > 15 := by
  refine ⟨C02H_channel_write_err n (by omega), ?_⟩
  simp only [ChannelAssignment.tag]; omega

/-- `ChannelAssignment::from_tag` (parser mirror `channelFromTag`), all `tag : u8`; `tag + 1` never
overflows. -/
theorem C02H_channel_fromTag (tag : Nat) (_hdom : tag < 256) :
    Repo.channelFromTag tag = .ok ((Gen.Headers.ChannelAssignment.from_tag tag).map caOfGen) ∧
    Gen.Headers.ChannelAssignment.from_tag_exact tag = true := by
  unfold Repo.channelFromTag Gen.Headers.ChannelAssignment.from_tag Gen.Headers.ChannelAssignment.from_tag_exact Repo.uadd
  by_cases h8 : tag < 8
  · rw [if_pos h8, if_pos h8, if_pos h8, if_pos (show tag + 1 < 2 ^ 8 by omega)]
    exact ⟨rfl, decide_eq_true (by omega)⟩
  by_cases e8 : tag = 8; · subst e8; exact ⟨rfl, rfl⟩
  by_cases e9 : tag = 9; · subst e9; exact ⟨rfl, rfl⟩
  by_cases e10 : tag = 10; · subst e10; exact ⟨rfl, rfl⟩
  refine ⟨?_, ?_⟩ <;> simp only [if_neg h8, if_neg e8, if_neg e9, if_neg e10] <;> rfl

end FlacVerif.C02Hdr
