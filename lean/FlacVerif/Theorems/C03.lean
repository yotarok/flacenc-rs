/-
C03 — STREAMINFO states the true format, sample count and MD5 of the input.
What is proved: which bytes are hashed and which count is stored, for every way of delivering the
samples; the MD5 compression function itself is executable-only (trusted, cross-checked).
-/
import FlacVerif.Model.Encoder
import FlacVerif.Lemmas.Source
namespace FlacVerif.C03

theorem md5Input_append (bps : Nat) (a b : List Int) :
    md5Input bps (a ++ b) = md5Input bps a ++ md5Input bps b := by
  simp [md5Input, List.flatMap_append]

theorem md5Input_length (bps : Nat) (xs : List Int) :
    (md5Input bps xs).length = ((bps + 7) / 8) * xs.length := by
  induction xs with
  | nil => simp [md5Input]
  | cons x xs ih =>
    simp only [md5Input, List.flatMap_cons, List.length_append, toLeBytes_length, List.length_cons] at ih ⊢
    rw [ih, Nat.mul_add, Nat.mul_one, Nat.add_comm]

/-- Integer delivery: after any sequence of blocks, the context has hashed exactly the
little-endian bytes of the concatenated blocks, in order. -/
theorem hashed_fold (bps ch : Nat) (c0 : Ctx) (blocks : List (List Int)) :
    (blocks.foldl (fun c b => c.fillInterleaved bps ch b) c0).hashed = c0.hashed ++ md5Input bps blocks.flatten := by
  induction blocks generalizing c0 with
  | nil => simp [md5Input]
  | cons b bs ih =>
    simp only [List.foldl_cons, List.flatten_cons]
    rw [ih, md5Input_append]
    by_cases hb : b.isEmpty = true
    · have : b = [] := List.isEmpty_iff.mp hb
      subst this
      simp [Ctx.fillInterleaved, md5Input]
    · simp [Ctx.fillInterleaved, hb, List.append_assoc]

theorem samples_fold (bps ch : Nat) (hch : 0 < ch) (c0 : Ctx) (blocks : List (List Int))
    (hdiv : ∀ b ∈ blocks, b.length % ch = 0) :
    (blocks.foldl (fun c b => c.fillInterleaved bps ch b) c0).samples = c0.samples + blocks.flatten.length / ch := by
  induction blocks generalizing c0 with
  | nil => simp
  | cons b bs ih =>
    simp only [List.foldl_cons, List.flatten_cons, List.length_append]
    rw [ih _ (fun x hx => hdiv x (by simp [hx]))]
    have hb := hdiv b (by simp)
    have hsplit : (b.length + bs.flatten.length) / ch = b.length / ch + bs.flatten.length / ch := by
      obtain ⟨q, hq⟩ : ∃ q, b.length = ch * q := ⟨b.length / ch, by
        have := Nat.div_add_mod b.length ch; omega⟩
      rw [hq, Nat.mul_add_div hch, Nat.mul_div_cancel_left _ hch]
    by_cases he : b.isEmpty = true
    · have : b = [] := List.isEmpty_iff.mp he
      subst this
      simp [Ctx.fillInterleaved]
    · simp only [Ctx.fillInterleaved, he]
      simp only [Bool.false_eq_true, ↓reduceIte]
      omega

/-- **Delivery independence (any legal split into blocks).** However the input is cut into blocks
of whole inter-channel samples, the hashed bytes and the count are those of the whole input. -/
theorem C03_split_invariant (bps ch : Nat) (hch : 0 < ch) (blocks : List (List Int))
    (hdiv : ∀ b ∈ blocks, b.length % ch = 0) :
    let c := blocks.foldl (fun (c : Ctx) b => c.fillInterleaved bps ch b) (Ctx.mk [] 0 0)
    c.hashed = md5Input bps blocks.flatten ∧ c.samples = blocks.flatten.length / ch := by
  refine ⟨?_, ?_⟩
  · simpa using hashed_fold bps ch (Ctx.mk [] 0 0) blocks
  · simpa using samples_fold bps ch hch (Ctx.mk [] 0 0) blocks hdiv

/-- The sample count agrees whatever the block's length: `len · k / ch / k = len / ch`. -/
theorem fillLeBytes_md5Input (bps ch : Nat) (hb : 0 < (bps + 7) / 8) (c : Ctx) (block : List Int) :
    c.fillLeBytes ch ((bps + 7) / 8) (md5Input bps block) = c.fillInterleaved bps ch block := by
  cases block with
  | nil => rfl
  | cons x xs =>
    have hlen := md5Input_length bps (x :: xs)
    have hne : (md5Input bps (x :: xs)).isEmpty = false :=
      List.isEmpty_eq_false_iff.2 (List.ne_nil_of_length_pos (hlen ▸ Nat.mul_pos hb (Nat.succ_pos _)))
    simp only [Ctx.fillLeBytes, Ctx.fillInterleaved, hne, List.isEmpty_cons, Bool.false_eq_true, ↓reduceIte, hlen]
    congr 2
    rw [Nat.div_div_eq_div_mul, Nat.mul_comm ch, Nat.mul_div_mul_left _ _ hb]

/-- **Integer vs packed-byte delivery of one block** advance the context identically (C14 shares
this): the byte form of a block is `md5Input` of it.  (`hdiv` is not used by the proof.) -/
theorem C03_fill_bytes_eq (bps ch : Nat) (hb : 0 < (bps + 7) / 8) (c : Ctx) (block : List Int)
    (hdiv : block.length % ch = 0) :
    c.fillLeBytes ch ((bps + 7) / 8) (md5Input bps block) = c.fillInterleaved bps ch block :=
  fillLeBytes_md5Input bps ch hb c block

/-- Empty input: nothing is hashed (the digest is that of the empty string) and the count is 0. -/
theorem C03_empty (bps ch : Nat) :
    ((Ctx.mk [] 0 0).fillInterleaved bps ch []) = ⟨[], 0, 0⟩ := rfl

/-- Sign extension: the `k` bytes hashed for a sample are the low `k` bytes of its 32-bit
two's-complement form (`v.to_le_bytes()[0..k]`), for 1 ≤ k ≤ 4. -/
theorem C03_le_bytes_prefix (k : Nat) (hk : k ≤ 4) (v : Int) :
    Rfc.toLeBytes k v = (Rfc.toLeBytes 4 v).take k := by
  apply List.ext_getElem
  · simp [Rfc.toLeBytes]; omega
  · intro i h1 h2
    simp only [Rfc.toLeBytes, List.length_map, List.length_range] at h1
    simp only [Rfc.toLeBytes, List.getElem_map, List.getElem_range, List.getElem_take]
    -- byte i of (v mod 2^(8k)) = byte i of (v mod 2^32) for i < k ≤ 4
    have hd : ((2 : Int) ^ (8 * k)) ∣ (2 : Int) ^ (8 * 4) := by
      have : 8 * 4 = 8 * k + (32 - 8 * k) := by omega
      rw [this, Int.pow_add]; exact Int.dvd_mul_right _ _
    have h3 : (v % (2 ^ (8 * 4) : Int)) % (2 ^ (8 * k) : Int) = v % (2 ^ (8 * k) : Int) := Int.emod_emod_of_dvd v hd
    have hnn : 0 ≤ v % (2 ^ (8 * 4) : Int) := Int.emod_nonneg _ (by decide)
    have hp : (0 : Int) ≤ 2 ^ (8 * k) := Int.le_of_lt (Int.pow_pos (by decide))
    have h4 : (v % (2 ^ (8 * k) : Int)).toNat = (v % (2 ^ (8 * 4) : Int)).toNat % 2 ^ (8 * k) := by
      rw [← h3, Int.toNat_emod hnn hp]
      have : ((2 : Int) ^ (8 * k)) = ((2 ^ (8 * k) : Nat) : Int) := by simp
      rw [this, Int.toNat_natCast]
    rw [h4]
    generalize (v % (2 ^ (8 * 4) : Int)).toNat = u
    apply Nat.eq_of_testBit_eq
    intro j
    simp only [Nat.testBit_mod_two_pow, Nat.testBit_shiftRight, show (256 : Nat) = 2 ^ 8 from rfl]
    by_cases hj : j < 8
    · have : 8 * i + j < 8 * k := by omega
      simp [hj, this]
    · simp [hj]

end FlacVerif.C03

#print axioms FlacVerif.C03.toLeBytes_length
