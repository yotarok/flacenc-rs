/-
C10Gen — history independence, tied to the source.  The thread-local storages (`reusable!` / `reuse!`, lib.rs) are
PARAMETERS of the generated functions (the content the previous use on the thread left behind); the theorems below say
that the value a use site hands back does not depend on that parameter.  Generated code: Gen/Lpc.lean (part `lpc`:
`get_window`, `WindowKey::new`, `fingerprint_window`, `compute_error`, `reset_fixed_lpc_errors`, `SimdVec::reset_from_slice`),
Gen/Coding.lean, Gen/Writer.lean, Gen/Rice.lean.

Sites of Model/Scratch.lean that have no theorem here: PRC_FINDER (4) is Theorems/C13Gen.lean `C13G_scratch_independent`;
HEADER_CRC_BUFFER (5): `Gen.Writer.FrameHeader.write` has NO storage parameter - part `writer` accepts a scratch sink only in
the shape "cleared, filled, read" and fails closed otherwise, so the generated function cannot depend on it
(C08G_header_ops); LPC_ESTIMATOR (`windowed_signal`, `corr_coefs`) is float scratch: oracle, not translated (buffer
handling: C10_lpc_estimator_buffers).  `C10G_get_window` holds for ANY float window function.
-/
import FlacVerif.Theorems.C01Gen
import FlacVerif.Theorems.C09Gen
import FlacVerif.Theorems.C08Gen
import FlacVerif.Theorems.C10
namespace FlacVerif.C10Gen
open Gen.Lpc Scratch

/-- `config::Window` as generated by part `config` (alpha = the bit pattern of the `f32`) -> the hand model's `Win` -/
def winOf : Gen.Window → Win
  | .Rectangle => .rectangle
  | .Tukey a => .tukey a

/-- the type invariant of `alpha: f32` (`to_bits() : u32`) -/
def WinValid (w : Gen.Window) : Prop := (winOf w).Valid

/-- the generated `WindowKey` as the hand model's `Key` (same two fields) -/
def keyOf (k : WindowKey) : Key := ⟨k.size, k.fingerprint⟩

theorem winOf_injective (a b : Gen.Window) (h : winOf a = winOf b) : a = b := by
  cases a with
  | Rectangle => cases b with
    | Rectangle => rfl
    | Tukey _ => cases h
  | Tukey _ => cases b with
    | Rectangle => cases h
    | Tukey _ => cases h; rfl

/-- **`fingerprint_window`** = the hand model's `fingerprint` (the exact bit pattern of alpha, fix 67b894f); no panic in
either profile. -/
theorem C10G_fingerprint_window (dbg : Bool) (w : Gen.Window) (hw : WinValid w) :
    fingerprint_window dbg w = some (fingerprint (winOf w)) := by
  cases w with
  | Rectangle => rfl
  | Tukey a =>
    have ha : a < 2 ^ 32 := hw
    unfold fingerprint_window
    simp only []
    rw [addU_ok dbg 64 _ _ (by omega)]
    simp only [Option.bind_some, winOf, fingerprint]
    congr 1
    omega

/-- **`WindowKey::new(size, window)`** = the model's key `⟨size, fingerprint window⟩` -/
theorem C10G_window_key (dbg : Bool) (size : Nat) (w : Gen.Window) (hw : WinValid w) :
    WindowKey.new dbg size w = some ⟨size, fingerprint (winOf w)⟩ := by
  unfold WindowKey.new
  rw [C10G_fingerprint_window dbg w hw]
  rfl

/-- the key is exact: two requests share a key only if size and window (alpha bit for bit) agree -/
theorem C10G_window_key_injective (dbg : Bool) (s1 s2 : Nat) (w1 w2 : Gen.Window) (h1 : WinValid w1) (h2 : WinValid w2)
    (h : WindowKey.new dbg s1 w1 = WindowKey.new dbg s2 w2) : s1 = s2 ∧ w1 = w2 := by
  rw [C10G_window_key dbg s1 w1 h1, C10G_window_key dbg s2 w2 h2] at h
  injection h with h
  injection h with hs hf
  obtain ⟨e1, e2⟩ := C10_key_injective s1 s2 _ _ h1 h2 (by rw [hs, hf])
  exact ⟨e1, winOf_injective _ _ e2⟩

example : WindowKey.new true 4096 (.Tukey 0x3ECCCCCD) = some ⟨4096, 0x020000003ECCCCCD⟩ ∧
    WindowKey.new true 4096 (.Tukey 0x3ECCCCCE) ≠ WindowKey.new true 4096 (.Tukey 0x3ECCCCCD) := by decide

/-- every stored window was computed (by the opaque float code) for the (size, window) its key stands for -/
def GInv {A B : Type} (ww : Gen.Window → Nat → A) (pack : A → B) (c : List (WindowKey × B)) : Prop :=
  ∀ e ∈ c, ∃ s w, WinValid w ∧ e.1 = ⟨s, fingerprint (winOf w)⟩ ∧ e.2 = pack (ww w s)

/-- the `Default` content of the thread-local map -/
theorem GInv_nil {A B : Type} (ww : Gen.Window → Nat → A) (pack : A → B) : GInv ww pack [] := by
  intro e he; cases he

/-- **`get_window`** for ANY float window function `ww` (= `window_weights`) and repacking `pack` (= `SimdVec::from_slice`):
on a cache in any state reachable by earlier calls the window handed out is the one computed for exactly the requested
`(window, size)` - it depends on the config bits and the size only, never on what the cache held -, no panic (the
`expect` cannot fail), and the invariant is kept. -/
theorem C10G_get_window {A B : Type} (dbg : Bool) (ww : Gen.Window → Nat → A) (pack : A → B) (c : List (WindowKey × B))
    (hinv : GInv ww pack c) (w : Gen.Window) (hw : WinValid w) (size : Nat) :
    ∃ c', get_window dbg ww pack c w size = some (pack (ww w size), c') ∧ GInv ww pack c' := by
  obtain ⟨hget, hgood⟩ := memo_lookup mapGet mapInsert (fun _ _ => rfl) (fun _ _ _ => rfl)
    (fun e => ∃ s w, WinValid w ∧ e.1 = (⟨s, fingerprint (winOf w)⟩ : WindowKey) ∧ e.2 = pack (ww w s))
    c hinv ⟨size, fingerprint (winOf w)⟩ (pack (ww w size)) ⟨size, w, hw, rfl, rfl⟩ fun v' ⟨s, w', hw', he1, he2⟩ => by
      obtain ⟨e1, e2⟩ := C10_key_injective s size _ _ hw' hw (congrArg keyOf he1.symm)
      exact he2.trans (by rw [e1, winOf_injective _ _ e2])
  unfold get_window
  rw [C10G_window_key dbg size w hw]
  simp only [Option.bind_some]
  rw [← apply_ite some, Option.bind_some, hget, Option.bind_some]
  exact ⟨_, rfl, hgood⟩

/-- two threads (or two moments of one thread) with different cache contents hand out the same window -/
theorem C10G_get_window_independent {A B : Type} (dbg : Bool) (ww : Gen.Window → Nat → A) (pack : A → B)
    (c1 c2 : List (WindowKey × B)) (h1 : GInv ww pack c1) (h2 : GInv ww pack c2) (w : Gen.Window) (hw : WinValid w) (size : Nat) :
    (get_window dbg ww pack c1 w size).map (·.1) = (get_window dbg ww pack c2 w size).map (·.1) := by
  obtain ⟨_, e1, _⟩ := C10G_get_window dbg ww pack c1 h1 w hw size
  obtain ⟨_, e2, _⟩ := C10G_get_window dbg ww pack c2 h2 w hw size
  rw [e1, e2]; rfl

/-- a history of `get_window` calls on one thread, the storage threaded through -/
def runWindows {A B : Type} (dbg : Bool) (ww : Gen.Window → Nat → A) (pack : A → B) :
    List (WindowKey × B) → List (Gen.Window × Nat) → List (Option B)
  | _, [] => []
  | c, (w, size) :: rest =>
    match get_window dbg ww pack c w size with
    | none => none :: runWindows dbg ww pack c rest
    | some (v, c') => some v :: runWindows dbg ww pack c' rest

/-- **history form**: any sequence of calls, from any reachable cache state (in particular the `Default` empty map of a
fresh thread), returns call by call the window of that call's own `(window, size)`. -/
theorem C10G_window_history {A B : Type} (dbg : Bool) (ww : Gen.Window → Nat → A) (pack : A → B)
    (reqs : List (Gen.Window × Nat)) (hv : ∀ r ∈ reqs, WinValid r.1) (c : List (WindowKey × B)) (hinv : GInv ww pack c) :
    runWindows dbg ww pack c reqs = reqs.map fun r => some (pack (ww r.1 r.2)) := by
  induction reqs generalizing c with
  | nil => rfl
  | cons r rest ih =>
    obtain ⟨w, size⟩ := r
    obtain ⟨c', e, hinv'⟩ := C10G_get_window dbg ww pack c hinv w (hv (w, size) (by simp)) size
    simp only [runWindows, e, List.map_cons]
    rw [ih (fun x hx => hv x (by simp [hx])) c' hinv']

theorem keyOf_beq (a b : WindowKey) : (keyOf a == keyOf b) = decide (a = b) := by
  obtain ⟨s1, f1⟩ := a
  obtain ⟨s2, f2⟩ := b
  rw [Bool.eq_iff_iff]
  simp [keyOf]

theorem get_map_keyOf (m : List (WindowKey × Prov)) (k : WindowKey) :
    Cache.get (m.map fun e => (keyOf e.1, e.2)) (keyOf k) = mapGet m k := by
  unfold Cache.get mapGet
  induction m with
  | nil => rfl
  | cons e m ih =>
    simp only [List.map_cons, List.find?_cons, keyOf_beq]
    cases decide (e.1 = k) with
    | true => rfl
    | false => exact ih

theorem insert_map_keyOf (m : List (WindowKey × Prov)) (k : WindowKey) (v : Prov) :
    (mapInsert m k v).map (fun e => (keyOf e.1, e.2)) = Cache.insert (m.map fun e => (keyOf e.1, e.2)) (keyOf k) v := by
  unfold mapInsert Cache.insert
  simp only [List.map_cons, List.filter_map]
  congr 2
  apply List.filter_congr
  intro e _
  exact congrArg not (keyOf_beq e.1 k).symm

/-- the generated lookup-or-insert IS the hand model's cache step `Scratch.Cache.lookupOrInsert` (instantiating the opaque
float code by its provenance `(size, window)`, as the model does) -/
theorem C10G_get_window_model (dbg : Bool) (c : List (WindowKey × Prov)) (w : Gen.Window) (hw : WinValid w) (size : Nat) :
    (get_window dbg (fun w s => ((s, winOf w) : Prov)) id c w size).map (fun r => (r.2.map (fun e => (keyOf e.1, e.2)), r.1)) =
      some (Cache.lookupOrInsert (c.map fun e => (keyOf e.1, e.2)) size (winOf w)) := by
  unfold get_window
  rw [C10G_window_key dbg size w hw]
  simp only [Option.bind_some, id]
  unfold Cache.lookupOrInsert Cache.lookupOrInsertWith
  have hkey : (⟨size, fingerprint (winOf w)⟩ : Key) = keyOf ⟨size, fingerprint (winOf w)⟩ := rfl
  simp only [hkey, get_map_keyOf]
  cases hg : mapGet c (⟨size, fingerprint (winOf w)⟩ : WindowKey) with
  | none =>
    simp only [Option.isNone_none, if_true, Option.bind_some, mapGet_insert_self, Option.map_some]
    rw [← insert_map_keyOf, get_map_keyOf, mapGet_insert_self]
    rfl
  | some v =>
    simp only [Option.isNone_some, Bool.false_eq_true, if_false, Option.bind_some, hg, Option.map_some, get_map_keyOf]
    rfl

/-- **QLPC_ERROR_BUFFER**, kernel level: `errors.resize(signal.len(), 0); lpc::compute_error(&qlpc, signal, errors)` gives the
same buffer and flag whatever the vector held before (both profiles). -/
theorem C10G_qlpc_error_buffer (dbg : Bool) (coefs : List Int) (shift : Int) (precision : Nat) (xs stale1 stale2 : List Int)
    (hlen : coefs.length ≤ 32) (hc : ∀ c ∈ coefs, c.natAbs < 2 ^ 15) (hs : 0 ≤ shift ∧ shift < 32)
    (hx : ∀ x ∈ xs, -(2 ^ 31 : Int) ≤ x ∧ x < 2 ^ 31) (hxl : xs.length < 2 ^ 63) (hord : coefs.length ≤ xs.length) :
    compute_error dbg (C01Gen.mkQ coefs shift precision) xs (Gen.Lpc.vecResize stale1 xs.length 0) =
      compute_error dbg (C01Gen.mkQ coefs shift precision) xs (Gen.Lpc.vecResize stale2 xs.length 0) := by
  rw [C01Gen.C01G_compute_error dbg coefs shift precision xs _ hlen hc hs hx hxl hord (Gen.Lpc.vecResize_length _ _ _),
    C01Gen.C01G_compute_error dbg coefs shift precision xs _ hlen hc hs hx hxl hord (Gen.Lpc.vecResize_length _ _ _)]

/-- ... and at the level of the decision logic: `estimated_qlpc` (Gen/Coding.lean), for every configuration, block and
oracle log -/
theorem C10G_estimated_qlpc (b1 b2 : List Int) (c : Gen.SubFrameCoding) (xs : List Int) (bps : Nat) (log : List OEvent) :
    Gen.Coding.estimated_qlpc b1 c xs bps log = Gen.Coding.estimated_qlpc b2 c xs bps log := by
  rw [C09Gen.C09G_estimated_qlpc b1, C09Gen.C09G_estimated_qlpc b2]

/-- **FIXED_LPC_ERRORS**, kernel level: `reset_fixed_lpc_errors` leaves the same five vectors whatever they held -/
theorem C10G_fixed_lpc_errors (dbg : Bool) (s0 s1 s2 s3 s4 t0 t1 t2 t3 t4 : SimdVec Int) (signal : List Int)
    (hl : signal.length < 2 ^ 63) :
    reset_fixed_lpc_errors dbg [s0, s1, s2, s3, s4] signal = reset_fixed_lpc_errors dbg [t0, t1, t2, t3, t4] signal := by
  rw [C01Gen.C01G_reset_fixed_lpc_errors dbg s0 s1 s2 s3 s4 signal hl, C01Gen.C01G_reset_fixed_lpc_errors dbg t0 t1 t2 t3 t4 signal hl]

/-- ... and `fixed_lpc` (Gen/Coding.lean) -/
theorem C10G_fixed_lpc (b1 b2 : List (List Int)) (c : Gen.SubFrameCoding) (xs : List Int) (bps baseline : Nat)
    (log : List OEvent) (hb : bps < 30) (hmo : c.fixed.max_order + 1 < 2 ^ 64) (hlen : 4 ≤ xs.length)
    (hov : C09Gen.SelectFits c xs bps log) :
    Gen.Coding.fixed_lpc b1 c xs bps baseline log = Gen.Coding.fixed_lpc b2 c xs bps baseline log := by
  rw [C09Gen.C09G_fixed_lpc b1 c xs bps baseline log hb hmo hlen hov, C09Gen.C09G_fixed_lpc b2 c xs bps baseline log hb hmo hlen hov]

/-- **CAST_BUFFER** (`LpcEstimator::fill_windowed_signal`): `cast_buf.reset_from_slice(signal)` does not depend on the stale
buffer; the rest of that closure is float code that reads the buffer (oracle). -/
theorem C10G_cast_buffer (dbg : Bool) (v1 v2 : SimdVec Int) (signal : List Int) (hl : signal.length < 2 ^ 63) :
    SimdVec.reset_from_slice dbg 16 v1 signal = SimdVec.reset_from_slice dbg 16 v2 signal := by
  rw [C01Gen.C01G_reset_from_slice dbg v1 signal hl, C01Gen.C01G_reset_from_slice dbg v2 signal hl]
  rw [resetFromSlice_eq, resetFromSlice_eq]

section
open C09Gen Gen.Coding

/-- **MSFRAMEBUF** (`try_stereo_coding`): two stale stereo buffers (any sizes and contents, under the shape invariant
`StereoBuf` the code itself maintains) give the same result and consume the same oracle events. -/
theorem C10G_msframebuf (st1 st2 : Gen.Coding.FrameBuf) (s1 : List (List Int)) (s2 : List Int) (c : Gen.Encoder) (fb : Gen.Coding.FrameBuf)
    (hI : Gen.Writer.FrameHeader) (sl sr : SubFrame) (pre : Option (List Nat)) (offset : Nat) (info : StreamInfo)
    (log : List OEvent) (cl cr : Nat)
    (hst1 : StereoBuf st1) (hst2 : StereoBuf st2) (hfb : FbOk fb 2) (hn : 1 ≤ fb.filled_size ∧ fb.filled_size < 2 ^ 16)
    (hch : info.channels = 2) (hb : 1 ≤ info.bps ∧ info.bps ≤ 24)
    (hx : ∀ ch, ch < 2 → ∀ x ∈ chanOf fb ch, SubFrame.inRange info.bps x = true)
    (hmax : c.subframe_coding.prc.max_parameter ≤ 14) (hmo : c.subframe_coding.fixed.max_order + 1 < 2 ^ 64)
    (hlog : LogFits log) (hcl : sl.count = some cl ∧ cl < 2 ^ 32) (hcr : sr.count = some cr ∧ cr < 2 ^ 32) :
    try_stereo_coding st1 s1 s2 c fb ⟨hI, [sl, sr], pre⟩ offset info log =
      try_stereo_coding st2 s1 s2 c fb ⟨hI, [sl, sr], pre⟩ offset info log := by
  rw [C09G_try_stereo_coding st1 s1 s2 c fb hI sl sr pre offset info log cl cr hst1 hfb hn hch hb hx hmax hmo hlog hcl hcr,
    C09G_try_stereo_coding st2 s1 s2 c fb hI sl sr pre offset info log cl cr hst2 hfb hn hch hb hx hmax hmo hlog hcl hcr]

end

/-- **FRAME_CRC_BUFFER** (`Frame::write`): the operations performed on the destination sink do not depend on the bytes the
reused `Vec<u8>` held (the scratch `MemSink` is not even a parameter: part `writer` accepts it only cleared-then-filled). -/
theorem C10G_frame_crc_buffer (p8 p16 : CrcParams) (g : Gen.Writer.Frame) (stale1 stale2 : List Nat) (ex : Nat → Bool)
    (hp : g.precomputed_bitstream = none) (hc : C08Gen.ChanOk g.header.channel_assignment) (hs : ∀ s ∈ g.subframes, s.WF) :
    Gen.Writer.Frame.write stale1 encodeUtf8like ex C08Gen.scratchBytes (crc p8) C08Gen.idealLen C08Gen.wordExport (crc p16) g =
      Gen.Writer.Frame.write stale2 encodeUtf8like ex C08Gen.scratchBytes (crc p8) C08Gen.idealLen C08Gen.wordExport (crc p16) g := by
  rw [C08Gen.C08G_frame_ops p8 p16 g stale1 ex hp hc hs, C08Gen.C08G_frame_ops p8 p16 g stale2 ex hp hc hs]

end FlacVerif.C10Gen
