/-
C19 — "Serialising any configuration to TOML and parsing it back yields an equal configuration;
parsing a document that omits fields yields the documented default for exactly those fields; a
parsed configuration is accepted or rejected by verification exactly as the equivalent in-memory
value."

`X.toT` / `X.fromT` (`Gen/Config.lean`) are the serde shape of the `#[derive(Serialize,
Deserialize)]`, `#[serde(default)]`, `#[serde(tag = "type")]`, `#[serde(default = "…")]` attributes
of `src/config.rs`, over the serde data model `TVal` (`Model/TVal.lean`); `X.resetFields par ks c`
is `c` with the fields named in `ks` replaced by the `impl Default` value; `TVal.eraseKeys ks`
removes keys from a table, `TVal.eraseAt path ks` (`Lemmas/Config.lean`) does so in the section
reached by `path`.  `par` = cargo feature "par", `exp` = cargo feature "experimental".
-/
import FlacVerif.Lemmas.Config
namespace FlacVerif
open Gen ConfigL

/-- `workers : Option<NonZeroUsize>`: `Some(0)` does not exist in Rust. -/
def Gen.Encoder.Wf (c : Encoder) : Prop := c.workers ≠ some 0

/-! ### round trip, and omitted top-level keys

Every key of `X.toT c` is looked up in the table with `ks` erased (`lookup_filter_keys`), the value
found parses back to the field (`field_erased`, then the round trip of the field's type), and the
chain collapses to `X.resetFields`; the round trip is the case `ks = []`. -/

theorem C19_roundtrip_window (par : Bool) (w : Window) : Window.fromT par (Window.toT w) = .ok w := by
  cases w <;> rfl

theorem C19_roundtrip_orderSel (par : Bool) (o : OrderSel) :
    OrderSel.fromT par (OrderSel.toT o) = .ok o := by
  cases o <;> rfl

attribute [cfg_parse] C19_roundtrip_window C19_roundtrip_orderSel

theorem C19_omitted_fields_stereo (par : Bool) (c : StereoCoding) (ks : List String) :
    StereoCoding.fromT par ((StereoCoding.toT c).eraseKeys ks) =
      .ok (StereoCoding.resetFields par ks c) := by
  simp only [StereoCoding.toT, cfg_parse, String.reduceBEq, StereoCoding.resetFields]

theorem C19_omitted_fields_prc (par : Bool) (c : Prc) (ks : List String) :
    Prc.fromT par ((Prc.toT c).eraseKeys ks) = .ok (Prc.resetFields par ks c) := by
  simp only [Prc.toT, cfg_parse, String.reduceBEq, Prc.resetFields]

theorem C19_omitted_fields_fixed (par : Bool) (c : Fixed) (ks : List String) :
    Fixed.fromT par ((Fixed.toT c).eraseKeys ks) = .ok (Fixed.resetFields par ks c) := by
  simp only [Fixed.toT, cfg_parse, String.reduceBEq, Fixed.resetFields]

theorem C19_omitted_fields_qlpc (par : Bool) (c : Qlpc) (ks : List String) :
    Qlpc.fromT par ((Qlpc.toT c).eraseKeys ks) = .ok (Qlpc.resetFields par ks c) := by
  simp only [Qlpc.toT, cfg_parse, String.reduceBEq, Qlpc.resetFields]

theorem C19_roundtrip_stereo (par : Bool) (c : StereoCoding) :
    StereoCoding.fromT par (StereoCoding.toT c) = .ok c := by
  simpa [StereoCoding.resetFields, eraseKeys_empty] using C19_omitted_fields_stereo par c []

theorem C19_roundtrip_prc (par : Bool) (c : Prc) : Prc.fromT par (Prc.toT c) = .ok c := by
  simpa [Prc.resetFields, eraseKeys_empty] using C19_omitted_fields_prc par c []

theorem C19_roundtrip_fixed (par : Bool) (c : Fixed) : Fixed.fromT par (Fixed.toT c) = .ok c := by
  simpa [Fixed.resetFields, eraseKeys_empty] using C19_omitted_fields_fixed par c []

theorem C19_roundtrip_qlpc (par : Bool) (c : Qlpc) : Qlpc.fromT par (Qlpc.toT c) = .ok c := by
  simpa [Qlpc.resetFields, eraseKeys_empty] using C19_omitted_fields_qlpc par c []

attribute [cfg_parse] C19_roundtrip_stereo C19_roundtrip_prc C19_roundtrip_fixed C19_roundtrip_qlpc

theorem C19_omitted_fields_subframe (par : Bool) (c : SubFrameCoding) (ks : List String) :
    SubFrameCoding.fromT par ((SubFrameCoding.toT c).eraseKeys ks) =
      .ok (SubFrameCoding.resetFields par ks c) := by
  simp only [SubFrameCoding.toT, cfg_parse, String.reduceBEq, SubFrameCoding.resetFields]

theorem C19_roundtrip_subframe (par : Bool) (c : SubFrameCoding) :
    SubFrameCoding.fromT par (SubFrameCoding.toT c) = .ok c := by
  simpa [SubFrameCoding.resetFields, eraseKeys_empty] using C19_omitted_fields_subframe par c []

attribute [cfg_parse] C19_roundtrip_subframe

theorem workers_ne_zero {c : Encoder} (h : c.Wf) (n : Nat) (hn : c.workers = some n) : n ≠ 0 :=
  fun h0 => h (h0 ▸ hn)

/-- Omitting ANY set `ks` of top-level keys yields the default for exactly those fields. -/
theorem C19_omitted_fields (par : Bool) (c : Encoder) (h : c.Wf) (ks : List String) :
    Encoder.fromT par ((Encoder.toT c).eraseKeys ks) = .ok (Encoder.resetFields par ks c) := by
  have hw := workers_ne_zero h
  cases hcw : c.workers <;>
    simp only [Encoder.toT, cfg_parse, hcw, hw, ne_eq, not_false_eq_true, String.reduceBEq,
      Encoder.resetFields, Encoder.default]

theorem C19_roundtrip (par : Bool) (c : Encoder) (h : c.Wf) :
    Encoder.fromT par (Encoder.toT c) = .ok c := by
  simpa [Encoder.resetFields, eraseKeys_empty] using C19_omitted_fields par c h []

/-- The parser only produces well-formed values (`workers = 0` is a parse error), so `Wf` is no
restriction on parsed configurations. -/
theorem C19_parsed_wf (par : Bool) (t : TVal) (c : Encoder) (h : Encoder.fromT par t = .ok c) :
    c.Wf := by
  cases t with
  | table kv =>
    rw [encoder_fromT_table] at h
    obtain ⟨_, -, h⟩ := field_ok h
    obtain ⟨_, -, h⟩ := field_ok h
    obtain ⟨w, hw, h⟩ := field_ok h
    obtain ⟨_, -, h⟩ := field_ok h
    obtain ⟨_, -, h⟩ := field_ok h
    cases h
    rcases hw with rfl | ⟨v, hv⟩
    · nofun
    · exact asNonZero_ne hv
  | _ => cases h

/-- Without `Wf` the round trip fails: the model's `some 0` (not a Rust value) is a parse error. -/
theorem C19_roundtrip_needs_wf (par : Bool) :
    Encoder.fromT par (Encoder.toT { Encoder.default par with workers := some 0 }) =
      .error "expected a non-zero integer" := by
  cases par <;> rfl

theorem C19_verify_commutes (par exp : Bool) (c : Encoder) (h : c.Wf) :
    (Encoder.fromT par (Encoder.toT c)).map (Encoder.verify exp) = .ok (Encoder.verify exp c) := by
  rw [C19_roundtrip par c h]; rfl

theorem C19_empty_document (par : Bool) : Encoder.fromT par (.table []) = .ok (Encoder.default par) :=
  rfl

theorem C19_empty_section (par : Bool) :
    StereoCoding.fromT par (.table []) = .ok (StereoCoding.default par) ∧
    SubFrameCoding.fromT par (.table []) = .ok (SubFrameCoding.default par) ∧
    Prc.fromT par (.table []) = .ok (Prc.default par) ∧
    Fixed.fromT par (.table []) = .ok (Fixed.default par) ∧
    Qlpc.fromT par (.table []) = .ok (Qlpc.default par) :=
  ⟨rfl, rfl, rfl, rfl, rfl⟩

/-- The internally tagged enums: omitting `partitions` gives the per-field default 16, omitting
`type` is an error (whatever else is omitted). -/
theorem C19_omitted_orderSel (par : Bool) (o : OrderSel) (ks : List String) :
    OrderSel.fromT par ((OrderSel.toT o).eraseKeys ks) =
      if ks.contains "type" then .error "unknown or missing `type` for OrderSel"
      else .ok (match o with
        | .BitCount => .BitCount
        | .ApproxEnt p => .ApproxEnt (if ks.contains "partitions" then 16 else p)) := by
  cases o <;>
    simp only [OrderSel.toT, eraseKeys_table, OrderSel.fromT, lookup_filter_keys] <;>
    cases ks.contains "type" <;> cases ks.contains "partitions" <;>
    simp [List.lookup, bind, Except.bind, pure, Except.pure, throw, throwThe, MonadExceptOf.throw,
      Const.DEFAULT_ENTROPY_ESTIMATOR_PARTITIONS]

/-- Omitting `alpha` gives the per-field default `0.4f32`; omitting `type` is an error. -/
theorem C19_omitted_window (par : Bool) (w : Window) (ks : List String) :
    Window.fromT par ((Window.toT w).eraseKeys ks) =
      if ks.contains "type" then .error "unknown or missing `type` for Window"
      else .ok (match w with
        | .Rectangle => .Rectangle
        | .Tukey a => .Tukey (if ks.contains "alpha" then 0x3ECCCCCD else a)) := by
  cases w <;>
    simp only [Window.toT, eraseKeys_table, Window.fromT, lookup_filter_keys] <;>
    cases ks.contains "type" <;> cases ks.contains "alpha" <;>
    simp [List.lookup, bind, Except.bind, pure, Except.pure, throw, throwThe, MonadExceptOf.throw,
      Const.qlpc_DEFAULT_TUKEY_ALPHA_bits]

theorem C19_omitted_partitions (par : Bool) (p : Nat) :
    OrderSel.fromT par ((OrderSel.toT (.ApproxEnt p)).eraseKeys ["partitions"]) =
      .ok (.ApproxEnt 16) := by
  rw [C19_omitted_orderSel]; rfl

theorem C19_omitted_alpha (par : Bool) (a : Nat) :
    Window.fromT par ((Window.toT (.Tukey a)).eraseKeys ["alpha"]) = .ok (.Tukey 0x3ECCCCCD) := by
  rw [C19_omitted_window]; rfl

theorem C19_omitted_type (par : Bool) (o : OrderSel) (w : Window) :
    (∃ e, OrderSel.fromT par ((OrderSel.toT o).eraseKeys ["type"]) = .error e) ∧
    (∃ e, Window.fromT par ((Window.toT w).eraseKeys ["type"]) = .error e) := by
  rw [C19_omitted_orderSel, C19_omitted_window]
  exact ⟨⟨_, rfl⟩, ⟨_, rfl⟩⟩

/-! ### sections — replacing the value of one nested section key by an arbitrary value

`Parent.fromT` of `Parent.toT c` with the value under a section key rewritten by `f` is the parse of
the rewritten section, put into `c`.  Together with the theorems above this covers documents that
omit keys INSIDE sections (`TVal.eraseAt`). -/

theorem encoder_section_subframe (par : Bool) (c : Encoder) (h : c.Wf)
    (f : TVal → TVal) :
    Encoder.fromT par ((Encoder.toT c).mapKey "subframe_coding" f) =
      (SubFrameCoding.fromT par (f (SubFrameCoding.toT c.subframe_coding))).map
        (fun x => { c with subframe_coding := x }) := by
  have hw := workers_ne_zero h
  cases hcw : c.workers <;>
    simp only [Encoder.toT, cfg_parse, hcw, hw, ne_eq, not_false_eq_true, String.reduceBEq, ↓reduceIte,
      Encoder.default] <;>
    exact bind_ok _ _

theorem encoder_section_stereo (par : Bool) (c : Encoder) (h : c.Wf)
    (f : TVal → TVal) :
    Encoder.fromT par ((Encoder.toT c).mapKey "stereo_coding" f) =
      (StereoCoding.fromT par (f (StereoCoding.toT c.stereo_coding))).map
        (fun x => { c with stereo_coding := x }) := by
  have hw := workers_ne_zero h
  cases hcw : c.workers <;>
    simp only [Encoder.toT, cfg_parse, hcw, hw, ne_eq, not_false_eq_true, String.reduceBEq, ↓reduceIte,
      Encoder.default] <;>
    exact bind_ok _ _

theorem subframe_section_fixed (par : Bool) (c : SubFrameCoding) (f : TVal → TVal) :
    SubFrameCoding.fromT par ((SubFrameCoding.toT c).mapKey "fixed" f) =
      (Fixed.fromT par (f (Fixed.toT c.fixed))).map (fun x => { c with fixed := x }) := by
  simp only [SubFrameCoding.toT, cfg_parse, String.reduceBEq, ↓reduceIte]
  exact bind_ok _ _

theorem subframe_section_qlpc (par : Bool) (c : SubFrameCoding) (f : TVal → TVal) :
    SubFrameCoding.fromT par ((SubFrameCoding.toT c).mapKey "qlpc" f) =
      (Qlpc.fromT par (f (Qlpc.toT c.qlpc))).map (fun x => { c with qlpc := x }) := by
  simp only [SubFrameCoding.toT, cfg_parse, String.reduceBEq, ↓reduceIte]
  exact bind_ok _ _

theorem subframe_section_prc (par : Bool) (c : SubFrameCoding) (f : TVal → TVal) :
    SubFrameCoding.fromT par ((SubFrameCoding.toT c).mapKey "prc" f) =
      (Prc.fromT par (f (Prc.toT c.prc))).map (fun x => { c with prc := x }) := by
  simp only [SubFrameCoding.toT, cfg_parse, String.reduceBEq, ↓reduceIte]
  exact bind_ok _ _

theorem fixed_section_orderSel (par : Bool) (c : Fixed) (f : TVal → TVal) :
    Fixed.fromT par ((Fixed.toT c).mapKey "order_sel" f) =
      (OrderSel.fromT par (f (OrderSel.toT c.order_sel))).map (fun x => { c with order_sel := x }) := by
  simp only [Fixed.toT, cfg_parse, String.reduceBEq, ↓reduceIte]
  exact bind_ok _ _

theorem qlpc_section_window (par : Bool) (c : Qlpc) (f : TVal → TVal) :
    Qlpc.fromT par ((Qlpc.toT c).mapKey "window" f) =
      (Window.fromT par (f (Window.toT c.window))).map (fun x => { c with window := x }) := by
  simp only [Qlpc.toT, cfg_parse, String.reduceBEq, ↓reduceIte]
  exact bind_ok _ _

/-! ### omitted keys INSIDE sections of the whole document

`(Encoder.toT c).eraseAt path ks`: the full document of `c` with the keys `ks` removed from the
section `[path]`.  The result is `c` with exactly those fields of that section reset. -/

theorem C19_omitted_in_stereo (par : Bool) (c : Encoder) (h : c.Wf) (ks : List String) :
    Encoder.fromT par ((Encoder.toT c).eraseAt ["stereo_coding"] ks) =
      .ok { c with stereo_coding := StereoCoding.resetFields par ks c.stereo_coding } := by
  simp only [TVal.eraseAt]
  rw [encoder_section_stereo par c h, C19_omitted_fields_stereo]; rfl

theorem C19_omitted_in_subframe (par : Bool) (c : Encoder) (h : c.Wf) (ks : List String) :
    Encoder.fromT par ((Encoder.toT c).eraseAt ["subframe_coding"] ks) =
      .ok { c with subframe_coding := SubFrameCoding.resetFields par ks c.subframe_coding } := by
  simp only [TVal.eraseAt]
  rw [encoder_section_subframe par c h, C19_omitted_fields_subframe]; rfl

theorem C19_omitted_in_fixed (par : Bool) (c : Encoder) (h : c.Wf) (ks : List String) :
    Encoder.fromT par ((Encoder.toT c).eraseAt ["subframe_coding", "fixed"] ks) =
      .ok { c with subframe_coding := { c.subframe_coding with
              fixed := Fixed.resetFields par ks c.subframe_coding.fixed } } := by
  simp only [TVal.eraseAt]
  rw [encoder_section_subframe par c h, subframe_section_fixed, C19_omitted_fields_fixed]; rfl

theorem C19_omitted_in_qlpc (par : Bool) (c : Encoder) (h : c.Wf) (ks : List String) :
    Encoder.fromT par ((Encoder.toT c).eraseAt ["subframe_coding", "qlpc"] ks) =
      .ok { c with subframe_coding := { c.subframe_coding with
              qlpc := Qlpc.resetFields par ks c.subframe_coding.qlpc } } := by
  simp only [TVal.eraseAt]
  rw [encoder_section_subframe par c h, subframe_section_qlpc, C19_omitted_fields_qlpc]; rfl

theorem C19_omitted_in_prc (par : Bool) (c : Encoder) (h : c.Wf) (ks : List String) :
    Encoder.fromT par ((Encoder.toT c).eraseAt ["subframe_coding", "prc"] ks) =
      .ok { c with subframe_coding := { c.subframe_coding with
              prc := Prc.resetFields par ks c.subframe_coding.prc } } := by
  simp only [TVal.eraseAt]
  rw [encoder_section_subframe par c h, subframe_section_prc, C19_omitted_fields_prc]; rfl

/-- `[subframe_coding.fixed.order_sel]` with `type = "ApproxEnt"` but no `partitions`. -/
theorem C19_omitted_in_orderSel (par : Bool) (c : Encoder) (h : c.Wf) (p : Nat)
    (hp : c.subframe_coding.fixed.order_sel = .ApproxEnt p) :
    Encoder.fromT par
        ((Encoder.toT c).eraseAt ["subframe_coding", "fixed", "order_sel"] ["partitions"]) =
      .ok { c with subframe_coding := { c.subframe_coding with
              fixed := { c.subframe_coding.fixed with order_sel := .ApproxEnt 16 } } } := by
  simp only [TVal.eraseAt]
  rw [encoder_section_subframe par c h, subframe_section_fixed, fixed_section_orderSel, hp,
    C19_omitted_partitions]; rfl

/-- `[subframe_coding.qlpc.window]` with `type = "Tukey"` but no `alpha`. -/
theorem C19_omitted_in_window (par : Bool) (c : Encoder) (h : c.Wf) (a : Nat)
    (ha : c.subframe_coding.qlpc.window = .Tukey a) :
    Encoder.fromT par
        ((Encoder.toT c).eraseAt ["subframe_coding", "qlpc", "window"] ["alpha"]) =
      .ok { c with subframe_coding := { c.subframe_coding with
              qlpc := { c.subframe_coding.qlpc with window := .Tukey 0x3ECCCCCD } } } := by
  simp only [TVal.eraseAt]
  rw [encoder_section_subframe par c h, subframe_section_qlpc, qlpc_section_window, ha,
    C19_omitted_alpha]; rfl

/-- A parsed configuration (any subset of top-level keys omitted) is accepted or rejected exactly as
the equivalent in-memory value. -/
theorem C19_verify_commutes_omitted (par exp : Bool) (c : Encoder) (h : c.Wf) (ks : List String) :
    (Encoder.fromT par ((Encoder.toT c).eraseKeys ks)).map (Encoder.verify exp) =
      .ok (Encoder.verify exp (Encoder.resetFields par ks c)) := by
  rw [C19_omitted_fields par c h ks]; rfl

theorem C19_default_documented (par : Bool) : Encoder.default par =
    { block_size := 4096, multithread := par, workers := none,
      stereo_coding := ⟨true, true, true⟩,
      subframe_coding := { use_constant := true, use_fixed := true, use_lpc := true,
                           fixed := ⟨4, .ApproxEnt 16⟩,
                           qlpc := ⟨10, 15, false, 0, .Tukey 0x3ECCCCCD⟩, prc := ⟨14⟩ } } :=
  rfl

/-- The default is well formed and is a fixed point of serialise-then-parse. -/
theorem C19_default_roundtrip (par : Bool) :
    Encoder.fromT par (Encoder.toT (Encoder.default par)) = .ok (Encoder.default par) :=
  C19_roundtrip par _ nofun

section Examples

-- core has no `DecidableEq (Except ε α)`; `decide` below compares parse results.  The instance is global (a section does not
-- scope it, and a derived instance cannot be `local`); no theorem module imports this file.
deriving instance DecidableEq for Except

private def c1 : Encoder :=
  { block_size := 1152, multithread := false, workers := some 3,
    stereo_coding := ⟨true, false, true⟩,
    subframe_coding :=
      { use_constant := false, use_fixed := true, use_lpc := true,
        fixed := ⟨2, .BitCount⟩, qlpc := ⟨8, 12, false, 0, .Tukey 0x3F000000⟩, prc := ⟨10⟩ } }

example : c1.Wf := by simp [Encoder.Wf, c1]
example : c1 ≠ Encoder.default true := by decide
example : Encoder.fromT true (Encoder.toT c1) = .ok c1 := by decide +kernel
example : Encoder.fromT false (Encoder.toT c1) = .ok c1 := by decide +kernel
example : Encoder.fromT true (.table [("block_size", .int 1152)]) =
    .ok { Encoder.default true with block_size := 1152 } := by decide
-- the crate's own test: `[subframe_coding.qlpc] lpc_order = 7`
example : Encoder.fromT true
    (.table [("subframe_coding", .table [("qlpc", .table [("lpc_order", .int 7)])])]) =
    .ok { Encoder.default true with subframe_coding :=
            { SubFrameCoding.default true with qlpc :=
                { Qlpc.default true with lpc_order := 7 } } } := by decide +kernel
example : Encoder.fromT true ((Encoder.toT c1).eraseKeys ["workers", "block_size"]) =
    .ok { c1 with workers := none, block_size := 4096 } := by decide +kernel
example : Encoder.fromT true
    ((Encoder.toT c1).eraseAt ["subframe_coding", "qlpc"] ["window", "lpc_order"]) =
    .ok { c1 with subframe_coding := { c1.subframe_coding with
            qlpc := ⟨10, 12, false, 0, .Tukey 0x3ECCCCCD⟩ } } := by decide +kernel
-- integer where a float is expected: `alpha = 1` parses as 1.0
example : Window.fromT true (.table [("type", .str "Tukey"), ("alpha", .int 1)]) =
    .ok (.Tukey 0x3F800000) := by decide
example : Encoder.fromT true (.table [("block_size", .bool true)]) =
    .error "expected an integer" := by decide
example : Encoder.fromT true (.table [("workers", .int 0)]) =
    .error "expected a non-zero integer" := by decide
example : OrderSel.fromT true (.table [("type", .str "Nope")]) =
    .error "unknown or missing `type` for OrderSel" := by decide +kernel
-- parsing succeeds on out-of-range values; verification then rejects (crate test
-- `deserialize_and_verify`: `[subframe_coding.qlpc] lpc_order = 256`)
example : (Encoder.fromT true
    (.table [("subframe_coding", .table [("qlpc", .table [("lpc_order", .int 256)])])])).map
      (Encoder.verify false) = .ok false := by decide +kernel

end Examples

end FlacVerif
