/-
C11Gen — the hand-written sink models (`Model/Sink.lean`: `WordSink` = `MemSink<u64>`, `ByteSink` = `MemSink<u8>`, `Op.expand`)
are EQUAL to the code generated from the current text of `src/bitsink.rs` (`Gen/Sink.lean`, translator part `sink`,
tools/translate_sink.py), in both cargo profiles (`dbg = true` dev, `dbg = false` release).

Domains.  The hand model has unbounded lengths and describes the dev profile only, so every theorem carries
  * a length bound (`g.bitlength + n < 2 ^ 64`, for `write_zeros` / steps `+ 64`): no `usize` overflow;
  * `hp : dbg = true ∨ n ≤ w`: in the release profile the model is only claimed inside `n ≤ w` (outside, the source wraps
    and the model says "panic": `C11G_release_outside_valid`);
  * `validWidth w` = `w ∈ Sealed.widths` (`C11G_widths`), read from the `impl Sealed for ..` items.
`toWord / ofWord`, `toByte / ofByte` identify the generated `MemSink 64` / `MemSink 8` with the model structures.
`C12Gen.*` used here (`reqCall`, `runReq`, `write_twoc_eq`, `default_*`, ..) is Lemmas/SinkTrait.lean: the provided trait methods over
any sink.

Each generated method is shown equal to the model's; a step, a run of any valid op list and the representation invariant
follow method by method. The methods generic in the element width (`paddings`, `with_capacity`, `write_to_byte_slice`, the
accessors) are treated once for every width. Where source and model differ there is a theorem with a witness.
-/
import FlacVerif.Gen.Sink
import FlacVerif.Theorems.C11
import FlacVerif.Lemmas.SinkTrait
import FlacVerif.Lemmas.Loop
import FlacVerif.Lemmas.Bytes
import FlacVerif.Lemmas.ListFacts
namespace FlacVerif.C11Gen
open FlacVerif.Gen.Sink

theorem C11G_widths (w : Nat) : validWidth w = true ↔ w ∈ Sealed.widths := by
  simp [validWidth, Sealed.widths, or_assoc]

theorem C11G_consts {w : Nat} (h : validWidth w = true) :
    Sealed.BITS w = w ∧ Sealed.BITS_LOG2 w = Sealed.BITS_LOG2_before w ∧ Sealed.BYTES w = w / 8 ∧ 2 ^ Sealed.BITS_LOG2 w = w := by
  rcases validWidth_cases h with rfl | rfl | rfl | rfl <;> decide

/-- `-x` modulo a divisor `m` of the modulus `M` the negation is taken in. -/
theorem neg_mod_of_dvd (M m x : Nat) (hm : 0 < m) (hd : m ∣ M) (hx : x < M) : (M - x) % m = (m - x % m) % m := by
  obtain ⟨q, rfl⟩ := hd
  have hr := Nat.mod_lt x hm
  have hdq : x / m < q := Nat.div_lt_of_lt_mul hx
  have e1 : m * q = m * (q - x / m - 1) + m * (x / m) + m := by
    rw [← Nat.mul_add, ← Nat.mul_succ]; congr 1; omega
  have e2 := Nat.div_add_mod x m
  by_cases h0 : x % m = 0
  · rw [h0, Nat.sub_zero, Nat.mod_self, show m * q - x = m * (q - x / m) by rw [Nat.mul_sub]; omega, Nat.mul_mod_right]
  · rw [show m * q - x = m * (q - x / m - 1) + (m - x % m) by omega, Nat.mul_add_mod]

/-- `((!x).wrapping_add(1)) & (2^k - 1)` on `usize`: the distance from `x` to the next multiple of `2^k`. -/
theorem neg_and_mask (x k : Nat) (hk : k ≤ 64) (hx : x < 2 ^ 64) :
    ((notU 64 x + 1) % 2 ^ 64) &&& (2 ^ k - 1) = (2 ^ k - x % 2 ^ k) % 2 ^ k := by
  rw [show notU 64 x + 1 = 2 ^ 64 - x by simp only [notU]; omega, Nat.and_two_pow_sub_one_eq_mod,
    Nat.mod_mod_of_dvd _ (Nat.pow_dvd_pow 2 hk), neg_mod_of_dvd _ _ _ (Nat.two_pow_pos _) (Nat.pow_dvd_pow 2 hk) hx]

theorem C11G_paddings (dbg : Bool) {sw : Nat} (h : validWidth sw = true) (s : MemSink sw) (hl : s.bitlength < 2 ^ 64) :
    MemSink.paddings dbg s = some ((sw - s.bitlength % sw) % sw) := by
  obtain ⟨hb, _, _, hp⟩ := C11G_consts h
  have hk : Sealed.BITS_LOG2 sw ≤ 64 := by rcases validWidth_cases h with rfl | rfl | rfl | rfl <;> decide
  have h1 : 1 ≤ sw := by rw [← hp]; exact Nat.two_pow_pos _
  simp only [MemSink.paddings, hb, subU_ok, h1, Option.bind_some]
  generalize s.bitlength = x at hl
  generalize Sealed.BITS_LOG2 sw = k at hp hk
  subst hp
  rw [neg_and_mask x k hk hl]

def toWord (g : MemSink 64) : WordSink := ⟨g.storage, g.bitlength⟩
def ofWord (s : WordSink) : MemSink 64 := ⟨s.storage, s.len⟩
@[simp] theorem toWord_ofWord (s : WordSink) : toWord (ofWord s) = s := rfl
@[simp] theorem ofWord_toWord (g : MemSink 64) : ofWord (toWord g) = g := rfl

theorem modify_last {α : Type} (xs : List α) (f : α → α) :
    xs.modify (xs.length - 1) f = (match lastMut xs with | some p => setLast xs (f p) | none => xs) := by
  rcases List.eq_nil_or_concat xs with rfl | ⟨ys, a, rfl⟩
  · rfl
  · rw [List.concat_eq_append, modify_last_concat]
    simp only [lastMut, setLast, List.getLast?_append, List.getLast?_singleton, Option.some_or, List.dropLast_concat]

theorem C11G_word_paddings (dbg : Bool) (g : MemSink 64) (hl : g.bitlength < 2 ^ 64) :
    MemSink.paddings dbg g = some (toWord g).paddings := C11G_paddings dbg (by decide) g hl

theorem C11G_word_write_msbs_impl (dbg : Bool) {w : Nat} (hw : validWidth w = true) (g : MemSink 64) (val : BitVec w) (n : Nat)
    (hl : g.bitlength + n < 2 ^ 64)
    (hd : dbg = true → 0 < n ∧ n ≤ w ∧ (val >>> (w - n)) <<< (w - n) = val) :
    MemSinkU64.write_msbs_impl dbg g val n = some (ofWord ((toWord g).writeMsbsImpl (WordSink.widen val) n)) := by
  have hb := (C11G_consts hw).1
  have hp := C11G_word_paddings dbg g (Nat.lt_of_add_right_lt hl)
  have hr : (toWord g).paddings < 64 := Nat.mod_lt _ (by decide)
  obtain ⟨_, hw8, hw64⟩ := validWidth_facts hw
  have hw0 : 64 - w < 64 := Nat.sub_lt (by decide) (Nat.lt_of_lt_of_le (by decide) hw8)
  have hassert : (if dbg = true then
      (subU dbg 64 w n).bind fun v1 => (shrB dbg val v1).bind fun v2 => (subU dbg 64 w n).bind fun v3 =>
      (shlB dbg v2 v3).bind fun v4 => req (decide (v4 = val)) else some ()) = some () := by
    cases dbg with
    | false => simp
    | true =>
      obtain ⟨h0, hn, he⟩ := hd rfl
      have : w - n < w := Nat.sub_lt_self h0 hn
      simp [subU, shrB, shlB, hn, this, he, req]
  simp only [MemSinkU64.write_msbs_impl, hb, hassert, hp, Option.bind_some]
  generalize hrr : (toWord g).paddings = r at hr
  have h1 : g.bitlength + n < 2 ^ 64 := hl
  simp only [addU_ok, h1, if_true, Option.bind_some, subU_ok, hw64, shlB, hw0]
  have h2 : r % 2 ^ 32 = r := Nat.mod_eq_of_lt (Nat.lt_trans hr (by decide))
  have h3 : r ≤ 64 := Nat.le_of_lt hr
  simp only [h2, subU_ok, h3, Option.bind_some, WordSink.writeMsbsImpl, hrr, WordSink.widen]
  simp only [ofWord, toWord, modify_last]
  by_cases hr0 : r = 0
  · subst hr0; simp; split <;> rfl
  · have : r % 64 = r := Nat.mod_eq_of_lt hr
    simp only [hr0, this, ne_eq, not_false_eq_true, if_true]
    cases lastMut g.storage <;> simp <;> split <;> rfl

/-- `debug_assert!((val >> k) << k == val)` of `write_msbs_impl` holds of an operand that ends in `k` zeros. -/
theorem shr_shl_of_zeros {w : Nat} (v : BitVec w) (k : Nat) (hk : k ≤ w) (p : Bits)
    (h : msbBits v = p ++ List.replicate k false) : (v >>> k) <<< k = v := by
  have hp : p.length = w - k := by
    have := congrArg List.length h
    rw [length_msbBits, List.length_append, List.length_replicate] at this; omega
  apply msbBits_inj
  rw [msbBits_shiftLeft _ k hk, msbBits_ushiftRight v k hk, List.drop_left' List.length_replicate, h,
    List.take_left' hp]

theorem one_le_shl {w : Nat} (k : Nat) (hk : k < w) : (1#w).toNat ≤ (1#w <<< k).toNat := by
  rw [toNat_one_shiftLeft hk, BitVec.toNat_ofNat, Nat.mod_eq_of_lt (Nat.one_lt_two_pow (by omega))]
  exact Nat.two_pow_pos k

/-- the masking statement `val &= !((T::one() << (T::BITS - n)) - T::one())` as generated: the three checked steps -/
theorem gen_mask (dbg : Bool) {w : Nat} (n : Nat) (hn0 : n ≠ 0) (hp : dbg = true ∨ n ≤ w) {β : Type}
    (k : BitVec w → Option β) :
    ((subU dbg 64 w n).bind fun v1 => (shlB dbg (1#w) v1).bind fun v2 => (subB dbg v2 (1#w)).bind k)
      = if n ≤ w then k ((1#w <<< (w - n)) - 1#w) else none := by
  by_cases hn : n ≤ w
  · have hk : w - n < w := Nat.sub_lt_self (Nat.pos_of_ne_zero hn0) hn
    simp only [subU_ok, hn, if_true, Option.bind_some, shlB, hk, subB, one_le_shl _ hk]
  · have hd : dbg = true := hp.resolve_right hn
    simp [subU, hn, hd]

/-- the model's masking step, in the shape `gen_mask` gives the generated one -/
theorem maskMsbs_eq {w : Nat} (val : BitVec w) (n : Nat) (hn0 : n ≠ 0) :
    maskMsbs val n = if n ≤ w then some (val &&& ~~~((1#w <<< (w - n)) - 1#w)) else none := by
  by_cases hn : n ≤ w
  · simp [maskMsbs, chkSub, chkShl, hn, Nat.sub_lt_self (Nat.pos_of_ne_zero hn0) hn, bind, Option.bind]
  · simp [maskMsbs, chkSub, hn, bind, Option.bind]

theorem C11G_word_write_msbs (dbg : Bool) {w : Nat} (hw : validWidth w = true) (g : MemSink 64) (val : BitVec w) (n : Nat)
    (hl : g.bitlength + n < 2 ^ 64) (hp : dbg = true ∨ n ≤ w) :
    MemSinkU64.write_msbs dbg g val n = ((toWord g).writeMsbs val n).map ofWord := by
  have hb := (C11G_consts hw).1
  by_cases hn0 : n = 0
  · simp [MemSinkU64.write_msbs, WordSink.writeMsbs, hn0]
  · simp only [MemSinkU64.write_msbs, WordSink.writeMsbs, hn0, if_false, hb]
    rw [gen_mask dbg n hn0 hp, maskMsbs_eq val n hn0]
    by_cases hn : n ≤ w
    · have hk : w - n < w := Nat.sub_lt_self (Nat.pos_of_ne_zero hn0) hn
      simp only [hn, if_true, Option.bind_some, bind]
      rw [C11G_word_write_msbs_impl dbg hw g _ n hl]
      · simp
      · intro _
        obtain ⟨m, hm, hmb⟩ := maskMsbs_bits val n (Nat.pos_of_ne_zero hn0) hn
        rw [maskMsbs_eq val n hn0, if_pos hn] at hm
        cases hm
        exact ⟨Nat.pos_of_ne_zero hn0, hn, shr_shl_of_zeros _ _ (Nat.sub_le w n) _ hmb⟩
    · simp [bind, hn]

theorem C11G_word_write_lsbs (dbg : Bool) {w : Nat} (hw : validWidth w = true) (g : MemSink 64) (val : BitVec w) (n : Nat)
    (hl : g.bitlength + n < 2 ^ 64) (hp : dbg = true ∨ n ≤ w) :
    MemSinkU64.write_lsbs dbg g val n = ((toWord g).writeLsbs val n).map ofWord := by
  have hb := (C11G_consts hw).1
  by_cases hn0 : n = 0
  · simp [MemSinkU64.write_lsbs, WordSink.writeLsbs, hn0]
  · simp only [MemSinkU64.write_lsbs, WordSink.writeLsbs, hn0, if_false, hb]
    by_cases hn : n ≤ w
    · have hk : w - n < w := Nat.sub_lt_self (Nat.pos_of_ne_zero hn0) hn
      simp only [subU_ok, hn, if_true, Option.bind_some, shlB, hk, chkSub, chkShl, bind]
      rw [C11G_word_write_msbs_impl dbg hw g _ n hl]
      · simp
      · intro _
        exact ⟨Nat.pos_of_ne_zero hn0, hn, shr_shl_of_zeros _ _ (Nat.sub_le w n) _ (msbBits_shiftLeft val _ (Nat.sub_le w n))⟩
    · have hd : dbg = true := hp.resolve_right hn
      simp [subU, hn, hd, chkSub, bind, Option.bind]

theorem C11G_word_write (dbg : Bool) {w : Nat} (hw : validWidth w = true) (g : MemSink 64) (val : BitVec w)
    (hl : g.bitlength + w < 2 ^ 64) :
    MemSinkU64.write dbg g val = ((toWord g).writeMsbs val w).map ofWord := by
  simp only [MemSinkU64.write, (C11G_consts hw).1, C11G_word_write_msbs dbg hw g val w hl (Or.inr (Nat.le_refl _))]
  cases (toWord g).writeMsbs val w <;> simp

theorem C11G_word_align_to_byte (dbg : Bool) (g : MemSink 64) (hl : g.bitlength + 7 < 2 ^ 64) :
    MemSinkU64.align_to_byte dbg g = some ((toWord g).paddingsToByte, ofWord (toWord g).alignToByte) := by
  have hpb : MemSink.paddings_to_byte g = (toWord g).paddingsToByte := neg_and_mask g.bitlength 3 (by decide) (by omega)
  have : g.bitlength + (toWord g).paddingsToByte < 2 ^ 64 := by
    simp only [WordSink.paddingsToByte, toWord, Nat.reducePow]; omega
  simp only [MemSinkU64.align_to_byte, hpb, addU_ok, this, Option.bind_some]
  simp [WordSink.alignToByte, ofWord, toWord]

theorem C11G_word_write_zeros (dbg : Bool) (g : MemSink 64) (n : Nat)
    (hl : g.bitlength + n + 64 < 2 ^ 64) (hs : g.storage.length ≤ g.bitlength) :
    MemSinkU64.write_zeros dbg g n = some (ofWord ((toWord g).writeZeros n)) := by
  have hp := C11G_word_paddings dbg g (Nat.lt_of_add_right_lt (Nat.lt_of_add_right_lt hl))
  have hr : (toWord g).paddings < 64 := Nat.mod_lt _ (by decide)
  simp only [MemSinkU64.write_zeros, hp, Option.bind_some, (C11G_consts (w := 64) (by decide)).1]
  generalize hrr : (toWord g).paddings = r at hr
  have h1 : g.bitlength + n < 2 ^ 64 := Nat.lt_of_add_right_lt hl
  have h2 : n - r + 64 < 2 ^ 64 := by omega
  have h3 : Sealed.BITS_LOG2 64 = 6 := by decide
  have h4 : 1 ≤ n - r + 64 := by omega
  have h5 : shrU (n - r + 64 - 1) 6 = (n - r + 63) / 64 := by
    have : n - r + 64 - 1 = n - r + 63 := by omega
    simp [shrU, this]
  simp only [addU_ok, h1, h2, Option.bind_some, subU_ok, h4, h3, shAmt_ok, show (6 : Nat) < 64 by omega, h5,
    WordSink.writeZeros, hrr]
  simp only [ofWord, toWord]
  by_cases he : (n - r + 63) / 64 > 0
  · have h6 : g.storage.length + (n - r + 63) / 64 < 2 ^ 64 := by omega
    simp [he, addU_ok, h6, vecResize, List.take_of_length_le]
  · have : (n - r + 63) / 64 = 0 := by omega
    simp [this]

theorem word_forO_write (dbg : Bool) (bytes : List (BitVec 8)) (g : MemSink 64) (hl : g.bitlength + 8 * bytes.length < 2 ^ 64) :
    (forO bytes g fun b self => (MemSinkU64.write dbg self b).bind fun self => some self)
      = (bytes.foldlM (fun (s : WordSink) b => s.writeMsbs b 8) (toWord g)).map ofWord := by
  induction bytes generalizing g with
  | nil => simp [forO]
  | cons b bs ih =>
    simp only [List.length_cons] at hl
    simp only [forO, List.foldlM_cons, C11G_word_write dbg (w := 8) (by decide) g b (by omega)]
    cases hm : (toWord g).writeMsbs b 8 with
    | none => simp [bind]
    | some s' =>
      have hlen := WordSink.writeMsbs_len _ _ _ _ hm
      simp only [Option.map_some, Option.bind_some, bind]
      rw [ih (ofWord s') (by simp only [ofWord, hlen, toWord]; omega)]
      simp

theorem C11G_word_write_bytes_aligned (dbg : Bool) (g : MemSink 64) (bytes : List (BitVec 8))
    (hl : g.bitlength + 7 + 8 * bytes.length < 2 ^ 64) :
    MemSinkU64.write_bytes_aligned dbg g bytes =
      (bytes.foldlM (fun (s : WordSink) b => s.writeMsbs b 8) (toWord g).alignToByte).map
        fun s => ((toWord g).paddingsToByte, ofWord s) := by
  simp only [MemSinkU64.write_bytes_aligned, C11G_word_align_to_byte dbg g (Nat.lt_of_add_right_lt hl), Option.bind_some]
  rw [word_forO_write dbg bytes _ (by
    simp only [ofWord, WordSink.alignToByte, toWord, WordSink.paddingsToByte]; omega)]
  simp only [toWord_ofWord]
  cases bytes.foldlM (fun (s : WordSink) b => s.writeMsbs b 8) (toWord g).alignToByte <;> simp

theorem C11G_word_write_twoc (dbg : Bool) (g : MemSink 64) (v : Int) (n : Nat)
    (hl : g.bitlength + n < 2 ^ 64) (hp : dbg = true ∨ (1 ≤ n ∧ n ≤ 64)) :
    MemSinkU64.write_twoc dbg g v n = ((toWord g).step (.writeTwoc v n)).map fun s => (Except.ok (), ofWord s) := by
  rw [MemSinkU64.write_twoc, C12Gen.write_twoc_eq dbg _ g v n hp, WordSink.step_writeTwoc]
  by_cases hv : 1 ≤ n ∧ n ≤ 64
  · rw [if_pos hv, if_pos hv]
    simp only [MemSinkU64.req, C11G_word_write_msbs dbg (w := 64) (by decide) g _ n hl (Or.inr hv.2), Option.map_map]
    rfl
  · rw [if_neg hv, if_neg hv]; rfl

/-- the generated method an `Op` stands for (the list "Sink methods" at the end of Gen/Writer.lean, read backwards) -/
def genStepWord (dbg : Bool) (g : MemSink 64) : Op → Option (MemSink 64)
  | .alignToByte => (MemSinkU64.align_to_byte dbg g).map (·.2)
  | .writeLsbs w v n => MemSinkU64.write_lsbs dbg g (BitVec.ofNat w v) n
  | .writeMsbs w v n => MemSinkU64.write_msbs dbg g (BitVec.ofNat w v) n
  | .write w v => MemSinkU64.write dbg g (BitVec.ofNat w v)
  | .writeTwoc v n => (MemSinkU64.write_twoc dbg g v n).map (·.2)
  | .writeZeros n => MemSinkU64.write_zeros dbg g n
  | .writeBytesAligned bs => (MemSinkU64.write_bytes_aligned dbg g (bs.map (BitVec.ofNat 8))).map (·.2)

/-- upper bound of the number of bits an operation appends. The `+ 64` that the step and run theorems add to it is the
`BITS` that `write_zeros` of `MemSink<u64>` adds before it divides; `MemSink<u8>` would do with `+ 8` and is given the same
bound. -/
def grow : Op → Nat
  | .alignToByte => 7
  | .writeLsbs _ _ n => n
  | .writeMsbs _ _ n => n
  | .write w _ => w
  | .writeTwoc _ n => n
  | .writeZeros n => n
  | .writeBytesAligned bs => 7 + 8 * bs.length

theorem C11G_word_step (dbg : Bool) (g : MemSink 64) (op : Op) (hv : op.Valid)
    (hs : g.storage.length ≤ g.bitlength) (hl : g.bitlength + grow op + 64 < 2 ^ 64) :
    genStepWord dbg g op = ((toWord g).step op).map ofWord := by
  have hl' := Nat.lt_of_add_right_lt hl
  cases op <;> simp only [grow] at hl hl'
  case alignToByte =>
    simp [genStepWord, WordSink.step, C11G_word_align_to_byte dbg g hl']
  case writeLsbs w v n =>
    obtain ⟨hw, _, hn⟩ := hv
    simp only [genStepWord, WordSink.step, C11G_word_write_lsbs dbg hw g _ n hl' (Or.inr hn)]
  case writeMsbs w v n =>
    obtain ⟨hw, _, hn⟩ := hv
    simp only [genStepWord, WordSink.step, C11G_word_write_msbs dbg hw g _ n hl' (Or.inr hn)]
  case write w v =>
    obtain ⟨hw, _⟩ := hv
    simp only [genStepWord, WordSink.step, C11G_word_write dbg hw g _ hl']
  case writeTwoc v n =>
    obtain ⟨h1, h2, _⟩ := hv
    simp only [genStepWord, C11G_word_write_twoc dbg g v n hl' (Or.inr ⟨h1, h2⟩), Option.map_map]
    cases (toWord g).step (.writeTwoc v n) <;> simp
  case writeZeros n =>
    simp [genStepWord, WordSink.step, C11G_word_write_zeros dbg g n hl hs]
  case writeBytesAligned bs =>
    simp only [genStepWord, WordSink.step,
      C11G_word_write_bytes_aligned dbg g (bs.map (BitVec.ofNat 8)) (by rw [List.length_map, Nat.add_assoc]; exact hl'), Option.map_map, List.foldlM_map]
    cases List.foldlM (fun (s : WordSink) b => s.writeMsbs (BitVec.ofNat 8 b) 8) (toWord g).alignToByte bs <;> simp

theorem bytesToBits_len (bs : List Nat) : (bytesToBits bs).length = 8 * bs.length := Count.bytesToBits_length bs

theorem ideal_length_le (len : Nat) (op : Op) : (op.ideal len).length ≤ grow op := by
  cases op with
  | alignToByte => simp only [Op.ideal, List.length_replicate, grow]; omega
  | writeLsbs w v n => simp [Op.ideal, grow]
  | writeMsbs w v n => simp only [Op.ideal, List.length_take, natToBits_length, grow]; omega
  | write w v => simp [Op.ideal, grow]
  | writeTwoc v n => simp [Op.ideal, grow, twoc]
  | writeZeros n => simp [Op.ideal, grow]
  | writeBytesAligned bs =>
    simp only [Op.ideal, List.length_append, List.length_replicate, Count.bytesToBits_length, grow]; omega

theorem idealRun_length_le (len : Nat) (ops : List Op) : (idealRun len ops).length ≤ (ops.map grow).sum := by
  induction ops generalizing len with
  | nil => exact Nat.le_refl 0
  | cons op ops ih =>
    rw [idealRun, List.length_append, List.map_cons, List.sum_cons]
    exact Nat.add_le_add (ideal_length_le len op) (ih _)

/-- A run through generated steps is the model's run: one generated step is the model's wherever there is room for `grow op + 64`
more bits (`hstep`), and the model's step keeps the invariant and appends the ideal bits (`href`, the form of `C11_word_refines`). -/
theorem run_of_step {γ σ : Type} (ofM : σ → γ) (gstep : γ → Op → Option γ) (mstep : σ → Op → Option σ) (Inv : σ → Prop)
    (abs : σ → Bits) (len : σ → Nat) (habs : ∀ s, (abs s).length = len s)
    (hstep : ∀ s op, Inv s → op.Valid → len s + grow op + 64 < 2 ^ 64 → gstep (ofM s) op = (mstep s op).map ofM)
    (href : ∀ s op, Inv s → op.Valid →
      ∃ s', mstep s op = some s' ∧ Inv s' ∧ abs s' = abs s ++ op.ideal (len s) ∧ len s' = (abs s').length)
    (s : σ) (ops : List Op) (hi : Inv s) (hv : ∀ op ∈ ops, op.Valid) (hl : len s + (ops.map grow).sum + 64 < 2 ^ 64) :
    ops.foldlM gstep (ofM s) = (ops.foldlM mstep s).map ofM := by
  induction ops generalizing s with
  | nil => rfl
  | cons op ops ih =>
    rw [List.map_cons, List.sum_cons] at hl
    have hvo := hv op List.mem_cons_self
    obtain ⟨s', hs', hi', ha, hlen⟩ := href s op hi hvo
    rw [ha, List.length_append, habs] at hlen
    have hle := ideal_length_le (len s) op
    rw [List.foldlM_cons, List.foldlM_cons, hstep s op hi hvo (by omega), hs']
    exact ih s' hi' (fun o ho => hv o (List.mem_cons_of_mem _ ho)) (by omega)

theorem C11G_word_run (dbg : Bool) (g : MemSink 64) (ops : List Op) (hi : (toWord g).Inv) (hv : ∀ op ∈ ops, op.Valid)
    (hl : g.bitlength + (ops.map grow).sum + 64 < 2 ^ 64) :
    ops.foldlM (genStepWord dbg) g = ((toWord g).run ops).map ofWord :=
  run_of_step ofWord (genStepWord dbg) WordSink.step WordSink.Inv WordSink.abs WordSink.len (fun s => by simp [WordSink.abs])
    (fun s op hi hv hl => C11G_word_step dbg (ofWord s) op hv hi.size_le hl) C11.C11_word_refines (toWord g) ops hi hv hl

def toByte (g : MemSink 8) : ByteSink := ⟨g.storage, g.bitlength⟩
def ofByte (s : ByteSink) : MemSink 8 := ⟨s.storage, s.len⟩
@[simp] theorem toByte_ofByte (s : ByteSink) : toByte (ofByte s) = s := rfl
@[simp] theorem ofByte_toByte (g : MemSink 8) : ofByte (toByte g) = g := rfl

theorem C11G_byte_paddings (dbg : Bool) (g : MemSink 8) (hl : g.bitlength < 2 ^ 64) :
    MemSink.paddings dbg g = some (toByte g).paddings := C11G_paddings dbg (by decide) g hl

theorem C11G_byte_align_to_byte (dbg : Bool) (g : MemSink 8) (hl : g.bitlength + 7 < 2 ^ 64) :
    MemSinkU8.align_to_byte dbg g = some ((toByte g).paddings, ofByte (toByte g).alignToByte) := by
  have hp := C11G_byte_paddings dbg g (Nat.lt_of_add_right_lt hl)
  have : g.bitlength + (toByte g).paddings < 2 ^ 64 := by
    simp only [ByteSink.paddings, toByte]; omega
  simp only [MemSinkU8.align_to_byte, hp, addU_ok, this, Option.bind_some]
  simp [ByteSink.alignToByte, ofByte, toByte]

theorem C11G_byte_write_bytes_aligned (dbg : Bool) (g : MemSink 8) (bytes : List (BitVec 8))
    (hl : g.bitlength + 7 + 8 * bytes.length < 2 ^ 64) :
    MemSinkU8.write_bytes_aligned dbg g bytes =
      some ((toByte g).paddings, ofByte ((toByte g).writeBytesAligned (bytes.map BitVec.toNat))) := by
  have h1 : 8 * bytes.length < 2 ^ 64 := by omega
  have h2 : g.bitlength + (toByte g).paddings + 8 * bytes.length < 2 ^ 64 := by
    simp only [ByteSink.paddings, toByte]; omega
  simp only [MemSinkU8.write_bytes_aligned, C11G_byte_align_to_byte dbg g (Nat.lt_of_add_right_lt hl), Option.bind_some, mulU_ok, h1,
    addU, ofByte, ByteSink.alignToByte]
  simp only [toByte] at h2
  simp only [toByte, h2, if_true, Option.bind_some]
  simp [ByteSink.writeBytesAligned, ByteSink.alignToByte, List.map_map, Function.comp_def]

theorem C11G_byte_write_zeros (dbg : Bool) (g : MemSink 8) (n : Nat)
    (hl : g.bitlength + n + 8 < 2 ^ 64) (hs : g.storage.length ≤ g.bitlength) :
    MemSinkU8.write_zeros dbg g n = some (ofByte ((toByte g).writeZeros n)) := by
  have hp := C11G_byte_paddings dbg g (Nat.lt_of_add_right_lt (Nat.lt_of_add_right_lt hl))
  have hr : (toByte g).paddings < 8 := Nat.mod_lt _ (by decide)
  simp only [MemSinkU8.write_zeros, hp, Option.bind_some, ByteSink.writeZeros]
  generalize hrr : (toByte g).paddings = r at hr
  by_cases hn : n ≤ r
  · have h1 : g.bitlength + n < 2 ^ 64 := Nat.lt_of_add_right_lt hl
    simp [hn, addU_ok, h1, ofByte, toByte]
  · have h1 : g.bitlength + r < 2 ^ 64 := by omega
    have h2 : r ≤ n := Nat.le_of_not_le hn
    have h3 : n - r + 7 < 2 ^ 64 := by omega
    have h4 : g.storage.length + (n - r + 7) / 8 < 2 ^ 64 := by omega
    have h5 : g.bitlength + r + (n - r) < 2 ^ 64 := by omega
    have h6 : shrU (n - r + 7) 3 = (n - r + 7) / 8 := by simp [shrU]
    simp only [hn, if_false, addU_ok, h1, Option.bind_some, subU_ok, h2, h3, h6, h4, h5, ofByte, toByte]
    simp [vecResize, List.take_of_length_le]

theorem forO_eq_loop {α σ : Type} (xs : List α) (s : σ) (f : α → σ → Option σ) : forO xs s f = Prelude.loop xs s f :=
  Prelude.eq_loop forO (fun _ _ => rfl) (fun _ _ _ _ => rfl) xs s f

theorem leBytes_getElem? {w : Nat} (val : BitVec w) (j : Nat) (hj : j < w / 8) :
    (leBytes val)[j]? = some ((val >>> (8 * j)).setWidth 8) := by
  simp [leBytes, hj]

/-- the byte loop of `MemSink<u8>::write_msbs` (little-endian target) -/
theorem byte_loop (dbg : Bool) {w : Nat} (hw8 : w % 8 = 0) (val : BitVec w) (m : Nat) (hm : m ≤ w / 8) (g : MemSink 8) :
    (forO (rangeL 0 m) g fun i self =>
      (subU dbg 64 (sizeOfT w) i).bind fun v11 => (subU dbg 64 v11 1).bind fun v12 => ((leBytes val)[v12]?).bind fun v13 =>
      some { self with storage := self.storage ++ [v13] })
    = some { g with storage := g.storage ++ (List.range m).map (fun i => (val >>> (w - 8 * (i + 1))).setWidth 8) } := by
  rw [forO_eq_loop, rangeL, Nat.sub_zero]
  refine (Prelude.loop_inv _ _ (fun m => { g with
    storage := g.storage ++ (List.range m).map (fun i => (val >>> (w - 8 * (i + 1))).setWidth 8) }) g (by simp) fun i hi => ?_).trans (by rw [List.length_range'])
  rw [List.length_range'] at hi
  have h1 : i ≤ w / 8 := by omega
  have h2 : 1 ≤ w / 8 - i := by omega
  have h3 : w / 8 - i - 1 < w / 8 := by omega
  have h4 : 8 * (w / 8 - i - 1) = w - 8 * (i + 1) := by omega
  simp [sizeOfT, subU_ok, h1, h2, leBytes_getElem? val _ h3, h4, List.range_succ]

/-- the part of the generated `MemSink<u8>::write_msbs` after the partial last byte has been filled (the join point `k6` of
the generated term: whole bytes, then the tail byte) -/
def tailGen (dbg : Bool) {w : Nat} (self : MemSink 8) (val : BitVec w) (n : Nat) : Option (MemSink 8) :=
  let bytes_to_write := shrU n 3
  let k7 : (MemSink 8) × Nat → Option (MemSink 8) := fun (self, n) =>
      if n > 0 then
        (shlB dbg val (shlU 64 bytes_to_write 3)).bind fun v8 =>
        let val := v8
        (subU dbg 64 (Sealed.BITS w) 8).bind fun v9 =>
        (shrB dbg val v9).bind fun v10 =>
        let tail_byte := v10.setWidth 8
        let self := { self with storage := self.storage ++ [tail_byte] }
        some self
      else
        some self
  if bytes_to_write > 0 then
    let bytes := leBytes val
    let bytes := bytes
    (forO (rangeL 0 bytes_to_write) self fun i self =>
        (subU dbg 64 (sizeOfT w) i).bind fun v11 =>
        (subU dbg 64 v11 1).bind fun v12 =>
        (bytes[v12]?).bind fun v13 =>
        let self := { self with storage := self.storage ++ [v13] }
        some self).bind fun self =>
    let n := n &&& 7
    k7 (self, n)
  else
    k7 (self, n)

/-- the generated `write_msbs` of `MemSink<u8>` with its join point named -/
theorem byte_write_msbs_unfold (dbg : Bool) {w : Nat} (self : MemSink 8) (val : BitVec w) (n : Nat) :
    MemSinkU8.write_msbs dbg self val n =
    if n = 0 then some self else
    (MemSink.paddings dbg self).bind fun r =>
    (addU dbg 64 self.bitlength n).bind fun v2 =>
    let self := { self with bitlength := v2 }
    (subU dbg 64 (Sealed.BITS w) n).bind fun v3 =>
    (shlB dbg (1#w) v3).bind fun v4 =>
    (subB dbg v4 (1#w)).bind fun v5 =>
    let val := val &&& (~~~v5)
    if r ≠ 0 then
      (subU dbg 64 (Sealed.BITS w) r).bind fun v14 =>
      (shrB dbg val v14).bind fun v15 =>
      let b := v15.setWidth 8
      (lastMut self.storage).bind fun v16 =>
      let self := { self with storage := setLast self.storage (v16 ||| b) }
      (shlB dbg val r).bind fun v17 =>
      let val := v17
      if r ≥ n then some self
      else (subU dbg 64 n r).bind fun v18 => tailGen dbg self val v18
    else tailGen dbg self val n := rfl

theorem gen_tail (dbg : Bool) {w : Nat} (hw : validWidth w = true) (g : MemSink 8) (val : BitVec w) (n : Nat) (hn : n ≤ w) :
    tailGen dbg g val n = (ByteSink.writeMsbs.tailBytes g.storage g.bitlength val n).map ofByte := by
  have hb := (C11G_consts hw).1
  obtain ⟨hw8, hw8', hw64⟩ := validWidth_facts hw
  have h3 : shrU n 3 = n / 8 := by simp [shrU]
  have h4 : shlU 64 (n / 8) 3 = n / 8 * 8 := by
    simp only [shlU]; exact Nat.mod_eq_of_lt (by omega)
  have h7 : n &&& 7 = n % 8 := Nat.and_two_pow_sub_one_eq_mod n 3
  have hsub : w - 8 < w := Nat.sub_lt_self (by decide) hw8'
  simp only [tailGen, h3, h4, hb, ByteSink.writeMsbs.tailBytes]
  by_cases hb0 : n / 8 > 0
  · simp only [hb0, if_true, byte_loop dbg hw8 val (n / 8) (Nat.div_le_div_right hn) g, Option.bind_some, h7]
    by_cases ht : n % 8 > 0
    · have : n / 8 * 8 < w := by omega
      simp [ht, shlB, this, subU_ok, hw8', shrB, hsub, chkShl, chkSub, chkShr, bind, ofByte]
    · simp [ht, ofByte]
  · have hz : n / 8 = 0 := Nat.eq_zero_of_not_pos hb0
    have hn8 : n % 8 = n := by omega
    simp only [hz, hn8, List.range_zero, List.map_nil, List.append_nil]
    by_cases ht : n > 0
    · have : 0 < w := Nat.lt_of_lt_of_le (by decide) hw8'
      simp [ht, shlB, this, subU_ok, hw8', shrB, hsub, chkShl, chkSub, chkShr, bind, ofByte]
    · simp [ht, ofByte]

theorem lastMut_none_iff {α : Type} (xs : List α) : lastMut xs = none ↔ xs.isEmpty = true := by
  cases xs <;> simp [lastMut]

theorem C11G_byte_write_msbs (dbg : Bool) {w : Nat} (hw : validWidth w = true) (g : MemSink 8) (val : BitVec w) (n : Nat)
    (hl : g.bitlength + n < 2 ^ 64) (hp : dbg = true ∨ n ≤ w) :
    MemSinkU8.write_msbs dbg g val n = ((toByte g).writeMsbs val n).map ofByte := by
  have hb := (C11G_consts hw).1
  have hw8' : 8 ≤ w := (validWidth_facts hw).2.1
  -- to the named join point, the mask by `gen_mask`, then the branches of `ByteSink.writeMsbs` (`r = 0`, `r ≥ n`, else);
  -- what follows the partial byte is `gen_tail`
  rw [byte_write_msbs_unfold]
  by_cases hn0 : n = 0
  · simp [ByteSink.writeMsbs, hn0]
  · have hpad := C11G_byte_paddings dbg g (Nat.lt_of_add_right_lt hl)
    have hr : (toByte g).paddings < 8 := Nat.mod_lt _ (by decide)
    simp only [hn0, if_false, hpad, Option.bind_some, addU_ok, hl, hb, ByteSink.writeMsbs]
    rw [gen_mask dbg n hn0 hp, maskMsbs_eq val n hn0]
    by_cases hn : n ≤ w
    · simp only [hn, if_true, bind, Option.bind_some]
      generalize hrr : (toByte g).paddings = r at hr
      generalize val &&& ~~~((1#w <<< (w - n)) - 1#w) = m
      by_cases hr0 : r = 0
      · simp only [hr0, ne_eq, not_true_eq_false, if_false]
        rw [gen_tail dbg hw _ m n hn]
        simp [toByte]
      · have h3 : r < w := Nat.lt_of_lt_of_le hr hw8'
        have h1 : r ≤ w := Nat.le_of_lt h3
        have h2 : w - r < w := Nat.sub_lt_self (Nat.pos_of_ne_zero hr0) h1
        simp only [hr0, ne_eq, not_false_eq_true, if_true, subU_ok, h1, Option.bind_some, shrB, h2, chkSub, chkShr, shlB, h3,
          chkShl, toByte]
        cases hlm : lastMut g.storage with
        | none =>
          have := (lastMut_none_iff g.storage).1 hlm
          simp [this]
        | some p =>
          have hne : g.storage.isEmpty = false := by
            cases hh : g.storage.isEmpty
            · rfl
            · rw [(lastMut_none_iff g.storage).2 hh] at hlm; cases hlm
          have hmod : g.storage.modify (g.storage.length - 1) (· ||| (m >>> (w - r)).setWidth 8)
              = setLast g.storage (p ||| (m >>> (w - r)).setWidth 8) := by
            rw [modify_last, hlm]
          simp only [Option.bind_some, hne, Bool.false_eq_true, if_false, hmod]
          by_cases hrn : r ≥ n
          · simp [hrn, ofByte]
          · have h4 : r ≤ n := by omega
            simp only [hrn, if_false, subU_ok, h4, Option.bind_some]
            rw [gen_tail dbg hw _ _ (n - r) (by omega)]
    · simp [bind, hn]

theorem C11G_byte_write_lsbs (dbg : Bool) {w : Nat} (hw : validWidth w = true) (g : MemSink 8) (val : BitVec w) (n : Nat)
    (hl : g.bitlength + n < 2 ^ 64) (hp : dbg = true ∨ n ≤ w) :
    MemSinkU8.write_lsbs dbg g val n = ((toByte g).writeLsbs val n).map ofByte := by
  have hb := (C11G_consts hw).1
  by_cases hn0 : n = 0
  · simp [MemSinkU8.write_lsbs, ByteSink.writeLsbs, hn0]
  · simp only [MemSinkU8.write_lsbs, ByteSink.writeLsbs, hn0, if_false, hb]
    by_cases hn : n ≤ w
    · have hk : w - n < w := Nat.sub_lt_self (Nat.pos_of_ne_zero hn0) hn
      simp only [subU_ok, hn, if_true, Option.bind_some, shlB, hk, chkSub, chkShl, bind]
      rw [C11G_byte_write_msbs dbg hw g _ n hl hp]
      cases (toByte g).writeMsbs (val <<< (w - n)) n <;> simp
    · have hd : dbg = true := hp.resolve_right hn
      simp [subU, hn, hd, chkSub, bind, Option.bind]

theorem C11G_byte_write (dbg : Bool) {w : Nat} (hw : validWidth w = true) (g : MemSink 8) (val : BitVec w)
    (hl : g.bitlength + w < 2 ^ 64) :
    MemSinkU8.write dbg g val = ((toByte g).write val).map ofByte := by
  have hw8 : 8 * (w / 8) = w := Nat.mul_div_cancel' (Nat.dvd_of_mod_eq_zero (validWidth_facts hw).1)
  have hw8' : 8 ≤ w := (validWidth_facts hw).2.1
  have hpad := C11G_byte_paddings dbg g (Nat.lt_of_add_right_lt hl)
  have hr : (toByte g).paddings < 8 := Nat.mod_lt _ (by decide)
  have h1 : w < 2 ^ 64 := Nat.lt_of_add_left_lt hl
  simp only [MemSinkU8.write, sizeOfT, mulU_ok, hw8, h1, Option.bind_some, addU_ok, hl, hpad, ByteSink.write, bind]
  generalize hrr : (toByte g).paddings = r at hr
  have h3 : r < w := Nat.lt_of_lt_of_le hr hw8'
  by_cases hr0 : r > 0
  · simp only [hr0, if_true]
    rw [C11G_byte_write_msbs dbg hw g val r (by omega) (Or.inr (by omega))]
    cases (toByte g).writeMsbs val r with
    | none => simp
    | some s' => simp [shlB, h3, chkShl, beBytes, ofByte, toByte]
  · simp [hr0, shlB, h3, chkShl, beBytes, ofByte, toByte]

theorem C11G_byte_write_twoc (dbg : Bool) (g : MemSink 8) (v : Int) (n : Nat)
    (hl : g.bitlength + n < 2 ^ 64) (hp : dbg = true ∨ (1 ≤ n ∧ n ≤ 64)) :
    MemSinkU8.write_twoc dbg g v n = ((toByte g).step (.writeTwoc v n)).map fun s => (Except.ok (), ofByte s) := by
  rw [MemSinkU8.write_twoc, C12Gen.write_twoc_eq dbg _ g v n hp, ByteSink.step_writeTwoc]
  by_cases hv : 1 ≤ n ∧ n ≤ 64
  · rw [if_pos hv, if_pos hv]
    simp only [MemSinkU8.req, C11G_byte_write_msbs dbg (w := 64) (by decide) g _ n hl (Or.inr hv.2), Option.map_map]
    rfl
  · rw [if_neg hv, if_neg hv]; rfl

def genStepByte (dbg : Bool) (g : MemSink 8) : Op → Option (MemSink 8)
  | .alignToByte => (MemSinkU8.align_to_byte dbg g).map (·.2)
  | .writeLsbs w v n => MemSinkU8.write_lsbs dbg g (BitVec.ofNat w v) n
  | .writeMsbs w v n => MemSinkU8.write_msbs dbg g (BitVec.ofNat w v) n
  | .write w v => MemSinkU8.write dbg g (BitVec.ofNat w v)
  | .writeTwoc v n => (MemSinkU8.write_twoc dbg g v n).map (·.2)
  | .writeZeros n => MemSinkU8.write_zeros dbg g n
  | .writeBytesAligned bs => (MemSinkU8.write_bytes_aligned dbg g (bs.map (BitVec.ofNat 8))).map (·.2)

theorem C11G_byte_step (dbg : Bool) (g : MemSink 8) (op : Op) (hv : op.Valid)
    (hs : g.storage.length ≤ g.bitlength) (hl : g.bitlength + grow op + 64 < 2 ^ 64) :
    genStepByte dbg g op = ((toByte g).step op).map ofByte := by
  have hl' := Nat.lt_of_add_right_lt hl
  cases op <;> simp only [grow] at hl hl'
  case alignToByte =>
    simp [genStepByte, ByteSink.step, C11G_byte_align_to_byte dbg g hl']
  case writeLsbs w v n =>
    obtain ⟨hw, _, hn⟩ := hv
    simp only [genStepByte, ByteSink.step, C11G_byte_write_lsbs dbg hw g _ n hl' (Or.inr hn)]
  case writeMsbs w v n =>
    obtain ⟨hw, _, hn⟩ := hv
    simp only [genStepByte, ByteSink.step, C11G_byte_write_msbs dbg hw g _ n hl' (Or.inr hn)]
  case write w v =>
    obtain ⟨hw, _⟩ := hv
    simp only [genStepByte, ByteSink.step, C11G_byte_write dbg hw g _ hl']
  case writeTwoc v n =>
    obtain ⟨h1, h2, _⟩ := hv
    simp only [genStepByte, C11G_byte_write_twoc dbg g v n hl' (Or.inr ⟨h1, h2⟩), Option.map_map]
    cases (toByte g).step (.writeTwoc v n) <;> simp
  case writeZeros n =>
    simp [genStepByte, ByteSink.step, C11G_byte_write_zeros dbg g n (by omega) hs]
  case writeBytesAligned bs =>
    simp [genStepByte, ByteSink.step, map_toNat_ofNat8 bs hv,
      C11G_byte_write_bytes_aligned dbg g (bs.map (BitVec.ofNat 8)) (by rw [List.length_map, Nat.add_assoc]; exact hl')]

theorem C11G_byte_run (dbg : Bool) (g : MemSink 8) (ops : List Op) (hi : (toByte g).Inv) (hv : ∀ op ∈ ops, op.Valid)
    (hl : g.bitlength + (ops.map grow).sum + 64 < 2 ^ 64) :
    ops.foldlM (genStepByte dbg) g = ((toByte g).run ops).map ofByte :=
  run_of_step ofByte (genStepByte dbg) ByteSink.step ByteSink.Inv ByteSink.abs ByteSink.len (fun s => by simp [ByteSink.abs])
    (fun s op hi hv hl => C11G_byte_step dbg (ofByte s) op hv hi.size_le hl) C11.C11_byte_refines (toByte g) ops hi hv hl

/-- the representation invariant is preserved by the generated methods (through `C11G_*_step` and C11's refinement) -/
theorem C11G_word_inv (dbg : Bool) (g : MemSink 64) (op : Op) (hi : (toWord g).Inv) (hv : op.Valid)
    (hl : g.bitlength + grow op + 64 < 2 ^ 64) :
    ∃ g', genStepWord dbg g op = some g' ∧ (toWord g').Inv ∧ (toWord g').abs = (toWord g).abs ++ op.ideal g.bitlength := by
  have hsz : g.storage.length ≤ g.bitlength := hi.size_le
  obtain ⟨s', hs', hinv, habs, _⟩ := C11.C11_word_refines (toWord g) op hi hv
  exact ⟨ofWord s', by simp [C11G_word_step dbg g op hv hsz hl, hs'], hinv, habs⟩

theorem C11G_byte_inv (dbg : Bool) (g : MemSink 8) (op : Op) (hi : (toByte g).Inv) (hv : op.Valid)
    (hl : g.bitlength + grow op + 64 < 2 ^ 64) :
    ∃ g', genStepByte dbg g op = some g' ∧ (toByte g').Inv ∧ (toByte g').abs = (toByte g).abs ++ op.ideal g.bitlength := by
  have hsz : g.storage.length ≤ g.bitlength := hi.size_le
  obtain ⟨s', hs', hinv, habs, _⟩ := C11.C11_byte_refines (toByte g) op hi hv
  exact ⟨ofByte s', by simp [C11G_byte_step dbg g op hv hsz hl, hs'], hinv, habs⟩

/-- a user sink that records the required-method calls it receives (it never fails) -/
def recReq : BitSinkReq (List Op) Empty where
  align_to_byte := fun ops => some (.ok 0, ops ++ [.alignToByte])
  write_lsbs := fun {w} ops val n => some (.ok (), ops ++ [.writeLsbs w val.toNat n])
  write_msbs := fun {w} ops val n => some (.ok (), ops ++ [.writeMsbs w val.toNat n])
  write := fun {w} ops val => some (.ok (), ops ++ [.write w val.toNat])

theorem reqCall_recReq (ops : List Op) (c : Op) (hc : C12Gen.reqFit c) :
    C12Gen.reqCall recReq ops c = some (.ok (), ops ++ [c]) :=
  C12Gen.reqCall_of_fit recReq ops (fun c => some (.ok (), ops ++ [c])) rfl (fun _ _ => rfl) (fun _ _ => rfl) (fun _ => rfl) c hc

theorem runReq_recReq (cs : List Op) (hf : ∀ c ∈ cs, C12Gen.reqFit c) (ops : List Op) :
    C12Gen.runReq recReq ops cs = some (.ok (), ops ++ cs) := by
  induction cs generalizing ops with
  | nil => rw [C12Gen.runReq, List.append_nil]
  | cons c cs ih =>
    rw [C12Gen.runReq, reqCall_recReq ops c (hf c List.mem_cons_self)]
    simp only []
    rw [ih (fun c' hc' => hf c' (List.mem_cons_of_mem _ hc')), List.append_assoc, List.singleton_append]

theorem C11G_default_write_twoc (dbg : Bool) (ops : List Op) (v : Int) (n : Nat) (h1 : 1 ≤ n) (h2 : n ≤ 64) :
    (BitSink.write_twoc dbg recReq ops v n).map (·.2) = some (ops ++ Op.expand (.writeTwoc v n)) := by
  rw [C12Gen.write_twoc_eq dbg recReq ops v n (Or.inr ⟨h1, h2⟩), if_pos ⟨h1, h2⟩]
  rfl

theorem C11G_default_write_bytes_aligned (dbg : Bool) (ops : List Op) (bytes : List (BitVec 8)) :
    (BitSink.write_bytes_aligned dbg recReq ops bytes).map (·.2)
      = some (ops ++ Op.expand (.writeBytesAligned (bytes.map BitVec.toNat))) := by
  have hb : (bytes.map BitVec.toNat).map (BitVec.ofNat 8) = bytes := by
    rw [List.map_map]
    exact (List.map_congr_left fun b _ => (BitVec.ofNat_toNat 8 b).trans (BitVec.setWidth_eq b)).trans (List.map_id bytes)
  have h := C12Gen.default_bytes_aligned dbg recReq ops (bytes.map BitVec.toNat)
  rw [hb, runReq_recReq _ (C12Gen.expand_fit (.writeBytesAligned (bytes.map BitVec.toNat)) fun b hb => by
    obtain ⟨x, _, rfl⟩ := List.mem_map.mp hb; exact x.isLt)] at h
  cases hr : BitSink.write_bytes_aligned dbg recReq ops bytes with
  | none => rw [hr] at h; cases h
  | some p => rw [hr] at h; exact congrArg (Option.map (·.2)) h

-- `hn` is not needed: the loop lemma has no bound on `n`
set_option linter.unusedVariables false in
theorem C11G_default_write_zeros (dbg : Bool) (ops : List Op) (n : Nat) (hn : n < 2 ^ 64) :
    (BitSink.write_zeros dbg recReq ops n).map (·.2) = some (ops ++ Op.expand (.writeZeros n)) := by
  rw [C12Gen.default_zeros, runReq_recReq _ (C12Gen.expand_fit (.writeZeros n) trivial)]
  rfl

theorem C11G_new : toWord (MemSink.new 64) = WordSink.empty ∧ toByte (MemSink.new 8) = ByteSink.empty
    ∧ ∀ sw, MemSink.default sw = MemSink.new sw := ⟨rfl, rfl, fun _ => rfl⟩

theorem C11G_accessors {sw : Nat} (g : MemSink sw) :
    MemSink.len g = g.bitlength ∧ MemSink.is_empty g = decide (g.bitlength = 0) ∧ MemSink.clear g = MemSink.new sw
    ∧ MemSink.as_slice g = g.storage ∧ MemSink.into_inner g = g.storage := ⟨rfl, rfl, rfl, rfl, rfl⟩

theorem C11G_with_capacity (dbg : Bool) {sw : Nat} (h : validWidth sw = true) (cap : Nat) (hc : cap < 2 ^ 64) (g : MemSink sw) :
    MemSink.with_capacity dbg sw cap = some (MemSink.new sw) ∧ MemSink.reserve dbg g cap = some g := by
  -- `cap >> BITS_LOG2` is at most `cap / 2`, so adding one cannot overflow
  have hk : Sealed.BITS_LOG2 sw < 64 ∧ 1 ≤ Sealed.BITS_LOG2 sw := by
    rcases validWidth_cases h with rfl | rfl | rfl | rfl <;> decide
  simp only [MemSink.with_capacity, MemSink.reserve, MemSink.new]
  generalize Sealed.BITS_LOG2 sw = k at hk ⊢
  have h2 : cap / 2 ^ k ≤ cap / 2 := Nat.div_le_div_left (Nat.pow_le_pow_right (by decide : 2 > 0) hk.2) (by decide : 0 < 2)
  have h3 : cap / 2 ^ k + 1 < 2 ^ 64 := by omega
  simp only [shAmt_ok, hk.1, Option.bind_some, shrU, addU_ok, h3, and_self]

example : [Op.writeLsbs 8 1 1, .writeTwoc (-3) 5, .writeZeros 70, .writeBytesAligned [0xB7]].foldlM (genStepWord true) (MemSink.new 64)
    = ((toWord (MemSink.new 64)).run [Op.writeLsbs 8 1 1, .writeTwoc (-3) 5, .writeZeros 70, .writeBytesAligned [0xB7]]).map ofWord :=
  C11G_word_run true _ _ WordSink.inv_empty (by decide) (by decide)

example : [Op.writeMsbs 16 0xFFFF 3, .write 32 7, .alignToByte].foldlM (genStepByte false) (MemSink.new 8)
    = ((toByte (MemSink.new 8)).run [Op.writeMsbs 16 0xFFFF 3, .write 32 7, .alignToByte]).map ofByte :=
  C11G_byte_run false _ _ ByteSink.inv_empty (by decide) (by decide)

/-- the private `write_msbs_impl` evaluates `val >> (T::BITS - n)` inside a `debug_assert!`: with `n = 0` the dev profile panics
(shift by the full width) where the hand model `writeMsbsImpl` is total.  Unreachable: `write_msbs` / `write_lsbs` return
early on `n == 0` (the repair of F6), which `C11G_word_write_msbs` / `C11G_word_write_lsbs` prove. -/
theorem C11G_word_write_msbs_impl_debug_assert :
    MemSinkU64.write_msbs_impl true (MemSink.new 64) (1#8) 0 = none
    ∧ MemSinkU64.write_msbs_impl false (MemSink.new 64) (1#8) 0 ≠ none := by decide

/-- release profile, `n > w` (outside `Op.Valid`): the source wraps where the hand model (dev profile only) reports a panic -/
theorem C11G_release_outside_valid :
    MemSinkU64.write_msbs false (MemSink.new 64) (0xFF#8) 9 ≠ none ∧ (toWord (MemSink.new 64)).writeMsbs (0xFF#8) 9 = none
    ∧ (MemSinkU64.write_twoc false (MemSink.new 64) (-1) 0).isSome = true
    ∧ (toWord (MemSink.new 64)).step (.writeTwoc (-1) 0) = none := by decide

/-- the loop body of the generated `write_to_byte_slice` (`n` = `dest.len()` at entry) -/
def wtbsBody (dbg : Bool) {sw : Nat} (n : Nat) (v : BitVec sw) : List (BitVec 8) × Nat → Option (List (BitVec 8) × Nat) :=
  fun (dest, head) =>
      (addU dbg 64 head (sizeOfT sw)).bind fun v1 =>
      let k2 : List (BitVec 8) → Option ((List (BitVec 8)) × Nat) := fun dest =>
          (addU dbg 64 head (sizeOfT sw)).bind fun v3 =>
          let head := v3
          some (dest, head)
      if v1 ≤ n then
        (addU dbg 64 head (sizeOfT sw)).bind fun v4 =>
        (sliceCopy dest head v4 (beBytes v)).bind fun dest =>
        k2 dest
      else
        (subU dbg 64 n head).bind fun v5 =>
        let rem := v5
        (sliceR (beBytes v) 0 rem).bind fun v6 =>
        (sliceCopy dest head dest.length v6).bind fun dest =>
        k2 dest

-- the pattern variable `head` of the generated term
set_option linter.unusedVariables false in
theorem wtbs_unfold (dbg : Bool) {sw : Nat} (g : MemSink sw) (dest : List (BitVec 8)) :
    MemSink.write_to_byte_slice dbg g dest
      = (forO g.storage (dest, 0) (wtbsBody dbg dest.length)).bind fun (dest, head) => some dest := rfl

theorem beBytes_length {w : Nat} (v : BitVec w) : (beBytes v).length = w / 8 := by simp [beBytes]

/-- one element of `write_to_byte_slice`: its bytes overwrite `dest` from `head` on, cut off at the end of `dest`; once
`head` is past the end the element panics (both profiles) -/
theorem wtbsBody_eq (dbg : Bool) {sw : Nat} (n : Nat) (v : BitVec sw) (d : List (BitVec 8)) (h : Nat)
    (hd : d.length = n) (hb : h + sw / 8 < 2 ^ 64) :
    wtbsBody dbg n v (d, h) =
      if h ≤ n then some ((d.take h ++ beBytes v ++ d.drop (h + sw / 8)).take n, h + sw / 8) else none := by
  simp only [wtbsBody, sizeOfT, addU_ok, hb, Option.bind_some]
  have hbl := beBytes_length v
  generalize sw / 8 = b at *
  by_cases h1 : h + b ≤ n
  · have hhn : h ≤ n := Nat.le_trans (Nat.le_add_right h b) h1
    have hc : h ≤ h + b ∧ h + b ≤ d.length ∧ (beBytes v).length = h + b - h :=
      ⟨Nat.le_add_right h b, hd ▸ h1, by rw [hbl, Nat.add_sub_cancel_left]⟩
    rw [if_pos h1, if_pos hhn]
    simp only [sliceCopy, hc, and_self, if_true, Option.bind_some]
    rw [List.take_of_length_le (i := n) (l := d.take h ++ beBytes v ++ d.drop (h + b))
      (by rw [List.length_append, List.length_append, List.length_take, List.length_drop, hbl, hd, Nat.min_eq_left hhn,
        Nat.add_sub_cancel' h1]; exact Nat.le_refl n)]
  · rw [if_neg h1]
    by_cases h2 : h ≤ n
    · have hnb : n - h ≤ b := by omega
      have hc1 : 0 ≤ n - h ∧ n - h ≤ (beBytes v).length := ⟨Nat.zero_le _, hbl ▸ hnb⟩
      have hc2 : h ≤ d.length ∧ d.length ≤ d.length ∧ ((beBytes v).take (n - h)).length = d.length - h :=
        ⟨hd ▸ h2, Nat.le_refl _, by rw [List.length_take, hbl, hd, Nat.min_eq_left hnb]⟩
      simp only [if_pos h2, subU_ok, h2, sliceR, hc1, and_self, if_true, Option.bind_some, List.drop_zero, sliceCopy, hc2,
        List.drop_length, List.append_nil]
      rw [List.append_assoc, List.take_append, List.length_take, hd, Nat.min_eq_left h2,
        List.take_of_length_le (i := n) (l := d.take h) (by rw [List.length_take, hd, Nat.min_eq_left h2]; exact h2),
        List.take_append_of_le_length (hbl ▸ hnb)]
    · rw [if_neg h2]
      simp only [subU, h2, if_false]
      cases dbg
      · have : ¬ ((2 ^ 64 + n % 2 ^ 64 - h % 2 ^ 64) % 2 ^ 64 ≤ b) := by
          rw [Nat.mod_eq_of_lt (show n < 2 ^ 64 by omega), Nat.mod_eq_of_lt (show h < 2 ^ 64 by omega),
            Nat.mod_eq_of_lt (by omega)]; omega
        simp [sliceR, hbl, this]
      · simp

theorem flatMap_beBytes_length {sw : Nat} (xs : List (BitVec sw)) : (xs.flatMap beBytes).length = xs.length * (sw / 8) :=
  length_flatMap_eq_mul xs beBytes _ fun x _ => beBytes_length x

/-- the loop of `write_to_byte_slice` from position `h`: all elements are laid out from `h` on and the result is cut off
at the end of `dest`; the loop panics unless the last element starts inside `dest` -/
theorem wtbs_loop (dbg : Bool) {sw : Nat} (n : Nat) (xs : List (BitVec sw)) (d : List (BitVec 8)) (h : Nat)
    (hd : d.length = n) (hb : h + (xs.length + 1) * (sw / 8) < 2 ^ 64) :
    forO xs (d, h) (wtbsBody dbg n) =
      if xs = [] ∨ h + (xs.length - 1) * (sw / 8) ≤ n then
        some ((d.take h ++ xs.flatMap beBytes ++ d.drop (h + xs.length * (sw / 8))).take n, h + xs.length * (sw / 8))
      else none := by
  induction xs generalizing d h with
  | nil =>
    rw [forO, if_pos (Or.inl rfl), List.flatMap_nil, List.length_nil, Nat.zero_mul, Nat.add_zero, List.append_nil,
      List.take_append_drop, List.take_of_length_le (Nat.le_of_eq hd)]
  | cons x xs ih =>
    have hbl := beBytes_length x
    simp only [List.length_cons, Nat.add_mul, Nat.one_mul] at hb
    simp only [List.length_cons, Nat.add_sub_cancel, Nat.add_mul, Nat.one_mul, List.cons_ne_nil, false_or]
    have hstep := wtbsBody_eq dbg n x d h hd (by omega)
    generalize sw / 8 = b at *
    rw [forO, hstep]
    by_cases hh : h ≤ n
    · have hd1 : ((d.take h ++ beBytes x ++ d.drop (h + b)).take n).length = n := by
        simp only [List.length_take, List.length_append, List.length_drop]; omega
      rw [if_pos hh, Option.bind_some, ih _ (h + b) hd1 (by rw [Nat.add_mul, Nat.one_mul]; omega)]
      cases xs with
      | nil =>
        rw [if_pos (Or.inl rfl), if_pos (by rw [List.length_nil, Nat.zero_mul]; exact hh)]
        rw [List.flatMap_nil, List.append_nil, List.length_nil, Nat.zero_mul, Nat.add_zero, List.take_append_drop,
          List.take_take, Nat.min_self, Nat.zero_add, List.flatMap_cons, List.flatMap_nil, List.append_nil]
      | cons y ys =>
        simp only [List.cons_ne_nil, false_or, List.length_cons, Nat.add_sub_cancel, Nat.add_mul, Nat.one_mul] at hb ⊢
        by_cases hc : h + b + ys.length * b ≤ n
        · rw [if_pos hc, if_pos (by omega)]
          -- `x` fits whole, so the state after it is `dest` with `x`'s bytes at `h`
          have hl : (d.take h ++ beBytes x).length = h + b := by rw [List.length_append, List.length_take, hbl]; omega
          rw [List.take_of_length_le (i := n) (l := d.take h ++ beBytes x ++ d.drop (h + b))
              (by rw [List.length_append, hl, List.length_drop]; omega),
            List.take_left' hl, List.drop_append, List.drop_of_length_le (by omega), List.nil_append, List.drop_drop, hl,
            List.flatMap_cons (x := x), List.append_assoc (d.take h)]
          rw [show h + b + (h + b + (ys.length * b + b) - (h + b)) = h + (ys.length * b + b + b) by omega,
            show h + b + (ys.length * b + b) = h + (ys.length * b + b + b) by omega]
        · rw [if_neg hc, if_neg (by omega)]
    · rw [if_neg hh, Option.bind_none, if_neg (by omega)]

-- `hw` is not needed: the statement holds for every element width
set_option linter.unusedVariables false in
/-- `write_to_byte_slice`, any element width: the big-endian bytes of the storage overwrite a prefix of `dest`; it panics
(both profiles) exactly when `dest` ends before the LAST element starts. -/
theorem C11G_write_to_byte_slice (dbg : Bool) {sw : Nat} (hw : validWidth sw = true) (g : MemSink sw) (dest : List (BitVec 8))
    (hb : (g.storage.length + 1) * (sw / 8) < 2 ^ 64) :
    MemSink.write_to_byte_slice dbg g dest =
      if g.storage = [] ∨ (g.storage.length - 1) * (sw / 8) ≤ dest.length then
        some ((g.storage.flatMap beBytes).take dest.length ++ dest.drop (g.storage.length * (sw / 8)))
      else none := by
  rw [wtbs_unfold, wtbs_loop dbg dest.length g.storage dest 0 rfl (by rw [Nat.zero_add]; exact hb)]
  simp only [Nat.zero_add, List.take_zero, List.nil_append]
  split
  · rw [Option.bind_some, List.take_append, flatMap_beBytes_length,
      List.take_of_length_le (l := dest.drop _) (by rw [List.length_drop]; exact Nat.le_refl _)]
  · rfl

theorem C11G_write_to_byte_slice_panics (dbg : Bool) {sw : Nat} (hw : validWidth sw = true) (g : MemSink sw)
    (dest : List (BitVec 8)) (hb : (g.storage.length + 1) * (sw / 8) < 2 ^ 64) :
    MemSink.write_to_byte_slice dbg g dest = none ↔ g.storage ≠ [] ∧ dest.length < (g.storage.length - 1) * (sw / 8) := by
  rw [C11G_write_to_byte_slice dbg hw g dest hb]
  split
  · rename_i h; simp; intro hne; rcases h with h | h; exact absurd h hne; omega
  · rename_i h; simp at h; simp; exact ⟨h.1, by omega⟩

theorem word_beBytes_toNat (v : BitVec 64) :
    (beBytes v).map BitVec.toNat = (List.range 8).map (fun i => (v.toNat >>> (56 - 8 * i)) % 256) := by
  simp only [beBytes, List.map_map]
  apply List.map_congr_left
  intro i hi
  have : i < 8 := by simpa using hi
  simp only [Function.comp, BitVec.toNat_setWidth, BitVec.toNat_ushiftRight]
  congr 2; omega

/-- `MemSink<u64>`: with a destination of exactly `ceil(len / 8)` bytes the result is the model's `exportBytes` -/
theorem C11G_word_write_to_byte_slice (dbg : Bool) (g : MemSink 64) (hi : (toWord g).Inv) (dest : List (BitVec 8))
    (hd : dest.length = (g.bitlength + 7) / 8) (hl : g.bitlength < 2 ^ 64) :
    (MemSink.write_to_byte_slice dbg g dest).map (·.map BitVec.toNat) = some (toWord g).exportBytes := by
  have hsz := hi.size
  simp only [toWord] at hsz
  rw [C11G_write_to_byte_slice dbg (by decide) g dest (by omega)]
  have hc : g.storage = [] ∨ (g.storage.length - 1) * (64 / 8) ≤ dest.length := Or.inr (by omega)
  have hdrop : dest.drop (g.storage.length * (64 / 8)) = [] := List.drop_eq_nil_of_le (by omega)
  rw [if_pos hc]
  simp only [hdrop, List.append_nil, Option.map_some, WordSink.exportBytes, toWord, hd, List.map_take,
    List.map_flatMap, word_beBytes_toNat]

/-- `MemSink<u8>`: `write_to_byte_slice` into a destination of the storage's size copies the storage = `exportBytes` -/
theorem C11G_byte_write_to_byte_slice (dbg : Bool) (g : MemSink 8) (hi : (toByte g).Inv) (dest : List (BitVec 8))
    (hd : dest.length = (g.bitlength + 7) / 8) (hl : g.bitlength < 2 ^ 64) :
    (MemSink.write_to_byte_slice dbg g dest).map (·.map BitVec.toNat) = some (toByte g).exportBytes := by
  have hsz := hi.size
  simp only [toByte] at hsz
  rw [C11G_write_to_byte_slice dbg (by decide) g dest (by omega)]
  have hc : g.storage = [] ∨ (g.storage.length - 1) * (8 / 8) ≤ dest.length := Or.inr (by omega)
  have hdrop : dest.drop (g.storage.length * (8 / 8)) = [] := List.drop_eq_nil_of_le (by omega)
  have hbe : ∀ v : BitVec 8, beBytes v = [v] := fun v => by
    simp [beBytes, List.range_succ]
  have hflat : g.storage.flatMap beBytes = g.storage := by
    rw [show (beBytes : BitVec 8 → List (BitVec 8)) = (fun v => [v]) from funext hbe]; simp
  simp only [hc, if_true, hdrop, List.append_nil, Option.map_some, ByteSink.exportBytes, toByte, hflat]
  rw [List.take_of_length_le (by omega)]

theorem C11G_storage (gw : MemSink 64) (gb : MemSink 8) :
    MemSink.as_slice gw = (toWord gw).storage ∧ MemSink.into_inner gw = (toWord gw).storage
    ∧ MemSink.as_slice gb = (toByte gb).storage ∧ MemSink.into_inner gb = (toByte gb).storage
    ∧ (MemSink.as_slice gb).map BitVec.toNat = (toByte gb).exportBytes := ⟨rfl, rfl, rfl, rfl, rfl⟩
end FlacVerif.C11Gen
