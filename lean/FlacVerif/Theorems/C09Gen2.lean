/-
C09, generated, part 2: the hand-written READINGS that part `coding` (tools/translate_coding.py, CD_METHODS / CD_EXTERNAL)
relies on - `intoStereo`, `fillStereo`, the parameter `FrameBuf_verify_samples` - proved against code generated from their
source (`Frame::into_stereo_channels` of datatype.rs, `FrameBuf::fill_stereo_with_iter` of source.rs: part `rice`,
tools/translate_rice.py `emit_callees` -> Gen/CodingCallees.lean; `FrameBuf::verify_samples`: part `source`).  The reading of
`encode_residual_with_prc_parameter` (CD_CALLEES) is proved in Theorems/C13Gen.lean
(`C13G_encode_residual_with_prc_parameter`, `C13G_encode_residual_chain`); with these every CD_CALLEES / CD_METHODS entry
that is a reading is tied to the source by a proof, not only by a fingerprint.
-/
import FlacVerif.Gen.CodingCallees
import FlacVerif.Gen.Coding
import FlacVerif.Gen.Driver
import FlacVerif.Lemmas.GenPrelude
import FlacVerif.Theorems.C09Gen
import FlacVerif.Theorems.C14Gen

namespace FlacVerif.C09Gen2
open FlacVerif.Gen.CodingCallees
open FlacVerif.Gen.Decode (req setAt loopM enumerate enumFrom addU divU addU_ok divU_ok setAt_boundary length_enumFrom getElem_enumFrom loopM_eq_loop)
open FlacVerif.Gen.Rice (splitAtMut)
open FlacVerif.Gen.Coding (fillStereo)

/-- `Frame::into_stereo_channels` is the reading `intoStereo` of Gen/Coding.lean, for every frame and both profiles: it never
panics, and it is `Ok((header, ch0, ch1))` iff the frame has exactly two sub-frames (`Err(self)` = `none`). -/
theorem C09G2_into_stereo_channels (dbg : Bool) (f : FlacVerif.Gen.Writer.Frame) :
    Frame.into_stereo_channels dbg f = some (FlacVerif.Gen.Coding.intoStereo f) := by
  unfold Frame.into_stereo_channels Frame.subframe_count Frame.into_parts FlacVerif.Gen.Coding.intoStereo
  -- zero, one, two, three or more sub-frames: the count check and the two `next()` calls agree with the `match`
  rcases f.subframes with _ | ⟨a, _ | ⟨b, _ | ⟨c, rest⟩⟩⟩
  · rfl
  · rfl
  · rfl
  · rfl

/-- the two `expect`s behind the sub-frame count check cannot fail -/
theorem C09G2_into_stereo_never_panics (dbg : Bool) (f : FlacVerif.Gen.Writer.Frame) :
    Frame.into_stereo_channels dbg f ≠ none := by
  rw [C09G2_into_stereo_channels]; simp

example (dbg : Bool) (h : FlacVerif.Gen.Writer.FrameHeader) (a b c : FlacVerif.SubFrame) :
    Frame.into_stereo_channels dbg ⟨h, [a, b], none⟩ = some (some (h, a, b)) ∧
    Frame.into_stereo_channels dbg ⟨h, [a, b, c], none⟩ = some none := by
  constructor <;> rw [C09G2_into_stereo_channels] <;> rfl

/-- The CD_METHODS reading of part `coding`: `fb.fill_stereo_with_iter(it)` is `fillStereo fb it`, behind its
`assert_eq!(2, self.channels())` (and the division by `size` in `channels()`), for every buffer and every iterator, both profiles. -/
theorem C09G2_fill_stereo_with_iter (dbg : Bool) (fb : FlacVerif.Gen.Coding.FrameBuf) (it : List (Int × Int)) (h64 : fb.samples.length < 2 ^ 64) :
    FlacVerif.Gen.CodingCallees.FrameBuf.fill_stereo_with_iter dbg fb it =
      if fb.size ≠ 0 ∧ fb.samples.length / fb.size = 2 then some (fillStereo fb it) else none := by
  unfold FlacVerif.Gen.CodingCallees.FrameBuf.fill_stereo_with_iter FlacVerif.Gen.CodingCallees.FrameBuf.channels
  by_cases h0 : fb.size = 0
  · simp [divU, h0]
  · by_cases h2 : fb.samples.length / fb.size = 2
    · have hpre : fb.size ≠ 0 ∧ fb.samples.length / fb.size = 2 := ⟨h0, h2⟩
      have hsz : 2 * fb.size ≤ fb.samples.length := by
        have := (Nat.le_div_iff_mul_le (Nat.pos_of_ne_zero h0)).mp (Nat.le_of_eq h2.symm)
        omega
      have hsp : splitAtMut fb.samples fb.size = some (fb.samples.take fb.size, fb.samples.drop fb.size) := by
        unfold splitAtMut
        have : fb.size ≤ fb.samples.length := by omega
        simp [this]
      rw [if_pos hpre]
      simp only [divU_ok _ _ h0, ↓reduceIte, Option.bind_some, h2, req, decide_true, hsp, enumerate]
      -- after `i` pairs the first `i` samples of both channel views are overwritten
      rw [loopM_eq_loop, Prelude.loop_inv _ _ (fun i => (((it.take fb.size).take i).map (·.1) ++ (fb.samples.take fb.size).drop i,
        ((it.take fb.size).take i).map (·.2) ++ (fb.samples.drop fb.size).drop i, { fb with filled_size := i }))]
      · -- both views hold `size` samples, so the loop runs `min it.length size` times
        have hk : (List.zip (it.take fb.size) (List.zip (enumFrom 0 (fb.samples.take fb.size))
            (enumFrom 0 (fb.samples.drop fb.size)))).length = min it.length (min fb.size (fb.samples.length - fb.size)) := by
          simp only [List.length_zip, length_enumFrom, List.length_take, List.length_drop]
          rw [Nat.min_eq_left (by omega : fb.size ≤ fb.samples.length), Nat.min_eq_left (by omega : fb.size ≤ fb.samples.length - fb.size),
            Nat.min_eq_left (Nat.min_le_left _ _), Nat.min_comm]
        unfold fillStereo
        rw [hk]
        generalize hkk : min it.length (min fb.size (fb.samples.length - fb.size)) = k
        have hks : k ≤ fb.size := by rw [← hkk]; exact Nat.le_trans (Nat.min_le_right _ _) (Nat.min_le_left _ _)
        simp only [Option.bind_some, List.take_take, Nat.min_eq_left hks, List.drop_drop, List.append_assoc]
      · rfl
      · intro i hi
        simp only [List.length_zip, length_enumFrom, List.length_take, List.length_drop, Nat.lt_min] at hi
        obtain ⟨hit, hm, hs⟩ := hi
        have hpre : ∀ f : Int × Int → Int, (((it.take fb.size).take i).map f).length = i := fun f => by
          rw [List.length_map, List.length_take, List.length_take, Nat.min_eq_left (Nat.le_of_lt (Nat.lt_min.mpr hit))]
        simp only [List.getElem_zip, getElem_enumFrom, Nat.zero_add]
        rw [setAt_boundary _ _ i _ (hpre _) (by rw [List.length_take]; exact Nat.lt_min.mpr hm), Option.bind_some,
          setAt_boundary _ _ i _ (hpre _) (by rw [List.length_drop]; exact hs), Option.bind_some,
          addU_ok dbg 64 i 1 (by omega), Option.bind_some,
          List.take_succ_eq_append_getElem (by rw [List.length_take]; exact Nat.lt_min.mpr hit), List.map_append, List.map_append]
        rfl
    · have hpre : ¬ (fb.size ≠ 0 ∧ fb.samples.length / fb.size = 2) := fun h => h2 h.2
      have : ¬ (2 = fb.samples.length / fb.size) := fun h => h2 h.symm
      simp [divU_ok _ _ h0, req, this, h2]

/-- what the generated function leaves in a two-channel buffer: channel 0 holds the first components, channel 1 the second
components of the pairs, `filled_size` their number (at most `size` pairs) -/
theorem C09G2_fill_stereo_channels (dbg : Bool) (fb : FlacVerif.Gen.Coding.FrameBuf) (it : List (Int × Int)) (hs : fb.size ≠ 0)
    (hlen : fb.samples.length = 2 * fb.size) (hit : it.length ≤ fb.size) (h64 : fb.samples.length < 2 ^ 64) :
    ∃ fb', FlacVerif.Gen.CodingCallees.FrameBuf.fill_stereo_with_iter dbg fb it = some fb' ∧
      fb'.filled_size = it.length ∧ fb'.size = fb.size ∧ fb'.samples.length = 2 * fb.size ∧
      FlacVerif.C09Gen.chanOf fb' 0 = it.map (·.1) ∧ FlacVerif.C09Gen.chanOf fb' 1 = it.map (·.2) := by
  have hdiv : fb.samples.length / fb.size = 2 := by
    rw [hlen]; exact Nat.mul_div_cancel 2 (Nat.pos_of_ne_zero hs)
  refine ⟨fillStereo fb it, ?_, FlacVerif.C09Gen.fillStereo_spec fb it hlen hit⟩
  rw [C09G2_fill_stereo_with_iter dbg fb it h64, if_pos ⟨hs, hdiv⟩]

/-- the use in `try_stereo_coding`: filled with `(l, r) -> ((l + r) >> 1, l - r)` over the two input channels, the buffer holds
exactly the (mid, side) signals the hand model's stereo code encodes (`Model/Encode.lean`: `ms := List.zipWith midSide l r`,
channels `[ms.map (·.1), ms.map (·.2)]`).  The left/side and side/right frames are recombined from the sub-frames already
coded (no buffer is filled for them). -/
theorem C09G2_fill_stereo_mid_side (dbg : Bool) (fb : FlacVerif.Gen.Coding.FrameBuf) (l r : List Int) (hs : fb.size ≠ 0)
    (hlen : fb.samples.length = 2 * fb.size) (hl : l.length ≤ fb.size) (h64 : fb.samples.length < 2 ^ 64) :
    ∃ fb', FlacVerif.Gen.CodingCallees.FrameBuf.fill_stereo_with_iter dbg fb (List.zipWith midSide l r) = some fb' ∧
      [FlacVerif.C09Gen.chanOf fb' 0, FlacVerif.C09Gen.chanOf fb' 1]
        = [(List.zipWith midSide l r).map (·.1), (List.zipWith midSide l r).map (·.2)] ∧
      fb'.filled_size = min l.length r.length := by
  have hit : (List.zipWith midSide l r).length ≤ fb.size := by
    rw [List.length_zipWith]; omega
  obtain ⟨fb', h1, h2, _, _, h5, h6⟩ := C09G2_fill_stereo_channels dbg fb _ hs hlen hit h64
  exact ⟨fb', h1, by rw [h5, h6], by rw [h2, List.length_zipWith]⟩

/-- non-trivial instance (stale buffer content, three pairs into a buffer of size 4) -/
example : FlacVerif.Gen.CodingCallees.FrameBuf.fill_stereo_with_iter true ⟨[9, 9, 9, 9, 8, 8, 8, 8], 4, 3, []⟩ [(1, -1), (2, -2), (3, -3)]
    = some ⟨[1, 2, 3, 9, -1, -2, -3, 8], 4, 3, []⟩ := by decide

/-! ### `FrameBuf::verify_samples` (CD_EXTERNAL of part `coding`: a parameter `vs` without a meaning) given the meaning of the
function GENERATED by part `source` from the same method (`Gen.Source.FrameBuf.verify_samples`, tied to the model by
`C14G_verify_samples`).  The two parts generate the same four-field structure from `struct FrameBuf`. -/

/-- the `FrameBuf` of part `coding` as the `FrameBuf` of part `source` (same fields, generated twice) -/
def toSrc (fb : FlacVerif.Gen.Coding.FrameBuf) : FlacVerif.Gen.Source.FrameBuf := ⟨fb.samples, fb.size, fb.filled_size, fb.readbuf⟩

/-- the instance of the parameter `FrameBuf_verify_samples` of `Gen.Coding.encode_fixed_size_frame` that the source defines
(`VR`: `some true` = `Ok(())`, `some false` = `Err(_)`, `none` = panic) -/
def verifySamplesGen (fb : FlacVerif.Gen.Coding.FrameBuf) (bps : Nat) : FlacVerif.Gen.Verify.VR :=
  (FlacVerif.Gen.Source.FrameBuf.verify_samples (toSrc fb) bps).map (fun r => r.isSome)

/-- both are what part `driver` prints under the names `fbOfCoding`, `verifySamples` -/
theorem toSrc_eq : toSrc = FlacVerif.Gen.Driver.fbOfCoding := rfl
theorem verifySamplesGen_eq : verifySamplesGen = FlacVerif.Gen.Driver.verifySamples := rfl

/-- the parameter instantiated by the generated `verify_samples` is the model's sample-range check -/
theorem C09G2_verify_samples_meaning (fb : FlacVerif.Gen.Coding.FrameBuf) (ch bps : Nat) (h : FlacVerif.C14Gen.Shape (toSrc fb) ch)
    (hf : fb.filled_size ≤ fb.size) (hb : 1 ≤ bps ∧ bps ≤ 31) :
    verifySamplesGen fb bps = some ((FlacVerif.C14Gen.toModel (toSrc fb) ch).verifySamples bps) := by
  unfold verifySamplesGen
  rw [FlacVerif.C14Gen.C14G_verify_samples (toSrc fb) ch h hf bps hb]
  cases (FlacVerif.C14Gen.toModel (toSrc fb) ch).verifySamples bps <;> rfl

/-- the hypothesis `hvs : vs fb info.bps = some true` of `C09G_encode_fixed_size_frame`, discharged for `vs := verifySamplesGen`
by the model's sample-range check -/
theorem C09G2_verify_samples_accepts (fb : FlacVerif.Gen.Coding.FrameBuf) (ch bps : Nat) (h : FlacVerif.C14Gen.Shape (toSrc fb) ch)
    (hf : fb.filled_size ≤ fb.size) (hb : 1 ≤ bps ∧ bps ≤ 31)
    (hv : (FlacVerif.C14Gen.toModel (toSrc fb) ch).verifySamples bps = true) :
    verifySamplesGen fb bps = some true := by
  rw [C09G2_verify_samples_meaning fb ch bps h hf hb, hv]

end FlacVerif.C09Gen2
