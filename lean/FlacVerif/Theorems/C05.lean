/-
C05 — The multi-thread encoder is deterministic: every interleaving of the protocol of `src/par.rs`
ends with the frames of the single-thread loop, in order, and with the same MD5 input.

Property theorems only. Model: `FlacVerif/Model/Par.lean` (hand model of
`par::encode_with_fixed_block_size`, `feed_fixed_block_size`, `ParFrameBuf`, `ParContext`,
`ParSink`); invariants: `FlacVerif/Lemmas/Par*.lean`. The theorems quantify over every worker count
`W ≥ 1`, every block list, every fault plan and every interleaving of the modelled atomic steps
(`Reaches`). Atomicity of channel operations / mutexes is assumed, the OS scheduler is not modelled.

`p.NonemptyBlocks` (no block read from the source has zero bytes) is needed wherever the hasher is
involved: an empty byte block is the stop token of the md5 channel (see `C06_empty_block_*`).
-/
import FlacVerif.Lemmas.ParInv
import FlacVerif.Lemmas.ParFinal
import FlacVerif.Lemmas.ParExamples
import FlacVerif.Lemmas.ParEmptyBlock
namespace FlacVerif
open Par

/-- `Reaches` (inductive: `init`, closed under enabled steps) is exactly "some event list is accepted
by `replay` and leads to the state" — the relation the trace validator computes. -/
theorem C05_reaches_iff_replay (p : Params) (s : State) :
    Reaches p s ↔ ∃ evs, replay p evs = .ok s := by
  simp only [Reaches_iff_run, replay_ok_iff]

/-- The result half of `C05_deterministic` does not need `NonemptyBlocks`. -/
theorem C05_deterministic_result (p : Params) (hW : 0 < p.W) (hnf : p.readFailAt = none)
    (hv : ∀ b ∈ p.blocks, b.valid) (s : State) (h : Reaches p s) (hf : s.final) :
    s.result = .ok (List.range p.blocks.length) := by
  obtain ⟨hC, _, hN, _⟩ := InvAll_of_reaches h
  rw [final_result hC hN (final_facts hW hC hf), seqResult_ok hnf hv]

/-- Fault-free run, any schedule: the result is `Ok` with the frame numbers `0 .. N-1` in order (the frames themselves:
`C05_frames`), and the hasher was fed the concatenation of all blocks in order. -/
theorem C05_deterministic (p : Params) (hW : 0 < p.W) (hnf : p.readFailAt = none)
    (hv : ∀ b ∈ p.blocks, b.valid) (hne : p.NonemptyBlocks)
    (s : State) (h : Reaches p s) (hf : s.final) :
    s.result = .ok (List.range p.blocks.length) ∧
    s.hashed = (p.blocks.map (·.bytes)).flatten := by
  obtain ⟨hC, _, _, hM⟩ := InvAll_of_reaches h
  have hF := final_facts hW hC hf
  refine ⟨C05_deterministic_result p hW hnf hv s h hf, ?_⟩
  rw [final_hashed (hM hne) hF hf, hF.k_eq hC, feedStop_none hnf, prefixBytes_all]; rfl

/-- The hash half does need it: with an empty first block a complete run exists whose hasher was
stopped by that block and never saw block 1 (`hashed = []` instead of `[7]`). The model mirrors the
code here: `Vec::is_empty` is the hasher's stop test. -/
theorem C05_empty_block_hash_mismatch :
    ∃ s, Reaches Examples.pEmptyBlock2 s ∧ s.final ∧ s.result = .ok [0, 1] ∧ s.hashed = [] ∧
      seqHashed Examples.pEmptyBlock2 = [7] := by
  obtain ⟨s, h1, h2, h3, h4⟩ := Reaches_of_outcome (p := Examples.pEmptyBlock2) (tr := Examples.trEmptyBlock2)
    (r := .ok [0, 1]) (hd := []) (by decide)
  exact ⟨s, h1, h2, h3, h4, by decide⟩

/-- Same hypotheses: the frames themselves (number and payload), not only their numbers. -/
theorem C05_frames (p : Params) (hW : 0 < p.W) (hnf : p.readFailAt = none)
    (hv : ∀ b ∈ p.blocks, b.valid) (s : State) (h : Reaches p s) (hf : s.final) :
    s.frames = expFrames 0 p.blocks ∧ seqFrames p = .ok (expFrames 0 p.blocks) := by
  obtain ⟨hC, _, hN, _⟩ := InvAll_of_reaches h
  have hF := final_facts hW hC hf
  exact ⟨final_frames hN hF ((hF.k_eq hC).trans (feedStop_none hnf)) (hN.errors_nil fun j b _ hb => hv b (List.mem_of_getElem? hb)),
    seqFrames_ok hnf hv⟩

/-- Any fault plan: two complete runs from the same parameters (different schedules) return the same
value and feed the same bytes to the hasher. "Repeating a run gives identical output." -/
theorem C05_any_two_runs (p : Params) (hW : 0 < p.W) (hne : p.NonemptyBlocks)
    (s₁ s₂ : State) (h₁ : Reaches p s₁) (h₂ : Reaches p s₂) (hf₁ : s₁.final) (hf₂ : s₂.final) :
    s₁.result = s₂.result ∧ s₁.hashed = s₂.hashed := by
  obtain ⟨hC₁, _, hN₁, hM₁⟩ := InvAll_of_reaches h₁
  obtain ⟨hC₂, _, hN₂, hM₂⟩ := InvAll_of_reaches h₂
  have hF₁ := final_facts hW hC₁ hf₁
  have hF₂ := final_facts hW hC₂ hf₂
  refine ⟨(final_result hC₁ hN₁ hF₁).trans (final_result hC₂ hN₂ hF₂).symm, ?_⟩
  -- both runs stopped reading at the same index
  rw [final_hashed (hM₁ hne) hF₁ hf₁, final_hashed (hM₂ hne) hF₂ hf₂, hF₁.k_eq hC₁, hF₂.k_eq hC₂]

/-- The per-buffer mutex is never contended: a buffer held by a worker (from `encode_recv` to
`refill_send`) is never the buffer the main thread has locked, is not queued anywhere, and no two
places hold the same buffer id (token conservation). -/
theorem C05_no_lock_contention (p : Params) (s : State) (h : Reaches p s) (pc : WPc)
    (hpc : pc ∈ s.workers) (id : Nat) (hid : id ∈ pc.hand) :
    s.main.lockedBuf ≠ some id ∧ some id ∉ s.encodeQ ∧ id ∉ s.refillQ ∧ id < 2 * p.W ∧
    (tokens s).count id = 1 := by
  obtain ⟨_, hT, _⟩ := InvAll_of_reaches h
  obtain ⟨h1, h2, h3, h4⟩ := hT.excl_worker hpc hid
  refine ⟨?_, h2, h1, h4, ?_⟩
  · exact fun hl => h3 (lockedBuf_hand hl)
  · have hle := hT.cnt id
    rw [if_pos h4] at hle
    have : 0 < (tokens s).count id := List.count_pos_iff.2 (by
      simp only [tokens, List.mem_append]
      exact Or.inr (List.mem_flatMap.2 ⟨pc, hpc, hid⟩))
    omega

/-- Every frame number a worker reads from a buffer is the index of the block the buffer holds, and
what it computes is the encoder's value for that block. -/
theorem C05_numbering (p : Params) (s : State) (h : Reaches p s) :
    (∀ n f, (n, f) ∈ s.sink → ∃ b, p.blocks[n]? = some b ∧ enc n b = some f) ∧
    (∀ pc ∈ s.workers, ∀ id n res, (pc = .encoded id n res ∨ pc = .sent id n res) →
      ∃ b, p.blocks[n]? = some b ∧ res = enc n b) := by
  obtain ⟨_, _, hN, _⟩ := InvAll_of_reaches h
  refine ⟨fun n f hm => (hN.sink n f hm).2, ?_⟩
  rintro pc hpc id n res (rfl | rfl)
  · exact (hN.workers _ hpc).2
  · exact (hN.workers _ hpc).2

/-! ### non-vacuity: concrete complete runs (`W = 1`, two blocks), checked by the kernel -/

open Par.Examples in
example : ∃ s, Reaches pOk s ∧ s.final ∧ s.result = .ok [0, 1] ∧ s.hashed = [1, 2, 5, 6] :=
  Reaches_of_outcome (tr := trOk) (by decide)

open Par.Examples in
example : 0 < pOk.W ∧ pOk.readFailAt = none ∧ (∀ b ∈ pOk.blocks, b.valid) ∧ pOk.NonemptyBlocks := by
  refine ⟨by decide, rfl, by decide, ?_⟩
  intro b hb; simp [pOk, blk] at hb; rcases hb with rfl | rfl <;> simp

end FlacVerif
