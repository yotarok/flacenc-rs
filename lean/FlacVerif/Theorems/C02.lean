/-
C02 — every emitted stream is well-formed FLAC (RFC 9639).
This file: the three finite header code spaces, as ∀-theorems relating the implementation's
coders (`BlockSizeSpec::from_size`, `SampleRateSpec::from_freq`, `SampleSizeSpec::from_bits`,
mirrored in `Model/Codes.lean`) to the RFC's decoding tables (`Model/Rfc.lean`).
-/
import FlacVerif.Model.Codes
import FlacVerif.Model.Rfc
import FlacVerif.Lemmas.HeaderCodes
import FlacVerif.Lemmas.ListFacts
namespace FlacVerif.C02
open Repo (SpecOk SrOk)

/-- Value written in the extra header bits of a block-size spec. -/
def bsExtra : BlockSizeSpec → Nat
  | .extraByte v => v | .extraTwoBytes v => v | _ => 0

def srExtra : SampleRateSpec → Nat
  | .kHz v => v | .hz v => v | .daHz v => v | _ => 0

/-- Every spec in its code range: the code is neither reserved nor too wide, the RFC's table decodes it to the block
size of the spec, and an immediate fits the 8 or 16 bits written. -/
theorem blockSizeOfCode_spec (s : BlockSizeSpec) (hs : SpecOk s) :
    1 ≤ s.tag ∧ s.tag ≤ 15 ∧ Rfc.blockSizeOfCode s.tag (bsExtra s) = s.blockSize ∧
      (s.tag = 6 → bsExtra s < 2 ^ 8) ∧ (s.tag = 7 → bsExtra s < 2 ^ 16) := by
  cases s with
  | reserved => exact hs.elim
  | s192 => decide
  | pow2Mul576 x =>
    have hx : x ≤ 3 := hs
    refine ⟨by show 1 ≤ 2 + x; omega, by show 2 + x ≤ 15; omega, ?_, fun h => ?_, fun h => ?_⟩
    · show Rfc.blockSizeOfCode (2 + x) 0 = some (576 * 2 ^ x)
      unfold Rfc.blockSizeOfCode
      rw [if_neg (by omega), if_neg (by omega), if_pos (by omega), Nat.add_sub_cancel_left]
    · exact Nat.two_pow_pos 8
    · exact Nat.two_pow_pos 16
  | extraByte v =>
    exact ⟨(by decide : 1 ≤ 6), (by decide : 6 ≤ 15), rfl, fun _ => hs, fun h => absurd h (by decide : ¬ (6 : Nat) = 7)⟩
  | extraTwoBytes v =>
    exact ⟨(by decide : 1 ≤ 7), (by decide : 7 ≤ 15), rfl, fun h => absurd h (by decide : ¬ (7 : Nat) = 6), fun _ => hs⟩
  | pow2Mul256 x =>
    have hx : x ≤ 7 := hs
    refine ⟨by show 1 ≤ 8 + x; omega, by show 8 + x ≤ 15; omega, ?_, fun h => ?_, fun h => ?_⟩
    · show Rfc.blockSizeOfCode (8 + x) 0 = some (256 * 2 ^ x)
      unfold Rfc.blockSizeOfCode
      rw [if_neg (by omega), if_neg (by omega), if_neg (by omega), if_neg (by omega), Nat.add_sub_cancel_left]
    · exact Nat.two_pow_pos 8
    · exact Nat.two_pow_pos 16

/-- **Block-size code space.** For every block length 1..=65535 (the final frame may hold any
length 1..=32767) the code chosen by the encoder is never the reserved code 0000, its extra field
fits the 8/16 bits written, and the RFC's table decodes it back to the same length. -/
theorem C02_blocksize_all (n : Nat) (h1 : 1 ≤ n) (h2 : n ≤ 65535) :
    ∃ spec, BlockSizeSpec.fromSize n = some spec ∧ 1 ≤ spec.tag ∧ spec.tag ≤ 15 ∧
      spec.blockSize = some n ∧ Rfc.blockSizeOfCode spec.tag (bsExtra spec) = some n ∧
      (spec.tag = 6 → bsExtra spec < 2 ^ 8) ∧ (spec.tag = 7 → bsExtra spec < 2 ^ 16) := by
  obtain ⟨spec, hspec⟩ := BlockSizeSpec.fromSize_some n h1
  obtain ⟨hok, hbs⟩ := BlockSizeSpec.fromSize_ok n h1 (by omega) spec hspec
  obtain ⟨t1, t15, hdec, h6, h7⟩ := blockSizeOfCode_spec spec hok
  exact ⟨spec, hspec, t1, t15, hbs, hdec.trans hbs, h6, h7⟩

/-- A hit in the table of fixed rates is one of its eleven rows, and the RFC's table decodes each row's code to its rate. -/
theorem lookup_sampleRate (freq t : Nat) (h : sampleRateTable.lookup freq = some t) :
    1 ≤ t ∧ t ≤ 11 ∧ Rfc.rateOfCode t 0 0 = some freq :=
  (by decide : ∀ p ∈ sampleRateTable, 1 ≤ p.2 ∧ p.2 ≤ 11 ∧ Rfc.rateOfCode p.2 0 0 = some p.1) _ (mem_of_lookup h)

/-- Only code 0000 consults the STREAMINFO rate. -/
theorem rateOfCode_infoRate (code extra a b : Nat) (h : code ≠ 0) : Rfc.rateOfCode code extra a = Rfc.rateOfCode code extra b := by
  unfold Rfc.rateOfCode
  split <;> first | rfl | exact absurd rfl h

/-- What `from_freq` returns is in its code range and the RFC's table decodes it to the rate (the analogue of
`BlockSizeSpec.fromSize_ok`). -/
theorem fromFreq_ok (r : Nat) (s : SampleRateSpec) (h : SampleRateSpec.fromFreq r = some s) :
    SrOk s ∧ Rfc.rateOfCode s.tag (srExtra s) r = some r := by
  unfold SampleRateSpec.fromFreq at h
  split at h
  · next t ht =>
    cases h
    obtain ⟨h1, h2, h3⟩ := lookup_sampleRate r t ht
    exact ⟨⟨h1, h2⟩, (rateOfCode_infoRate t 0 r 0 (by omega)).trans h3⟩
  · split at h
    · next hc => cases h; exact ⟨hc.2, congrArg some (Nat.div_mul_cancel (Nat.dvd_of_mod_eq_zero hc.1))⟩
    · split at h
      · next hc => cases h; exact ⟨hc.2, congrArg some (Nat.div_mul_cancel (Nat.dvd_of_mod_eq_zero hc.1))⟩
      · split at h
        · next hc => cases h; exact ⟨hc, rfl⟩
        · cases h

/-- **Sample-rate code space.** For every rate (in particular 1..=96000): when the encoder finds a
code it is never the invalid code 1111, its extra field fits, and the RFC's table decodes it to
the same rate; when it finds none it writes code 0000 ("see STREAMINFO"), which decodes to the
STREAMINFO rate. -/
theorem C02_samplerate_all (r : Nat) :
    match SampleRateSpec.fromFreq r with
    | some spec => spec.tag ≤ 14 ∧ Rfc.rateOfCode spec.tag (srExtra spec) r = some r ∧
        (spec.tag = 12 → srExtra spec < 2 ^ 8) ∧ (spec.tag = 13 ∨ spec.tag = 14 → srExtra spec < 2 ^ 16)
    | none => Rfc.rateOfCode SampleRateSpec.unspecified.tag 0 r = some r := by
  split
  · next spec h =>
    obtain ⟨hok, hdec⟩ := fromFreq_ok r spec h
    -- an immediate is in `SrOk` with the bound of its field
    refine ⟨Repo.srTag_le spec hok, hdec, ?_, ?_⟩ <;>
      cases spec <;> simp only [SampleRateSpec.tag, srExtra, SrOk] at hok ⊢ <;> omega
  · rfl

/-- **Sample-size code space**: the supported widths never map to the reserved code 011 and
decode to themselves. -/
theorem C02_samplesize_all (b : Nat) (hb : b = 8 ∨ b = 12 ∨ b = 16 ∨ b = 20 ∨ b = 24) :
    sampleSizeTag b ≠ 3 ∧ sampleSizeTag b ≠ 0 ∧ Rfc.bpsOfCode (sampleSizeTag b) b = some b := by
  rcases hb with h | h | h | h | h <;> subst h <;> decide

/-- Channel assignment codes are never reserved (≤ 10) and carry the channel count. -/
theorem C02_channel_code (a : ChannelAssignment) (ha : match a with | .independent n => 1 ≤ n ∧ n ≤ 8 | _ => True) :
    a.tag ≤ 10 ∧ (if a.tag < 8 then a.tag + 1 else 2) = a.channels := by
  cases a with
  | independent n =>
    simp only [ChannelAssignment.tag, ChannelAssignment.channels] at *
    have : n - 1 < 8 := by omega
    simp only [this, ↓reduceIte]; omega
  | leftSide => decide
  | rightSide => decide
  | midSide => decide

end FlacVerif.C02

namespace FlacVerif.Repo

theorem srOk_fromFreq (rate : Nat) (srs : SampleRateSpec) (h : SampleRateSpec.fromFreq rate = some srs) : SrOk srs :=
  (C02.fromFreq_ok rate srs h).1

/-- The rate code `headerFor` stores (`unspecified` when `from_freq` finds none) is in the parser's range. -/
theorem srOk_getD_fromFreq (rate : Nat) : SrOk ((SampleRateSpec.fromFreq rate).getD .unspecified) := by
  cases h : SampleRateSpec.fromFreq rate with
  | none => trivial
  | some srs => exact srOk_fromFreq rate srs h

end FlacVerif.Repo
