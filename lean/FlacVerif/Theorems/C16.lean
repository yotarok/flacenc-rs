/-
C16 — the repository's own parser never panics (totality of the mirror).

The property theorems (calculus and per-function lemmas: `Lemmas/RepoSat.lean`), examples that the panic branches
are real outside the stated ranges, and four frames that `parser::frame` accepts and on which `Decode::decode`
panics (findings).  The mirror `FlacVerif/Model/RepoParser.lean` keeps a `panic site`
branch at every `expect`/`unwrap`/`assert!`/`debug_assert!`/index/checked-arithmetic step of
`parser.rs` and of the `datatype.rs`/`verify.rs` helpers it calls (DEBUG build semantics); the
theorems below say that none of these branches is reachable: for every input of `stream`, and within the stated
ranges of bits-per-sample and block size for `frame`, `subframe`, `residual`.
-/
import FlacVerif.Lemmas.RepoSat
namespace FlacVerif
open Repo Repo.PResult

/-- `parser::stream` never panics, whatever the bytes are. (`hb` is not needed: the mirror reads the
low 8 bits of every list element.) -/
theorem C16_total (bytes : List Nat) (_hb : ∀ b ∈ bytes, b < 256) :
    ∀ site, Repo.parseStream bytes ≠ .panic site :=
  (stream_sat (bytesToBits bytes)).noPanic

/-- `parser::frame(info, check_crc)` never panics when the STREAMINFO it is given has a
bits-per-sample value in `1..=24` (every STREAMINFO accepted by `parser::stream_info` has one in
`{8,12,16,20,24}`); no condition on the channel count, the block sizes or the bytes. -/
theorem C16_total_frame (info : StreamInfo) (checkCrc : Bool) (bytes : List Nat)
    (h1 : 1 ≤ info.bps) (h2 : info.bps ≤ 24) :
    ∀ site, Repo.parseFrame info checkCrc bytes ≠ .panic site := by
  intro site
  unfold parseFrame
  have h := (frame_sat info checkCrc h1 h2 (bytesToBits bytes)).noPanic
  revert h
  cases frame info checkCrc (bytesToBits bytes) with
  | ok v => intro _ hc; cases hc
  | error e => intro _ hc; cases hc
  | panic s => intro h hc; exact h s rfl

/-- `parser::subframe(block_size, bits_per_sample)` never panics for `1 ≤ bits_per_sample ≤ 25`
(what `frame` supplies: the STREAMINFO value plus one for a side channel) and a block size below
`2^32` (`frame` supplies at most 65536). -/
theorem C16_total_subframe (blockSize bps : Nat) (i : Bits)
    (hbs : blockSize < 2 ^ 32) (h1 : 1 ≤ bps) (h2 : bps ≤ 25) :
    ∀ site, Repo.parseSubframe blockSize bps i ≠ .panic site :=
  (subframe_sat blockSize bps hbs h1 h2 i).noPanic

/-- `parser::residual(block_size, warmup_length)` never panics for a block size below `2^32` and any
warm-up length. -/
theorem C16_total_residual (blockSize warmup : Nat) (i : Bits) (hbs : blockSize < 2 ^ 32) :
    ∀ site, Repo.parseResidual blockSize warmup i ≠ .panic site :=
  (residual_sat blockSize warmup hbs i).noPanic

/-- What `parser::stream_info` lets through: the precondition of `C16_total_frame` holds for the
STREAMINFO of every accepted stream. -/
theorem C16_streaminfo_range (i : Bits) (info : StreamInfo) (rest : Bits)
    (h : Repo.streamInfo i = .ok (info, rest)) : 1 ≤ info.bps ∧ info.bps ≤ 24 := by
  have := streamInfo_sat_range i
  rw [h] at this
  exact ⟨Nat.le_trans (by decide) this.bps.1, this.bps.2⟩

/-! ### the panic branches are real: outside the stated ranges the mirror does panic -/

/-- `bits_per_sample = 26` trips the `debug_assert!` of `subframe`. -/
example : (Repo.parseSubframe 1 26 (natToBits 8 0 ++ natToBits 26 0)).isPanic = true := by decide

/-- `bits_per_sample = 0` underflows `bits - 1` in `u_to_i`. -/
example : (Repo.parseSubframe 1 0 (natToBits 8 0)).isPanic = true := by decide

/-- `u_to_i(x, 32)` on a negative 32-bit sample: `1u32 << 32`. -/
example : (Repo.uToI (2 ^ 31) 32).isPanic = true := by decide

/-- `u_to_i(x, 31)` on a negative 31-bit sample: `x - i32::MIN` overflows. -/
example : (Repo.uToI (2 ^ 30) 31).isPanic = true := by decide

/-- A reserved block-size spec (never produced by the parser) makes `FrameHeader::block_size` panic. -/
example : (Repo.headerBlockSize ⟨false, .reserved, .independent 1, 4, .fixed 9, 0, 0⟩).isPanic = true := by decide

/-! ### findings: the DECODER panics on frames that the parser accepts

`Repo.frameAcceptedDecoderPanics debug info bytes` = "`parser::frame(info, true)` accepts `bytes` as
exactly one frame (both CRCs are correct) and `Decode::decode` of the accepted frame panics".  All
four witnesses were replayed on the real crate (harness/src/parser.rs, outcome class `q` = decoder panic on an
accepted frame; debug and release builds for the first three, debug only for the last). -/

private def monoInfo (blockSize : Nat) : StreamInfo :=
  { minBlock := blockSize, maxBlock := blockSize, minFrame := 0, maxFrame := 0, rate := 44100, channels := 1,
    bps := 16, total := blockSize, md5 := List.replicate 16 0 }

/-- Fixed predictor of order 4 in a block of 2 samples: `decode_lpc` writes `dest[t] = warm_up[t]`
past the end of the block (`decode.rs:145`). -/
theorem C16_decoder_panic_warmup_exceeds_block :
    Repo.frameAcceptedDecoderPanics true (monoInfo 2)
      [0xff,0xf8,0x69,0x08,0x00,0x01,0x1a,0x18,0x00,0x01,0x00,0x01,0x00,0x01,0x00,0x01,0x00,0x00,0xe1,0x69] = true ∧
    Repo.frameAcceptedDecoderPanics false (monoInfo 2)
      [0xff,0xf8,0x69,0x08,0x00,0x01,0x1a,0x18,0x00,0x01,0x00,0x01,0x00,0x01,0x00,0x01,0x00,0x00,0xe1,0x69] = true := by
  decide +kernel

/-- Partition order 5 in a block of 16 samples: 32 Rice parameters and no residual are parsed, then
`assert!(part_len > 0)` fails (`decode.rs:207`). -/
theorem C16_decoder_panic_partition_longer_than_block :
    Repo.frameAcceptedDecoderPanics true (monoInfo 16)
      [0xff,0xf8,0x69,0x08,0x00,0x0f,0x30,0x10,0x14,0xcc,0xcc,0xcc,0xcc,0xcc,0xcc,0xcc,0xcc,0xcc,0xcc,0xcc,0xcc,
       0xcc,0xcc,0xcc,0xcc,0x02,0x18] = true ∧
    Repo.frameAcceptedDecoderPanics false (monoInfo 16)
      [0xff,0xf8,0x69,0x08,0x00,0x0f,0x30,0x10,0x14,0xcc,0xcc,0xcc,0xcc,0xcc,0xcc,0xcc,0xcc,0xcc,0xcc,0xcc,0xcc,
       0xcc,0xcc,0xcc,0xcc,0x02,0x18] = true := by
  decide +kernel

/-- Four partitions in a block of 10 samples: only 8 quotients are parsed, `self.quotients()[8]` is out
of range (`decode.rs:211`). -/
theorem C16_decoder_panic_partitions_do_not_divide_block :
    Repo.frameAcceptedDecoderPanics true (monoInfo 10)
      [0xff,0xf8,0x69,0x08,0x00,0x09,0x22,0x10,0x08,0x30,0xc3,0x0c,0x4f,0x13] = true ∧
    Repo.frameAcceptedDecoderPanics false (monoInfo 10)
      [0xff,0xf8,0x69,0x08,0x00,0x09,0x22,0x10,0x08,0x30,0xc3,0x0c,0x4f,0x13] = true := by
  decide +kernel

/-- 5-bit Rice parameter 31, quotient 1, remainder `2^31 - 1`: the folded value is `u32::MAX` and
`decode_signbit` negates `i32::MIN` (`rice.rs:161`); a debug-build panic, the release build wraps. -/
theorem C16_decoder_panic_signbit_overflow :
    Repo.frameAcceptedDecoderPanics true (monoInfo 1)
      [0xff,0xf8,0x69,0x08,0x00,0x00,0x1d,0x10,0x43,0xef,0xff,0xff,0xff,0xf0,0xb4,0x3b] = true ∧
    Repo.frameAcceptedDecoderPanics false (monoInfo 1)
      [0xff,0xf8,0x69,0x08,0x00,0x00,0x1d,0x10,0x43,0xef,0xff,0xff,0xff,0xf0,0xb4,0x3b] = false := by
  decide +kernel

end FlacVerif
