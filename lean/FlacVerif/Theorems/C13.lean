/-
C13 — The partitioned-Rice parameter search is cost-optimal.

The model `search` / `searchFolded` mirrors `src/rice.rs` with its `u32` arithmetic and the
saturation at `maxPToBits = 2^28 - 1` (`FlacVerif/Model/Rice.lean`); `none` is a panic of the
Rust code. The specification side is `partCost` / `partErrors` / `choiceCost` / `orderOk`.

The optimality statement needs the true optimum to be **strictly below** the saturation value
`2^28 - 1`: at exactly `2^28 - 1` the search can return a parameter whose true cost is far larger
(`C13_saturation_edge_counterexample`), because a saturated table entry and an entry that is
exactly `2^28 - 1` are indistinguishable and `minimizer` breaks the tie by the smaller index.
-/
import FlacVerif.Lemmas.RiceSearchOpt
namespace FlacVerif
open RiceSearch

/-- The search never hits a panic site. -/
theorem C13_total (signal : List Int) (warm maxP : Nat)
    (hsig : ∀ v ∈ signal, -(2 ^ 31 : Int) < v ∧ v < (2 ^ 31 : Int))
    (hn : max 64 warm ≤ signal.length) (hlen : signal.length < 2 ^ 16) :
    (search signal warm maxP).isSome = true := by
  rw [search_eq signal warm maxP hsig]
  obtain ⟨_, r, hr, _⟩ := searchFolded_spec (signal.map fold) warm maxP
    (by rw [List.length_map]; exact hn) (by rw [List.length_map]; exact hlen)
  rw [hr]; rfl

/-- The returned choice lies in the search space, and no other choice of the space is cheaper,
whenever the optimum is below the saturation value `2^28 - 1`; the reported `codeBits` is then the
true cost of the returned choice.  (`ps.length = 2 ^ o` only makes the competitor a choice of the space: the inequality
holds for every `ps` with entries `≤ maxP`, see `RiceSearch.search_optimal`.) -/
theorem C13_optimal (signal : List Int) (warm maxP : Nat) (hmax : maxP ≤ 14)
    (hsig : ∀ v ∈ signal, -(2 ^ 31 : Int) < v ∧ v < (2 ^ 31 : Int))
    (hn : max 64 warm ≤ signal.length) (hlen : signal.length < 2 ^ 16)
    (r : PrcParameter) (hr : search signal warm maxP = some r) :
    let es := signal.map fold
    orderOk es.length warm r.order = true ∧ r.ps.length = 2 ^ r.order ∧ (∀ p ∈ r.ps, p ≤ maxP) ∧
    (∀ o ps, orderOk es.length warm o = true → ps.length = 2 ^ o → (∀ p ∈ ps, p ≤ maxP) →
        choiceCost es warm o ps < 2 ^ 28 - 1 →
        choiceCost es warm r.order r.ps ≤ choiceCost es warm o ps ∧
        r.codeBits = choiceCost es warm r.order r.ps) := by
  have b := search_optimal signal warm maxP hmax hsig hlen r hr
  refine ⟨b.ok, b.len, b.le_maxP, ?_⟩
  intro o ps hok _ hps hlt
  have hle := b.lower o ps hok hps
  have heq := b.eq_cost (Or.inl (by omega))
  exact ⟨by omega, heq⟩

/-- The form the property takes for a residual the encoder actually *emits*: an emitted residual
was compared with the verbatim size first (C09), so the true cost of the returned choice is far
below the saturation value; then no other choice of the search space is cheaper. -/
theorem C13_emitted (signal : List Int) (warm maxP : Nat) (hmax : maxP ≤ 14)
    (hsig : ∀ v ∈ signal, -(2 ^ 31 : Int) < v ∧ v < (2 ^ 31 : Int))
    (hn : max 64 warm ≤ signal.length) (hlen : signal.length < 2 ^ 16)
    (r : PrcParameter) (hr : search signal warm maxP = some r)
    (hsmall : choiceCost (signal.map fold) warm r.order r.ps < 2 ^ 28 - 1) :
    ∀ o ps, orderOk (signal.map fold).length warm o = true → ps.length = 2 ^ o → (∀ p ∈ ps, p ≤ maxP) →
      choiceCost (signal.map fold) warm r.order r.ps ≤ choiceCost (signal.map fold) warm o ps := by
  intro o ps hok hl hps
  by_cases h : choiceCost (signal.map fold) warm o ps < 2 ^ 28 - 1
  · exact ((C13_optimal signal warm maxP hmax hsig hn hlen r hr).2.2.2 o ps hok hl hps h).1
  · omega

/-- Same conclusion at the saturation edge (optimum `= 2^28 - 1` allowed) when the returned order
is not 0: with at least two partitions no table entry of the winner can be saturated. -/
theorem C13_optimal_edge (signal : List Int) (warm maxP : Nat) (hmax : maxP ≤ 14)
    (hsig : ∀ v ∈ signal, -(2 ^ 31 : Int) < v ∧ v < (2 ^ 31 : Int))
    (hn : max 64 warm ≤ signal.length) (hlen : signal.length < 2 ^ 16)
    (r : PrcParameter) (hr : search signal warm maxP = some r) (hro : r.order ≠ 0) :
    let es := signal.map fold
    (∀ o ps, orderOk es.length warm o = true → ps.length = 2 ^ o → (∀ p ∈ ps, p ≤ maxP) →
        choiceCost es warm o ps < 2 ^ 28 →
        choiceCost es warm r.order r.ps ≤ choiceCost es warm o ps ∧
        r.codeBits = choiceCost es warm r.order r.ps) := by
  have b := search_optimal signal warm maxP hmax hsig hlen r hr
  dsimp only
  intro o ps hok _ hps hlt
  have hle := b.lower o ps hok hps
  have heq := b.eq_cost (Or.inr ⟨by omega, hro⟩)
  exact ⟨by omega, heq⟩

/-- Unconditionally (no bound on the optimum), the reported `codeBits` is a lower bound of the
true cost of every choice of the search space. -/
theorem C13_codeBits_lower_bound (signal : List Int) (warm maxP : Nat) (hmax : maxP ≤ 14)
    (hsig : ∀ v ∈ signal, -(2 ^ 31 : Int) < v ∧ v < (2 ^ 31 : Int))
    (hn : max 64 warm ≤ signal.length) (hlen : signal.length < 2 ^ 16)
    (r : PrcParameter) (hr : search signal warm maxP = some r) :
    let es := signal.map fold
    ∀ o ps, orderOk es.length warm o = true → (∀ p ∈ ps, p ≤ maxP) →
      r.codeBits ≤ choiceCost es warm o ps :=
  (search_optimal signal warm maxP hmax hsig hlen r hr).lower

/-- The bound `< 2^28 - 1` in `C13_optimal` cannot be relaxed to `< 2^28` in general: here the
only admissible order is 0, the true optimum is exactly `2^28 - 1` (parameter 5), all six table
entries `p ≤ 5` are (or equal) the saturation value, `minimizer` returns index 0, and the true cost
of the returned choice is 8589922212. All hypotheses of `C13_optimal` hold for this input. -/
theorem C13_saturation_edge_counterexample :
    let signal : List Int := [2147483632, 2147477440] ++ List.replicate 62 0
    let es := signal.map fold
    (∀ v ∈ signal, -(2 ^ 31 : Int) < v ∧ v < (2 ^ 31 : Int)) ∧ max 64 0 ≤ signal.length ∧
    search signal 0 5 = some ⟨0, [0], 2 ^ 28 - 1⟩ ∧
    orderOk es.length 0 0 = true ∧ choiceCost es 0 0 [5] = 2 ^ 28 - 1 ∧
    choiceCost es 0 0 [0] = 8589922212 := by
  decide +kernel

/-- The hypotheses of `C13_optimal` / `C13_total` are satisfiable. -/
example : ∃ (signal : List Int) (warm maxP : Nat), maxP ≤ 14 ∧
    (∀ v ∈ signal, -(2 ^ 31 : Int) < v ∧ v < (2 ^ 31 : Int)) ∧
    max 64 warm ≤ signal.length ∧ signal.length < 2 ^ 16 :=
  ⟨List.replicate 128 3, 2, 14, by omega,
    fun v hv => by rw [List.eq_of_mem_replicate hv]; omega,
    by rw [List.length_replicate]; decide, by rw [List.length_replicate]; decide⟩

set_option maxRecDepth 100000 in
/-- … and so is the hypothesis of the optimality clause (order 0, parameter 2, cost 508). -/
example :
    let es := (List.replicate 128 (3 : Int)).map fold
    orderOk es.length 2 0 = true ∧ [2].length = 2 ^ 0 ∧ (∀ p ∈ [2], p ≤ 14) ∧
      choiceCost es 2 0 [2] < 2 ^ 28 - 1 := by
  decide +kernel

end FlacVerif
