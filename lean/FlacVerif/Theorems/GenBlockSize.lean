/-
`FrameHeader::block_size()` of the generated decoder against the hand model's `headerBlockSize`, on the image `hdrOfGen` of a
generated header: the one fact about generated frames that the decoder (C15Gen) and the parser (C16Gen) files share.
-/
import FlacVerif.Gen.Decode
import FlacVerif.Theorems.GenFrame

theorem FlacVerif.Repo.PResult.eq_panic_of_isPanic {α : Type} {r : Repo.PResult α} (h : r.isPanic = true) : ∃ s, r = .panic s := by
  cases r with
  | panic s => exact ⟨s, rfl⟩
  | ok _ => exact nomatch h
  | error _ => exact nomatch h

namespace FlacVerif.C15Gen
open FlacVerif.Gen.Decode

theorem block_size_eq (dbg : Bool) (g : Gen.Writer.FrameHeader) :
    match Repo.headerBlockSize (C08Gen.hdrOfGen g) with
    | .ok n => FrameHeader.block_size dbg g = some n
    | .error _ => False
    | .panic _ => FrameHeader.block_size dbg g = none := by
  unfold FrameHeader.block_size hdrVal expect
  simp only [Option.bind_fun_some]
  have h := C02Hdr.C02H_headerBlockSize (C08Gen.hdrOfGen g)
  have hb : C02Hdr.bsToGen (C08Gen.hdrOfGen g).blockSizeSpec = g.block_size_spec := C02Hdr.bsToGen_ofGen _
  rw [hb] at h
  cases hex : Gen.Headers.BlockSizeSpec.block_size_exact g.block_size_spec with
  | true =>
    have h1 := h.1 hex
    rw [if_pos rfl, Option.bind_some]
    cases hv : Gen.Headers.BlockSizeSpec.block_size g.block_size_spec with
    | some n => rw [hv] at h1; simp only [] at h1; rw [h1]
    | none =>
      rw [hv] at h1
      obtain ⟨s, hs⟩ := Repo.PResult.eq_panic_of_isPanic h1
      rw [hs]
  | false =>
    obtain ⟨s, hs⟩ := Repo.PResult.eq_panic_of_isPanic (h.2 hex)
    rw [if_neg (by simp), hs]
    rfl

end FlacVerif.C15Gen
