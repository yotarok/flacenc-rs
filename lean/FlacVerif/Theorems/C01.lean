/-
C01 — lossless round trip through an independent decoder.

The decoder is `Rfc.analyze` (`Model/Rfc.lean`, written from RFC 9639); the round trip itself, `C01_stream_strict`
(Theorems/C01Strict.lean), is stated for its structurally recursive twin `Rfc.analyzeRec` (`Model/RfcRec.lean`). The theorems
below are the inverse laws from which the round trip is assembled; each is stated for *every* predictor the
float estimator could produce (coefficients, shift and order are universally quantified), so
losslessness does not depend on the unmodelled floating-point code.
-/
import FlacVerif.Lemmas.Predict
namespace FlacVerif.C01

/-- Sign folding is inverted by the decoder's unfolding, for every integer. -/
theorem C01_unfold_fold (v : Int) : unfold (fold v) = v := unfold_fold v

/-- The encoder's `u32` computation of the folded value is the mathematical one on the whole
residual range `(-2^31, 2^31)` (and overflows exactly at `-2^31`, which the format forbids). -/
theorem C01_encodeSignbit (v : Int) (h1 : -(2 ^ 31 : Int) < v) (h2 : v < (2 ^ 31 : Int)) :
    encodeSignbit v = some (fold v) ∧ fold v < 2 ^ 32 :=
  ⟨encodeSignbit_eq_fold v h1 h2, fold_lt v h1 h2⟩

/-- A Rice-coded sample is recovered from its quotient and remainder. -/
theorem C01_rice_split (p u : Nat) : (u >>> p) * 2 ^ p + u % 2 ^ p = u := by
  rw [Nat.shiftRight_eq_div_pow, Nat.mul_comm]; exact Nat.div_add_mod u (2 ^ p)

/-- LPC subframe: warm-up + exact residual reconstructs the block, for **any** coefficient list
(order = its length, 0..32), any shift, any block. -/
theorem C01_lpc (coefs : List Int) (shift : Nat) (xs : List Int) :
    lpcRestore coefs shift (xs.take coefs.length) (lpcResidual coefs shift xs) = xs :=
  lpcRestore_lpcResidual coefs shift xs

/-- Fixed-predictor subframe of order 0..4. -/
theorem C01_fixed (k : Nat) (hk : k ≤ 4) (xs : List Int) :
    fixedRestore k (xs.take k) (fixedResidual k xs) = xs :=
  fixedRestore_fixedResidual k xs hk

/-- Mid/side, left/side and right/side decorrelation are inverted exactly by the RFC's
reconstruction rules, for all integers (in particular for odd and negative sums). -/
theorem C01_midside (l r : Int) : unMidSide (midSide l r).1 (midSide l r).2 = (l, r) := unMidSide_midSide l r
theorem C01_leftside (l r : Int) : unLeftSide l (l - r) = (l, r) := unLeftSide_spec l r
theorem C01_rightside (l r : Int) : unRightSide (l - r) r = (l, r) := unRightSide_spec l r

/-- Non-vacuity: an odd negative sum (where rounding toward zero instead of flooring would lose
a bit). -/
example : unMidSide (midSide (-3) 2).1 (midSide (-3) 2).2 = (-3, 2) := by decide

example : lpcRestore [3, -2] 1 [5, -7] (lpcResidual [3, -2] 1 [5, -7, 100, -100, 8388607]) = [5, -7, 100, -100, 8388607] := by
  decide

end FlacVerif.C01
