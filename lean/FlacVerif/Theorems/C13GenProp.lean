/-
Property-level statements transported to the GENERATED code (no new translation): the property theorems of
Theorems/C13.lean, C13Enc.lean, C09.lean and C07Total.lean, which speak about the hand model, restated for the functions
generated from the current source (Gen/Rice.lean, Gen/Coding.lean) through the equalities of Theorems/C13Gen.lean
(`C13G_find_partitioned_rice_parameter`, `C13G_encode_residual_chain`) and Theorems/C09Gen.lean
(`C09G_encode_residual`, `C09G_encode_subframe_valid`, `C09G_encode_frame`).  Hypotheses = those of the model theorem
plus those of the equality used.  The transports of C13 (`C13G_*`) are here, and so are those of C09 and C07 for the generated
`encode_subframe` / `encode_frame` / driver (`C09G_*_bound`, `C07G_*_total`), which need the same two equalities.
-/
import FlacVerif.Theorems.C13Gen
import FlacVerif.Theorems.C13Enc
import FlacVerif.Theorems.C09Gen
import FlacVerif.Theorems.C07Total
import FlacVerif.Theorems.C09Stream
import FlacVerif.Theorems.C03GenMem

namespace FlacVerif.C13GenProp
open FlacVerif FlacVerif.Gen.Rice FlacVerif.C13Gen RiceSearch

/-- the release-profile side conditions of the C13Gen equalities follow from the property theorems' hypotheses -/
theorem hrel_of (dbg : Bool) (signal : List Int) (warm : Nat)
    (hsig : ∀ v ∈ signal, -(2 ^ 31 : Int) < v ∧ v < (2 ^ 31 : Int)) (hn : max 64 warm ≤ signal.length) :
    dbg = true ∨ (max 64 warm ≤ signal.length ∧ ∀ v ∈ signal, encodeSignbit v ≠ none) :=
  Or.inr ⟨hn, fun v hv => by rw [encodeSignbit_eq_fold v (hsig v hv).1 (hsig v hv).2]; simp⟩

theorem gen_search (dbg : Bool) (prev fin : PrcParameterFinder) (signal : List Int) (warm maxP : Nat)
    (prc : FlacVerif.Gen.Rice.PrcParameter) (hmax : maxP ≤ 14)
    (hsig : ∀ v ∈ signal, -(2 ^ 31 : Int) < v ∧ v < (2 ^ 31 : Int))
    (hn : max 64 warm ≤ signal.length) (hlen : signal.length < 2 ^ 16)
    (hr : find_partitioned_rice_parameter dbg prev signal warm maxP = some (prc, fin)) :
    search signal warm maxP = some (toModel prc) := by
  have := C13G_find_partitioned_rice_parameter dbg prev signal warm maxP (by omega) hmax (hrel_of dbg signal warm hsig hn)
  rw [hr] at this
  exact this.symm

/-- `C13_total` for the generated `find_partitioned_rice_parameter`: any stale finder, both profiles. -/
theorem C13G_total (dbg : Bool) (prev : PrcParameterFinder) (signal : List Int) (warm maxP : Nat) (hmax : maxP ≤ 14)
    (hsig : ∀ v ∈ signal, -(2 ^ 31 : Int) < v ∧ v < (2 ^ 31 : Int))
    (hn : max 64 warm ≤ signal.length) (hlen : signal.length < 2 ^ 16) :
    (find_partitioned_rice_parameter dbg prev signal warm maxP).isSome = true := by
  have h := C13G_find_partitioned_rice_parameter dbg prev signal warm maxP (by omega) hmax (hrel_of dbg signal warm hsig hn)
  have ht := C13_total signal warm maxP hsig hn hlen
  rwa [← h, Option.isSome_map] at ht

/-- **C13 (optimality), generated**: `C13_optimal` for the result of the generated `find_partitioned_rice_parameter`, whatever
the previous call left in the thread-local finder, in both profiles. -/
theorem C13G_optimal (dbg : Bool) (prev fin : PrcParameterFinder) (signal : List Int) (warm maxP : Nat)
    (prc : FlacVerif.Gen.Rice.PrcParameter) (hmax : maxP ≤ 14)
    (hsig : ∀ v ∈ signal, -(2 ^ 31 : Int) < v ∧ v < (2 ^ 31 : Int))
    (hn : max 64 warm ≤ signal.length) (hlen : signal.length < 2 ^ 16)
    (hr : find_partitioned_rice_parameter dbg prev signal warm maxP = some (prc, fin)) :
    let es := signal.map fold
    orderOk es.length warm prc.order = true ∧ prc.ps.length = 2 ^ prc.order ∧ (∀ p ∈ prc.ps, p ≤ maxP) ∧
    (∀ o ps, orderOk es.length warm o = true → ps.length = 2 ^ o → (∀ p ∈ ps, p ≤ maxP) →
        choiceCost es warm o ps < 2 ^ 28 - 1 →
        choiceCost es warm prc.order prc.ps ≤ choiceCost es warm o ps ∧
        prc.code_bits = choiceCost es warm prc.order prc.ps) :=
  C13_optimal signal warm maxP hmax hsig hn hlen (toModel prc) (gen_search dbg prev fin signal warm maxP prc hmax hsig hn hlen hr)

/-- `C13_emitted` for the generated search -/
theorem C13G_emitted (dbg : Bool) (prev fin : PrcParameterFinder) (signal : List Int) (warm maxP : Nat)
    (prc : FlacVerif.Gen.Rice.PrcParameter) (hmax : maxP ≤ 14)
    (hsig : ∀ v ∈ signal, -(2 ^ 31 : Int) < v ∧ v < (2 ^ 31 : Int))
    (hn : max 64 warm ≤ signal.length) (hlen : signal.length < 2 ^ 16)
    (hr : find_partitioned_rice_parameter dbg prev signal warm maxP = some (prc, fin))
    (hsmall : choiceCost (signal.map fold) warm prc.order prc.ps < 2 ^ 28 - 1) :
    ∀ o ps, orderOk (signal.map fold).length warm o = true → ps.length = 2 ^ o → (∀ p ∈ ps, p ≤ maxP) →
      choiceCost (signal.map fold) warm prc.order prc.ps ≤ choiceCost (signal.map fold) warm o ps :=
  C13_emitted signal warm maxP hmax hsig hn hlen (toModel prc)
    (gen_search dbg prev fin signal warm maxP prc hmax hsig hn hlen hr) hsmall

/-- `encode_residual` of coding.rs with BOTH callees generated: the search (any stale finder), then the split -/
def genEncodeResidual (dbg : Bool) (prev : PrcParameterFinder) (cfg : FlacVerif.Gen.Prc) (errors : List Int) (warm : Nat) :
    Option Residual :=
  (find_partitioned_rice_parameter dbg prev errors warm cfg.max_parameter).bind fun r =>
    encode_residual_with_prc_parameter dbg cfg errors warm r.1

/-- `find_partitioned_rice_parameter` then `encode_residual_with_prc_parameter`, both generated, compute the model's
`encodeResidual`, which is what `Gen.Coding.encode_residual` (with its two callees read as model functions) computes -/
theorem C13G_encode_residual_generated (dbg : Bool) (prev : PrcParameterFinder) (cfg : FlacVerif.Gen.Prc) (errors : List Int)
    (warm : Nat) (hmax : cfg.max_parameter ≤ 14) (hlen : errors.length < 2 ^ 16)
    (hrel : dbg = true ∨ (max 64 warm ≤ errors.length ∧ ∀ v ∈ errors, encodeSignbit v ≠ none)) :
    genEncodeResidual dbg prev cfg errors warm = encodeResidual cfg.max_parameter errors warm ∧
    ∀ log, FlacVerif.Gen.Coding.encode_residual cfg errors warm log = (genEncodeResidual dbg prev cfg errors warm).map (·, log) := by
  have h := C13G_find_partitioned_rice_parameter dbg prev errors warm cfg.max_parameter (by omega) hmax hrel
  have heq : genEncodeResidual dbg prev cfg errors warm = encodeResidual cfg.max_parameter errors warm := by
    unfold genEncodeResidual encodeResidual
    cases hf : find_partitioned_rice_parameter dbg prev errors warm cfg.max_parameter with
    | none => rw [hf] at h; rw [← h]; rfl
    | some r =>
      rw [hf] at h
      have hs : search errors warm cfg.max_parameter = some (toModel r.1) := h.symm
      rw [hs]
      simp only [Option.bind_some, Option.bind_eq_bind]
      exact C13G_encode_residual_chain dbg cfg errors warm cfg.max_parameter (toModel r.1) r.1 hlen hs rfl
  exact ⟨heq, fun log => by rw [heq]; exact FlacVerif.C09Gen.C09G_encode_residual cfg errors warm log⟩

/-- **C13 for the residual the generated chain builds**: it is `Residual.ofErrors` of a choice of the search space, and its
coded size (`6 + choiceCost`) is minimal among the choices of the space whose cost is below the saturation value. -/
theorem C13G_residual_optimal (dbg : Bool) (prev : PrcParameterFinder) (cfg : FlacVerif.Gen.Prc) (errors : List Int) (warm : Nat)
    (res : Residual) (hmax : cfg.max_parameter ≤ 14)
    (herr : ∀ e ∈ errors, -(2 ^ 31 : Int) < e ∧ e < (2 ^ 31 : Int))
    (hn : max 64 warm ≤ errors.length) (hlen : errors.length < 2 ^ 16)
    (h : genEncodeResidual dbg prev cfg errors warm = some res) :
    ∃ o' ps', res = Residual.ofErrors errors warm o' ps' ∧
      orderOk errors.length warm o' = true ∧ ps'.length = 2 ^ o' ∧ (∀ p ∈ ps', p ≤ cfg.max_parameter) ∧
      ∀ o ps, orderOk errors.length warm o = true → ps.length = 2 ^ o → (∀ p ∈ ps, p ≤ cfg.max_parameter) →
        choiceCost (errors.map fold) warm o ps < 2 ^ 28 - 1 →
        res.bits.length ≤ (Residual.ofErrors errors warm o ps).bits.length := by
  rw [(C13G_encode_residual_generated dbg prev cfg errors warm hmax hlen (hrel_of dbg errors warm herr hn)).1] at h
  unfold encodeResidual at h
  cases hs : search errors warm cfg.max_parameter with
  | none => rw [hs] at h; simp at h
  | some r =>
    rw [hs] at h
    simp only [Option.bind_eq_bind, Option.bind_some, Option.some.injEq] at h
    have hopt := C13_optimal errors warm cfg.max_parameter hmax herr hn hlen r hs
    simp only [List.length_map] at hopt
    obtain ⟨h1, h2, h3, h4⟩ := hopt
    refine ⟨r.order, r.ps, h.symm, h1, h2, h3, ?_⟩
    intro o ps hok hl hps hlt
    rw [← h, C13_written_size errors warm r.order r.ps herr, C13_written_size errors warm o ps herr]
    have := (h4 o ps hok hl hps hlt).1
    omega

open FlacVerif.Gen.Coding FlacVerif.C09Gen FlacVerif.Total

/-- **C09 (sub-frame), generated**: whatever the oracle log says, the sub-frame the generated `encode_subframe` returns takes at
most the verbatim size `8 + n * bps`. -/
theorem C09G_subframe_bound (s1 : List (List Int)) (s2 : List Int) (c : Gen.SubFrameCoding) (xs : List Int) (bps : Nat)
    (log log' : List OEvent) (s : SubFrame)
    (hn : 1 ≤ xs.length) (hlen : xs.length < 2 ^ 16) (hb : 1 ≤ bps ∧ bps ≤ 25)
    (hx : ∀ x ∈ xs, SubFrame.inRange bps x = true) (hmax : c.prc.max_parameter ≤ 14)
    (hmo : c.fixed.max_order + 1 < 2 ^ 64) (hest : ∀ o b, OEvent.est o b ∈ log → b < 2 ^ 63)
    (h : encode_subframe s1 s2 c xs bps log = some (s, log')) :
    ∃ n, s.count = some n ∧ n ≤ verbatimBits xs.length bps := by
  rw [C09G_encode_subframe_valid s1 s2 c xs bps log hn hlen hb hx hmax hmo hest] at h
  exact FlacVerif.C09.C09_subframe (subCfgOf c) xs bps log log' s hn h

/-- **C07 (totality, sub-frame), generated**: under C07Total's hypotheses the generated `encode_subframe` returns (it reaches no
panic site), having consumed exactly the oracle events `subTake` says. -/
theorem C07G_subframe_total (s1 : List (List Int)) (s2 : List Int) (c : Gen.SubFrameCoding) (xs : List Int) (bps : Nat)
    (log : List OEvent)
    (hn : 1 ≤ xs.length) (hlen : xs.length < 2 ^ 16) (hb : 1 ≤ bps ∧ bps ≤ 25)
    (hx : ∀ x ∈ xs, SubFrame.inRange bps x = true) (hmax : c.prc.max_parameter ≤ 14)
    (hmo : c.fixed.max_order + 1 < 2 ^ 64) (hest : ∀ o b, OEvent.est o b ∈ log → b < 2 ^ 63)
    (hlog : ∀ e ∈ log, e.Ok) (hshape : Total.SubLogOk (subCfgOf c) xs log) :
    ∃ s, encode_subframe s1 s2 c xs bps log = some (s, log.drop (Total.subTake (subCfgOf c) xs)) := by
  rw [C09G_encode_subframe_valid s1 s2 c xs bps log hn hlen hb hx hmax hmo hest]
  exact C07_subframe_total (subCfgOf c) xs bps log hlen hb hx hlog hshape

/-- **C09 (frame), generated**: for every oracle log, the sub-frames of the frame the generated `encode_frame` returns (read
through `C08Gen.frameOfGen`, after the frame-number assignment) take at most `channels * (8 + n * bps)` bits, and every one
of them has a size. -/
theorem C09G_frame_bound (s1 : List (List Int)) (s2 : List Int) (s3 : Gen.Coding.FrameBuf) (c : Gen.Encoder) (fb : Gen.Coding.FrameBuf)
    (info : StreamInfo) (number : Nat) (log log' : List OEvent) (g : Gen.Writer.Frame)
    (hst : StereoBuf s3) (hfb : FbOk fb info.channels) (hn : 1 ≤ fb.filled_size ∧ fb.filled_size < 2 ^ 16)
    (hch : 1 ≤ info.channels ∧ info.channels ≤ 8) (hb : 1 ≤ info.bps ∧ info.bps ≤ 24)
    (hx : ∀ ch, ch < info.channels → ∀ x ∈ chanOf fb ch, SubFrame.inRange info.bps x = true)
    (hmax : c.subframe_coding.prc.max_parameter ≤ 14) (hmo : c.subframe_coding.fixed.max_order + 1 < 2 ^ 64)
    (hrate : info.rate < 2 ^ 32) (hnum : number < 2 ^ 32) (hlog : LogFits log)
    (h : encode_frame s1 s2 s3 c fb 0 info log = some (g, log')) :
    FlacVerif.C09.subTotal (C08Gen.frameOfGen (withNumber g number)) ≤ info.channels * verbatimBits fb.filled_size info.bps ∧
    ∀ s ∈ (C08Gen.frameOfGen (withNumber g number)).subframes, ∃ n, s.count = some n := by
  have heq := C09G_encode_frame s1 s2 s3 c fb info number log hst hfb hn hch hb hx hmax hmo hrate hnum hlog
  rw [h] at heq
  have := FlacVerif.C09.C09_frame (subCfgOf c.subframe_coding) (stereoCfgOf c.stereo_coding) (chansOf fb info.channels)
    info.bps info.rate number fb.filled_size log log' _ hn.1 (chansOf_length fb _ hfb) heq.symm
  simpa [chansOf] using this

/-- **C13 (emitted residuals), generated**: `C13_encoder` for the sub-frame the generated `encode_subframe` returns - its
residual is `Residual.ofErrors` of an error signal with the emitted order and parameters, a choice of the search space, and NO
choice of the space has a smaller coded size (no saturation side condition), for every oracle log satisfying `OEvent.Ok`. -/
theorem C13G_encoder (s1 : List (List Int)) (s2 : List Int) (c : Gen.SubFrameCoding) (xs : List Int) (bps : Nat)
    (log log' : List OEvent) (s : SubFrame)
    (hn : 1 ≤ xs.length) (hlen : xs.length < 2 ^ 16) (hb : 1 ≤ bps ∧ bps ≤ 25)
    (hx : ∀ x ∈ xs, SubFrame.inRange bps x = true) (hmax : c.prc.max_parameter ≤ 14)
    (hmo : c.fixed.max_order + 1 < 2 ^ 64) (hest : ∀ o b, OEvent.est o b ∈ log → b < 2 ^ 63)
    (hlog : ∀ e ∈ log, e.Ok)
    (h : encode_subframe s1 s2 c xs bps log = some (s, log')) :
    match s with
    | .fixed warm res _ | .lpc warm _ _ _ res _ =>
        ∃ errors : List Int, errors.length = xs.length ∧
          (∀ e ∈ errors, -(2 ^ 31 : Int) < e ∧ e < (2 ^ 31 : Int)) ∧
          res = Residual.ofErrors errors warm.length res.order res.params ∧
          orderOk xs.length warm.length res.order = true ∧ res.params.length = 2 ^ res.order ∧
          (∀ p ∈ res.params, p ≤ c.prc.max_parameter) ∧
          ∀ o ps, orderOk xs.length warm.length o = true → ps.length = 2 ^ o → (∀ p ∈ ps, p ≤ c.prc.max_parameter) →
            choiceCost (errors.map fold) warm.length res.order res.params ≤
              choiceCost (errors.map fold) warm.length o ps
    | _ => True := by
  rw [C09G_encode_subframe_valid s1 s2 c xs bps log hn hlen hb hx hmax hmo hest] at h
  have := C13_encoder (subCfgOf c) xs bps log log' s hn hlen hb hx hmax hlog h
  cases s with
  | constant _ _ _ => trivial
  | verbatim _ _ => trivial
  | fixed warm res b => exact this
  | lpc warm coefs shift precision res b => exact this

/-- **C07 (totality, frame), generated**: under C07Total's hypotheses the generated `encode_frame` returns - no panic site is
reached -, consumes exactly `frameTake` oracle events, and its frame (after the frame-number assignment) is the model's. -/
theorem C07G_frame_total (s1 : List (List Int)) (s2 : List Int) (s3 : Gen.Coding.FrameBuf) (c : Gen.Encoder) (fb : Gen.Coding.FrameBuf)
    (info : StreamInfo) (number : Nat) (log : List OEvent)
    (hst : StereoBuf s3) (hfb : FbOk fb info.channels) (hn : 1 ≤ fb.filled_size ∧ fb.filled_size < 2 ^ 16)
    (hch : 1 ≤ info.channels ∧ info.channels ≤ 8) (hb : 1 ≤ info.bps ∧ info.bps ≤ 24)
    (hx : ∀ ch, ch < info.channels → ∀ x ∈ chanOf fb ch, SubFrame.inRange info.bps x = true)
    (hmax : c.subframe_coding.prc.max_parameter ≤ 14) (hmo : c.subframe_coding.fixed.max_order + 1 < 2 ^ 64)
    (hrate : info.rate < 2 ^ 32) (hnum : number < 2 ^ 32) (hfit : LogFits log)
    (hlog : ∀ e ∈ log, e.Ok) (hshape : FrameLogOk (subCfgOf c.subframe_coding) (chansOf fb info.channels) log) :
    ∃ g, encode_frame s1 s2 s3 c fb 0 info log
        = some (g, log.drop (frameTake (subCfgOf c.subframe_coding) (chansOf fb info.channels))) ∧
      encodeFrame (subCfgOf c.subframe_coding) (stereoCfgOf c.stereo_coding) (chansOf fb info.channels) info.bps info.rate number log
        = some (C08Gen.frameOfGen (withNumber g number), log.drop (frameTake (subCfgOf c.subframe_coding) (chansOf fb info.channels))) := by
  have heq := C09G_encode_frame s1 s2 s3 c fb info number log hst hfb hn hch hb hx hmax hmo hrate hnum hfit
  have hclen : (chansOf fb info.channels).length = info.channels := by simp [chansOf]
  obtain ⟨f, hf⟩ := C07_frame_total (subCfgOf c.subframe_coding) (stereoCfgOf c.stereo_coding) (chansOf fb info.channels)
    info.bps info.rate number fb.filled_size log (by omega) (chansOf_length fb _ hfb) hn hb (forall_chansOf fb _ _ hx) hlog hshape
  rw [hf] at heq
  cases hg : encode_frame s1 s2 s3 c fb 0 info log with
  | none => rw [hg] at heq; simp at heq
  | some r =>
    rw [hg] at heq
    simp only [Option.map_some, Option.some.injEq, Prod.mk.injEq] at heq
    obtain ⟨g, l'⟩ := r
    simp only at heq
    refine ⟨g, by rw [heq.2], ?_⟩
    rw [hf, heq.1]

/-- **C09 (stream), generated**: the stream the GENERATED driver `encode_with_fixed_block_size` returns on the GENERATED `MemSource`
(single-threaded configuration) writes at most 42 bytes plus, per block, its own frame header and verbatim sub-frames -
`C09_stream` through `C03G_driver_mem_stream` (`streamImage G` is the generated stream read as the model's). -/
theorem C09G_stream_bound (featPar : Bool)
    (par : Gen.Encoder → Gen.Source.MemSource → Nat → FlacVerif.Gen.Coding.M (Option Gen.Writer.Stream))
    (md5f : List Nat → List Nat) (s1 : Nat → List (List Int)) (s2 : Nat → List Int) (s3 : Nat → Gen.Coding.FrameBuf)
    (c : Gen.Encoder) (chans : List (List Int)) (ch bps rate bs total : Nat) (log logf : List OEvent) (i0 : StreamInfo)
    (m0 : FlacVerif.FrameBuf) (s : Stream)
    (hmt : c.multithread = false)
    (hnew : FlacVerif.StreamInfo.new rate ch bps = some i0) (hfb : FlacVerif.FrameBuf.withSize ch bs = some m0)
    (hst : ∀ n, C09Gen.StereoBuf (s3 n)) (hb : 1 ≤ bps ∧ bps ≤ 24)
    (hmax : c.subframe_coding.prc.max_parameter ≤ 14) (hmo : c.subframe_coding.fixed.max_order + 1 < 2 ^ 64)
    (hcl : chans.length = ch) (hch : 1 ≤ ch ∧ ch ≤ 8) (hlen : ∀ x ∈ chans, x.length = total)
    (hxr : ∀ x ∈ chans, ∀ v ∈ x, SubFrame.inRange bps v = true) (htot : total < 2 ^ 36) (hbs : 1 ≤ bs ∧ bs < 2 ^ 16)
    (hs : encodeStream md5f (Total.subCfgOf c.subframe_coding) (Total.stereoCfgOf c.stereo_coding) bs chans bps rate log = some (s, logf))
    (hlog : C09Gen.LogFits log) (hlogok : ∀ e ∈ log, e.Ok) (hnb : (blocksOf bs chans).length < 2 ^ 31)
    (hmd : ∀ l, (md5f l).length = 16) (fuel : Nat) (hfuel : (blocksOf bs chans).length < fuel) :
    ∃ G sb, FlacVerif.Gen.Driver.encode_with_fixed_block_size featPar FlacVerif.C03Gen.memOps par md5f s1 s2 s3 fuel c
        (Gen.Source.MemSource.from_samples (Rfc.interleave chans) ch bps rate) bs log = some (some G, logf) ∧
      (FlacVerif.C03Gen.streamImage G).bits rfcCrc8 rfcCrc16 = some sb ∧
      (FlacVerif.C03Gen.streamImage G).count = some sb.length ∧
      sb.length ≤ 8 * 42 + (((blocksOf bs chans).zipIdx).map fun (b, i) =>
        8 * ((frameHeaderBits (b.headD []).length rate i + chans.length * (8 + (b.headD []).length * bps) + 7) / 8 + 2)).sum := by
  obtain ⟨G, hG, himg⟩ := FlacVerif.C03GenMem.C03G_driver_mem_stream featPar par md5f s1 s2 s3 c chans ch bps rate bs total log logf
    i0 m0 s hmt hnew hfb hst hb hmax hmo hcl hlen hxr (by omega) hs hlog hlogok hnb hmd fuel hfuel
  obtain ⟨sb, h1, h2, h3⟩ := C09_stream md5f (Total.subCfgOf c.subframe_coding) (Total.stereoCfgOf c.stereo_coding) bs chans bps rate
    log logf s total hmd (by rw [hcl]; exact hch) hlen htot hbs hb hxr hmax hlogok hs
  exact ⟨G, sb, hG, by rw [himg]; exact h1, by rw [himg]; exact h2, h3⟩

/-! ### the side conditions hold on the witnesses of C13Gen / C09Gen (the bound examples take the generated function's result `h` as
given; the two `C07G_*_total` examples show that there is one) -/

/-- `C13G_total` / `C13G_optimal`: 128 samples of both signs, warm-up 2, any stale finder, both profiles -/
example (dbg : Bool) (prev : PrcParameterFinder) :
    ∃ prc fin, find_partitioned_rice_parameter dbg prev (List.replicate 64 (-3) ++ List.replicate 64 5) 2 14 = some (prc, fin) ∧
      prc.ps.length = 2 ^ prc.order ∧ ∀ p ∈ prc.ps, p ≤ 14 := by
  have hsig : ∀ v ∈ (List.replicate 64 (-3) ++ List.replicate 64 5 : List Int), -(2 ^ 31 : Int) < v ∧ v < (2 ^ 31 : Int) := by
    intro v hv
    rcases List.mem_append.mp hv with h | h <;> rw [List.eq_of_mem_replicate h] <;> decide
  have hl : (List.replicate 64 (-3) ++ List.replicate 64 5 : List Int).length = 128 := by
    rw [List.length_append, List.length_replicate, List.length_replicate]
  have ht := C13G_total dbg prev _ 2 14 (by decide) hsig (by rw [hl]; decide) (by rw [hl]; decide)
  obtain ⟨⟨prc, fin⟩, hf⟩ := Option.isSome_iff_exists.mp ht
  have := C13G_optimal dbg prev fin _ 2 14 prc (by decide) hsig (by rw [hl]; decide) (by rw [hl]; decide) hf
  exact ⟨prc, fin, hf, this.2.1, this.2.2.1⟩

/-- `C13G_residual_optimal` / `C13G_encode_residual_generated`: the block `sig64` of C09Gen, maximal parameter 14 -/
example (dbg : Bool) (prev : PrcParameterFinder) :
    ∃ res o' ps', genEncodeResidual dbg prev ⟨14⟩ sig64 2 = some res ∧ res = Residual.ofErrors sig64 2 o' ps' ∧
      ps'.length = 2 ^ o' := by
  have herr : ∀ e ∈ sig64, -(2 ^ 31 : Int) < e ∧ e < (2 ^ 31 : Int) := by decide
  have hrel := hrel_of dbg sig64 2 herr (by decide)
  have h := (C13G_encode_residual_generated dbg prev ⟨14⟩ sig64 2 (by decide) (by decide) hrel).1
  have ht := C13_total sig64 2 14 herr (by decide) (by decide)
  obtain ⟨r, hs⟩ := Option.isSome_iff_exists.mp ht
  have : genEncodeResidual dbg prev ⟨14⟩ sig64 2 = some (Residual.ofErrors sig64 2 r.order r.ps) := by
    rw [h]; unfold encodeResidual; rw [hs]; rfl
  obtain ⟨o', ps', hres, _, hl, _⟩ := C13G_residual_optimal dbg prev ⟨14⟩ sig64 2 _ (by decide) herr (by decide) (by decide) this
  exact ⟨_, o', ps', this, hres, hl⟩

/-- `C07G_subframe_total`: default configuration, `sig64` at 16 bits; the log `log64` has the shape `SubLogOk` asks for -/
example : ∃ s, encode_subframe [] [1, 2, 3] cfgDefault sig64 16 log64 =
    some (s, log64.drop (Total.subTake (subCfgOf cfgDefault) sig64)) :=
  C07G_subframe_total _ _ cfgDefault sig64 16 log64 sig64_valid.1.1 sig64_valid.1.2 (by decide) sig64_valid.2
    (by decide) (by decide) (by intro o b h; simp [log64] at h; omega) (by decide) (by decide)

/-- `C07G_frame_total`: the stereo buffer `fb2` of C09Gen with the log `log4` (`FrameLogOk`: two channels, then mid and side) -/
example : ∃ g, encode_frame [] [] msStale cfgEnc fb2 0 info2 log4
    = some (g, log4.drop (frameTake (subCfgOf cfgEnc.subframe_coding) (chansOf fb2 info2.channels))) :=
  (C07G_frame_total [] [] msStale cfgEnc fb2 info2 7 log4 msStale_ok fb2_valid.1 fb2_valid.2.1 (by decide) (by decide)
    fb2_valid.2.2 (by decide) (by decide) (by decide) (by decide) log4_fits (by decide) (by decide)).imp fun _ h => h.1

/-- `C09G_subframe_bound`: default configuration, `sig64` at 16 bits, the log `log64` -/
example (s : SubFrame) (l' : List OEvent) (h : encode_subframe [] [1, 2, 3] cfgDefault sig64 16 log64 = some (s, l')) :
    ∃ n, s.count = some n ∧ n ≤ verbatimBits 64 16 :=
  C09G_subframe_bound _ _ cfgDefault sig64 16 log64 l' s sig64_valid.1.1 sig64_valid.1.2 (by decide) sig64_valid.2
    (by decide) (by decide) (by intro o b h; simp [log64] at h; omega) h

/-- `C09G_frame_bound`: the stereo buffer `fb2` of C09Gen, stale mid/side scratch, frame number 7 -/
example (g : Gen.Writer.Frame) (l' : List OEvent) (h : encode_frame [] [] msStale cfgEnc fb2 0 info2 log4 = some (g, l')) :
    FlacVerif.C09.subTotal (C08Gen.frameOfGen (withNumber g 7)) ≤ 2 * verbatimBits 64 16 :=
  (C09G_frame_bound [] [] msStale cfgEnc fb2 info2 7 log4 l' g msStale_ok fb2_valid.1 fb2_valid.2.1 (by decide) (by decide)
    fb2_valid.2.2 (by decide) (by decide) (by decide) (by decide) log4_fits h).1

/-- `C13G_encoder`: the same witnesses; the log `log64` satisfies `OEvent.Ok` -/
example (s : SubFrame) (l' : List OEvent) (h : encode_subframe [] [1, 2, 3] cfgDefault sig64 16 log64 = some (s, l')) :
    match s with
    | .fixed warm res _ | .lpc warm _ _ _ res _ => res.params.length = 2 ^ res.order
    | _ => True := by
  have := C13G_encoder _ _ cfgDefault sig64 16 log64 l' s sig64_valid.1.1 sig64_valid.1.2 (by decide) sig64_valid.2
    (by decide) (by decide) (by intro o b h; simp [log64] at h; omega) (by decide) h
  cases s with
  | constant _ _ _ => trivial
  | verbatim _ _ => trivial
  | fixed warm res b => obtain ⟨_, _, _, _, _, hl, _⟩ := this; exact hl
  | lpc warm coefs shift precision res b => obtain ⟨_, _, _, _, _, hl, _⟩ := this; exact hl

end FlacVerif.C13GenProp
