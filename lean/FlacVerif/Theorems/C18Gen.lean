/-
C18 (generated verify / constructors) — the HAND-WRITTEN decision procedures of `Model/Verify.lean` (`verifyBlockSize`,
`verifyBps`, `verifySample`, `Residual.verify/new`, `QParams.verify/new`, `Constant.new`, `Verbatim.new`, `FixedLpc.new`,
`Lpc.new`, `ChannelAssignment.verify`, `FrameHeader.new`, `StreamInfo.new`, `UnknownBlock.new`) agree with the Rust
source text of `src/component/verify.rs`, `src/component/datatype.rs` and the macros of `src/error.rs`.

`Gen/Verify.lean` (translator part `verify`) mirrors the `impl Verify` bodies with `verify_block_size!` / `verify_bps!` /
`verify_sample_range!` / `verify_range!` / `verify_true!` expanded from their `macro_rules!` definitions, `verify_macro_impl`
and the public constructors / setters, statement by statement.  A function returning
`Result<(), VerifyError>` becomes `VR = Option Bool` (`none` = the Rust function PANICS in the dev profile before it
returns), a constructor becomes `CR T = Option (Option T)` (`none` = panic, `some none` = `Err`).
The laws of that part's prelude (`andThen`, `req`, `bindC`, `forV`, `forVS`, `fromSlice`, `tryIntoC`, `foldOk`) stand
at the head of the file, in the forms the proofs below rewrite with: a check in front of the rest of a body
(`andThen_guard`, `guardC`, `guardM`), a loop of checks (`forV_all`, `forVS_spec`).

The theorems hold for all argument values.  Unbounded naturals / integers stand for the machine
integers, so values that would wrap in a narrower type (`256 + 16` bits per sample, partition order `256 + 1`) are
covered; a domain hypothesis appears only where the Rust TYPE is needed: the elements of `quotients: &[u32]` are
`< 2^32` and those of `rice_params: &[u8]` are `< 256` (so that the `fold`s recomputing the cached sums cannot
overflow a `usize`), `metadata.len() < 2^64`.  A `_verify` / `_new` theorem says `generated = some (decision)`: the
generated function does not panic AND decides what is written on the right.  Where `Model/Verify.lean` has the function
(the macros, `Residual`, `QParams`, the four sub-frame constructors, `ChannelAssignment.verify`, `FrameHeader.new`,
`StreamInfo.new`, `UnknownBlock.new`) the right side is the hand model's; for the `verify` of StreamInfo, FrameHeader,
SubFrame, Frame, Stream and for the setters, which the hand model does not have, it is a decision written out here
(`streamInfoVerify`, `subframeVerify`, `blockVerify`, `streamVerify`, or in the statement).  The `_panics` theorems are
`= none`.  `hi` (the first block is a STREAMINFO) and `hF` (no frame makes `Frame::verify` panic) are assumptions on
the shape of a value, which only deserialisation can violate; they are not type domains.

DISAGREEMENTS between `Model/Verify.lean` and the source: only `C18G_verify_sample_range_high` / `_wide` (the hand
model's `verifySample` is over unbounded integers; the macro computes in `i32`); not reachable from any constructor or
`verify` because `verify_bps!` (8..=25) always precedes `verify_sample_range!`.  FINDINGS about the source (not about the
model): `C18G_frame_verify_precomputed`, the setters that keep rejected values, the two panics of `verify` on
deserialised values (`C18G_header_verify_panics`, `C18G_stream_verify_panics`).

Source mutations tried against these theorems: `notes/verify_mutations.md`.
-/
import FlacVerif.Gen.Verify
import FlacVerif.Lemmas.VerifyMacros
import FlacVerif.Lemmas.Bits
import FlacVerif.Lemmas.ListFacts
import FlacVerif.Theorems.GenFrame
namespace FlacVerif.C18Gen
open FlacVerif.Gen.Verify

@[simp] theorem andThen_true {β : Type} (e : β) (r : Option β) : andThen e (some true) r = r := rfl
@[simp] theorem andThen_false {β : Type} (e : β) (r : Option β) : andThen e (some false) r = some e := rfl
@[simp] theorem andThen_none {β : Type} (e : β) (r : Option β) : andThen e none r = none := rfl
@[simp] theorem req_true {β : Type} (r : Option β) : req true r = r := rfl
@[simp] theorem req_false {β : Type} (r : Option β) : req false r = none := rfl
@[simp] theorem bindC_ok {α β : Type} (e : β) (v : α) (k : α → Option β) : bindC e (some (some v)) k = k v := rfl
@[simp] theorem bindC_err {α β : Type} (e : β) (k : α → Option β) : bindC e (some none) k = some e := rfl
@[simp] theorem bindC_none {α β : Type} (e : β) (k : α → Option β) : bindC e none k = none := rfl

@[simp] theorem andThen_some (a b : Bool) : andThen false (some a) (some b) = some (a && b) := by cases a <;> rfl

/-- `verify_macro_impl(cond, ..)` (error.rs, translated): `Ok(())` iff `cond`, never a panic. -/
@[simp] theorem vmi (c : Bool) : verify_macro_impl c = some c := by cases c <;> rfl

/-- A check followed by the rest of a `Result<(), _>` body. -/
theorem andThen_guard (a b : Bool) (X : VR) (h : a = true → X = some b) :
    andThen false (some a) X = some (a && b) := by
  cases a with
  | false => rfl
  | true => simpa using h rfl

/-- A check followed by the rest of a constructor body. -/
theorem andThen_guardC {α : Type} (a : Bool) (v : Option α) (X : CR α) (h : a = true → X = some v) :
    andThen none (some a) X = some (if a then v else none) := by
  cases a with
  | false => rfl
  | true => simpa using h rfl

/-- `(a?; b?)?; rest` is `a?; b?; rest`. -/
theorem andThen_assoc {β : Type} (e : β) (a b : VR) (X : Option β) :
    andThen e (andThen false a b) X = andThen e a (andThen e b X) := by
  cases a with
  | none => rfl
  | some a => cases a <;> rfl

theorem andThen_eq_true {a r : VR} (h : andThen false a r = some true) : r = some true := by
  cases a with
  | none => cases h
  | some b => cases b with
    | false => cases h
    | true => exact h

theorem req_ok {β : Type} (c : Bool) (r : Option β) (h : c = true) : req c r = r := by subst h; rfl

theorem forV_all {α : Type} (xs : List α) (f : α → VR) (g : α → Bool) (h : ∀ x ∈ xs, f x = some (g x)) :
    forV xs f = some (xs.all g) := by
  induction xs with
  | nil => rfl
  | cons x xs ih =>
    rw [forV, h x (by simp), ih (fun y hy => h y (by simp [hy]))]
    cases hg : g x <;> simp [hg, List.all_cons]

/-- A check in front of a constructor body whose own decision is `b`: the decisions conjoin. -/
theorem guardC {α : Type} (a b : Bool) (v : α) (X : CR α) (h : a = true → X = some (if b = true then some v else none)) :
    andThen none (some a) X = some (if (a && b) = true then some v else none) := by
  rw [andThen_guardC a _ X h]; cases a <;> rfl

/-- The last check of a constructor body, in front of `Ok(value)`. -/
theorem lastC {α : Type} (a : Bool) (v : α) :
    andThen none (some a) (some (some v)) = some (if a = true then some v else none) := by
  cases a <;> rfl

/-- `let v = heapless::Vec::from_slice(xs)?; k v` is a length check in front of `k xs`. -/
theorem bindC_fromSlice {α β : Type} (e : β) (cap : Nat) (xs : List α) (k : List α → Option β) :
    bindC e (fromSlice cap xs) k = andThen e (some (decide (xs.length ≤ cap))) (k xs) := by
  unfold fromSlice
  split <;> simp [*]

theorem forV_guard {α : Type} (xs : List α) (f : α → VR) (g : α → Bool) (b : Bool) (X : VR)
    (hf : ∀ x ∈ xs, f x = some (g x)) (h : xs.all g = true → X = some b) :
    andThen false (forV xs f) X = some (xs.all g && b) := by
  rw [forV_all xs f g hf]; exact andThen_guard _ _ _ h

/-- A rejecting check of a constructor body against the rejecting test `c` of the hand model (`f` carries the
constructed value over to the hand model's type). -/
theorem guardM {α β : Type} (f : α → β) (a : Bool) (X : CR α) (c : Prop) [Decidable c] (Y : Option β)
    (hc : c ↔ a = false) (h : a = true → X.map (Option.map f) = some Y) :
    (andThen none (some a) X).map (Option.map f) = some (if c then none else Y) := by
  cases a with
  | false => rw [if_pos (hc.mpr rfl)]; rfl
  | true => rw [if_neg (fun hcc => Bool.noConfusion (hc.mp hcc)), andThen_true]; exact h rfl

theorem ite_or_none {α : Type} (p q : Prop) [Decidable p] [Decidable q] (Y : Option α) :
    (if p ∨ q then none else Y) = if p then none else if q then none else Y := by
  by_cases hp : p
  · rw [if_pos hp, if_pos (Or.inl hp)]
  · by_cases hq : q
    · rw [if_neg hp, if_pos hq, if_pos (Or.inr hq)]
    · rw [if_neg hp, if_neg hq, if_neg (fun h => h.elim hp hq)]

theorem ite_ne {α : Type} {c : Prop} [Decidable c] {a b x : α} (ha : a ≠ x) (hb : b ≠ x) :
    (if c then a else b) ≠ x := by
  split <;> assumption

/-- `let v = <unsigned>::try_from(x)?; k v`. -/
theorem bindC_tryIntoC {β : Type} (bits v : Nat) (e : β) (k : Nat → Option β) :
    bindC e (tryIntoC bits v) k = if v < 2 ^ bits then k v else some e := by
  unfold tryIntoC
  split <;> rfl

theorem foldOk_add (xs : List Nat) (acc B : Nat) (h : ∀ x ∈ xs, x < B) (hb : acc + xs.length * B ≤ 2 ^ 64) :
    foldOk (fun acc x => acc + x) (fun acc x => decide (acc + x < 18446744073709551616)) acc xs = true := by
  induction xs generalizing acc with
  | nil => rfl
  | cons x xs ih =>
    have hx := h x (by simp)
    simp only [List.length_cons, Nat.add_mul, Nat.one_mul] at hb
    simp only [foldOk, Bool.and_eq_true, decide_eq_true_eq]
    refine ⟨by omega, ih _ (fun y hy => h y (by simp [hy])) (by omega)⟩

theorem forV_zip_self (xs : List Nat) :
    forV (List.zip xs xs) (fun (x : Nat × Nat) => some (decide (x.1 = x.2))) = some true := by
  induction xs with
  | nil => rfl
  | cons x xs ih => simp [forV, ih]

/-- `for x in xs { check(x, state)?; state = next(x, state); }` -/
def allS {α σ : Type} (g : α → σ → Bool) (h : α → σ → σ) : σ → List α → Bool
  | _, [] => true
  | s, x :: xs => g x s && allS g h (h x s) xs

theorem forVS_spec {α σ : Type} (xs : List α) (f : α → σ → Option (Bool × σ)) (g : α → σ → Bool) (h : α → σ → σ)
    (hf : ∀ x ∈ xs, ∀ s, f x s = some (g x s, if g x s = true then h x s else s)) (s : σ) :
    bindVS false (forVS xs s f) (fun _ => some true) = some (allS g h s xs) := by
  induction xs generalizing s with
  | nil => rfl
  | cons x xs ih =>
    rw [forVS, hf x (by simp) s]
    cases hg : g x s
    · simp [allS, hg, bindVS]
    · simp only [allS, hg, if_true, Bool.true_and]
      exact ih (fun y hy => hf y (by simp [hy])) _

/-- Two checks of a loop body that then updates the loop state. -/
theorem andThen_step {σ : Type} (a b : Bool) (s s' : σ) :
    andThen (false, s) (some a) (andThen (false, s) (some b) (some (true, s'))) =
      some (a && b, if (a && b) = true then s' else s) := by
  cases a <;> cases b <;> rfl

/-- `verify_block_size!`: for every `usize` (indeed every natural) the expansion never panics and accepts exactly
`1..=MAX_BLOCK_SIZE` — the hand model's `verifyBlockSize`. -/
theorem C18G_verify_block_size (n : Nat) : verify_block_size n = some (verifyBlockSize n) := by
  unfold verify_block_size verifyBlockSize
  simp only [vmi, andThen_some]
  rfl

example : verify_block_size 4096 = some true ∧ verify_block_size 0 = some false ∧ verify_block_size 32768 = some false := by
  decide

/-- `verify_bps!`: never panics, accepts exactly the hand model's `verifyBps` (8..=25 and `% 4 ∈ {0, 1}`). -/
theorem C18G_verify_bps (b : Nat) : verify_bps b = some (verifyBps b) := by
  unfold verify_bps verifyBps
  simp only [vmi]
  rw [req_ok _ _ (by decide)]
  simp only [andThen_some, Bool.and_assoc]
  simp [Gen.Const.MIN_BITS_PER_SAMPLE, Gen.Const.MAX_BITS_PER_SAMPLE, Bool.beq_eq_decide_eq] <;> rfl

example : verify_bps 16 = some true ∧ verify_bps 17 = some true ∧ verify_bps 18 = some false ∧ verify_bps 28 = some false := by
  decide

theorem pow_lt_i32 (k : Nat) (h : k < 31) : (2 : Int) ^ k < 2147483648 :=
  two_pow_lt_two_pow (b := 31) h

/-- `verify_sample_range!(_, v, bps)` for `1 ≤ bps ≤ 31`: no panic, and the decision is the hand model's
`verifySample`. -/
theorem C18G_verify_sample_range (v : Int) (bps : Nat) (h1 : 1 ≤ bps) (h2 : bps ≤ 31) :
    verify_sample_range v bps = some (verifySample bps v) := by
  have hb := shl_bmod (bps - 1) (by omega)
  have hpos : (0 : Int) < 2 ^ (bps - 1) := Int.pow_pos (by decide)
  have hlt := pow_lt_i32 (bps - 1) (by omega)
  unfold verify_sample_range verifySample
  simp only [hb]
  rw [req_ok, req_ok]
  · simp
  · simp; omega
  · simp; omega

/-- THE PANICS of `verify_sample_range!` that precede its rejecting check: `bps as usize - 1` underflows for
`bps = 0`; for `bps = 32` `(1usize << 31) as i32` is `i32::MIN`, whose negation overflows; for `bps > 64` the shift
amount is out of range.  (Every use in verify.rs / datatype.rs runs `verify_bps!` first, which leaves 8..=25.) -/
theorem C18G_verify_sample_range_panics (v : Int) :
    verify_sample_range v 0 = none ∧ verify_sample_range v 32 = none ∧ ∀ b, 64 < b → verify_sample_range v b = none := by
  refine ⟨rfl, rfl, ?_⟩
  intro b hb
  unfold verify_sample_range
  have : decide (b - 1 < 64) = false := by simp; omega
  simp only [this, Bool.and_false, Bool.false_and, req_false]

/-- For `33 ≤ bps ≤ 64` nothing panics but `(1usize << (bps-1)) as i32` is 0: the accepted range is `0..=-1`, i.e.
empty, whereas the hand model's `verifySample` (unbounded integers) accepts `-2^(bps-1) .. 2^(bps-1)-1`. A
DISAGREEMENT between `Model/Verify.lean` and the source, unreachable behind `verify_bps!`. -/
theorem C18G_verify_sample_range_high (v : Int) (bps : Nat) (h1 : 33 ≤ bps) (h2 : bps ≤ 64) :
    verify_sample_range v bps = some false := by
  unfold verify_sample_range
  simp only [shl_bmod_high (bps - 1) (by omega) (by omega)]
  rw [req_ok, req_ok]
  · simp; omega
  · simp; omega
  · simp; omega

/-- The instance `bps = 33`, with a sample the hand model accepts there. -/
theorem C18G_verify_sample_range_wide (v : Int) : verify_sample_range v 33 = some false ∧ verifySample 33 0 = true :=
  ⟨C18G_verify_sample_range_high v 33 (by decide) (by decide), by decide⟩

example : verify_sample_range (-32768) 16 = some true ∧ verify_sample_range 32768 16 = some false := by decide

theorem shl_small (k : Nat) (h : k ≤ 15) : (1 <<< k) % 18446744073709551616 = 2 ^ k :=
  one_shiftLeft_mod k 64 (by omega)

/-- `impl Verify for Residual`: for every residual whose quotients are `u32` and whose Rice parameters are `u8`
(the Rust element types) the generated function never panics and decides exactly what the hand model decides.
The two cached-sum checks at the end of the Rust body are vacuous under the accessor table (the model has no
cached sums), and their `fold`s cannot overflow (at most 32767 `u32`s / 2^15 `u8`s). -/
theorem C18G_residual_verify (r : Residual) (hq : ∀ q ∈ r.quotients, q < 2 ^ 32) (hp : ∀ p ∈ r.params, p < 256) :
    Gen.Verify.Residual.verify r = some (FlacVerif.Residual.verify r) := by
  unfold Gen.Verify.Residual.verify FlacVerif.Residual.verify
  simp only [vmi, C18G_verify_block_size, Bool.and_assoc, Bool.beq_eq_decide_eq]
  refine andThen_guard _ _ _ (fun h1 => ?_)
  refine andThen_guard _ _ _ (fun h2 => ?_)
  refine andThen_guard _ _ _ (fun h3 => ?_)
  refine andThen_guard _ _ _ (fun h4 => ?_)
  refine andThen_guard _ _ _ (fun h5 => ?_)
  have e1 : r.quotients.length = r.remainders.length := of_decide_eq_true h1
  have e3 : r.quotients.length = r.blockSize := of_decide_eq_true h3
  have h5' : r.order ≤ 15 := of_decide_eq_true h5
  have hpos : 0 < 2 ^ r.order := Nat.two_pow_pos r.order
  -- the partition count is `2 ^ order`, not zero, and the shift amount is in range: no step below can panic on them
  simp only [shl_small r.order h5', decide_eq_true (Nat.ne_of_gt hpos),
    decide_eq_true (by omega : r.order < 64), req_true]
  refine andThen_guard _ _ _ (fun h6 => ?_)
  refine andThen_guard _ _ _ (fun h7 => ?_)
  refine andThen_guard _ _ _ (fun h8 => ?_)
  refine forV_guard _ _ (fun x => decide (x ≤ 14)) _ _ (fun x _ => rfl) (fun h9 => ?_)
  have e6 : r.params.length = 2 ^ r.order := of_decide_eq_true h6
  have e7 : r.blockSize % 2 ^ r.order = 0 := of_decide_eq_true h7
  have e8 : r.warmup ≤ r.blockSize / 2 ^ r.order := of_decide_eq_true h8
  have hbs : 1 ≤ r.blockSize ∧ r.blockSize ≤ 32767 := e3 ▸ (VerifyL.verifyBlockSize_iff _).mp h2
  have hdiv : r.blockSize / 2 ^ r.order * 2 ^ r.order = r.blockSize := Nat.div_mul_cancel (Nat.dvd_of_mod_eq_zero e7)
  have hple : r.blockSize / 2 ^ r.order ≤ r.blockSize := Nat.div_le_self _ _
  have hplpos : 0 < r.blockSize / 2 ^ r.order := by
    apply Nat.pos_of_ne_zero; intro h0; rw [h0] at hdiv; omega
  rw [C08Gen.countUp_zero_one, C08Gen.countUp_zero_one]
  refine forV_guard _ _ (fun t => decide (r.quotients.getD t 0 = 0) && decide (r.remainders.getD t 0 = 0)) _ _
    (fun t ht => by
      have : t < r.warmup := List.mem_range.mp ht
      rw [req_ok _ _ (decide_eq_true (by omega)), req_ok _ _ (decide_eq_true (by omega)), andThen_some])
    (fun h10 => ?_)
  have hps : ∀ k, r.params.getD k 0 < 15 := fun k => getD_of_forall (· < 15) r.params k 0 (fun p hp =>
    Nat.lt_succ_of_le (of_decide_eq_true (List.all_eq_true.mp h9 p hp))) (by decide)
  rw [forV_all (List.range r.blockSize) _
      (fun t => decide (r.remainders.getD t 0 < 2 ^ r.params.getD (t / (r.blockSize / 2 ^ r.order)) 0))
      (fun t ht => by
        have htb : t < r.blockSize := List.mem_range.mp ht
        have hidx : t / (r.blockSize / 2 ^ r.order) < 2 ^ r.order := by
          rw [Nat.div_lt_iff_lt_mul hplpos, Nat.mul_comm, hdiv]; exact htb
        have hk := hps (t / (r.blockSize / 2 ^ r.order))
        rw [req_ok _ _ (by rw [decide_eq_true (Nat.ne_of_gt hplpos), decide_eq_true (e6 ▸ hidx)]; rfl),
          req_ok _ _ (decide_eq_true (by omega)), req_ok _ _ (decide_eq_true (by omega)),
          (one_shiftLeft_mod _ 32 (by omega) : _ % 4294967296 = _)]),
    req_ok _ _ (foldOk_add r.quotients 0 (2 ^ 32) hq (by
      rw [Nat.zero_add, e3]; exact Nat.le_trans (Nat.mul_le_mul_right _ hbs.2) (by decide))),
    req_ok _ _ (foldOk_add r.params 0 256 hp (by
      rw [Nat.zero_add, e6]
      exact Nat.le_trans (Nat.mul_le_mul_right _ (Nat.pow_le_pow_right (by decide) h5')) (by decide)))]
  simp

def exRes : Residual := ⟨1, 4, 1, [2, 3], [0, 1, 0, 2], [0, 3, 1, 7]⟩

/-- accepted; a remainder that does not fit its Rice parameter; a non-zero warm-up quotient -/
example : Gen.Verify.Residual.verify exRes = some true ∧
    Gen.Verify.Residual.verify { exRes with remainders := [0, 4, 1, 7] } = some false ∧
    Gen.Verify.Residual.verify { exRes with quotients := [1, 1, 0, 2] } = some false := by decide

/-- `Residual::new`, all arguments (`partition_order: usize` is narrowed with `as u8` AFTER the range check; the
`debug_assert!` of `from_parts` cannot fail behind the length check). -/
theorem C18G_residual_new (o n w : Nat) (ps qs rs : List Nat) (hq : ∀ q ∈ qs, q < 2 ^ 32) (hp : ∀ p ∈ ps, p < 256) :
    Gen.Verify.Residual.new o n w ps qs rs = some (FlacVerif.Residual.new o n w ps qs rs) := by
  unfold Gen.Verify.Residual.new FlacVerif.Residual.new
  simp only [vmi]
  by_cases h1 : o ≤ 15
  · have hm : o % 256 = o := Nat.mod_eq_of_lt (by omega)
    simp only [hm, shl_small o h1]
    have h64 : decide (o < 64) = true := decide_eq_true (by omega)
    simp only [h64, req_true]
    by_cases h2 : ps.length = 2 ^ o
    · rw [req_ok _ _ (by simp [h2])]
      have hv := C18G_residual_verify ⟨o, n, w, ps, qs, rs⟩ hq hp
      simp only [h1, h2, Gen.Const.rice_MAX_PARTITION_ORDER, hv]
      cases (FlacVerif.Residual.verify ⟨o, n, w, ps, qs, rs⟩) <;> simp
    · simp [h1, h2, Gen.Const.rice_MAX_PARTITION_ORDER]
  · have : decide (o ≤ Gen.Const.rice_MAX_PARTITION_ORDER) = false := decide_eq_false h1
    simp [h1, this]

/-- accepted; one Rice parameter for two partitions; a partition order that would wrap to 1 in `u8` -/
example : Gen.Verify.Residual.new 1 4 1 [2, 3] [0, 1, 0, 2] [0, 3, 1, 7] = some (some exRes) ∧
    Gen.Verify.Residual.new 1 4 1 [2] [0, 1, 0, 2] [0, 3, 1, 7] = some none ∧
    Gen.Verify.Residual.new (256 + 1) 4 1 [2, 3] [0, 1, 0, 2] [0, 3, 1, 7] = some none := by decide

/-- `impl Verify for QuantizedParameters`, every value: no panic (the `1i32 << (precision - 1)` steps come after the
range check of `precision`), same decision as the hand model. -/
theorem C18G_qparams_verify (q : QParams) :
    Gen.Verify.QuantizedParameters.verify q = some q.verify := by
  unfold Gen.Verify.QuantizedParameters.verify QParams.verify
  have c1 : ((Gen.Const.qlpc_MIN_SHIFT : Nat) : Int) = 0 := rfl
  have c2 : ((Gen.Const.qlpc_MAX_SHIFT : Nat) : Int) = 15 := rfl
  simp only [vmi, andThen_assoc, Bool.and_assoc, c1, c2, ge_iff_le]
  refine andThen_guard _ _ _ fun h1 => andThen_guard _ _ _ fun h2 => andThen_guard _ _ _ fun h3 => ?_
  refine andThen_guard _ _ _ fun h4 => andThen_guard _ _ _ fun h5 => ?_
  have p1 : 1 ≤ q.precision := of_decide_eq_true h4
  have p2 : q.precision ≤ 15 := of_decide_eq_true h5
  have hb := one_shl_bmod_i32 (q.precision - 1) (by omega)
  have hpos : (0 : Int) < 2 ^ (q.precision - 1) := Int.pow_pos (by decide)
  have hlt := pow_lt_i32 (q.precision - 1) (by omega)
  simp only [hb]
  rw [req_ok _ _ (by simp; omega), req_ok _ _ (by simp; omega)]
  exact forV_all _ _ _ (fun c _ => by simp)

theorem C18G_qparams_new (coefs : List Int) (order : Nat) (shift : Int) (precision : Nat) :
    Gen.Verify.QuantizedParameters.new coefs order shift precision = some (QParams.new coefs order shift precision) := by
  unfold Gen.Verify.QuantizedParameters.new QParams.new
  rw [vmi, vmi, C18G_qparams_verify, show Gen.Const.qlpc_MAX_ORDER = 24 from rfl]
  by_cases h : order ≤ 24 ∧ coefs.length = order
  · rw [if_pos h, decide_eq_true h.1, decide_eq_true h.2, andThen_true, andThen_true,
      Bool.true_and, req_ok _ _ (decide_eq_true (by omega))]
    exact lastC _ _
  · rw [if_neg h]
    cases h1 : decide (order ≤ 24)
    · rfl
    · rw [decide_eq_false fun h2 => h ⟨of_decide_eq_true h1, h2⟩]; rfl

example : Gen.Verify.QuantizedParameters.new [1, -2] 2 3 7 = some (some ⟨[1, -2], 3, 7⟩) ∧
    Gen.Verify.QuantizedParameters.new [64] 1 3 7 = some none := by decide

theorem bps_mod {b : Nat} (h : verifyBps b = true) : b % 256 = b :=
  Nat.mod_eq_of_lt (by have := (VerifyL.verifyBps_iff _).mp h; omega)

theorem sample_range_bps (v : Int) (b : Nat) (h : verifyBps b = true) :
    verify_sample_range v b = some (verifySample b v) := by
  have := (VerifyL.verifyBps_iff b).mp h
  exact C18G_verify_sample_range v b (by omega) (by omega)

theorem forV_samples (xs : List Int) (b : Nat) (h : verifyBps b = true) :
    forV xs (fun v => verify_sample_range v b) = some (xs.all (verifySample b)) :=
  forV_all _ _ _ fun v _ => sample_range_bps v b h

theorem C18G_constant_verify (bs : Nat) (dc : Int) (bps : Nat) :
    Gen.Verify.Constant.verify bs dc bps = some (verifyBlockSize bs && (verifyBps bps && verifySample bps dc)) := by
  unfold Gen.Verify.Constant.verify
  rw [C18G_verify_block_size, C18G_verify_bps]
  refine andThen_guard _ _ _ (fun _ => andThen_guard _ _ _ (fun h => ?_))
  exact sample_range_bps dc bps h

theorem C18G_constant_new (bs : Nat) (dc : Int) (bps : Nat) :
    Gen.Verify.Constant.new bs dc bps = some (FlacVerif.Constant.new bs dc bps) := by
  unfold Gen.Verify.Constant.new FlacVerif.Constant.new
  rw [C18G_verify_block_size, C18G_verify_bps]
  simp only [Bool.and_assoc]
  refine guardC _ _ _ _ (fun _ => guardC _ _ _ _ (fun h => ?_))
  rw [sample_range_bps dc bps h, bps_mod h]
  exact lastC _ _

example : Gen.Verify.Constant.new 4096 (-5) 16 = some (some (.constant 4096 (-5) 16)) ∧
    Gen.Verify.Constant.new 4096 40000 16 = some none ∧ Gen.Verify.Constant.new 4096 0 (256 + 16) = some none := by decide

theorem C18G_verbatim_verify (xs : List Int) (bps : Nat) :
    Gen.Verify.Verbatim.verify xs bps = some (verifyBlockSize xs.length && (verifyBps bps && xs.all (verifySample bps))) := by
  unfold Gen.Verify.Verbatim.verify
  rw [C18G_verify_block_size, C18G_verify_bps]
  exact andThen_guard _ _ _ (fun _ => andThen_guard _ _ _ (fun h => forV_samples xs bps h))

/-- `Verbatim::new`: the hand model tests the three conditions in another order (bps, samples, length) than the
source (length, bps, samples); no panic can occur before the last one, so the decisions coincide. -/
theorem C18G_verbatim_new (xs : List Int) (bps : Nat) :
    Gen.Verify.Verbatim.new xs bps = some (FlacVerif.Verbatim.new xs bps) := by
  unfold Gen.Verify.Verbatim.new FlacVerif.Verbatim.new
  rw [C18G_verify_block_size, C18G_verify_bps]
  have e : (verifyBps bps && xs.all (verifySample bps) && verifyBlockSize xs.length) =
      (verifyBlockSize xs.length && (verifyBps bps && xs.all (verifySample bps))) := by
    cases verifyBps bps <;> cases xs.all (verifySample bps) <;> cases verifyBlockSize xs.length <;> rfl
  rw [e]
  refine guardC _ _ _ _ (fun _ => guardC _ _ _ _ (fun h => ?_))
  rw [forV_samples xs bps h, bps_mod h]
  exact lastC _ _

example : Gen.Verify.Verbatim.new [1, -2, 3] 8 = some (some (.verbatim [1, -2, 3] 8)) ∧
    Gen.Verify.Verbatim.new [1, 128, 3] 8 = some none ∧ Gen.Verify.Verbatim.new [] 8 = some none := by decide

theorem C18G_fixed_verify (warm : List Int) (res : Residual) (bps : Nat)
    (hq : ∀ q ∈ res.quotients, q < 2 ^ 32) (hp : ∀ p ∈ res.params, p < 256) :
    Gen.Verify.FixedLpc.verify warm res bps =
      some (verifyBps bps && (warm.all (verifySample bps) && (decide (warm.length = res.warmup) && res.verify))) := by
  unfold Gen.Verify.FixedLpc.verify
  rw [C18G_verify_bps, C18G_residual_verify res hq hp]
  refine andThen_guard _ _ _ (fun h => ?_)
  rw [forV_samples warm bps h]
  simp

theorem C18G_fixed_new (warm : List Int) (res : Residual) (bps : Nat)
    (hq : ∀ q ∈ res.quotients, q < 2 ^ 32) (hp : ∀ p ∈ res.params, p < 256) :
    Gen.Verify.FixedLpc.new warm res bps = some (FlacVerif.FixedLpc.new warm res bps) := by
  unfold Gen.Verify.FixedLpc.new FlacVerif.FixedLpc.new
  rw [C18G_verify_bps]
  simp only [Bool.and_assoc, Bool.beq_eq_decide_eq]
  refine guardC _ _ _ _ (fun h => ?_)
  rw [forV_samples warm bps h]
  refine guardC _ _ _ _ (fun h3 => ?_)
  rw [bindC_fromSlice]
  refine guardC _ _ _ _ (fun h4 => ?_)
  rw [C18G_fixed_verify warm res _ hq hp, bps_mod h, h, h3]
  simp only [Bool.true_and]
  exact lastC _ _

/-- accepted; warm-up length ≠ the residual's; more than 4 warm-up samples -/
example : Gen.Verify.FixedLpc.new [5] exRes 16 = some (some (.fixed [5] exRes 16)) ∧
    Gen.Verify.FixedLpc.new [5, 6] exRes 16 = some none ∧ Gen.Verify.FixedLpc.new [1, 2, 3, 4, 5] exRes 16 = some none := by decide

theorem C18G_lpc_verify (warm coefs : List Int) (shift : Int) (precision : Nat) (res : Residual) (bps : Nat)
    (hq : ∀ q ∈ res.quotients, q < 2 ^ 32) (hp : ∀ p ∈ res.params, p < 256) :
    Gen.Verify.Lpc.verify warm coefs shift precision res bps =
      some ((QParams.verify ⟨coefs, shift, precision⟩) && (verifyBps bps && (warm.all (verifySample bps) &&
        (decide (1 ≤ coefs.length) && (decide (warm.length = coefs.length) && (decide (warm.length = res.warmup) &&
          res.verify)))))) := by
  unfold Gen.Verify.Lpc.verify
  rw [C18G_qparams_verify, C18G_verify_bps, C18G_residual_verify res hq hp]
  refine andThen_guard _ _ _ (fun _ => andThen_guard _ _ _ (fun h => ?_))
  rw [forV_samples warm bps h]
  simp

theorem C18G_lpc_new (warm : List Int) (q : QParams) (res : Residual) (bps : Nat)
    (hq : ∀ x ∈ res.quotients, x < 2 ^ 32) (hp : ∀ p ∈ res.params, p < 256) :
    Gen.Verify.Lpc.new warm q res bps = some (FlacVerif.Lpc.new warm q res bps) := by
  unfold Gen.Verify.Lpc.new FlacVerif.Lpc.new
  rw [C18G_verify_bps]
  simp only [Bool.and_assoc, Bool.beq_eq_decide_eq, vmi]
  refine guardC _ _ _ _ (fun h => ?_)
  rw [forV_samples warm bps h]
  refine guardC _ _ _ _ (fun h3 => ?_)
  rw [bindC_fromSlice]
  refine guardC _ _ _ _ (fun h4 => ?_)
  refine guardC _ _ _ _ (fun h5 => ?_)
  rw [req_ok _ _ h5, C18G_lpc_verify warm _ _ _ res _ hq hp, bps_mod h, h, h3, h5]
  simp only [Bool.true_and]
  exact lastC _ _

/-- accepted; a coefficient outside 4 bits; two coefficients for one warm-up sample -/
example : Gen.Verify.Lpc.new [5] ⟨[3], 2, 4⟩ exRes 16 = some (some (.lpc [5] [3] 2 4 exRes 16)) ∧
    Gen.Verify.Lpc.new [5] ⟨[9], 2, 4⟩ exRes 16 = some none ∧ Gen.Verify.Lpc.new [5] ⟨[3, 1], 2, 4⟩ exRes 16 = some none := by decide

theorem C18G_channel_verify (c : ChannelAssignment) :
    Gen.Verify.ChannelAssignment.verify (C02Hdr.caToGen c) = some c.verify := by
  cases c with
  | independent n =>
    unfold Gen.Verify.ChannelAssignment.verify FlacVerif.ChannelAssignment.verify
    simp only [C02Hdr.caToGen, vmi, andThen_some]
    rfl
  | _ => rfl

example : Gen.Verify.ChannelAssignment.verify (.Independent 8) = some true ∧
    Gen.Verify.ChannelAssignment.verify (.Independent 9) = some false ∧
    Gen.Verify.ChannelAssignment.verify (.Independent 0) = some false := by decide

theorem fromBits_tag (bits : Nat) (s : Gen.Headers.SampleSizeSpec) (h : Gen.Headers.SampleSizeSpec.from_bits bits = some s) :
    Gen.Headers.SampleSizeSpec.into_tag s ≠ 0 ∧ (Gen.Headers.SampleSizeSpec.into_tag s = 7 ↔ s = .B32) := by
  cases s with
  -- no arm of `from_bits` is `some Unspecified`
  | Unspecified =>
    exact absurd h (ite_ne nofun <| ite_ne nofun <| ite_ne nofun <| ite_ne nofun <| ite_ne nofun <| ite_ne nofun nofun)
  | _ => decide

def offsetOf (isVar : Bool) (number : Nat) : FrameOffset := if isVar then .StartSample number else .Frame number

/-- `FrameHeader::new` = the hand model's, under the enum maps of C02Hdr: one `guardM` step per rejecting `if` of the hand
model, the block-size, sample-size and sample-rate codes through `C02H_blockSize_fromSize`, `C02H_sampleSizeTag`,
`C02H_sampleRate_fromFreq`. -/
theorem C18G_header_new (bs : Nat) (asg : ChannelAssignment) (bps rate : Nat) (isVar : Bool) (number : Nat) :
    (Gen.Verify.FrameHeader.new bs (C02Hdr.caToGen asg) bps rate (offsetOf isVar number)).map (Option.map C08Gen.hdrOfGen) =
      some (FlacVerif.FrameHeader.new bs asg bps rate isVar number) := by
  -- work with the generated assignment `g`: the constructed header then holds `caOfGen g` on both sides
  obtain ⟨g, rfl⟩ : ∃ g, asg = C02Hdr.caOfGen g := ⟨_, (C02Hdr.caOfGen_toGen asg).symm⟩
  rw [C02Hdr.caToGen_ofGen]
  unfold Gen.Verify.FrameHeader.new FlacVerif.FrameHeader.new
  rw [C18G_verify_block_size]
  refine guardM _ _ _ _ _ (by simp) (fun hb => ?_)
  have hbs := (VerifyL.verifyBlockSize_iff bs).mp hb
  have hfs := C02Hdr.C02H_blockSize_fromSize bs (by omega)
  have hex : Gen.Headers.BlockSizeSpec.from_size_exact bs = true :=
    (C02Hdr.C02H_blockSize_fromSize_exact bs (by omega)).mpr (by omega)
  rw [hex, if_pos rfl] at hfs
  rw [hfs, vmi, vmi]
  dsimp only
  rw [ite_or_none]
  refine guardM _ _ _ _ _ (by simp; omega) (fun h1 => ?_)
  refine guardM _ _ _ _ _ (by simp; omega) (fun h2 => ?_)
  have h1' : bps ≤ 255 := of_decide_eq_true h1
  have h2' : rate ≤ 4294967295 := of_decide_eq_true h2
  rw [Nat.mod_eq_of_lt (by omega : bs < 65536), hex, req_true, Nat.mod_eq_of_lt (by omega : bps < 256),
    Nat.mod_eq_of_lt (by omega : rate < 4294967296)]
  have htag := C02Hdr.C02H_sampleSizeTag bps (by omega)
  rw [C02Hdr.C02H_sampleRate_fromFreq rate (by omega)]
  cases hfb : Gen.Headers.SampleSizeSpec.from_bits bps with
  | none =>
    rw [hfb] at htag
    have h0 : sampleSizeTag bps = 0 := htag
    rw [bindC_err, if_pos (Or.inl h0)]
    rfl
  | some sss =>
    rw [hfb] at htag
    replace htag : sampleSizeTag bps = sss.into_tag := htag
    obtain ⟨t0, t7⟩ := fromBits_tag bps sss hfb
    have hca := C18G_channel_verify (C02Hdr.caOfGen g)
    rw [C02Hdr.caToGen_ofGen] at hca
    rw [bindC_ok, vmi, hca, htag]
    refine guardM _ _ _ _ _ (by simpa [t0] using t7) (fun _ => ?_)
    refine guardM _ _ _ _ _ (by simp) (fun _ => ?_)
    cases isVar with
    | false =>
      rw [if_neg (fun h => Bool.noConfusion h.1)]
      cases Gen.Headers.SampleRateSpec.from_freq rate <;> rfl
    | true =>
      rw [show offsetOf true number = .StartSample number from rfl]
      dsimp only
      rw [vmi]
      refine guardM _ _ _ _ _ (by simp) (fun _ => ?_)
      cases Gen.Headers.SampleRateSpec.from_freq rate <;> rfl

/-- accepted; 9 independent channels; 32 bits; a start sample of 37 bits; block size 0 -/
example : Gen.Verify.FrameHeader.new 4096 (.Independent 2) 16 44100 (.Frame 7) =
      some (some ⟨false, .Pow2Mul256 4, .Independent 2, .B16, .R44_1kHz, 7, 0⟩) ∧
    Gen.Verify.FrameHeader.new 4096 (.Independent 9) 16 44100 (.Frame 7) = some none ∧
    Gen.Verify.FrameHeader.new 4096 (.Independent 2) 32 44100 (.Frame 7) = some none ∧
    Gen.Verify.FrameHeader.new 4096 (.Independent 2) 16 44100 (.StartSample (2 ^ 36)) = some none ∧
    Gen.Verify.FrameHeader.new 0 (.Independent 2) 16 44100 (.Frame 7) = some none := by decide

/-- `impl Verify for FrameHeader` on a header whose block-size code is not the reserved one (`n` = its block size;
`hex`: the payload of the code is in its Rust type's range). -/
theorem C18G_header_verify (g : Gen.Writer.FrameHeader) (n : Nat)
    (hex : Gen.Headers.BlockSizeSpec.block_size_exact g.block_size_spec = true)
    (hn : Gen.Headers.BlockSizeSpec.block_size g.block_size_spec = some n) :
    Gen.Verify.FrameHeader.verify g =
      some (verifyBlockSize n && ((!g.variable_block_size || decide (g.start_sample_number < 2 ^ 36)) &&
        (C02Hdr.caOfGen g.channel_assignment).verify)) := by
  unfold Gen.Verify.FrameHeader.verify
  have e1 : Gen.Verify.FrameHeader.block_size_exact g = true := by
    unfold Gen.Verify.FrameHeader.block_size_exact; simp [hex, hn]
  have e2 : Gen.Verify.FrameHeader.block_size g = n := by
    unfold Gen.Verify.FrameHeader.block_size; simp [hn]
  have e3 := C18G_channel_verify (C02Hdr.caOfGen g.channel_assignment)
  rw [C02Hdr.caToGen_ofGen] at e3
  simp only [e1, e2, req_true, vmi, andThen_some, e3]
  have hb : (decide (n ≥ 1) && decide (n ≤ Gen.Const.MAX_BLOCK_SIZE)) = verifyBlockSize n := rfl
  rw [hb]
  refine andThen_guard _ _ _ (fun _ => ?_)
  cases g.variable_block_size
  · simp
  · simp only [if_true, andThen_some, Bool.not_true, Bool.false_or]
    rfl

/-- `FrameHeader::block_size()` is `.expect(..)` on the reserved block-size code: `verify` PANICS on such a header
(it can only come from deserialisation; `FrameHeader::new` never builds it). -/
theorem C18G_header_verify_panics (g : Gen.Writer.FrameHeader) (h : g.block_size_spec = .Reserved) :
    Gen.Verify.FrameHeader.verify g = none := by
  unfold Gen.Verify.FrameHeader.verify Gen.Verify.FrameHeader.block_size_exact
  simp [h, Gen.Headers.BlockSizeSpec.block_size]

/-- An accepted header does not carry the reserved block-size code: `block_size()` on it does not panic. -/
theorem header_verify_exact (g : Gen.Writer.FrameHeader) (h : Gen.Verify.FrameHeader.verify g = some true) :
    Gen.Verify.FrameHeader.block_size_exact g = true := by
  unfold Gen.Verify.FrameHeader.verify at h
  cases he : Gen.Verify.FrameHeader.block_size_exact g with
  | true => rfl
  | false => rw [he] at h; cases h

example : Gen.Verify.FrameHeader.verify C08Gen.exHeader = some true ∧
    Gen.Verify.FrameHeader.verify { C08Gen.exHeader with channel_assignment := .Independent 9 } = some false ∧
    Gen.Verify.FrameHeader.verify { C08Gen.exHeader with block_size_spec := .Reserved } = none := by decide

/-- The decision of `impl Verify for StreamInfo`. -/
def streamInfoVerify (s : StreamInfo) : Bool :=
  (decide (s.total = 0) || (decide (s.minBlock ≤ s.maxBlock) && (verifyBlockSize s.minBlock &&
      (verifyBlockSize s.maxBlock && decide (s.minFrame ≤ s.maxFrame))))) &&
    (decide (s.rate ≤ 96000) && ((decide (1 ≤ s.channels) && decide (s.channels ≤ 8)) &&
      (verifyBps s.bps && decide (s.bps % 4 = 0))))

theorem C18G_streaminfo_verify (s : StreamInfo) :
    Gen.Verify.StreamInfo.verify s = some (streamInfoVerify s) := by
  unfold Gen.Verify.StreamInfo.verify streamInfoVerify
  simp only [vmi, C18G_verify_block_size, C18G_verify_bps, andThen_some, ge_iff_le]
  by_cases h0 : s.total = 0 <;> simp [h0, Bool.and_assoc]

theorem C18G_streaminfo_new (rate channels bps : Nat) :
    Gen.Verify.StreamInfo.new rate channels bps = some (FlacVerif.StreamInfo.new rate channels bps) := by
  unfold Gen.Verify.StreamInfo.new FlacVerif.StreamInfo.new
  simp only [vmi, andThen_some]
  rw [show Gen.Const.MAX_CHANNELS = 8 from rfl]
  rw [ite_cond_congr (c := (decide (rate ≤ 96000) && ((decide (channels ≥ 1) && decide (channels ≤ 8)) &&
    (decide (bps ≤ 255) && (verifyBps bps && decide (bps % 4 = 0))))) = true)
    (by simp only [Bool.and_eq_true, decide_eq_true_eq, and_assoc, ge_iff_le])]
  refine guardC _ _ _ _ fun h1 => guardC _ _ _ _ fun h2 => guardC _ _ _ _ fun h3 => ?_
  have h1' : rate ≤ 96000 := of_decide_eq_true h1
  have h3' : bps ≤ 255 := of_decide_eq_true h3
  have h2' : 1 ≤ channels ∧ channels ≤ 8 := by
    simpa only [Bool.and_eq_true, decide_eq_true_eq, ge_iff_le] using h2
  rw [Nat.mod_eq_of_lt (by omega : rate < 4294967296), Nat.mod_eq_of_lt (by omega : channels < 256),
    Nat.mod_eq_of_lt (by omega : bps < 256), C18G_streaminfo_verify]
  simp only [streamInfoVerify, decide_true, Bool.true_or, Bool.true_and, h1, decide_eq_true h2'.1,
    decide_eq_true h2'.2]
  exact lastC _ _

example : Gen.Verify.StreamInfo.new 44100 2 16 = some (some (StreamInfo.empty 44100 2 16)) ∧
    Gen.Verify.StreamInfo.new 44100 2 17 = some none ∧ Gen.Verify.StreamInfo.new 96001 2 16 = some none ∧
    Gen.Verify.StreamInfo.new 44100 (256 + 2) 16 = some none := by decide

theorem C18G_unknown_new (tag : Nat) (data : List Nat) :
    Gen.Verify.MetadataBlockData.new_unknown tag data =
      some ((UnknownBlock.new tag data).map fun u => Gen.Writer.MetadataBlockData.Unknown u.tag u.data) := by
  unfold Gen.Verify.MetadataBlockData.new_unknown UnknownBlock.new
  rw [vmi, vmi, andThen_some, ite_cond_congr (c := (decide (tag ≥ 1) && decide (tag ≤ 126)) = true)
    (by simp only [Bool.and_eq_true, decide_eq_true_eq, ge_iff_le])]
  cases decide (tag ≥ 1) && decide (tag ≤ 126) <;> rfl

example : Gen.Verify.MetadataBlockData.new_unknown 4 [1, 2] = some (some (.Unknown 4 [1, 2])) ∧
    Gen.Verify.MetadataBlockData.new_unknown 0 [] = some none ∧ Gen.Verify.MetadataBlockData.new_unknown 127 [] = some none := by
  decide

theorem C18G_blockdata_verify (d : Gen.Writer.MetadataBlockData) :
    Gen.Verify.MetadataBlockData.verify d =
      match d with | .StreamInfo s => Gen.Verify.StreamInfo.verify s | .Unknown _ _ => some true := by
  cases d <;> rfl

theorem C18G_block_verify (b : Gen.Writer.MetadataBlock) :
    Gen.Verify.MetadataBlock.verify b = Gen.Verify.MetadataBlockData.verify b.data := rfl

theorem C18G_frame_new (h : Gen.Writer.FrameHeader) (subs : List SubFrame) :
    Gen.Verify.Frame.new h subs =
      some (if (C02Hdr.caOfGen h.channel_assignment).channels = subs.length then some ⟨h, subs, none⟩ else none) := by
  unfold Gen.Verify.Frame.new
  simp only [vmi, (C02Hdr.channels_eq h.channel_assignment).symm]
  by_cases hc : Gen.Headers.ChannelAssignment.channels h.channel_assignment = subs.length <;> simp [hc]

example : Gen.Verify.Frame.new C08Gen.exHeader [.constant 8 1 16, .constant 8 2 17] =
      some (some ⟨C08Gen.exHeader, [.constant 8 1 16, .constant 8 2 17], none⟩) ∧
    Gen.Verify.Frame.new C08Gen.exHeader [.constant 8 1 16] = some none := by decide

/-! ### StreamInfo setters (`&mut self`: the outcome is the pair (accepted?, the new `self`)) -/

theorem C18G_set_total_samples (s : StreamInfo) (n : Nat) :
    Gen.Verify.StreamInfo.set_total_samples s n = { s with total := n } := rfl

theorem C18G_set_block_sizes (s : StreamInfo) (mn mx : Nat) :
    Gen.Verify.StreamInfo.set_block_sizes s mn mx =
      some (verifyBlockSize mn && (verifyBlockSize mx && decide (mn ≤ mx)),
        if mn < 65536 then (if mx < 65536 then { s with minBlock := mn, maxBlock := mx } else { s with minBlock := mn }) else s) := by
  unfold Gen.Verify.StreamInfo.set_block_sizes
  have big : ∀ n, ¬ n < 65536 → verifyBlockSize n = false := fun n h =>
    Bool.eq_false_iff.mpr fun hv => h (by have := (VerifyL.verifyBlockSize_iff n).mp hv; omega)
  by_cases h1 : mn < 65536
  · by_cases h2 : mx < 65536
    · simp only [bindC_tryIntoC, h1, h2, if_true, C18G_verify_block_size, vmi]
      cases verifyBlockSize mn <;> cases verifyBlockSize mx <;> cases decide (mn ≤ mx) <;> rfl
    · simp only [bindC_tryIntoC, h1, h2, if_true, if_false, big mx h2, Bool.false_and, Bool.and_false]
  · simp only [bindC_tryIntoC, h1, if_false, big mn h1, Bool.false_and]

theorem C18G_set_frame_sizes (s : StreamInfo) (mn mx : Nat) :
    Gen.Verify.StreamInfo.set_frame_sizes s mn mx =
      some (decide (mn < 2 ^ 32) && (decide (mx < 2 ^ 32) && decide (mn ≤ mx)),
        if mn < 2 ^ 32 then (if mx < 2 ^ 32 then { s with minFrame := mn, maxFrame := mx } else { s with minFrame := mn }) else s) := by
  unfold Gen.Verify.StreamInfo.set_frame_sizes
  by_cases h1 : mn < 2 ^ 32
  · by_cases h2 : mx < 2 ^ 32
    · simp only [bindC_tryIntoC, h1, h2, if_true, vmi, decide_true,
        Bool.true_and]
      cases decide (mn ≤ mx) <;> rfl
    · simp only [bindC_tryIntoC, h1, h2, if_true,
        if_false, decide_true, decide_false, Bool.false_and, Bool.and_false]
  · simp only [bindC_tryIntoC, h1, if_false, decide_false, Bool.false_and]

example : (Gen.Verify.StreamInfo.set_block_sizes (StreamInfo.empty 44100 2 16) 4096 4096).map (·.1) = some true ∧
    (Gen.Verify.StreamInfo.set_block_sizes (StreamInfo.empty 44100 2 16) 4096 16).map (·.1) = some false ∧
    -- the rejected values stay in `self`:
    (Gen.Verify.StreamInfo.set_block_sizes (StreamInfo.empty 44100 2 16) 4096 16).map (·.2.minBlock) = some 4096 := by decide

/-- The decision of `impl Verify for SubFrame` in terms of the hand model's functions. -/
def subframeVerify : SubFrame → Bool
  | .constant n dc b => verifyBlockSize n && (verifyBps b && verifySample b dc)
  | .verbatim xs b => verifyBlockSize xs.length && (verifyBps b && xs.all (verifySample b))
  | .fixed w r b => verifyBps b && (w.all (verifySample b) && (decide (w.length = r.warmup) && r.verify))
  | .lpc w c sh p r b => (QParams.verify ⟨c, sh, p⟩) && (verifyBps b && (w.all (verifySample b) &&
      (decide (1 ≤ c.length) && (decide (w.length = c.length) && (decide (w.length = r.warmup) && r.verify)))))

/-- element types of the residual of a predicted subframe: quotients `u32`, Rice parameters `u8` -/
def SubDom : SubFrame → Prop
  | .fixed _ r _ => (∀ q ∈ r.quotients, q < 2 ^ 32) ∧ ∀ p ∈ r.params, p < 256
  | .lpc _ _ _ _ r _ => (∀ q ∈ r.quotients, q < 2 ^ 32) ∧ ∀ p ∈ r.params, p < 256
  | _ => True

theorem C18G_subframe_verify (s : SubFrame) (hd : SubDom s) :
    Gen.Verify.SubFrame.verify s = some (subframeVerify s) := by
  cases s with
  | constant n dc b => exact C18G_constant_verify n dc b
  | verbatim xs b => exact C18G_verbatim_verify xs b
  | fixed w r b => exact C18G_fixed_verify w r b hd.1 hd.2
  | lpc w c sh p r b => exact C18G_lpc_verify w c sh p r b hd.1 hd.2

/-! `Frame::verify` re-serialises a frame that carries a precomputed bitstream, so it and everything above it take the
externals of `Frame::write` as parameters, in the order of `Gen/Verify.lean`: `FRAME_CRC_BUFFER_1`,
`encode_to_utf8like` and its `_exact`, `ByteSink::as_slice`, the header CRC, `MemSink::len`,
`MemSink::write_to_byte_slice`, the frame CRC, `MemSink::<u8>::into_inner`.  The theorems hold for all of them. -/
section externals
variable (stale : List Nat) (enc : Nat → Option (List Nat)) (encx : Nat → Bool) (asSlice : List Op → List Nat)
  (crc8 : List Nat → Nat) (len : List Op → Nat) (wtbs : List Op → List Nat → List Nat) (crc16 : List Nat → Nat)
  (inner : List Op → List Nat)

/-- `impl Verify for Frame` without a precomputed bitstream: the subframes in order, then the header. -/
theorem C18G_frame_verify (g : Gen.Writer.Frame) (hp : g.precomputed_bitstream = none) :
    Gen.Verify.Frame.verify stale enc encx asSlice crc8 len wtbs crc16 inner g =
      andThen false (forV g.subframes Gen.Verify.SubFrame.verify) (Gen.Verify.FrameHeader.verify g.header) := by
  unfold Gen.Verify.Frame.verify
  simp [hp]

/-- WITH a precomputed bitstream the "recompute and compare" block of `Frame::verify` is VACUOUS: `Frame::write`
forwards the precomputed bytes themselves (`dest.write_bytes_aligned(bytes)`), so the reference is the buffer under
test. For any read-out `inner` of the local sink that returns the bytes of one aligned byte write, the block
passes whatever `buf` is; `verify` does NOT detect a stale or corrupted precomputed bitstream. -/
theorem C18G_frame_verify_precomputed (g : Gen.Writer.Frame) (buf : List Nat) (hp : g.precomputed_bitstream = some buf)
    (hi : inner [Op.writeBytesAligned buf] = buf) :
    Gen.Verify.Frame.verify stale enc encx asSlice crc8 len wtbs crc16 inner g =
      andThen false (forV g.subframes Gen.Verify.SubFrame.verify) (Gen.Verify.FrameHeader.verify g.header) := by
  unfold Gen.Verify.Frame.verify
  have h1 : Gen.Writer.Frame.count_bits_exact g = true := by simp [Gen.Writer.Frame.count_bits_exact, hp]
  have h2 : Gen.Writer.Frame.write_exact stale enc encx asSlice crc8 len wtbs crc16 g = true := by
    simp [Gen.Writer.Frame.write_exact, hp]
  have h3 : Gen.Writer.Frame.write stale enc encx asSlice crc8 len wtbs crc16 g = some [Op.writeBytesAligned buf] := by
    simp [Gen.Writer.Frame.write, hp, Gen.Writer.emit]
  simp only [hp, h1, h2, h3, req_true, bindOps, hi, vmi, decide_true, andThen_true]
  have := forV_zip_self buf
  simp [this]

/-- the externals of `Frame::write` are irrelevant without a precomputed bitstream -/
def fv0 := Gen.Verify.Frame.verify [] (fun _ => none) (fun _ => true) (fun _ => []) (fun _ => 0) (fun _ => 0) (fun _ l => l)
  (fun _ => 0) (fun _ => [])
def sv0 := Gen.Verify.Stream.verify [] (fun _ => none) (fun _ => true) (fun _ => []) (fun _ => 0) (fun _ => 0) (fun _ l => l)
  (fun _ => 0) (fun _ => [])
def exF (n : Nat) : Gen.Writer.Frame := ⟨{ C08Gen.exHeader with frame_number := n }, [.constant 8 1 16, .constant 8 2 17], none⟩

example : fv0 (exF 3) = some true ∧
    fv0 ⟨C08Gen.exHeader, [.constant 8 1 16, .constant 8 70000 17], none⟩ = some false ∧
    fv0 ⟨{ C08Gen.exHeader with block_size_spec := .Reserved }, [], none⟩ = none := by decide

/-- `Stream::verify_fixed_blocking_frames`: every frame is in fixed-blocking mode, carries the (wrapping `u32`)
count of the frames before it, and verifies; `fv` = the decision of `Frame::verify` on each frame (no panic). -/
theorem C18G_stream_fixed (s : Gen.Writer.Stream) (fv : Gen.Writer.Frame → Bool)
    (hF : ∀ f ∈ s.frames, Gen.Verify.Frame.verify stale enc encx asSlice crc8 len wtbs crc16 inner f = some (fv f)) :
    Gen.Verify.Stream.verify_fixed_blocking_frames stale enc encx asSlice crc8 len wtbs crc16 inner s =
      some (allS (fun f cur => (!f.header.variable_block_size && decide (f.header.frame_number = cur)) && fv f)
        (fun _ cur => (cur + 1) % 4294967296) 0 s.frames) := by
  unfold Gen.Verify.Stream.verify_fixed_blocking_frames
  refine forVS_spec _ _ _ _ (fun f hf cur => ?_) 0
  simp only [vmi, andThen_some, hF f hf, decide_not, Bool.decide_eq_true]
  exact andThen_step _ _ _ _

/-- `Stream::verify_variable_blocking_frames`: every frame is in variable-blocking mode, carries the (wrapping `u64`)
sum of the block sizes before it, and verifies. `block_size()` is called only on a frame that `Frame::verify` has
just accepted, hence whose header is accepted, where it cannot panic (`header_verify_exact`). -/
theorem C18G_stream_variable (s : Gen.Writer.Stream) (fv : Gen.Writer.Frame → Bool)
    (hF : ∀ f ∈ s.frames, Gen.Verify.Frame.verify stale enc encx asSlice crc8 len wtbs crc16 inner f = some (fv f)) :
    Gen.Verify.Stream.verify_variable_blocking_frames stale enc encx asSlice crc8 len wtbs crc16 inner s =
      some (allS (fun f cur => (f.header.variable_block_size && decide (f.header.start_sample_number = cur)) && fv f)
        (fun f cur => (cur + Gen.Verify.FrameHeader.block_size f.header) % 18446744073709551616) 0 s.frames) := by
  unfold Gen.Verify.Stream.verify_variable_blocking_frames
  refine forVS_spec _ _ _ _ (fun f hf cur => ?_) 0
  have hv := hF f hf
  cases hfv : fv f
  · simp only [vmi, andThen_some, hv, hfv, Bool.decide_eq_true, Bool.and_false]
    cases f.header.variable_block_size && decide (f.header.start_sample_number = cur) <;> rfl
  · rw [hfv] at hv
    simp only [vmi, andThen_some, hv, header_verify_exact _ (andThen_eq_true (andThen_eq_true hv)), req_true, Bool.decide_eq_true]
    exact andThen_step _ _ _ _

/-- The decision of `impl Verify for MetadataBlock` (never a panic). -/
def blockVerify (m : Gen.Writer.MetadataBlock) : Bool :=
  match m.data with | .StreamInfo si => streamInfoVerify si | .Unknown _ _ => true

theorem C18G_metadata_block_verify (m : Gen.Writer.MetadataBlock) : Gen.Verify.MetadataBlock.verify m = some (blockVerify m) := by
  unfold Gen.Verify.MetadataBlock.verify Gen.Verify.MetadataBlockData.verify blockVerify
  cases m.data with
  | StreamInfo si => exact C18G_streaminfo_verify si
  | Unknown _ _ => rfl

theorem stream_info_of (st : Gen.Writer.Stream) (i : StreamInfo) (hi : st.stream_info.data = .StreamInfo i) :
    Gen.Verify.Stream.stream_info_exact st = true ∧ Gen.Verify.Stream.stream_info st = i := by
  unfold Gen.Verify.Stream.stream_info_exact Gen.Verify.Stream.stream_info
  rw [hi]
  exact ⟨rfl, rfl⟩

/-- The decision of `impl Verify for Stream`, given the STREAMINFO of the first block and the decision `fv` of
`Frame::verify` on each frame: STREAMINFO verifies; every metadata block verifies and `is_last` is set exactly on the
last one; the frames are all in the blocking mode of the first one and numbered consecutively. -/
def streamVerify (fv : Gen.Writer.Frame → Bool) (s : Gen.Writer.Stream) (info : StreamInfo) : Bool :=
  streamInfoVerify info &&
        ((List.zipIdx s.metadata).all (fun p => blockVerify p.1 &&
            ((decide (p.2 + 1 = s.metadata.length) || !p.1.is_last) && (!decide (p.2 + 1 = s.metadata.length) || p.1.is_last))) &&
        (if s.frames.length = 0 then true
         else if (s.frames.getD 0 default).header.variable_block_size then
           allS (fun f cur => (f.header.variable_block_size && decide (f.header.start_sample_number = cur)) && fv f)
             (fun f cur => (cur + Gen.Verify.FrameHeader.block_size f.header) % 18446744073709551616) 0 s.frames
         else
           allS (fun f cur => (!f.header.variable_block_size && decide (f.header.frame_number = cur)) && fv f)
             (fun _ cur => (cur + 1) % 4294967296) 0 s.frames))

/-- `impl Verify for Stream`, for a stream whose first block holds a STREAMINFO (otherwise `stream_info()` panics:
`C18G_stream_verify_panics`), with fewer than 2^64 metadata blocks, and whose frames do not make `Frame::verify`
panic (`fv` = its decision). -/
theorem C18G_stream_verify_frames (s : Gen.Writer.Stream) (info : StreamInfo) (hi : s.stream_info.data = .StreamInfo info)
    (hlen : s.metadata.length < 2 ^ 64) (fv : Gen.Writer.Frame → Bool)
    (hF : ∀ f ∈ s.frames, Gen.Verify.Frame.verify stale enc encx asSlice crc8 len wtbs crc16 inner f = some (fv f)) :
    Gen.Verify.Stream.verify stale enc encx asSlice crc8 len wtbs crc16 inner s = some (streamVerify fv s info) := by
  unfold Gen.Verify.Stream.verify streamVerify
  obtain ⟨e1, e2⟩ := stream_info_of s info hi
  rw [e1, e2, req_true, C18G_streaminfo_verify]
  refine andThen_guard _ _ _ (fun _ => ?_)
  refine forV_guard _ _ _ _ _ (fun p hp => ?_) (fun _ => ?_)
  · obtain ⟨m, i⟩ := p
    have hlt := (List.mem_zipIdx' hp).1
    simp only [C18G_metadata_block_verify, vmi]
    rw [req_ok _ _ (decide_eq_true (by omega))]
    simp only [andThen_some, Bool.decide_or, Bool.decide_eq_true, decide_not]
  · by_cases h0 : s.frames.length = 0
    · simp [h0]
    · simp only [h0, if_false]
      rw [req_ok _ _ (decide_eq_true (by omega))]
      cases (s.frames.getD 0 default).header.variable_block_size
      · simp only [Bool.false_eq_true, if_false]
        exact C18G_stream_fixed stale enc encx asSlice crc8 len wtbs crc16 inner s fv hF
      · simp only [if_true]
        exact C18G_stream_variable stale enc encx asSlice crc8 len wtbs crc16 inner s fv hF

/-- `C18G_stream_verify_frames` with the hypothesis `hB`, which `hF` already gives for every accepted frame
(`header_verify_exact`). -/
theorem C18G_stream_verify (s : Gen.Writer.Stream) (info : StreamInfo) (hi : s.stream_info.data = .StreamInfo info)
    (hlen : s.metadata.length < 2 ^ 64) (fv : Gen.Writer.Frame → Bool)
    (hF : ∀ f ∈ s.frames, Gen.Verify.Frame.verify stale enc encx asSlice crc8 len wtbs crc16 inner f = some (fv f))
    (hB : ∀ f ∈ s.frames, Gen.Verify.FrameHeader.block_size_exact f.header = true) :
    Gen.Verify.Stream.verify stale enc encx asSlice crc8 len wtbs crc16 inner s =
      some (streamInfoVerify info &&
        ((List.zipIdx s.metadata).all (fun p => blockVerify p.1 &&
            ((decide (p.2 + 1 = s.metadata.length) || !p.1.is_last) && (!decide (p.2 + 1 = s.metadata.length) || p.1.is_last))) &&
        (if s.frames.length = 0 then true
         else if (s.frames.getD 0 default).header.variable_block_size then
           allS (fun f cur => (f.header.variable_block_size && decide (f.header.start_sample_number = cur)) && fv f)
             (fun f cur => (cur + Gen.Verify.FrameHeader.block_size f.header) % 18446744073709551616) 0 s.frames
         else
           allS (fun f cur => (!f.header.variable_block_size && decide (f.header.frame_number = cur)) && fv f)
             (fun _ cur => (cur + 1) % 4294967296) 0 s.frames))) := by
  exact C18G_stream_verify_frames stale enc encx asSlice crc8 len wtbs crc16 inner s info hi hlen fv hF

/-- `Stream::stream_info()` panics (`panic!("Stream is not properly initialized.")`) when the first block is not a
STREAMINFO; so does `verify`. (Only reachable through deserialisation.) -/
theorem C18G_stream_verify_panics (s : Gen.Writer.Stream) (t : Nat) (d : List Nat) (h : s.stream_info.data = .Unknown t d) :
    Gen.Verify.Stream.verify stale enc encx asSlice crc8 len wtbs crc16 inner s = none := by
  unfold Gen.Verify.Stream.verify
  simp [Gen.Verify.Stream.stream_info_exact, h]

end externals

def exS (frames : List Gen.Writer.Frame) : Gen.Writer.Stream :=
  ⟨⟨false, .StreamInfo (StreamInfo.empty 44100 2 16)⟩, [⟨true, .Unknown 4 [1, 2]⟩], frames⟩
example : sv0 (exS [exF 0, exF 1]) = some true ∧ sv0 (exS [exF 0, exF 2]) = some false ∧
    sv0 { exS [] with metadata := [⟨false, .Unknown 4 []⟩] } = some false ∧
    sv0 { exS [] with stream_info := ⟨false, .Unknown 4 []⟩ } = none := by decide

/-- `Stream::new` = `StreamInfo::new` wrapped into a stream without further blocks or frames (`is_last` set). -/
theorem C18G_stream_new (rate channels bps : Nat) :
    Gen.Verify.Stream.new rate channels bps =
      some ((FlacVerif.StreamInfo.new rate channels bps).map fun si => ⟨⟨true, .StreamInfo si⟩, [], []⟩) := by
  unfold Gen.Verify.Stream.new
  rw [C18G_streaminfo_new]
  cases FlacVerif.StreamInfo.new rate channels bps <;> rfl

example : Gen.Verify.Stream.new 44100 2 16 = some (some ⟨⟨true, .StreamInfo (StreamInfo.empty 44100 2 16)⟩, [], []⟩) ∧
    Gen.Verify.Stream.new 44100 9 16 = some none := by decide

end FlacVerif.C18Gen
