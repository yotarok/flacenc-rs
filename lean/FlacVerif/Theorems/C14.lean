/-
C14 — integer and packed little-endian byte delivery are equivalent: the frame buffer gets identical
per-channel samples (whatever its previous contents) and the MD5 / sample-count context advances
identically. The theorems are stated for the byte widths `1 ≤ k ≤ 4` the encoder accepts (the round trips they rest on,
`SourceLemmas.le_roundtrip` and `leBytesToI32s_roundtrip`, hold for every `k ≥ 1`), for every channel count `≥ 1`, every
capacity and every fill length.
-/
import FlacVerif.Lemmas.Source
import FlacVerif.Theorems.C03
namespace FlacVerif
open SourceLemmas

/-- A `k`-byte sample survives the trip through its little-endian bytes (sign extension included). -/
theorem C14_le_roundtrip (k : Nat) (hk : 1 ≤ k ∧ k ≤ 4) (v : Int) (hv : fitsBytes k v) :
    leToInt (Rfc.toLeBytes k v) = v :=
  le_roundtrip k hk.1 v hv

/-- `le_bytes_to_i32s` inverts `i32s_to_le_bytes` on samples of the stated width. -/
theorem C14_le_roundtrip_list (k : Nat) (hk : 1 ≤ k ∧ k ≤ 4) (xs : List Int) (hx : ∀ x ∈ xs, fitsBytes k x) :
    leBytesToI32s k (i32sToLeBytes k xs) = xs :=
  leBytesToI32s_roundtrip k hk.1 xs hx

/-- **Frame buffer.** Filling from the packed bytes of `xs` is the same as filling from `xs`:
same acceptance / rejection, same resulting buffer. -/
theorem C14_fill (fb : FrameBuf) (k : Nat) (hk : 1 ≤ k ∧ k ≤ 4) (xs : List Int) (hx : ∀ x ∈ xs, fitsBytes k x) :
    fb.fillLeBytes (i32sToLeBytes k xs) k = fb.fillInterleaved xs := by
  have hkp : 0 < k := hk.1
  have hmod : (i32sToLeBytes k xs).length % k = 0 := by rw [i32sToLeBytes_length]; exact Nat.mul_mod_right _ _
  have hdiv : (i32sToLeBytes k xs).length / k = xs.length := by
    rw [i32sToLeBytes_length]; exact Nat.mul_div_cancel_left _ hkp
  simp only [FrameBuf.fillLeBytes, FrameBuf.fillInterleaved, hk, and_self, not_true_eq_false, hmod, ne_eq,
    not_true_eq_false, or_self, ↓reduceIte, hdiv, leBytesToI32s_roundtrip k hk.1 xs hx]

/-- An accepted fill keeps the shape and records the number of inter-channel samples. -/
theorem C14_fill_accepts (fb : FrameBuf) (hlen : fb.samples.length = fb.size * fb.channels)
    (xs : List Int) (h1 : xs.length ≤ fb.size * fb.channels) (h2 : xs.length % fb.channels = 0) :
    ∃ fb', fb.fillInterleaved xs = .ok fb' ∧ fb'.filled = xs.length / fb.channels ∧
      fb'.samples.length = fb.samples.length ∧ fb'.size = fb.size ∧ fb'.channels = fb.channels := by
  have hno : ¬ (xs.length > fb.samples.length ∨ xs.length % fb.channels ≠ 0) := by omega
  refine ⟨{ fb with samples := deinterleave xs fb.channels fb.size fb.samples, filled := xs.length / fb.channels },
    by rw [FrameBuf.fillInterleaved, if_neg hno], rfl, ?_, rfl, rfl⟩
  exact deinterleave_length _ _ _ _

/-- **What the encoder reads.** After an accepted fill, channel `c` is exactly the `c`-th phase of
the interleaved input — no trace of the previous contents `fb.samples`. -/
theorem C14_channel_slice (fb : FrameBuf) (hch : 1 ≤ fb.channels) (hlen : fb.samples.length = fb.size * fb.channels)
    (xs : List Int) (fb' : FrameBuf) (h : fb.fillInterleaved xs = .ok fb') (c : Nat) (hc : c < fb.channels) :
    fb'.channelSlice c = (List.range (xs.length / fb.channels)).map (fun t => xs.getD (fb.channels * t + c) 0) :=
  channelSlice_fill fb hlen xs fb' h c hc

/-- **Stale-content independence** (a full block followed by a shorter one, or any other history):
two buffers with the same channel count (and any stale contents, even different capacities) give the
same channels after the same accepted fill. -/
theorem C14_stale_independent (fb1 fb2 : FrameBuf) (hchs : fb1.channels = fb2.channels)
    (hch : 1 ≤ fb1.channels) (hl1 : fb1.samples.length = fb1.size * fb1.channels)
    (hl2 : fb2.samples.length = fb2.size * fb2.channels) (xs : List Int) (fb1' fb2' : FrameBuf)
    (h1 : fb1.fillInterleaved xs = .ok fb1') (h2 : fb2.fillInterleaved xs = .ok fb2') (c : Nat) (hc : c < fb1.channels) :
    fb1'.channelSlice c = fb2'.channelSlice c := by
  rw [channelSlice_fill fb1 hl1 xs fb1' h1 c hc, channelSlice_fill fb2 hl2 xs fb2' h2 c (hchs ▸ hc), hchs]

/-- Byte and integer delivery read back the same channels, from any previous buffer contents. -/
theorem C14_bytes_channel_slice (fb : FrameBuf) (hch : 1 ≤ fb.channels) (hlen : fb.samples.length = fb.size * fb.channels)
    (k : Nat) (hk : 1 ≤ k ∧ k ≤ 4) (xs : List Int) (hx : ∀ x ∈ xs, fitsBytes k x) (fb' : FrameBuf)
    (h : fb.fillLeBytes (i32sToLeBytes k xs) k = .ok fb') (c : Nat) (hc : c < fb.channels) :
    fb'.channelSlice c = (List.range (xs.length / fb.channels)).map (fun t => xs.getD (fb.channels * t + c) 0) := by
  exact channelSlice_fill fb hlen xs fb' (C14_fill fb k hk xs hx ▸ h) c hc

/-- **Context (MD5 input, sample count, frame count).** Delivering the packed bytes of a block
advances the context exactly as delivering the integers does. The multi-thread path converts the
integers with `i32sToLeBytes` and then calls `fillLeBytes`, so this is also its statement.
No divisibility assumption is needed. -/
theorem C14_context (bps ch : Nat) (hb : 0 < (bps + 7) / 8) (c : Ctx) (xs : List Int) :
    c.fillLeBytes ch ((bps + 7) / 8) (i32sToLeBytes ((bps + 7) / 8) xs) = c.fillInterleaved bps ch xs :=
  C03.fillLeBytes_md5Input bps ch hb c xs

namespace SourceLemmas
def exBuf : FrameBuf := ⟨List.replicate 12 0, 4, 3, 0⟩
def exFull : List Int := [1, 2, 3, 4, 5, 6, 7, 8, 9, 10, 11, 12]
def exShort : List Int := [-8388608, 8388607, -1, -8388608, 8388607, -1]
end SourceLemmas

example : ∃ fb, FrameBuf.withSize 3 32 = some fb ∧ fb.samples.length = fb.size * fb.channels ∧ 1 ≤ fb.channels := by
  decide

example : ∀ x ∈ exShort, fitsBytes 3 x := by decide

/-- Full block of distinct values, then a shorter block (2 samples per channel) of 24-bit extremes
delivered as packed bytes: the channels read back are exactly the new samples. -/
example :
    ((exBuf.fillInterleaved exFull).bind fun fb1 => (fb1.fillLeBytes (i32sToLeBytes 3 exShort) 3).map fun fb2 =>
      (fb1.samples, [fb2.channelSlice 0, fb2.channelSlice 1, fb2.channelSlice 2], fb2.filled))
    = .ok ([1, 4, 7, 10, 2, 5, 8, 11, 3, 6, 9, 12],
           [[-8388608, -8388608], [8388607, 8388607], [-1, -1]], 2) := by
  decide +kernel

/-- The shorter block read back from the stale buffer equals the one read back from a fresh buffer. -/
example :
    ((exBuf.fillInterleaved exFull).bind fun fb1 => (fb1.fillLeBytes (i32sToLeBytes 3 exShort) 3).map fun fb2 =>
      [fb2.channelSlice 0, fb2.channelSlice 1, fb2.channelSlice 2])
    = (exBuf.fillInterleaved exShort).map fun fb2 => [fb2.channelSlice 0, fb2.channelSlice 1, fb2.channelSlice 2] := by
  decide

/-- The same through the integer path, and the two final buffers coincide. -/
example :
    ((exBuf.fillInterleaved exFull).bind fun fb1 => fb1.fillLeBytes (i32sToLeBytes 3 exShort) 3)
    = ((exBuf.fillInterleaved exFull).bind fun fb1 => fb1.fillInterleaved exShort) := by
  decide

/-- Both fills reject an over-long block and a block that is not a whole number of inter-channel samples. -/
example : exBuf.fillInterleaved (List.replicate 15 0) = .error .invalidBuffer ∧
    exBuf.fillLeBytes (i32sToLeBytes 3 (List.replicate 15 0)) 3 = .error .invalidBuffer ∧
    exBuf.fillInterleaved [1, 2] = .error .invalidBuffer ∧
    exBuf.fillLeBytes (i32sToLeBytes 3 [1, 2]) 3 = .error .invalidBuffer := by
  decide

end FlacVerif
