/-
C15 — round trip writer → the repository's own parser.

Property theorems only; lemmas are in `FlacVerif/Lemmas/RepoRoundTrip.lean` (residual, subframes),
`RepoRoundTripFrame.lean` (headers, frames) and `RepoRoundTripStream.lean` (metadata, streams).  The writer is the
component model of `Model/Component.lean` / `Model/Rice.lean` (`Residual.bits`, `SubFrame.bits`,
`Frame.bits`: mirrors of `bitrepr.rs`); the parser is the mirror `Model/RepoParser.lean` of
`parser.rs`.  `k` is arbitrary trailing input: the parser stops exactly at the end of the component.
-/
import FlacVerif.Lemmas.RepoRoundTripStream
namespace FlacVerif
open Repo Repo.PResult

/-- (a) Residuals.  For every well-formed `Residual` (`Residual.WF`: what `Residual::verify` checks)
whose quotients and block size fit their Rust types (`u32` quotients — `quotients: Vec<u32>`; block
sizes are at most 65535), parsing what `Residual::write` wrote, with the block size and warm-up length
of the residual, returns exactly that residual and leaves exactly the trailing input. -/
theorem C15_residual (r : Residual) (n w : Nat) (k : Bits) (hwf : r.WF) (hn : r.blockSize = n) (hw : r.warmup = w)
    (hq : ∀ q ∈ r.quotients, q < 2 ^ 32) (hbs : r.blockSize < 2 ^ 32) :
    Repo.parseResidual n w (r.bits ++ k) = .ok (r, k) := by
  subst hn; subst hw
  exact residual_read r hwf hq hbs k

/-- (b) Subframes.  For every well-formed subframe (`SubFrame.WF`) within the repository's own limits
(`Repo.SubOk`: at most 25 bits per sample, LPC order at most `MAX_LPC_ORDER = 24`, `u32` quotients,
block size below `2^32`), parsing what `SubFrame::write` wrote returns exactly that subframe. -/
theorem C15_subframe (s : SubFrame) (k : Bits) (hwf : s.WF) (hok : Repo.SubOk s) :
    Repo.parseSubframe s.blockSize s.bps (s.bits ++ k) = .ok (s, k) :=
  subframe_read s hwf hok k

set_option maxRecDepth 100000 in
/-- The limits in `Repo.SubOk` are the parser's, not the format's: a well-formed LPC subframe of order 25
(allowed by `SubFrame.WF` and by RFC 9639, which allows 32) is REJECTED by the repository's parser. -/
example :
    let res : Residual := ⟨0, 26, 25, [0], List.replicate 26 0, List.replicate 26 0⟩
    let s : SubFrame := .lpc (List.replicate 25 0) (List.replicate 25 0) 0 1 res 8
    s.WF ∧ Repo.parseSubframe s.blockSize s.bps s.bits = .error false := by
  decide +kernel

/-- `utf8_code` reads back every number that `encode_to_utf8like` can write (all values below `2^36`). -/
theorem C15_utf8 (v : Nat) (k : Bits) (bs : List Nat) (he : encodeUtf8like v = some bs) :
    Repo.utf8Code (bytesToBits bs ++ k) = .ok (v, k) :=
  utf8_read v k bs he

/-- Frame headers.  `Repo.HdrOk h`: the block-size / sample-rate / channel codes are ones the parser can
produce (no `Reserved` block size, `Independent(1..=8)`, table sample rates `1..=11`, immediates in range,
3-bit sample-size tag) and only the frame offset of the blocking mode in use is set (`from_specs` zeroes
both, `set_frame_offset` sets one; a frame number is a `u32`).  Then parsing the header written by
`FrameHeader::write` (CRC-8 included, checked or not) returns the header.  `k` must be whole bytes. -/
theorem C15_header (h : FrameHeader) (checkCrc : Bool) (hb k : Bits) (hbits : h.bits rfcCrc8 = some hb)
    (hok : Repo.HdrOk h) (hk : k.length % 8 = 0) :
    Repo.frameHeader checkCrc (hb ++ k) = .ok (h, k) :=
  frameHeader_read h checkCrc hb k hbits hok hk

/-- (c) Frames (header + subframes + padding + CRC-16), bit level.  `Repo.FrameOk info f`: `HdrOk` for
the header; the channel count of the header equals STREAMINFO's and the number of subframes; the header's
sample-size tag is either the STREAMINFO value or unspecified/reserved; STREAMINFO bits-per-sample at most
24; every subframe is well-formed, within the parser's limits, of the header's block size and of
`bps + bits_per_sample_offset(ch)` bits.  No assumption about the CRCs: that the written CRC-8 / CRC-16
fit their fields and are accepted is proved (`crc8_lt`, `crc16_lt`). -/
theorem C15_frame_bits (f : Frame) (info : StreamInfo) (checkCrc : Bool) (fb k : Bits)
    (hbits : f.bits rfcCrc8 rfcCrc16 = some fb) (hok : Repo.FrameOk info f) (hk : k.length % 8 = 0) :
    Repo.frame info checkCrc (fb ++ k) = .ok (f, k) :=
  frame_read f info checkCrc fb k hbits hok hk

/-- (c) at the byte interface: `parser::frame(info, check_crc)` on the bytes of a written frame followed
by arbitrary further bytes returns the frame and exactly those bytes. -/
theorem C15_frame (f : Frame) (info : StreamInfo) (checkCrc : Bool) (fb : Bits) (more : List Nat)
    (hbits : f.bits rfcCrc8 rfcCrc16 = some fb) (hok : Repo.FrameOk info f) :
    Repo.parseFrame info checkCrc (packBytes fb ++ more) = .ok (f, more) :=
  parseFrame_read f info checkCrc fb more hbits hok

/-- STREAMINFO alone.  `Repo.InfoOk s`: the block sizes are either set (`1 ≤ min ≤ max ≤ 32767`) or the
initial pair `(65535, 0)` of a `StreamInfo` without frames (`total = 0`); the frame sizes are either real
(`min ≤ max < 2^24`, not both 0) or the initial pair `(2^32-1, 0)` (written as `(0, 0)` = "unknown");
rate at most 96000, 1..=8 channels, 8/12/16/20/24 bits, `total < 2^36`, 16 MD5 bytes.  Then `stream_info`
on what `StreamInfo::write` wrote returns exactly that record.  `k` must be whole bytes. -/
theorem C15_streaminfo (s : StreamInfo) (k : Bits) (hok : Repo.InfoOk s) (hk : k.length % 8 = 0) :
    Repo.streamInfo (s.bits ++ k) = .ok (s, k) :=
  streamInfo_read s hok k hk

/-- The only frame sizes excluded by `Repo.InfoOk`: `(0, 0)` (and any other pair with `min > max`) is
written as `(0, 0)` and read back as the initial pair `(2^32-1, 0)`; all other fields are read back.
(A `StreamInfo` that saw a frame never has `max_frame_size = 0`: a frame has at least one byte.) -/
theorem C15_streaminfo_unknown_frame_sizes (s : StreamInfo) (k : Bits)
    (hok : Repo.InfoOk { s with minFrame := 2 ^ 32 - 1, maxFrame := 0 })
    (hz : (s.minFrame = 0 ∧ s.maxFrame = 0) ∨ s.minFrame > s.maxFrame) (hk : k.length % 8 = 0) :
    Repo.streamInfo (s.bits ++ k) = .ok ({ s with minFrame := 2 ^ 32 - 1, maxFrame := 0 }, k) :=
  streamInfo_read_zero s hok hz k hk

/-- (d) Whole streams.  `Repo.StreamOk s`: the STREAMINFO is one `stream_info` reads back identically
(`Repo.InfoOk`, see `C15_streaminfo`; so also the STREAMINFO of a stream without frames), every other metadata block
has a type in `1..=126` and fewer than `2^24` bytes, every frame satisfies `FrameOk` for that STREAMINFO.  Then
`parser::stream` on the bytes `Stream::write` produced consumes them all and returns the stream
(`PStream.ofStream s` is `s` with its metadata blocks wrapped; `toStream?` gives `s` back). -/
theorem C15_stream (s : Stream) (sb : Bits) (hbits : s.bits rfcCrc8 rfcCrc16 = some sb) (hok : Repo.StreamOk s) :
    Repo.parseStream (packBytes sb) = .ok (Repo.PStream.ofStream s) ∧
      (Repo.PStream.ofStream s).toStream? = some s :=
  ⟨parseStream_read s sb hbits hok, Repo.PStream.ofStream_toStream s⟩

/-- The same at the bit level (no packing). -/
theorem C15_stream_bits (s : Stream) (sb : Bits) (hbits : s.bits rfcCrc8 rfcCrc16 = some sb)
    (hok : Repo.StreamOk s) : Repo.stream sb = .ok (Repo.PStream.ofStream s) :=
  stream_read s sb hbits hok

/-! ### non-vacuity: concrete components satisfying the hypotheses -/

/-- A residual with two partitions (parameters 2 and 0), warm-up 1, block size 4. -/
example :
    let r : Residual := ⟨1, 4, 1, [2, 0], [0, 1, 3, 0], [0, 3, 0, 0]⟩
    r.WF ∧ (∀ q ∈ r.quotients, q < 2 ^ 32) ∧ r.blockSize < 2 ^ 32 ∧
      Repo.parseResidual 4 1 (r.bits ++ [true, false]) = .ok (r, [true, false]) := by
  decide

/-- A fixed-predictor subframe of order 2 and an LPC subframe of order 1. -/
example :
    let r : Residual := ⟨0, 4, 2, [3], [0, 0, 1, 0], [0, 0, 5, 7]⟩
    let s : SubFrame := .fixed [-3, 100] r 16
    s.WF ∧ Repo.SubOk s ∧ Repo.parseSubframe 4 16 (s.bits ++ [true]) = .ok (s, [true]) := by
  decide +kernel

example :
    let r : Residual := ⟨0, 3, 1, [1], [0, 2, 0], [0, 1, 0]⟩
    let s : SubFrame := .lpc [-8] [-5] 3 4 r 9
    s.WF ∧ Repo.SubOk s ∧ Repo.parseSubframe 3 9 (s.bits ++ []) = .ok (s, []) := by
  decide +kernel


/-! `exFrame`: a stereo left/side frame of 4 samples (fixed predictor of order 2 on the left channel, a 17-bit
constant on the side channel), frame number 5, for the STREAMINFO `exInfo`: it serialises, satisfies `FrameOk`, and is
read back. -/
private def exInfo : StreamInfo :=
  { minBlock := 4, maxBlock := 4, minFrame := 20, maxFrame := 20, rate := 44100, channels := 2, bps := 16, total := 4,
    md5 := List.replicate 16 0 }
private def exFrame : Frame :=
  { header := { isVariable := false, blockSizeSpec := .extraByte 3, assignment := .leftSide, sampleSizeTag := 4,
                sampleRateSpec := .fixed 9, frameNumber := 5, startSample := 0 },
    subframes := [.fixed [-3, 100] ⟨0, 4, 2, [3], [0, 0, 1, 0], [0, 0, 5, 7]⟩ 16, .constant 4 (-65536) 17] }

set_option maxRecDepth 100000 in
example : Repo.FrameOk exInfo exFrame :=
  { hdr := by decide, channels := by decide, count := by decide, bps := by decide, bpsRange := by decide,
    subs := by decide }

private def exBytes : List Nat :=
  [255, 248, 105, 136, 5, 3, 94, 20, 255, 253, 0, 100, 0, 219, 224, 16, 0, 0, 185, 168]

set_option maxRecDepth 100000 in
example : exFrame.bits rfcCrc8 rfcCrc16 = some (bytesToBits exBytes) := by decide +kernel

set_option maxRecDepth 100000 in
example : Repo.parseFrame exInfo true (exBytes ++ [1, 2, 3]) = .ok (exFrame, [1, 2, 3]) := by decide +kernel


/-- A whole stream: STREAMINFO, one unknown block (type 4, two bytes), the frame above. -/
private def exStream : Stream :=
  { info := exInfo, metadata := [⟨4, [0xAB, 0xCD]⟩], frames := [exFrame] }

set_option maxRecDepth 100000 in
example : Repo.StreamOk exStream :=
  { info := { blocks := by decide, frames := by decide,
              rate := by decide, channels := by decide, bps := by decide, total := by decide,
              md5len := by decide, md5 := by decide },
    metas := by
      intro m hm
      simp only [exStream, List.mem_singleton] at hm
      subst hm
      exact { tag := by decide, len := by decide, bytes := by decide }
    frames := by
      intro f hf
      simp only [exStream, List.mem_singleton] at hf
      subst hf
      exact { hdr := by decide, channels := by decide, count := by decide, bps := by decide, bpsRange := by decide,
              subs := by decide } }

/-- The stream of an empty input as the encoder leaves it (`set_block_sizes(4096, 4096)`, no frame, so
the frame sizes are still the initial `(u32::MAX, 0)`), and a `Stream::new` stream that was never
touched (block sizes initial too): both satisfy `StreamOk`, so both are read back identically. -/
private def exEmpty : Stream :=
  { info := { StreamInfo.empty 44100 2 16 with minBlock := 4096, maxBlock := 4096 }, metadata := [], frames := [] }
private def exNew : Stream :=
  { info := StreamInfo.empty 44100 2 16, metadata := [], frames := [] }

private theorem exEmpty_ok : Repo.StreamOk exEmpty :=
  { info := { blocks := by decide, frames := by decide,
              rate := by decide, channels := by decide, bps := by decide, total := by decide,
              md5len := by decide, md5 := by decide },
    metas := by intro m hm; cases hm
    frames := by intro f hf; cases hf }

private theorem exNew_ok : Repo.StreamOk exNew :=
  { info := { blocks := by decide, frames := by decide,
              rate := by decide, channels := by decide, bps := by decide, total := by decide,
              md5len := by decide, md5 := by decide },
    metas := by intro m hm; cases hm
    frames := by intro f hf; cases hf }

set_option maxRecDepth 100000 in
example : ∃ sb, exEmpty.bits rfcCrc8 rfcCrc16 = some sb ∧
    Repo.parseStream (packBytes sb) = .ok (Repo.PStream.ofStream exEmpty) :=
  ⟨_, rfl, (C15_stream exEmpty _ rfl exEmpty_ok).1⟩

set_option maxRecDepth 100000 in
example : ∃ sb, exNew.bits rfcCrc8 rfcCrc16 = some sb ∧
    Repo.parseStream (packBytes sb) = .ok (Repo.PStream.ofStream exNew) :=
  ⟨_, rfl, (C15_stream exNew _ rfl exNew_ok).1⟩

set_option maxRecDepth 100000 in
example : Repo.streamInfo exEmpty.info.bits = .ok (exEmpty.info, []) ∧
    Repo.streamInfo exNew.info.bits = .ok (exNew.info, []) := by decide +kernel

end FlacVerif
