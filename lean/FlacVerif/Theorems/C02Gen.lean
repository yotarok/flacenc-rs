/-
C02 / C16 — the CRC algorithms the code names are the ones RFC 9639 prescribes.

`Gen/Tables.lean` is regenerated on every run from `bitrepr.rs` (which catalog entries `HEADER_CRC`
and `FRAME_CRC` are built from) and from the `crc-catalog` crate in the cargo registry (their
parameters). The strict decoder `Model/Rfc.lean` and all CRC theorems use `rfcCrc8` / `rfcCrc16`,
written by hand from the RFC. This file states that the two coincide, so that a changed polynomial,
initial value, reflection flag or final xor in the code breaks a proof obligation; likewise the fixed-predictor
coefficient table of `decode.rs` (`C02_fixed_coefs_are_rfc`).
-/
import FlacVerif.Gen.Tables
import FlacVerif.Model.Codes
namespace FlacVerif

theorem C02_crc8_is_rfc :
    Gen.Tables.crc8 = (rfcCrc8.width, rfcCrc8.poly, rfcCrc8.init, false, false, 0) := by decide

theorem C02_crc16_is_rfc :
    Gen.Tables.crc16 = (rfcCrc16.width, rfcCrc16.poly, rfcCrc16.init, false, false, 0) := by decide

/-- The fixed-predictor coefficient table of `decode.rs` is the RFC's (section 9.2.5), zero padded. -/
theorem C02_fixed_coefs_are_rfc :
    Gen.Tables.fixedLpcCoefs = [[0, 0, 0, 0], [1, 0, 0, 0], [2, -1, 0, 0], [3, -3, 1, 0], [4, -6, 4, -1]] := by decide

end FlacVerif
