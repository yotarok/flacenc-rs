/-
C12 — a failing user sink: `write` returns the sink's error after the sink has accepted a prefix of
the correct bitstream (that it returns the error and stops is the definition of `writeFailing`, Model/Ops.lean, proved of the
generated trait methods in `C12G_writeFailing`; proved here: what was accepted is a prefix of the right bit string);
and C08 (second half) — the reported bit count equals the number of bits
actually written through either in-memory sink.

`X.ops` (`Model/Ops.lean`) is the sequence of `BitSink` calls `X::write` issues; `X.bits`
(`Model/Component.lean`) is the bit string it has to produce; `idealRun len ops` is what an ideal
MSB-first bit string of current length `len` receives from `ops`. The lemmas on how operation lists compose
(`Aligned`) and the per-component ones live in `FlacVerif/Lemmas/Ops.lean`.
-/
import FlacVerif.Lemmas.Ops
import FlacVerif.Lemmas.Bytes
import FlacVerif.Lemmas.ListFacts
import FlacVerif.Theorems.C11
import FlacVerif.Theorems.C08
namespace FlacVerif
open FlacVerif.C11 FlacVerif.OpsL

/-! ### the operations issued by `write` produce the component's bit string -/

/-- `Residual::write`, from any bit position. -/
theorem C12_residual_ops (r : Residual) (h : r.WF) (len : Nat) : idealRun len r.ops = r.bits :=
  (residual_writes r h).idealRun len

/-- `SubFrame::write`, from any bit position. -/
theorem C12_subframe_ops (s : SubFrame) (h : s.WF) (len : Nat) : idealRun len s.ops = s.bits :=
  subframe_ops' s (VerifyL.wf'_of_wf s h) len

/-- `FrameHeader::write` from a byte-aligned position. The header body is a whole number of bytes
(`Layout.header_bits_some`), and no condition on the CRC register is needed: the `u8` operand of the final
`write` is the low 8 bits of the register, exactly as in `FrameHeader.bits`. -/
theorem C12_header_ops (p8 : CrcParams) (h : FrameHeader) (len : Nat) (hl : len % 8 = 0) (ops : List Op)
    (ho : h.ops p8 = some ops) : ∃ b, h.bits p8 = some b ∧ idealRun len ops = b := by
  obtain ⟨b, hb, ha⟩ := header_aligned p8 h ops ho
  exact ⟨b, hb, ha.2 len hl⟩

/-- `Frame::write` (no precomputed bitstream) from a byte-aligned position. -/
theorem C12_frame_ops (p8 p16 : CrcParams) (f : Frame) (len : Nat) (hl : len % 8 = 0) (ops : List Op)
    (ho : Frame.ops p8 p16 f = some ops) : ∃ b, f.bits p8 p16 = some b ∧ idealRun len ops = b := by
  obtain ⟨b, hb, ha⟩ := frame_aligned p8 p16 f ops ho
  exact ⟨b, hb, ha.2 len hl⟩

/-- `Frame::write` with a precomputed bitstream. -/
theorem C12_frame_ops_precomputed (p8 p16 : CrcParams) (f : Frame) (len : Nat) (hl : len % 8 = 0)
    (ops : List Op) (ho : Frame.opsPrecomputed p8 p16 f = some ops) :
    ∃ b, f.bits p8 p16 = some b ∧ idealRun len ops = b := by
  obtain ⟨b, hb, ha⟩ := frame_precomputed_aligned p8 p16 f ops ho
  exact ⟨b, hb, ha.2 len hl⟩

/-- `StreamInfo::write` from a byte-aligned position. No fitting hypothesis on the fields is needed:
every narrowing cast in front of a sink call keeps at least the bits the field is written with. -/
theorem C12_streaminfo_ops (s : StreamInfo) (len : Nat) (hl : len % 8 = 0) : idealRun len s.ops = s.bits :=
  (streaminfo_aligned s).2 len hl

/-- `Stream::write` into a fresh sink. -/
theorem C12_stream_ops (p8 p16 : CrcParams) (s : Stream) (ops : List Op) (ho : Stream.ops p8 p16 s = some ops) :
    ∃ b, s.bits p8 p16 = some b ∧ idealRun 0 ops = b := by
  obtain ⟨b, hb, ha⟩ := stream_aligned p8 p16 s ops ho
  exact ⟨b, hb, ha.2 0 rfl⟩

/-- Under the format's bounds on the fields every narrowing cast of `StreamInfo::write` keeps its field: the sink
receives the fields themselves, each within its written width. -/
theorem C12_streaminfo_lossless (s : StreamInfo)
    (hfit : s.minBlock < 2 ^ 16 ∧ s.maxBlock < 2 ^ 16 ∧ s.maxFrame < 2 ^ 24 ∧ s.rate < 2 ^ 20 ∧
      1 ≤ s.channels ∧ s.channels ≤ 8 ∧ 1 ≤ s.bps ∧ s.bps ≤ 32 ∧ s.total < 2 ^ 36) :
    ∃ mn mx, (mn, mx) = (if s.minFrame > s.maxFrame then (0, 0) else (s.minFrame, s.maxFrame)) ∧
      mn < 2 ^ 24 ∧ mx < 2 ^ 24 ∧ s.channels - 1 < 2 ^ 3 ∧ s.bps - 1 < 2 ^ 5 ∧
      s.ops = [ .write 16 s.minBlock, .write 16 s.maxBlock, .writeLsbs 32 mn 24, .writeLsbs 32 mx 24,
        .writeLsbs 32 s.rate 20, .writeLsbs 8 (s.channels - 1) 3, .writeLsbs 8 (s.bps - 1) 5,
        .writeLsbs 64 s.total 36, .writeBytesAligned s.md5 ] := by
  obtain ⟨h1, h2, h3, h4, h5, h6, h7, h8, h9⟩ := hfit
  -- the narrowing casts in front of the sink calls, field by field
  have e1 : s.minBlock % 2 ^ 16 = s.minBlock := Nat.mod_eq_of_lt h1
  have e2 : s.maxBlock % 2 ^ 16 = s.maxBlock := Nat.mod_eq_of_lt h2
  have e3 : s.rate % 2 ^ 32 = s.rate := Nat.mod_eq_of_lt (Nat.lt_trans h4 (by decide))
  have e4 : (s.channels - 1) % 256 = s.channels - 1 := Nat.mod_eq_of_lt (by omega)
  have e5 : (s.bps - 1) % 256 = s.bps - 1 := Nat.mod_eq_of_lt (by omega)
  have e6 : s.total % 2 ^ 64 = s.total := Nat.mod_eq_of_lt (Nat.lt_trans h9 (by decide))
  unfold StreamInfo.ops
  rw [e1, e2, e3, e4, e5, e6]
  by_cases hc : s.minFrame > s.maxFrame
  · exact ⟨0, 0, by rw [if_pos hc], by decide, by decide, by omega, by omega, by rw [if_pos hc]⟩
  · have hmn : s.minFrame < 2 ^ 24 := Nat.lt_of_le_of_lt (Nat.le_of_not_lt hc) h3
    refine ⟨s.minFrame, s.maxFrame, by rw [if_neg hc], hmn, h3, by omega, by omega, ?_⟩
    rw [if_neg hc]
    show [_, _, Op.writeLsbs 32 (s.minFrame % 2 ^ 32) 24, Op.writeLsbs 32 (s.maxFrame % 2 ^ 32) 24, _, _, _, _, _] = _
    rw [Nat.mod_eq_of_lt (Nat.lt_trans hmn (by decide)), Nat.mod_eq_of_lt (Nat.lt_trans h3 (by decide))]

/-- The slice indexings of `Residual::write` (`rice_params()[p]`, `quotients()[t]`,
`remainders()[t]`, `t < (p+1) * part_len`) are in bounds for a well-formed residual: the `getD`
defaults of `Residual.ops` are never used, i.e. no index panic is hidden by the model. -/
theorem C12_residual_in_bounds (r : Residual) (h : r.WF) (k : Nat) (hk : k < r.nparts) :
    k < r.params.length ∧ (k + 1) * r.partLen ≤ r.quotients.length ∧ (k + 1) * r.partLen ≤ r.remainders.length := by
  obtain ⟨_, hpl, hdvd, _, _, hq, hr, _⟩ := h
  have hb : (k + 1) * r.partLen ≤ r.blockSize := by
    have h1 := Layout.nparts_mul_partLen r hdvd
    have h2 : (k + 1) * r.partLen ≤ 2 ^ r.order * r.partLen := Nat.mul_le_mul_right _ hk
    omega
  exact ⟨by rw [hpl]; exact hk, by rw [hq]; exact hb, by rw [hr]; exact hb⟩

/-! ### every issued operation is within the sinks' contract (`Op.Valid`), so C11 applies -/

theorem C12_ops_valid_residual (r : Residual) (h : r.WF) : ∀ op ∈ r.ops, op.Valid := (residual_writes r h).valid

theorem C12_ops_valid_subframe (s : SubFrame) (h : s.WF) : ∀ op ∈ s.ops, op.Valid := subframe_valid' s (VerifyL.wf'_of_wf s h)

/-- The CRC-8 register has to fit its `u8` operand. -/
theorem C12_ops_valid_header (p8 : CrcParams) (h8 : p8.width = 8 ∧ p8.poly < 2 ^ 8 ∧ p8.init < 2 ^ 8)
    (h : FrameHeader) (ops : List Op) (ho : h.ops p8 = some ops) : ∀ op ∈ ops, op.Valid := by
  obtain ⟨body, hb, ho⟩ := Option.bind_eq_some_iff.mp ho
  cases ho
  exact bytes_then_crc_valid p8 8 rfl h8 body

/-- The CRC-16 register has to fit its `u16` operand. -/
theorem C12_ops_valid_frame (p8 p16 : CrcParams) (h16 : p16.width = 16 ∧ p16.poly < 2 ^ 16 ∧ p16.init < 2 ^ 16)
    (f : Frame) (ops : List Op) (ho : Frame.ops p8 p16 f = some ops) : ∀ op ∈ ops, op.Valid := by
  obtain ⟨hb, hh, ho⟩ := Option.bind_eq_some_iff.mp ho
  cases ho
  exact bytes_then_crc_valid p16 16 rfl h16 _

theorem C12_ops_valid_frame_precomputed (p8 p16 : CrcParams) (f : Frame) (ops : List Op)
    (ho : Frame.opsPrecomputed p8 p16 f = some ops) : ∀ op ∈ ops, op.Valid := by
  obtain ⟨b, hb, ho⟩ := Option.bind_eq_some_iff.mp ho
  cases ho
  intro op hop
  simp only [List.mem_cons, List.not_mem_nil, or_false] at hop
  subst hop
  exact packBytes_lt _

/-- The MD5 and the metadata payloads have to be bytes. -/
theorem C12_ops_valid_stream (p8 p16 : CrcParams) (h16 : p16.width = 16 ∧ p16.poly < 2 ^ 16 ∧ p16.init < 2 ^ 16)
    (s : Stream) (hmd5 : ∀ b ∈ s.info.md5, b < 256) (hmeta : ∀ m ∈ s.metadata, ∀ b ∈ m.data, b < 256)
    (ops : List Op) (ho : Stream.ops p8 p16 s = some ops) : ∀ op ∈ ops, op.Valid := by
  obtain ⟨fops, hf, ho⟩ := Option.bind_eq_some_iff.mp ho
  cases ho
  -- the marker, then the parts of the list in the order `Stream.ops` appends them
  refine List.forall_mem_append.mpr ⟨List.forall_mem_append.mpr ⟨List.forall_mem_append.mpr
    ⟨List.forall_mem_cons.mpr ⟨by decide, (blockHeader_writes _ _ _).valid⟩, streaminfo_valid _ hmd5⟩,
    List.forall_mem_flatMap.mpr fun i _ => List.forall_mem_append.mpr
      ⟨(blockHeader_writes _ _ _).valid, List.forall_mem_singleton.mpr
        (getD_of_forall (fun m : UnknownBlock => ∀ b ∈ m.data, b < 256) _ i _ hmeta nofun)⟩⟩,
    List.forall_mem_flatten.mpr fun o ho => ?_⟩
  obtain ⟨f, _, hfo⟩ := mapM_mem _ _ _ hf o ho
  exact C12_ops_valid_frame p8 p16 h16 f o hfo

/-- The FLAC CRC parameters meet the side conditions above. -/
theorem C12_rfc_crc_fit :
    (rfcCrc8.width = 8 ∧ rfcCrc8.poly < 2 ^ 8 ∧ rfcCrc8.init < 2 ^ 8) ∧
    (rfcCrc16.width = 16 ∧ rfcCrc16.poly < 2 ^ 16 ∧ rfcCrc16.init < 2 ^ 16) := by decide

/-- What `C12_*_ops` says of "the" bit string, said of the one the caller holds. -/
theorem ops_of_bits {x : Option Bits} {b : Bits} {P : Bits → Prop} (h : ∃ b', x = some b' ∧ P b') (hb : x = some b) : P b := by
  obtain ⟨b', hb', hp⟩ := h
  rw [hb] at hb'
  cases hb'
  exact hp

/-- A sink implementing only the required trait methods that fails on its `k`-th call (0-based),
for every `k`: `write` returns the sink error, the sink has accepted exactly `k` calls, and what it
received is a prefix of the correct bit string. If `k` is beyond the last call, `write` succeeds. -/
theorem C12_failing_sink (ops : List Op) (hv : ∀ op ∈ ops, op.Valid) (bits : Bits) (hb : idealRun 0 ops = bits)
    (k : Nat) :
    (k < (ops.flatMap Op.expand).length →
      ∃ acc, writeFailing ops k = .sinkError acc ∧ acc.length = k ∧ idealRun 0 acc <+: bits) ∧
    ((ops.flatMap Op.expand).length ≤ k → writeFailing ops k = .done) := by
  constructor
  · intro hk
    refine ⟨(ops.flatMap Op.expand).take k, by unfold writeFailing; exact if_pos hk, ?_, ?_⟩
    · rw [List.length_take]; omega
    · rw [← hb, ← C11_defaults 0 ops hv]
      exact idealRun_take_prefix 0 _ k
  · intro hk
    unfold writeFailing; exact if_neg (by omega)

theorem C12_subframe (s : SubFrame) (h : s.WF) (k : Nat) :
    (k < (s.ops.flatMap Op.expand).length →
      ∃ acc, writeFailing s.ops k = .sinkError acc ∧ acc.length = k ∧ idealRun 0 acc <+: s.bits) ∧
    ((s.ops.flatMap Op.expand).length ≤ k → writeFailing s.ops k = .done) :=
  C12_failing_sink s.ops (C12_ops_valid_subframe s h) s.bits (C12_subframe_ops s h 0) k

theorem C12_frame (p8 p16 : CrcParams) (h16 : p16.width = 16 ∧ p16.poly < 2 ^ 16 ∧ p16.init < 2 ^ 16)
    (f : Frame) (ops : List Op) (ho : Frame.ops p8 p16 f = some ops) (b : Bits) (hb : f.bits p8 p16 = some b)
    (k : Nat) :
    (k < (ops.flatMap Op.expand).length →
      ∃ acc, writeFailing ops k = .sinkError acc ∧ acc.length = k ∧ idealRun 0 acc <+: b) ∧
    ((ops.flatMap Op.expand).length ≤ k → writeFailing ops k = .done) := by
  exact C12_failing_sink ops (C12_ops_valid_frame p8 p16 h16 f ops ho) b (ops_of_bits (C12_frame_ops p8 p16 f 0 rfl ops ho) hb) k

/-- Instance for a whole stream: whenever the user's sink fails, `Stream::write` returns that error
and the sink holds a prefix of the correct FLAC stream. -/
theorem C12_stream (p8 p16 : CrcParams) (h16 : p16.width = 16 ∧ p16.poly < 2 ^ 16 ∧ p16.init < 2 ^ 16)
    (s : Stream) (hmd5 : ∀ b ∈ s.info.md5, b < 256) (hmeta : ∀ m ∈ s.metadata, ∀ b ∈ m.data, b < 256)
    (ops : List Op) (ho : Stream.ops p8 p16 s = some ops) (b : Bits) (hb : s.bits p8 p16 = some b) (k : Nat) :
    (k < (ops.flatMap Op.expand).length →
      ∃ acc, writeFailing ops k = .sinkError acc ∧ acc.length = k ∧ idealRun 0 acc <+: b) ∧
    ((ops.flatMap Op.expand).length ≤ k → writeFailing ops k = .done) := by
  exact C12_failing_sink ops (C12_ops_valid_stream p8 p16 h16 s hmd5 hmeta ops ho) b (ops_of_bits (C12_stream_ops p8 p16 s ops ho) hb) k

/-! ### C08, second half: the reported count is what either in-memory sink holds -/

theorem through_sinks (ops : List Op) (hv : ∀ op ∈ ops, op.Valid) (b : Bits) (hb : idealRun 0 ops = b) (c : Option Nat)
    (hc : c = some b.length) :
    (∃ w, WordSink.empty.run ops = some w ∧ w.abs = b ∧ some w.len = c) ∧
    (∃ y, ByteSink.empty.run ops = some y ∧ y.abs = b ∧ some y.len = c) := by
  obtain ⟨w, hw, _, hwa, hwl⟩ := C11_word_run ops hv
  obtain ⟨y, hy, _, hya, hyl⟩ := C11_byte_run ops hv
  exact ⟨⟨w, hw, by rw [hwa, hb], by rw [hwl, hb, hc]⟩, ⟨y, hy, by rw [hya, hb], by rw [hyl, hb, hc]⟩⟩

theorem C08_through_sinks_residual (r : Residual) (h : r.WF) :
    (∃ w, WordSink.empty.run r.ops = some w ∧ w.abs = r.bits ∧ some w.len = r.count) ∧
    (∃ y, ByteSink.empty.run r.ops = some y ∧ y.abs = r.bits ∧ some y.len = r.count) :=
  through_sinks r.ops (C12_ops_valid_residual r h) r.bits (C12_residual_ops r h 0) r.count (C08_residual r h)

theorem C08_through_sinks_subframe (s : SubFrame) (h : s.WF) :
    (∃ w, WordSink.empty.run s.ops = some w ∧ w.abs = s.bits ∧ some w.len = s.count) ∧
    (∃ y, ByteSink.empty.run s.ops = some y ∧ y.abs = s.bits ∧ some y.len = s.count) :=
  through_sinks s.ops (C12_ops_valid_subframe s h) s.bits (C12_subframe_ops s h 0) s.count (C08_subframe s h)

/-- Frames: under the premises of `C08_frame`, `write` issues operations (no `RangeError` in the model; see the header of
Theorems/C08.lean for 9 to 16 independent channels), neither sink panics, both hold `Frame.bits`, and their length is the
reported count. -/
theorem C08_through_sinks_frame (p8 p16 : CrcParams)
    (h16 : p16.width = 16 ∧ p16.poly < 2 ^ 16 ∧ p16.init < 2 ^ 16) (f : Frame)
    (hn : f.header.number < 2 ^ 36) (ht : f.header.assignment.tag ≤ 15) (hs : ∀ s ∈ f.subframes, s.WF) :
    ∃ ops b, Frame.ops p8 p16 f = some ops ∧ f.bits p8 p16 = some b ∧
      (∃ w, WordSink.empty.run ops = some w ∧ w.abs = b ∧ some w.len = f.count) ∧
      (∃ y, ByteSink.empty.run ops = some y ∧ y.abs = b ∧ some y.len = f.count) := by
  obtain ⟨b, hb, hc, _⟩ := C08_frame p8 p16 f hn ht hs
  obtain ⟨ops, ho⟩ := frame_ops_of_bits p8 p16 f b hb
  exact ⟨ops, b, ho, hb, through_sinks ops (C12_ops_valid_frame p8 p16 h16 f ops ho) b
    (ops_of_bits (C12_frame_ops p8 p16 f 0 rfl ops ho) hb) f.count hc⟩

/-- Streams: under the premises of `C08_stream` (plus byte-valued MD5 / metadata payloads). -/
theorem C08_through_sinks_stream (p8 p16 : CrcParams)
    (h16 : p16.width = 16 ∧ p16.poly < 2 ^ 16 ∧ p16.init < 2 ^ 16) (s : Stream)
    (hm : s.info.md5.length = 16) (hmd5 : ∀ b ∈ s.info.md5, b < 256)
    (hmeta : ∀ m ∈ s.metadata, ∀ b ∈ m.data, b < 256)
    (hf : ∀ f ∈ s.frames, f.header.number < 2 ^ 36 ∧ f.header.assignment.tag ≤ 15 ∧ ∀ sf ∈ f.subframes, sf.WF) :
    ∃ ops b, Stream.ops p8 p16 s = some ops ∧ s.bits p8 p16 = some b ∧
      (∃ w, WordSink.empty.run ops = some w ∧ w.abs = b ∧ some w.len = s.count) ∧
      (∃ y, ByteSink.empty.run ops = some y ∧ y.abs = b ∧ some y.len = s.count) := by
  obtain ⟨b, hb, hc⟩ := C08_stream p8 p16 s hm hf
  obtain ⟨ops, ho⟩ := stream_ops_of_bits p8 p16 s b hb
  exact ⟨ops, b, ho, hb, through_sinks ops (C12_ops_valid_stream p8 p16 h16 s hmd5 hmeta ops ho) b
    (ops_of_bits (C12_stream_ops p8 p16 s ops ho) hb) s.count hc⟩

/-! ### non-vacuity: the premises are satisfiable, and the conclusions hold by evaluation -/

/-- The order-1 residual of the C08 examples: well formed, 15 sink calls, all valid; from bit
offset 5 they write exactly `Residual.bits`. -/
example :
    let r : Residual := ⟨1, 8, 2, [2, 3], [0, 0, 1, 2, 0, 3, 1, 0], [0, 0, 3, 1, 2, 7, 0, 5]⟩
    r.WF ∧ r.ops.length = 15 ∧ idealRun 5 r.ops = r.bits ∧ (∀ op ∈ r.ops, op.Valid) := by decide +kernel

/-- A second-order LPC subframe over it, from bit offset 3. -/
example :
    let s : SubFrame := .lpc [5, -3] [7, -2] 3 4
      ⟨1, 8, 2, [2, 3], [0, 0, 1, 2, 0, 3, 1, 0], [0, 0, 3, 1, 2, 7, 0, 5]⟩ 16
    s.WF ∧ idealRun 3 s.ops = s.bits ∧ (∀ op ∈ s.ops, op.Valid) := by decide +kernel

/-- A sink failing on its second call while a constant subframe is written: the first call (the
header byte) was accepted and is a prefix; a sink failing on a third call is never asked. -/
example :
    let s : SubFrame := .constant 8 (-5) 17
    s.WF ∧ (s.ops.flatMap Op.expand).length = 2 ∧
    writeFailing s.ops 1 = .sinkError [.write 8 0] ∧ writeFailing s.ops 2 = .done ∧
    idealRun 0 [.write 8 0] <+: s.bits := by decide

/-- A stereo frame and a stream (STREAMINFO, one further metadata block, that frame) meeting every
premise of `C12_frame`, `C12_stream`, `C08_through_sinks_frame` and `C08_through_sinks_stream`. -/
example :
    let f : Frame :=
      { header := ⟨false, .extraByte 7, .leftSide, 4, .fixed 9, 300, 0⟩,
        subframes := [.lpc [5, -3] [7, -2] 3 4
            ⟨1, 8, 2, [2, 3], [0, 0, 1, 2, 0, 3, 1, 0], [0, 0, 3, 1, 2, 7, 0, 5]⟩ 16,
          .constant 8 (-5) 17] }
    let s : Stream := ⟨(StreamInfo.empty 44100 2 16).addFrame 8 26, [⟨4, [1, 2, 3]⟩], [f]⟩
    (Frame.ops rfcCrc8 rfcCrc16 f).isSome = true ∧ (f.bits rfcCrc8 rfcCrc16).isSome = true ∧
    (Frame.opsPrecomputed rfcCrc8 rfcCrc16 f).isSome = true ∧
    (Stream.ops rfcCrc8 rfcCrc16 s).isSome = true ∧ (s.bits rfcCrc8 rfcCrc16).isSome = true ∧
    s.info.md5.length = 16 ∧ (∀ b ∈ s.info.md5, b < 256) ∧ (∀ m ∈ s.metadata, ∀ b ∈ m.data, b < 256) ∧
    (∀ f ∈ s.frames, f.header.number < 2 ^ 36 ∧ f.header.assignment.tag ≤ 15 ∧ ∀ sf ∈ f.subframes, sf.WF) := by
  decide

/-! ### necessity / model remarks, by evaluation -/

/-- `SubFrame.WF`'s `warm.length = coefs.length` is needed by `C12_subframe_ops`: `Lpc::write` emits
`order` warm-up samples (`warm_up()[i]`, `i < order`) while `SubFrame.bits` lists all of `warm`. -/
example :
    let s : SubFrame := .lpc [1, 2, 3] [1] 0 2 ⟨0, 4, 1, [0], [0, 0, 0, 0], [0, 0, 0, 0]⟩ 8
    (idealRun 0 s.ops).length = 40 ∧ s.bits.length = 56 ∧ idealRun 0 s.ops ≠ s.bits := by decide

/-- The metadata block header wraps its type byte: tag 200 on a last block is sent as 72 (`u8`
addition `typetag + 0x80`; a dev-profile build panics there instead). Outside `tag ≤ 126`. -/
example : blockHeaderOps true 200 0 = [.write 8 72, .writeLsbs 32 0 24] := by decide

end FlacVerif
