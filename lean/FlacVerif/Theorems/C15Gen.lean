/-
C15 (generated decoder): the hand-written mirror of the crate's own decoder (`Model/RepoParser.lean`:
`decodeSignbitD`, `residualSignal`, `decodeLpc`, `decodeSubframe`, `decorrelate`, `interleave`, `decodeFrameMode`,
`decodeAll`) against the functions GENERATED from the current source text by `tools/translate.py`, part `decode`
(`tools/translate_decode.py` -> `Gen/Decode.lean`: `rice::decode_signbit` / `encode_signbit`, the trait `Decode` with its
default method, every `impl Decode for X`, `decode_lpc`).

The relation that is proved.  `toOpt : DResult α → Option α` forgets the panic SITE label (`ok v ↦ some v`,
`panic _ ↦ none`).  The decoder theorems are equations between `Gen f dbg args` and `toOpt (hand f dbg args)` (either
orientation) for BOTH profiles (`dbg = true`: dev, overflow checks; `dbg = false`: release, wrapping) and for ALL argument
values in the domains of the Rust types (explicit hypotheses, no sampling): the two sides return the same value, and one
panics iff the other does.
The hand model returns the decoded block; the Rust `copy_signal` fills a caller-supplied buffer, so the `copy_signal`
theorems say what happens to a buffer that is long enough (prefix = the hand model's block, rest untouched) and the
`decode` theorems (buffer = `vec![0; signal_len()]`, the only way `Frame::decode` uses the sub-frames) are plain equalities.

Hypotheses (all are facts about Rust values, except the one excluded point):
* `decode_signbit`: `v < 2^32` (`u32`).  `encode_signbit`: none.  `Residual`, `Constant`, `Verbatim`: none at all
  (quotients, remainders, Rice parameters, partition order, lengths are arbitrary naturals).
* `FixedLpc`, `Lpc` (release profile only): `block_size + order <= 2^64`, so that the wrapped `t - 1 - tau` of an
  under-run history is out of bounds (true of every `Vec`); `Lpc`: the shift is an `i8`.
* `Frame`: `(block_size + 1) * channels <= 2^64` (a buffer of `block_size * channels` samples exists), and the
  block-size function of part `headers` is used in its dev-profile reading in both profiles (`hdrVal`: `none` where
  `block_size_exact` fails; the hand model's `headerBlockSize` does the same, so no hypothesis is needed for it).

One disagreement between hand model and source: `C15G_lpc_decode_discrepancy`; `SubDom` excludes exactly that point.

Observation (no disagreement): `Frame::signal_len` multiplies `block_size * subframe_count` (dev: overflow panic),
which the hand model does not mirror — excluded by the `Frame` hypothesis above.

The loops.  The hand mirror is a structural recursion that walks lists and can stop with a panic at every step; the generated
loops index a buffer.  So the loop lemmas here are simulations proved by induction over `loopM_nil` / `loopM_cons`, with the
buffer split at the loop index, and not invariants of a loop that does not fail, which is what the rules of `Lemmas/Loop.lean`
are for.
-/
import FlacVerif.Lemmas.GenPrelude
import FlacVerif.Lemmas.DResult
import FlacVerif.Theorems.GenBlockSize
namespace FlacVerif.C15Gen
open FlacVerif.Gen.Decode

def toOpt {α : Type} : Repo.DResult α → Option α
  | .ok v => some v
  | .panic _ => none

@[simp] theorem toOpt_ok {α : Type} (v : α) : toOpt (Repo.DResult.ok v) = some v := rfl
@[simp] theorem toOpt_panic {α : Type} (s : String) : toOpt (Repo.DResult.panic s : Repo.DResult α) = none := rfl

theorem toOpt_bind {α β : Type} (x : Repo.DResult α) (f : α → Repo.DResult β) :
    toOpt (x >>= f) = (toOpt x).bind fun v => toOpt (f v) := by
  cases x <;> rfl

/-- The hand model's profile-dependent checks all have this shape; so do `arithS`, `addU`, `shAmt` of the generated
prelude. -/
theorem toOpt_checked {α : Type} (c : Prop) [Decidable c] (dbg : Bool) (s : String) (x y : α) :
    toOpt (if c then Repo.DResult.ok x else if dbg = true then .panic s else .ok y) =
      if c then some x else if dbg = true then none else some y := by
  split
  · rfl
  · split <;> rfl

theorem toOpt_shAmt (dbg : Bool) (w p : Nat) (s : String) :
    toOpt (if p < w then Repo.DResult.ok p else if dbg = true then .panic s else .ok (p % w)) = shAmt dbg w p :=
  toOpt_checked _ _ _ _ _

theorem toOpt_addU (dbg : Bool) (w a b : Nat) (s : String) :
    toOpt (if a + b < 2 ^ w then Repo.DResult.ok (a + b) else if dbg = true then .panic s else .ok ((a + b) % 2 ^ w)) =
      addU dbg w a b :=
  toOpt_checked _ _ _ _ _

theorem toOpt_idx {α : Type} (site : String) (xs : List α) (i : Nat) : toOpt (Repo.idx site xs i) = xs[i]? := by
  unfold Repo.idx
  cases xs[i]? <;> rfl

theorem wrapS_eq_asSigned (w : Nat) (v : Int) : wrapS w v = Repo.asSigned w v := rfl

theorem toOpt_i32op (dbg : Bool) (site : String) (v : Int) : toOpt (Repo.i32op dbg site v) = arithS dbg 32 v := by
  unfold Repo.i32op Repo.inI32 arithS
  simp only [Bool.and_eq_true, decide_eq_true_eq]
  exact toOpt_checked _ _ _ _ _

theorem C15G_decode_signbit (dbg : Bool) (v : Nat) (hv : v < 2 ^ 32) :
    toOpt (Repo.decodeSignbitD dbg v) = decode_signbit dbg v := by
  have hadd : addU dbg 32 (shrU v 1) 1 = some (v / 2 + 1) := by
    rw [shrU, Nat.pow_one, addU_ok _ _ _ _ (by omega)]
  unfold decode_signbit Repo.decodeSignbitD
  simp only [decide_eq_true_eq]
  split
  · rw [hadd, Option.bind_some, Option.bind_fun_some]
    exact toOpt_i32op dbg _ _
  · rw [shrU, Nat.pow_one]
    rfl

/-- Dev profile only: the hand model's `encodeSignbit` has no profile argument and is the dev reading (at `i32::MIN` it is
`none` where the release profile wraps). -/
theorem C15G_encode_signbit (v : Int) : encodeSignbit v = encode_signbit true v := by
  unfold encodeSignbit encode_signbit subU shlU u32
  simp only [Option.bind_fun_some, Nat.pow_one, decide_eq_true_eq]
  rw [Nat.mul_comm]
  rfl

/-- `mapM` in `Option`, without the monad classes. -/
def mapO {α β : Type} (g : α → Option β) : List α → Option (List β)
  | [] => some []
  | x :: xs => (g x).bind fun y => (mapO g xs).bind fun ys => some (y :: ys)

theorem mapO_length {α β : Type} (g : α → Option β) : ∀ (l : List α) (ys : List β), mapO g l = some ys → ys.length = l.length
  | [], ys, h => by cases h; rfl
  | x :: xs, ys, h => by
    rw [mapO] at h
    obtain ⟨y, _, h⟩ := Option.bind_eq_some_iff.1 h
    obtain ⟨zs, hz, h⟩ := Option.bind_eq_some_iff.1 h
    cases h
    rw [List.length_cons, List.length_cons, mapO_length g xs zs hz]

theorem mapO_congr {α β : Type} (g g' : α → Option β) : ∀ (l : List α), (∀ x ∈ l, g x = g' x) → mapO g l = mapO g' l
  | [], _ => rfl
  | x :: xs, h => by
    rw [mapO, mapO, h x (by simp), mapO_congr g g' xs (fun y hy => h y (by simp [hy]))]

/-- A loop that stores `g t` at index `t`, for the `n` indices that follow the written part `p`. -/
theorem loopM_fill {α : Type} (g : Nat → Option α) (f : Nat → List α → Option (List α))
    (hf : ∀ t d, f t d = (g t).bind fun x => setAt d t x) : ∀ (n : Nat) (p c : List α), n ≤ c.length →
    loopM (List.range' p.length n) (p ++ c) f = (mapO g (List.range' p.length n)).bind fun xs => some (p ++ xs ++ c.drop n)
  | 0, p, c, _ => by simp [loopM_nil, mapO]
  | n + 1, p, [], h => by cases h
  | n + 1, p, e :: es, h => by
    rw [List.range'_succ, loopM_cons, mapO, hf]
    cases g p.length with
    | none => rfl
    | some y =>
      have ih := loopM_fill g f hf n (p ++ [y]) es (Nat.le_of_succ_le_succ h)
      rw [List.length_append, List.length_singleton, List.append_assoc, List.singleton_append] at ih
      rw [Option.bind_some, setAt_append, Option.bind_some, Option.bind_some, ih]
      cases mapO g (List.range' (p.length + 1) n) with
      | none => rfl
      | some ys => simp

/-- The warm-up loop of `decode_lpc`: `dest[t] = *x` for `(t, x)` in `warm_up.iter().enumerate()`.  `decode_lpc_eq` depends on
this shape: an equivalent `for t in 0..warm_up.len()` needs its own loop lemma. -/
theorem loopM_warm {α : Type} : ∀ (xs p c : List α),
    loopM (enumFrom p.length xs) (p ++ c) (fun (q : Nat × α) d => setAt d q.1 q.2) =
      if xs.length ≤ c.length then some (p ++ xs ++ c.drop xs.length) else none
  | [], p, c => by simp [enumFrom_nil, loopM_nil]
  | x :: xs, p, [] => by
    rw [enumFrom_cons, loopM_cons, List.append_nil, setAt_none _ _ _ (Nat.lt_irrefl _)]
    rfl
  | x :: xs, p, e :: es => by
    have ih := loopM_warm xs (p ++ [x]) es
    rw [List.length_append, List.length_singleton, List.append_assoc, List.singleton_append] at ih
    rw [enumFrom_cons, loopM_cons, setAt_append, Option.bind_some, ih]
    simp

/-- One sample of `Residual::copy_signal`, as the generated loop body computes it. -/
def resElem (dbg : Bool) (params quot rem : List Nat) (pl t : Nat) : Option Int :=
  (quot[t]?).bind fun q => (divU t pl).bind fun d => (params[d]?).bind fun p => (shAmt dbg 32 p).bind fun k =>
  (rem[t]?).bind fun rm => (addU dbg 32 (shlU 32 q k) rm).bind fun v => decode_signbit dbg v

theorem residualSignalLoop_eq (dbg : Bool) (params quot rem : List Nat) (pl : Nat) (hpl : 0 < pl) :
    ∀ (n t : Nat), toOpt (Repo.residualSignalLoop dbg params pl (quot.drop t) (rem.drop t) n t) =
      mapO (resElem dbg params quot rem pl) (List.range' t n)
  | 0, t => by simp only [Repo.residualSignalLoop]; rfl
  | n + 1, t => by
    have hdiv := divU_ok t pl (Nat.ne_of_gt hpl)
    -- the hand model walks the vectors, the generated loop indexes them
    rw [List.range'_succ, mapO, ← residualSignalLoop_eq dbg params quot rem pl hpl n (t + 1), resElem, hdiv,
      ← List.head?_drop (l := quot), ← List.head?_drop (l := rem)]
    simp only [Repo.residualSignalLoop, toOpt_bind, toOpt_idx, toOpt_addU, List.tail_drop, Repo.DResult.pure_eq,
      toOpt_ok, Option.bind_some, shlU]
    -- in a second pass: its left side also matches the overflow check of the addition
    simp only [toOpt_shAmt]
    cases List.drop t quot with
    | nil => rfl
    | cons q _ =>
      simp only [toOpt_ok, List.head?_cons, Option.bind_some]
      cases params[t / pl]? with
      | none => rfl
      | some p =>
        simp only [Option.bind_some]
        cases hk : shAmt dbg 32 p with
        | none => cases List.drop t rem <;> rfl
        | some k =>
          cases List.drop t rem with
          | nil => rfl
          | cons r _ =>
            simp only [toOpt_ok, List.head?_cons, Option.bind_some]
            cases hv : addU dbg 32 (q * 2 ^ k % 2 ^ 32) r with
            | none => rfl
            | some v => rw [Option.bind_some, Option.bind_some, C15G_decode_signbit dbg v (addU_lt _ _ _ _ _ hv)]

theorem residualSignal_eq (dbg : Bool) (r : Residual) :
    toOpt (Repo.residualSignal dbg r) = (shAmt dbg 64 r.order).bind fun k =>
      if r.blockSize / 2 ^ k = 0 then none
      else mapO (resElem dbg r.params r.quotients r.remainders (r.blockSize / 2 ^ k)) (List.range' 0 r.blockSize) := by
  unfold Repo.residualSignal
  rw [toOpt_bind, toOpt_checked, shAmt]
  have hk : ∀ k, toOpt (if r.blockSize / 2 ^ k = 0 then .panic "Residual::copy_signal: assert!(part_len > 0)"
      else Repo.residualSignalLoop dbg r.params (r.blockSize / 2 ^ k) r.quotients r.remainders r.blockSize 0) =
      if r.blockSize / 2 ^ k = 0 then none
      else mapO (resElem dbg r.params r.quotients r.remainders (r.blockSize / 2 ^ k)) (List.range' 0 r.blockSize) := by
    intro k
    split
    · rfl
    · next hz => exact residualSignalLoop_eq dbg r.params r.quotients r.remainders _ (Nat.pos_of_ne_zero hz) _ 0
  split
  · exact hk _
  · split
    · rfl
    · exact hk _

theorem residualSignal_length (dbg : Bool) (r : Residual) (e : List Int)
    (h : toOpt (Repo.residualSignal dbg r) = some e) : e.length = r.blockSize := by
  rw [residualSignal_eq] at h
  cases hk : shAmt dbg 64 r.order with
  | none => rw [hk] at h; cases h
  | some k =>
    rw [hk, Option.bind_some] at h
    split at h
    · cases h
    · rw [mapO_length _ _ _ h, List.length_range']

/-- `Residual::copy_signal(dest)` for a buffer that is long enough: the first `block_size` entries become the hand
model's residual signal, the rest of the buffer is untouched; the panic outcomes coincide (in both profiles). -/
theorem C15G_residual_copy_signal (dbg : Bool) (r : Residual) (dest : List Int) (hd : r.blockSize ≤ dest.length) :
    Residual.copy_signal dbg r dest = (toOpt (Repo.residualSignal dbg r)).map (· ++ dest.drop r.blockSize) := by
  unfold Residual.copy_signal Residual.signal_len
  rw [req_ok _ (decide_eq_true hd), Option.bind_some, residualSignal_eq]
  cases shAmt dbg 64 r.order with
  | none => rfl
  | some k =>
    rw [Option.bind_some, Option.bind_some, shrU]
    dsimp only
    by_cases hz : r.blockSize / 2 ^ k = 0
    · rw [if_pos hz, req_false _ (by simp [hz])]; rfl
    · rw [if_neg hz, req_ok _ (decide_eq_true (Nat.pos_of_ne_zero hz)), Option.bind_some, rangeL_zero, Option.bind_fun_some]
      refine (loopM_fill (resElem dbg r.params r.quotients r.remainders (r.blockSize / 2 ^ k)) _ (fun t d => ?_)
        r.blockSize [] dest hd).trans ?_
      · simp only [resElem, Option.bind_assoc, Option.bind_fun_some]
      · cases mapO (resElem dbg r.params r.quotients r.remainders (r.blockSize / 2 ^ k)) (List.range' 0 r.blockSize) <;> rfl

/-- `dest` shorter than the block: the `assert!` fails. -/
theorem C15G_residual_copy_signal_short (dbg : Bool) (r : Residual) (dest : List Int) (hd : dest.length < r.blockSize) :
    Residual.copy_signal dbg r dest = none := by
  unfold Residual.copy_signal Residual.signal_len
  rw [req_false _ (by simp; omega)]; rfl

theorem C15G_residual_decode (dbg : Bool) (r : Residual) :
    Residual.decode dbg r = toOpt (Repo.residualSignal dbg r) := by
  unfold Residual.decode Residual.signal_len
  simp only [Option.bind_fun_some]
  rw [C15G_residual_copy_signal dbg r _ (by simp)]
  cases toOpt (Repo.residualSignal dbg r) <;> simp

theorem C15G_constant_copy_signal (dbg : Bool) (n : Nat) (dc : Int) (bps : Nat) (dest : List Int) :
    Constant.copy_signal dbg n dc bps dest =
      if n ≤ dest.length then some (List.replicate n dc ++ dest.drop n) else none := by
  unfold Constant.copy_signal Constant.signal_len
  by_cases h : n ≤ dest.length
  · rw [req_ok _ (decide_eq_true h), Option.bind_some, sliceFill_ok _ _ _ _ ⟨Nat.zero_le _, h⟩, Option.bind_some, if_pos h]
    simp
  · rw [req_false _ (decide_eq_false h), if_neg h]; rfl

theorem C15G_constant_decode (dbg : Bool) (n : Nat) (dc : Int) (bps : Nat) :
    Constant.decode dbg n dc bps = toOpt (Repo.decodeSubframe dbg (.constant n dc bps)) := by
  unfold Constant.decode Constant.signal_len Repo.decodeSubframe
  rw [Option.bind_fun_some, C15G_constant_copy_signal, if_pos (by simp)]
  simp

theorem C15G_verbatim_copy_signal (dbg : Bool) (xs : List Int) (bps : Nat) (dest : List Int) :
    Verbatim.copy_signal dbg xs bps dest =
      if xs.length ≤ dest.length then some (xs ++ dest.drop xs.length) else none := by
  unfold Verbatim.copy_signal Verbatim.signal_len
  by_cases h : xs.length ≤ dest.length
  · rw [req_ok _ (decide_eq_true h), Option.bind_some, sliceCopy_ok _ _ _ _ ⟨Nat.zero_le _, h, by simp⟩, Option.bind_some, if_pos h]
    simp
  · rw [req_false _ (decide_eq_false h), if_neg h]; rfl

theorem C15G_verbatim_decode (dbg : Bool) (xs : List Int) (bps : Nat) :
    Verbatim.decode dbg xs bps = toOpt (Repo.decodeSubframe dbg (.verbatim xs bps)) := by
  unfold Verbatim.decode Verbatim.signal_len Repo.decodeSubframe
  rw [Option.bind_fun_some, C15G_verbatim_copy_signal, if_pos (by simp)]
  simp

/-- One multiply-accumulate step of the hand model's prediction, as two checked `i64` operations. -/
theorem predict_cons (dbg : Bool) (w h : Int) (ws hs : List Int) (acc : Int) :
    toOpt (Repo.predict dbg (w :: ws) (h :: hs) acc) =
      (arithS dbg 64 (w * h)).bind fun p => (arithS dbg 64 (acc + p)).bind fun s => toOpt (Repo.predict dbg ws hs s) := by
  rw [Repo.predict]
  simp only [Bool.and_eq_true, decide_eq_true_eq]
  generalize w * h = prod
  cases dbg with
  | false =>
    rw [arithS_release 64 (by decide), Option.bind_some, arithS_release 64 (by decide), Option.bind_some, wrapS_add_wrapS 64 (by decide)]
    split
    · next h => rw [wrapS_of_inRange 64 (by decide) h.2]
    · rfl
  | true =>
    unfold arithS
    by_cases h1 : -(2 ^ 63 : Int) ≤ prod ∧ prod < (2 ^ 63 : Int)
    · rw [if_pos h1, Option.bind_some]
      by_cases h2 : -(2 ^ 63 : Int) ≤ acc + prod ∧ acc + prod < (2 ^ 63 : Int)
      · rw [if_pos h2, Option.bind_some, if_pos ⟨h1, h2⟩]
      · rw [if_neg h2, if_neg (fun h => h2 h.2)]; rfl
    · rw [if_neg h1, if_neg (fun h => h1 h.1)]; rfl

/-- `dest[t - 1 - tau]`: before the start of the buffer the dev profile panics at a subtraction, the release profile at the
wrapped index (`hb`: a `Vec` is shorter than `2^64 - tau`). -/
theorem hist_index (dbg : Bool) (d : List Int) (t j : Nat) (hb : dbg = true ∨ d.length + j < 2 ^ 64) :
    ((subU dbg 64 t 1).bind fun v1 => (subU dbg 64 v1 j).bind fun v2 => d[v2]?) =
      if j < t then d[t - 1 - j]? else none := by
  by_cases hj : j < t
  · rw [subU_ok _ _ _ _ (by omega), Option.bind_some, subU_ok _ _ _ _ (by omega), Option.bind_some, if_pos hj]
  · rw [if_neg hj]
    cases dbg with
    | true =>
      unfold subU
      by_cases h0 : 1 ≤ t
      · rw [if_pos h0, Option.bind_some, if_neg (by omega)]; rfl
      · rw [if_neg h0]; rfl
    | false =>
      have hb : d.length + j < 2 ^ 64 := by cases hb with | inl h => cases h | inr h => exact h
      by_cases h0 : 1 ≤ t
      · rw [subU_ok _ _ _ _ h0, Option.bind_some, subU_wrap _ _ _ (by omega) (by omega), Option.bind_some,
          List.getElem?_eq_none (by omega)]
      · rw [subU_wrap _ _ _ (by omega) (by decide), Option.bind_some, subU_ok _ _ _ _ (by omega), Option.bind_some,
          List.getElem?_eq_none (by omega)]

/-- One iteration of the prediction loop of `decode_lpc` (generated body), at time `t` on the buffer `d`. -/
def predStep (dbg : Bool) (d : List Int) (t : Nat) (p : Nat × Int) (pred : Int) : Option Int :=
  (subU dbg 64 t 1).bind fun v1 => (subU dbg 64 v1 p.1).bind fun v2 =>
  (d[v2]?).bind fun v3 => (arithS dbg 64 (p.2 * v3)).bind fun v4 => arithS dbg 64 (pred + v4)

/-- The prediction loop of `decode_lpc` at time `t = |hist|`, `dest = hist.reverse ++ rest`: the generated loop over
`coefs.iter().enumerate()` (from index `j`) against `Repo.predict` on the history from position `j`. -/
theorem predict_eq (dbg : Bool) (hist rest : List Int) :
    ∀ (cs : List Int) (j : Nat) (acc : Int), (dbg = true ∨ hist.length + rest.length + j + cs.length ≤ 2 ^ 64) →
    loopM (enumFrom j cs) acc (predStep dbg (hist.reverse ++ rest) hist.length) =
      toOpt (Repo.predict dbg cs (hist.drop j) acc)
  | [], j, acc, _ => by
    rw [enumFrom_nil, loopM_nil, Repo.predict]; rfl
  | w :: ws, j, acc, hb => by
    have hb' : dbg = true ∨ (hist.reverse ++ rest).length + j < 2 ^ 64 := by
      rw [List.length_append, List.length_reverse]
      rw [List.length_cons] at hb
      exact hb.imp_right fun h => by omega
    rw [enumFrom_cons, loopM_cons, predStep, ← Option.bind_assoc, ← Option.bind_assoc,
      Option.bind_assoc (subU dbg 64 hist.length 1), hist_index dbg _ _ j hb']
    by_cases hj : j < hist.length
    · have h3 : (hist.reverse ++ rest)[hist.length - 1 - j]? = some hist[j] := by
        rw [List.getElem?_append_left (by simp; omega), List.getElem?_reverse (by omega),
          show hist.length - 1 - (hist.length - 1 - j) = j by omega, List.getElem?_eq_getElem hj]
      have ih : ∀ acc, _ := fun acc => predict_eq dbg hist rest ws (j + 1) acc (by
        rw [List.length_cons] at hb
        exact hb.imp_right fun h => by omega)
      rw [if_pos hj, h3, Option.bind_some, List.drop_eq_getElem_cons hj, predict_cons, Option.bind_assoc]
      simp only [ih]
    · rw [if_neg hj, List.drop_eq_nil_of_le (by omega), Repo.predict]; rfl

/-- One iteration of the main loop of `decode_lpc` (generated body). -/
def lpcBody (dbg : Bool) (coefs : List Int) (shift : Nat) (t : Nat) (d : List Int) : Option (List Int) :=
  (loopM (enumFrom 0 coefs) (0 : Int) (predStep dbg d t)).bind fun pred =>
  (d[t]?).bind fun v5 => (shAmt dbg 64 shift).bind fun v6 =>
  (arithS dbg 32 (v5 + (wrapS 32 (shrS pred v6)))).bind fun v7 => setAt d t v7

theorem getElem?_mid {α : Type} (p c : List α) : (p ++ c)[p.length]? = c[0]? := by
  rw [List.getElem?_append_right (Nat.le_refl _), Nat.sub_self]

/-- `dest[t]` at time `t = |hist|`: the residual value `e`, overwritten by the decoded sample. -/
theorem getElem?_hist (hist es : List Int) (e : Int) : (hist.reverse ++ e :: es)[hist.length]? = some e := by
  rw [← List.length_reverse, getElem?_mid]
  rfl

theorem setAt_hist (hist es : List Int) (e x : Int) :
    setAt (hist.reverse ++ e :: es) hist.length x = some ((x :: hist).reverse ++ es) := by
  rw [← List.length_reverse, setAt_append, List.reverse_cons, List.append_assoc]
  rfl

/-- The main loop of `decode_lpc` against `Repo.lpcLoop`.  The generated loop checks the shift amount inside every iteration,
the hand model once before its loop: the two differ exactly where nothing is left to predict. -/
theorem lpcLoop_eq (dbg : Bool) (coefs : List Int) (shift : Nat) :
    ∀ (es hist : List Int), (dbg = true ∨ hist.length + es.length + coefs.length ≤ 2 ^ 64) →
    loopM (List.range' hist.length es.length) (hist.reverse ++ es) (lpcBody dbg coefs shift) =
      match es with
      | [] => some hist.reverse
      | _ :: _ => (shAmt dbg 64 shift).bind fun k => toOpt (Repo.lpcLoop dbg coefs k es hist)
  | [], hist, _ => by
    rw [List.length_nil, List.range'_zero, loopM_nil, List.append_nil]
  | e :: es, hist, hb => by
    rw [List.length_cons, List.range'_succ, loopM_cons, lpcBody,
      predict_eq dbg hist (e :: es) coefs 0 0 (by rw [Nat.add_zero]; exact hb), List.drop_zero, getElem?_hist]
    cases hk : shAmt dbg 64 shift with
    | none => cases toOpt (Repo.predict dbg coefs hist 0) <;> rfl
    | some k =>
      dsimp only
      rw [Option.bind_some, Repo.lpcLoop, toOpt_bind, Option.bind_assoc]
      refine Option.bind_congr fun pred _ => ?_
      rw [Option.bind_some, Option.bind_some, toOpt_bind, toOpt_i32op, ← shrS, ← wrapS_eq_asSigned, Option.bind_assoc]
      refine Option.bind_congr fun x _ => ?_
      rw [setAt_hist, Option.bind_some]
      refine (lpcLoop_eq dbg coefs shift es (x :: hist) (by
        rw [List.length_cons] at hb ⊢
        exact hb.imp_right fun h => by omega)).trans ?_
      cases es with
      | nil => rw [Repo.lpcLoop]; rfl
      | cons _ _ => rw [hk]; rfl

/-- `shift as usize` (sign extension of the `i8`) followed by the shift-amount check of `pred >> shift`, against the
hand model's test on the signed value. -/
theorem shAmt_castU (dbg : Bool) (shift : Int) (hs : -128 ≤ shift ∧ shift < 128) :
    (if 0 ≤ shift ∧ shift < 64 then some shift.toNat else if dbg = true then none else some ((shift % 64).toNat)) =
      shAmt dbg 64 (castU 64 shift) := by
  rw [shAmt, castU_mod 64 64 shift (by decide)]
  by_cases h0 : 0 ≤ shift
  · rw [castU_of_nonneg h0 (by omega)]
    by_cases h : shift < 64
    · rw [if_pos ⟨h0, h⟩, if_pos (by omega)]
    · rw [if_neg (fun h' => h h'.2), if_neg (c := shift.toNat < 64) (by omega)]
      rfl
  · rw [castU_of_neg (by omega) (by omega), if_neg (fun h' => h0 h'.1), if_neg (c := _ < 64) (by omega)]
    rfl

/-- `decode_lpc` on a block-sized buffer is the hand model's `decodeLpc`, `n` being the shift amount the generated
caller passes for the model's `shift` — except at the point of `C15G_lpc_decode_discrepancy` (the `if`). -/
theorem decode_lpc_eq (dbg : Bool) (warm coefs : List Int) (shift : Int) (n : Nat) (r : Residual) (dest : List Int)
    (hlen : dest.length = r.blockSize) (hsz : dbg = true ∨ r.blockSize + coefs.length ≤ 2 ^ 64)
    (hn : (if 0 ≤ shift ∧ shift < 64 then some shift.toNat else if dbg = true then none else some ((shift % 64).toNat)) =
      shAmt dbg 64 n) :
    decode_lpc dbg warm coefs n r dest =
      if shAmt dbg 64 n = none ∧ warm.length = r.blockSize ∧ (toOpt (Repo.residualSignal dbg r)).isSome = true
      then some warm else toOpt (Repo.decodeLpc dbg warm coefs shift r) := by
  unfold decode_lpc Residual.signal_len enumerate
  rw [C15G_residual_copy_signal dbg r dest (by omega), List.drop_eq_nil_of_le (by omega), Repo.decodeLpc, toOpt_bind]
  cases he : toOpt (Repo.residualSignal dbg r) with
  | none => rw [if_neg (fun h => by cases h.2.2)]; rfl
  | some e =>
    have hel := residualSignal_length dbg r e he
    have hwarm := loopM_warm warm [] e
    rw [List.length_nil, List.nil_append, List.nil_append] at hwarm
    simp only [Option.map_some, List.append_nil, Option.bind_some, Option.bind_fun_some]
    -- the generated closures are matched against `lpcBody` by defeq (so are `leftBody`, `rightBody`, `midBody` where
    -- `C15G_frame_decode` applies `stereo_stage`): these copies have to stay the bodies of Gen/Decode.lean
    change ((loopM (enumFrom 0 warm) e fun p d => setAt d p.1 p.2).bind fun dest =>
      loopM (rangeL warm.length r.blockSize) dest (lpcBody dbg coefs n)) = _
    rw [hwarm]
    by_cases hw : warm.length ≤ e.length
    · have hes : (e.drop warm.length).length = r.blockSize - warm.length := by rw [List.length_drop, hel]
      have hwe : warm.length = r.blockSize ↔ e.drop warm.length = [] := by
        rw [List.drop_eq_nil_iff]; omega
      rw [if_pos hw, Option.bind_some, if_neg (Nat.not_lt.2 hw), toOpt_bind, toOpt_checked, hn, rangeL, ← hes]
      generalize e.drop warm.length = es at hwe hes
      have := lpcLoop_eq dbg coefs n es warm.reverse (by
        rw [List.length_reverse]
        exact hsz.imp_right fun h => by omega)
      rw [List.reverse_reverse, List.length_reverse] at this
      rw [this]
      cases es with
      | nil =>
        cases hk : shAmt dbg 64 n with
        | none => rw [if_pos ⟨rfl, hwe.2 rfl, rfl⟩]
        | some k => rw [if_neg (fun h => by cases h.1), Option.bind_some, Repo.lpcLoop, List.reverse_reverse]; rfl
      | cons x xs => rw [if_neg (fun h => by cases hwe.1 h.2.1)]
    · rw [if_neg hw, if_pos (Nat.lt_of_not_le hw), if_neg (fun h => by omega)]
      rfl

/-- The rows of `FIXED_LPC_COEFS` cut to the order are the hand model's `fixedCoefs`. -/
theorem fixed_rows (order : Nat) :
    ((FlacVerif.Gen.Tables.fixedLpcCoefs[order]?).bind fun row => sliceR row 0 order) = Repo.fixedCoefs[order]? := by
  match order with
  | 0 | 1 | 2 | 3 | 4 => decide
  | n + 5 => rfl

theorem fixed_rows_length (order : Nat) (cs : List Int) (h : Repo.fixedCoefs[order]? = some cs) : cs.length ≤ 4 := by
  match order with
  | 0 | 1 | 2 | 3 | 4 => cases h; decide
  | n + 5 => cases h

/-- Hypotheses of `C15G_subframe_decode`: domains of the Rust types, without the point of `C15G_lpc_decode_discrepancy`. -/
def SubDom (dbg : Bool) : SubFrame → Prop
  | .constant _ _ _ => True
  | .verbatim _ _ => True
  | .fixed _ res _ => dbg = true ∨ res.blockSize + 4 ≤ 2 ^ 64
  | .lpc warm coefs shift _ res _ =>
      (-128 ≤ shift ∧ shift < 128) ∧ (dbg = true ∨ res.blockSize + coefs.length ≤ 2 ^ 64) ∧
      ¬ (dbg = true ∧ (shift < 0 ∨ 64 ≤ shift) ∧ warm.length = res.blockSize ∧
         (toOpt (Repo.residualSignal dbg res)).isSome = true)

/-- **`FixedLpc::decode()`** = the hand model's `decodeSubframe` on a fixed-predictor sub-frame, panic outcomes included,
in both profiles.  `hsz` (release profile only): `block_size + 4 <= usize::MAX + 1`, which every `Vec` satisfies. -/
theorem C15G_fixed_decode (dbg : Bool) (warm : List Int) (res : Residual) (bps : Nat) (hsz : SubDom dbg (.fixed warm res bps)) :
    FixedLpc.decode dbg warm res bps = toOpt (Repo.decodeSubframe dbg (.fixed warm res bps)) := by
  unfold FixedLpc.decode FixedLpc.copy_signal FixedLpc.signal_len Residual.signal_len Repo.decodeSubframe
  simp only [Option.bind_fun_some]
  rw [toOpt_bind, toOpt_idx, ← fixed_rows, Option.bind_assoc]
  cases h1 : FlacVerif.Gen.Tables.fixedLpcCoefs[warm.length]? with
  | none => rfl
  | some row =>
    rw [Option.bind_some, Option.bind_some]
    cases h2 : sliceR row 0 warm.length with
    | none => rfl
    | some cs =>
      have hl : cs.length ≤ 4 := fixed_rows_length warm.length cs (by rw [← fixed_rows, h1, Option.bind_some, h2])
      rw [Option.bind_some, Option.bind_some, decode_lpc_eq dbg warm cs 0 0 res _ (List.length_replicate ..)
        (hsz.imp_right fun h => by omega) (by rw [if_pos (by decide), shAmt_ok _ _ _ (by decide)]; rfl),
        if_neg (fun h => by rw [shAmt_ok _ _ _ (by decide)] at h; cases h.1)]

/-- **`Lpc::decode()`** = the hand model's `decodeSubframe` on an LPC sub-frame, panic outcomes included, in both profiles,
for every `i8` shift outside the point of `C15G_lpc_decode_discrepancy` (third clause of `SubDom`).  Second clause (release
only): `block_size + order <= usize::MAX + 1`. -/
theorem C15G_lpc_decode (dbg : Bool) (warm coefs : List Int) (shift : Int) (precision : Nat) (res : Residual) (bps : Nat)
    (h : SubDom dbg (.lpc warm coefs shift precision res bps)) :
    Lpc.decode dbg warm coefs shift precision res bps =
      toOpt (Repo.decodeSubframe dbg (.lpc warm coefs shift precision res bps)) := by
  unfold Lpc.decode Lpc.copy_signal Lpc.signal_len Residual.signal_len Repo.decodeSubframe
  obtain ⟨hs, hsz, hx⟩ := h
  have hn := shAmt_castU dbg shift hs
  rw [Option.bind_fun_some, Option.bind_fun_some,
    decode_lpc_eq dbg warm coefs shift _ res _ (List.length_replicate ..) hsz hn, if_neg]
  intro h
  rw [h.1] at hn
  refine hx ⟨?_, ?_, h.2⟩
  · cases dbg with
    | true => rfl
    | false => split at hn <;> cases hn
  · split at hn
    · cases hn
    · omega

/-- **The one point where the hand model and the Rust source disagree** (dev profile): a shift outside `0..64`
(an `i8`: negative, which `QuantizedParameters::verify` (called by `new`, hence by the parser) rejects but `from_parts`
allows), a warm-up as long as the block and a residual that decodes.  The Rust loop
`for t in warm_up.len()..residual.signal_len()` is empty, so `pred >> shift` is never evaluated and `decode()` returns the
warm-up; the hand model (`Repo.decodeLpc`) checks the shift amount before the loop and reports a panic: it over-approximates
the panic set there.  The point is unreachable from the parser, reachable through `from_parts` / deserialisation only. -/
theorem C15G_lpc_decode_discrepancy (warm coefs : List Int) (shift : Int) (precision : Nat) (res : Residual) (bps : Nat)
    (hs : -128 ≤ shift ∧ shift < 128) (hout : shift < 0 ∨ 64 ≤ shift) (hw : warm.length = res.blockSize)
    (e : List Int) (he : toOpt (Repo.residualSignal true res) = some e) :
    Lpc.decode true warm coefs shift precision res bps = some warm ∧
    toOpt (Repo.decodeSubframe true (.lpc warm coefs shift precision res bps)) = none := by
  have hn := shAmt_castU true shift hs
  rw [if_neg (by omega), if_pos rfl] at hn
  constructor
  · unfold Lpc.decode Lpc.copy_signal Lpc.signal_len Residual.signal_len
    rw [Option.bind_fun_some, Option.bind_fun_some,
      decode_lpc_eq true warm coefs shift _ res _ (List.length_replicate ..) (Or.inl rfl) (by rw [← hn, if_neg (by omega)]; rfl),
      if_pos ⟨hn.symm, hw, by rw [he]; rfl⟩]
  · have hel := residualSignal_length true res e he
    rw [Repo.decodeSubframe, Repo.decodeLpc, toOpt_bind, he, Option.bind_some, if_neg (by omega), toOpt_bind,
      toOpt_checked, if_neg (by omega)]
    rfl

/-- **`SubFrame::decode()`** (dispatch + the default method of the trait) = the hand model's `decodeSubframe`. -/
theorem C15G_subframe_decode (dbg : Bool) (s : SubFrame) (h : SubDom dbg s) :
    SubFrame.decode dbg s = toOpt (Repo.decodeSubframe dbg s) := by
  cases s with
  | constant n dc bps =>
    rw [← C15G_constant_decode]
    simp only [SubFrame.decode, SubFrame.signal_len, SubFrame.copy_signal, Constant.decode, Option.bind_fun_some]
  | verbatim xs bps =>
    rw [← C15G_verbatim_decode]
    simp only [SubFrame.decode, SubFrame.signal_len, SubFrame.copy_signal, Verbatim.decode, Option.bind_fun_some]
  | fixed warm res bps =>
    rw [← C15G_fixed_decode dbg warm res bps h]
    simp only [SubFrame.decode, SubFrame.signal_len, SubFrame.copy_signal, FixedLpc.decode, Option.bind_fun_some]
  | lpc warm coefs shift precision res bps =>
    rw [← C15G_lpc_decode dbg warm coefs shift precision res bps h]
    simp only [SubFrame.decode, SubFrame.signal_len, SubFrame.copy_signal, Lpc.decode, Option.bind_fun_some]

theorem toOpt_mapM {α β : Type} (f : α → Repo.DResult β) : ∀ (l : List α),
    toOpt (l.mapM f) = mapO (fun x => toOpt (f x)) l
  | [] => rfl
  | x :: xs => by
    rw [List.mapM_cons, toOpt_bind, mapO]
    simp only [toOpt_bind, toOpt_mapM f xs, Repo.DResult.pure_eq, toOpt_ok]

/-- `for sf in subframes { channels.push(sf.decode()) }` -/
theorem loopM_push {α β : Type} (g : α → Option β) : ∀ (xs : List α) (acc : List β),
    loopM xs acc (fun x c => (g x).bind fun v => some (c ++ [v])) = (mapO g xs).bind fun ys => some (acc ++ ys)
  | [], acc => by simp [loopM_nil, mapO]
  | x :: xs, acc => by
    rw [loopM_cons, mapO]
    cases g x with
    | none => rfl
    | some y =>
      rw [Option.bind_some, Option.bind_some, loopM_push g xs]
      cases mapO g xs with
      | none => rfl
      | some ys => simp

theorem shlS_one (x : Int) : shlS 32 x 1 = Repo.asSigned 32 (2 * x) := by
  rw [shlS, Int.pow_one, Int.mul_comm]
  rfl

/-- One sample of the stereo un-mixing, as the generated loop bodies compute it. -/
def stereoStep (dbg : Bool) : ChannelAssignment → Int → Int → Option (Int × Int)
  | .independent _, x0, x1 => some (x0, x1)
  | .leftSide, x0, x1 => (arithS dbg 32 (x0 - x1)).bind fun d => some (x0, d)
  | .rightSide, x0, x1 => (arithS dbg 32 (x0 + x1)).bind fun s => some (s, x1)
  | .midSide, x0, x1 =>
    (arithS dbg 32 (shlS 32 x0 1 + andS 32 x1 1)).bind fun m => (arithS dbg 32 (m + x1)).bind fun a0 =>
    (arithS dbg 32 (m - x1)).bind fun a1 => some (shrS a0 1, shrS a1 1)

theorem decorrelate_cons (dbg : Bool) (a : ChannelAssignment) (n : Nat) (x0 x1 : Int) (t0 t1 : List Int) :
    toOpt (Repo.decorrelate dbg a (n + 1) (x0 :: t0) (x1 :: t1)) =
      (stereoStep dbg a x0 x1).bind fun y =>
        (toOpt (Repo.decorrelate dbg a n t0 t1)).bind fun r => some (y.1 :: r.1, y.2 :: r.2) := by
  cases a
  all_goals
    simp only [Repo.decorrelate, stereoStep, toOpt_bind, toOpt_i32op, Repo.DResult.pure_eq, toOpt_ok, shlS_one, andS_one,
      shrS_one, Option.bind_assoc, Option.bind_some]

/-- What a loop body has to do at time `t = |p0| = |p1|` on channels `p0 ++ c0`, `p1 ++ c1` to be one step of
`Repo.decorrelate`: un-mix the two current samples, or panic where a channel has ended; with fewer than two channels it
panics. -/
def StereoBody (dbg : Bool) (a : ChannelAssignment) (body : Nat → List (List Int) → Option (List (List Int))) : Prop :=
  (∀ (rest : List (List Int)) (p0 p1 c0 c1 : List Int), p0.length = p1.length →
    body p0.length ((p0 ++ c0) :: (p1 ++ c1) :: rest) =
      match c0, c1 with
      | x0 :: t0, x1 :: t1 => (stereoStep dbg a x0 x1).bind fun y => some ((p0 ++ y.1 :: t0) :: (p1 ++ y.2 :: t1) :: rest)
      | _, _ => none) ∧
  ∀ t c, body t [] = none ∧ body t [c] = none

theorem stereo_loop (dbg : Bool) (a : ChannelAssignment) (body : Nat → List (List Int) → Option (List (List Int)))
    (H : StereoBody dbg a body) (rest : List (List Int)) : ∀ (n : Nat) (p0 p1 c0 c1 : List Int), p0.length = p1.length →
    loopM (List.range' p0.length n) ((p0 ++ c0) :: (p1 ++ c1) :: rest) body =
      (toOpt (Repo.decorrelate dbg a n c0 c1)).bind fun r => some ((p0 ++ r.1) :: (p1 ++ r.2) :: rest)
  | 0, p0, p1, c0, c1, _ => by rw [List.range'_zero, loopM_nil, Repo.decorrelate]; rfl
  | n + 1, p0, p1, c0, c1, hl => by
    rw [List.range'_succ, loopM_cons, H.1 rest p0 p1 c0 c1 hl]
    cases c0 with
    | nil => simp only [Repo.decorrelate]; rfl
    | cons x0 t0 =>
      cases c1 with
      | nil => simp only [Repo.decorrelate]; rfl
      | cons x1 t1 =>
        dsimp only
        rw [decorrelate_cons]
        cases stereoStep dbg a x0 x1 with
        | none => rfl
        | some y =>
          have ih := stereo_loop dbg a body H rest n (p0 ++ [y.1]) (p1 ++ [y.2]) t0 t1 (by simp [hl])
          simp only [List.length_append, List.length_singleton, List.append_assoc, List.singleton_append] at ih
          rw [Option.bind_some, Option.bind_some, Option.bind_some, ih]
          cases toOpt (Repo.decorrelate dbg a n t0 t1) <;> rfl

/-- generated body of the `LeftSide` loop -/
def leftBody (dbg : Bool) (t : Nat) (channels : List (List Int)) : Option (List (List Int)) :=
  (channels[0]?).bind fun v5 => (v5[t]?).bind fun v6 => (channels[1]?).bind fun v7 => (v7[t]?).bind fun v8 =>
  (arithS dbg 32 (v6 - v8)).bind fun v9 => (channels[1]?).bind fun v10 => (setAt v10 t v9).bind fun v11 =>
  setAt channels 1 v11

/-- generated body of the `RightSide` loop -/
def rightBody (dbg : Bool) (t : Nat) (channels : List (List Int)) : Option (List (List Int)) :=
  (channels[0]?).bind fun v13 => (v13[t]?).bind fun v14 => (channels[1]?).bind fun v15 => (v15[t]?).bind fun v16 =>
  (arithS dbg 32 (v14 + v16)).bind fun v17 => (channels[0]?).bind fun v18 => (setAt v18 t v17).bind fun v19 =>
  setAt channels 0 v19

/-- generated body of the `MidSide` loop -/
def midBody (dbg : Bool) (t : Nat) (channels : List (List Int)) : Option (List (List Int)) :=
  (channels[1]?).bind fun v21 => (v21[t]?).bind fun s => (channels[0]?).bind fun v22 => (v22[t]?).bind fun v23 =>
  (arithS dbg 32 ((shlS 32 v23 1) + (andS 32 s (1 : Int)))).bind fun m =>
  (arithS dbg 32 (m + s)).bind fun v24 => (channels[0]?).bind fun v25 => (setAt v25 t (shrS v24 1)).bind fun v26 =>
  (setAt channels 0 v26).bind fun channels =>
  (arithS dbg 32 (m - s)).bind fun v27 => (channels[1]?).bind fun v28 => (setAt v28 t (shrS v27 1)).bind fun v29 =>
  setAt channels 1 v29

theorem leftBody_step (dbg : Bool) : StereoBody dbg .leftSide (leftBody dbg) := by
  constructor
  · intro rest p0 p1 c0 c1 hl
    rw [leftBody]
    simp only [List.getElem?_cons_zero, List.getElem?_cons_succ, Option.bind_some]
    rw [getElem?_mid, hl, getElem?_mid]
    cases c0 with
    | nil => rfl
    | cons x0 t0 =>
      cases c1 with
      | nil => rfl
      | cons x1 t1 =>
        simp only [List.getElem?_cons_zero, Option.bind_some, stereoStep]
        cases arithS dbg 32 (x0 - x1) with
        | none => rfl
        | some d => rw [Option.bind_some, setAt_append, Option.bind_some, setAt_one]; rfl
  · refine fun t c => ⟨rfl, ?_⟩
    rw [leftBody]
    simp only [List.getElem?_cons_zero, Option.bind_some]
    cases c[t]? <;> rfl

/-- As `leftBody_step`; the generated body stores the sum into channel 0. -/
theorem rightBody_step (dbg : Bool) : StereoBody dbg .rightSide (rightBody dbg) := by
  constructor
  · intro rest p0 p1 c0 c1 hl
    rw [rightBody]
    simp only [List.getElem?_cons_zero, List.getElem?_cons_succ, Option.bind_some]
    rw [getElem?_mid, hl, getElem?_mid]
    cases c0 with
    | nil => rfl
    | cons x0 t0 =>
      cases c1 with
      | nil => rfl
      | cons x1 t1 =>
        simp only [List.getElem?_cons_zero, Option.bind_some, stereoStep]
        cases arithS dbg 32 (x0 + x1) with
        | none => rfl
        | some d => rw [Option.bind_some, ← hl, setAt_append, Option.bind_some, setAt_zero]; rfl
  · refine fun t c => ⟨rfl, ?_⟩
    rw [rightBody]
    simp only [List.getElem?_cons_zero, Option.bind_some]
    cases c[t]? <;> rfl

theorem midBody_step (dbg : Bool) : StereoBody dbg .midSide (midBody dbg) := by
  constructor
  · intro rest p0 p1 c0 c1 hl
    rw [midBody]
    simp only [List.getElem?_cons_zero, List.getElem?_cons_succ, Option.bind_some]
    rw [hl, getElem?_mid, ← hl, getElem?_mid]
    cases c1 with
    | nil => cases c0 <;> rfl
    | cons x1 t1 =>
      cases c0 with
      | nil => rfl
      | cons x0 t0 =>
        simp only [List.getElem?_cons_zero, Option.bind_some, stereoStep]
        cases arithS dbg 32 (shlS 32 x0 1 + andS 32 x1 1) with
        | none => rfl
        | some m =>
          rw [Option.bind_some, Option.bind_some]
          cases arithS dbg 32 (m + x1) with
          | none => rfl
          | some a0 =>
            rw [Option.bind_some, setAt_append, Option.bind_some, setAt_zero, Option.bind_some, Option.bind_some]
            cases arithS dbg 32 (m - x1) with
            | none => rfl
            | some a1 =>
              simp only [Option.bind_some, List.getElem?_cons_succ, List.getElem?_cons_zero]
              rw [hl, setAt_append, Option.bind_some, setAt_one]
  · exact fun t c => ⟨rfl, rfl⟩

/-- The stereo loop of `Frame::copy_signal` on the list of decoded channels (`a` is not `independent`): with fewer than
two channels the first iteration panics. -/
theorem stereo_gen (dbg : Bool) (a : ChannelAssignment) (body : Nat → List (List Int) → Option (List (List Int)))
    (H : StereoBody dbg a body) (bs : Nat) (chans : List (List Int)) :
    loopM (rangeL 0 bs) chans body = toOpt
      (match chans with
        | c0 :: c1 :: rest => do
          let r ← Repo.decorrelate dbg a bs c0 c1
          pure (r.1 :: r.2 :: rest)
        | _ => if bs = 0 then Repo.DResult.ok chans else Repo.DResult.panic "Frame::copy_signal: channels[1]") := by
  rw [rangeL_zero]
  match chans with
  | c0 :: c1 :: rest => rw [toOpt_bind]; exact stereo_loop dbg a body H rest bs [] [] c0 c1 rfl
  | [c] =>
    cases bs with
    | zero => rfl
    | succ n => rw [List.range'_succ, loopM_cons, (H.2 0 c).2]; rfl
  | [] =>
    cases bs with
    | zero => rfl
    | succ n => rw [List.range'_succ, loopM_cons, (H.2 0 []).1]; rfl

/-- generated body of the inner interleaving loop (`dest[t * channel_count + ch] = *x`) -/
def ilvInner (dbg : Bool) (cc ch : Nat) (p : Nat × Int) (dest : List Int) : Option (List Int) :=
  (mulU dbg 64 p.1 cc).bind fun v30 => (addU dbg 64 v30 ch).bind fun v31 => setAt dest v31 p.2

theorem ilv_index (dbg : Bool) (cc k j : Nat) (x : Int) (d : List Int) (h : j * cc + k < 2 ^ 64) :
    ilvInner dbg cc k (j, x) d = setAt d (j * cc + k) x := by
  rw [ilvInner, mulU_ok _ _ _ _ (Nat.lt_of_le_of_lt (Nat.le_add_right _ k) h), Option.bind_some, addU_ok _ _ _ _ h,
    Option.bind_some]

theorem interleaveLoop_mid (n : Nat) (A B : List (List Int)) (c : List Int) :
    Repo.interleaveLoop (n + 1) (A ++ c :: B) =
      A.map (fun c => c.headD 0) ++ c.headD 0 :: (B.map (fun c => c.headD 0) ++
        Repo.interleaveLoop n (A.map List.tail ++ c.tail :: B.map List.tail)) := by
  simp [Repo.interleaveLoop]

/-- Writing one channel `sig` into column `k` of the row-major buffer, rows `j ..` (`P` = the rows before `j`). -/
theorem colWrite (dbg : Bool) (cc k : Nat) : ∀ (n j : Nat) (sig P : List Int) (A B : List (List Int)),
    P.length = j * cc → cc = A.length + 1 + B.length → k = A.length → (j + n + 1) * cc ≤ 2 ^ 64 →
    loopM (enumFrom j sig) (P ++ Repo.interleaveLoop n (A ++ [] :: B)) (ilvInner dbg cc k) =
      if sig.length ≤ n then some (P ++ Repo.interleaveLoop n (A ++ sig :: B)) else none
  | _, j, [], P, A, B, _, _, _, _ => by
    rw [enumFrom_nil, loopM_nil]
    exact (if_pos (Nat.zero_le _)).symm
  | 0, j, x :: xs, P, A, B, hP, hcc, hk, hb => by
    rw [Nat.add_zero, Nat.succ_mul] at hb
    rw [enumFrom_cons, loopM_cons, ilv_index dbg cc k j x _ (by omega), Repo.interleaveLoop, List.append_nil,
      setAt_none _ _ _ (by omega)]
    rfl
  | n + 1, j, x :: xs, P, A, B, hP, hcc, hk, hb => by
    have hlen : (P ++ A.map (fun c => c.headD 0)).length = j * cc + k := by
      rw [List.length_append, List.length_map, hP, hk]
    have hidx : j * cc + k < 2 ^ 64 := by
      have := Nat.mul_le_mul_right cc (show j + 1 ≤ j + (n + 1) + 1 by omega)
      rw [Nat.succ_mul] at this
      omega
    rw [enumFrom_cons, loopM_cons, ilv_index dbg cc k j x _ hidx, interleaveLoop_mid, interleaveLoop_mid,
      ← List.append_assoc, ← hlen, setAt_append, Option.bind_some]
    have ih := colWrite dbg cc k n (j + 1) xs (P ++ A.map (fun c => c.headD 0) ++ x :: B.map (fun c => c.headD 0))
      (A.map List.tail) (B.map List.tail) (by simp [hP, Nat.succ_mul]; omega) (by simp [hcc]) (by simp [hk])
      (by rwa [show j + 1 + n + 1 = j + (n + 1) + 1 by omega])
    simp only [List.append_assoc, List.cons_append, List.tail_nil, List.headD_cons, List.tail_cons] at ih ⊢
    rw [ih, List.length_cons]
    simp only [Nat.succ_le_succ_iff]

/-- The outer interleaving loop: with the channels `A` written and `rest` to come, the buffer is the hand model's
`interleaveLoop` of `A` followed by an empty channel for each of `rest`. -/
theorem ilv_outer (dbg : Bool) (bs cc : Nat) (hb : (bs + 1) * cc ≤ 2 ^ 64) : ∀ (rest A : List (List Int)),
    cc = A.length + rest.length →
    loopM (enumFrom A.length rest) (Repo.interleaveLoop bs (A ++ rest.map fun _ => []))
        (fun (p : Nat × List Int) d => loopM (enumFrom 0 p.2) d (ilvInner dbg cc p.1)) =
      if rest.any (fun c => decide (c.length > bs)) = true then none else some (Repo.interleaveLoop bs (A ++ rest))
  | [], A, _ => by rw [enumFrom_nil, loopM_nil]; rfl
  | sig :: rest, A, hcc => by
    have hw := colWrite dbg cc A.length bs 0 sig [] A (rest.map fun _ => []) (Nat.zero_mul _).symm
      (by rw [hcc, List.length_cons, List.length_map]; omega) rfl (by rwa [Nat.zero_add])
    rw [enumFrom_cons, loopM_cons, List.map_cons, ← List.nil_append (Repo.interleaveLoop _ _), hw, List.any_cons]
    by_cases hs : sig.length ≤ bs
    · have ih := ilv_outer dbg bs cc hb rest (A ++ [sig]) (by rw [hcc, List.length_append]; simp; omega)
      rw [List.length_append, List.length_singleton, List.append_assoc, List.append_assoc] at ih
      rw [if_pos hs, Option.bind_some, decide_eq_false (Nat.not_lt.2 hs), Bool.false_or]
      exact ih
    · rw [if_neg hs, decide_eq_true (Nat.lt_of_not_le hs)]
      rfl

theorem interleaveLoop_zeros (cc : Nat) : ∀ (n : Nat),
    Repo.interleaveLoop n (List.replicate cc []) = List.replicate (n * cc) 0
  | 0 => by rw [Nat.zero_mul]; rfl
  | n + 1 => by
    rw [Repo.interleaveLoop, List.map_replicate, List.map_replicate, List.tail_nil, List.headD_nil,
      interleaveLoop_zeros cc n, Nat.succ_mul, Nat.add_comm, List.replicate_append_replicate]

/-- The two interleaving loops on a zeroed buffer of `block_size * channels` entries against the hand model's `interleave`. -/
theorem ilv_eq (dbg : Bool) (bs : Nat) (chans : List (List Int)) (hb : (bs + 1) * chans.length ≤ 2 ^ 64) :
    loopM (enumFrom 0 chans) (List.replicate (bs * chans.length) 0)
        (fun (p : Nat × List Int) d => loopM (enumFrom 0 p.2) d (ilvInner dbg chans.length p.1)) =
      toOpt (Repo.interleave bs chans) := by
  have h := ilv_outer dbg bs chans.length hb chans [] (Nat.zero_add _).symm
  rw [List.nil_append, List.map_const', interleaveLoop_zeros] at h
  rw [Repo.interleave, List.length_nil] at *
  rw [h]
  split <;> rfl

/-- Hypotheses of `C15G_frame_decode`; where the bound comes from: file header, `Frame`. -/
def FrameDom (dbg : Bool) (g : Gen.Writer.Frame) : Prop :=
  (∀ s ∈ g.subframes, SubDom dbg s) ∧
  (∀ bs, FrameHeader.block_size dbg g.header = some bs → (bs + 1) * g.subframes.length ≤ 2 ^ 64)

/-- The interleaving stage of `Frame::copy_signal` after a stage `out` that keeps the number `n` of channels. -/
theorem final_stage (dbg : Bool) (bs n : Nat) (out : Option (List (List Int)))
    (hlen : ∀ o, out = some o → o.length = n) (hb : (bs + 1) * n ≤ 2 ^ 64) :
    (out.bind fun channels =>
      loopM (enumFrom 0 channels) (List.replicate (bs * n) 0) fun p d =>
        loopM (enumFrom 0 p.2) d (ilvInner dbg channels.length p.1)) =
    out.bind fun c => toOpt (Repo.interleave bs c) := by
  cases out with
  | none => rfl
  | some o =>
    have hl := hlen o rfl
    subst hl
    rw [Option.bind_some, Option.bind_some]
    exact ilv_eq dbg bs o hb

/-- The stereo loop of `Frame::copy_signal` followed by the interleaving, against the hand model (`a` is not `independent`). -/
theorem stereo_stage (dbg : Bool) (a : ChannelAssignment) (body : Nat → List (List Int) → Option (List (List Int)))
    (H : StereoBody dbg a body) (bs n : Nat) (chans : List (List Int)) (hlen : chans.length = n)
    (hb : (bs + 1) * n ≤ 2 ^ 64) :
    ((loopM (rangeL 0 bs) chans body).bind fun channels =>
      loopM (enumFrom 0 channels) (List.replicate (bs * n) 0) fun p d =>
        loopM (enumFrom 0 p.2) d (ilvInner dbg channels.length p.1)) =
    (toOpt
        (match chans with
        | c0 :: c1 :: rest => do
          let r ← Repo.decorrelate dbg a bs c0 c1
          pure (r.1 :: r.2 :: rest)
        | _ => if bs = 0 then Repo.DResult.ok chans else Repo.DResult.panic "Frame::copy_signal: channels[1]")).bind
      fun v => toOpt (Repo.interleave bs v) := by
  rw [stereo_gen dbg a body H]
  refine final_stage dbg bs n _ (fun o ho => ?_) hb
  subst hlen
  match chans with
  | c0 :: c1 :: rest =>
    rw [toOpt_bind] at ho
    obtain ⟨r, _, ho⟩ := Option.bind_eq_some_iff.1 ho
    cases ho
    rfl
  | [c] => dsimp only at ho; split at ho <;> cases ho; rfl
  | [] => dsimp only at ho; split at ho <;> cases ho; rfl

theorem frame_signal_len (dbg : Bool) (g : Gen.Writer.Frame) (bs : Nat) (hbq : FrameHeader.block_size dbg g.header = some bs)
    (hmul : bs * g.subframes.length < 2 ^ 64) : Frame.signal_len dbg g = some (bs * g.subframes.length) := by
  rw [Frame.signal_len, Frame.block_size, hbq, Option.bind_some, Option.bind_some, Frame.subframe_count,
    mulU_ok _ _ _ _ hmul]
  rfl

/-- **`Frame::decode()`** (block size from the header, every sub-frame, stereo un-mixing, interleaving; the default method
of the trait) = the hand model's `decodeFrameMode` on the hand-model image of the frame, panic outcomes included, in both
profiles. -/
theorem C15G_frame_decode (dbg : Bool) (g : Gen.Writer.Frame) (h : FrameDom dbg g) :
    Frame.decode dbg g = toOpt (Repo.decodeFrameMode dbg (C08Gen.frameOfGen g)) := by
  unfold Frame.decode Repo.decodeFrameMode
  simp only [Option.bind_fun_some, toOpt_bind, C08Gen.frameOfGen, toOpt_mapM]
  have hbq := block_size_eq dbg g.header
  cases hh : Repo.headerBlockSize (C08Gen.hdrOfGen g.header) with
  | error b => rw [hh] at hbq; exact hbq.elim
  | panic s =>
    rw [hh] at hbq
    simp only [] at hbq ⊢
    rw [Frame.signal_len, Frame.block_size, hbq]
    rfl
  | ok bs =>
    rw [hh] at hbq
    simp only [] at hbq ⊢
    have hb := h.2 bs hbq
    have hmul : bs * g.subframes.length < 2 ^ 64 := by
      cases hn : g.subframes.length with
      | zero => exact Nat.two_pow_pos 64
      | succ n =>
        rw [Nat.succ_mul, hn] at hb
        omega
    have hsl := frame_signal_len dbg g bs hbq hmul
    rw [hsl, Option.bind_some]
    unfold Frame.copy_signal Frame.block_size enumerate
    simp only [Option.bind_fun_some, hsl, hbq, Option.bind_some]
    rw [req_ok _ (by simp), Option.bind_some]
    have hpush := loopM_push (SubFrame.decode dbg) g.subframes []
    simp only [List.nil_append, Option.bind_fun_some] at hpush
    rw [hpush, mapO_congr _ _ g.subframes (fun s hs => C15G_subframe_decode dbg s (h.1 s hs))]
    cases hch : mapO (fun x => toOpt (Repo.decodeSubframe dbg x)) g.subframes with
    | none => rfl
    | some chans =>
      have hlen := mapO_length _ _ _ hch
      simp only [Option.bind_some, toOpt_ok]
      cases hca : g.header.channel_assignment
      all_goals simp only [C08Gen.hdrOfGen, C02Hdr.caOfGen, hca, toOpt_ok]
      · exact final_stage dbg bs g.subframes.length (some chans) (fun o ho => by cases ho; exact hlen) hb
      · exact stereo_stage dbg .leftSide (leftBody dbg) (leftBody_step dbg) bs _ chans hlen hb
      · exact stereo_stage dbg .rightSide (rightBody dbg) (rightBody_step dbg) bs _ chans hlen hb
      · exact stereo_stage dbg .midSide (midBody dbg) (midBody_step dbg) bs _ chans hlen hb

/-- The decoder panics on a frame iff the hand model reports a panic site. -/
theorem C15G_frame_panic_iff (dbg : Bool) (g : Gen.Writer.Frame) (h : FrameDom dbg g) :
    Frame.decode dbg g = none ↔ (Repo.decodeFrameMode dbg (C08Gen.frameOfGen g)).isPanic = true := by
  rw [C15G_frame_decode dbg g h]
  cases Repo.decodeFrameMode dbg (C08Gen.frameOfGen g) <;> simp [Repo.DResult.isPanic]

/-- Frame after frame (`Repo.decodeAll`, what the harness compares with the original audio). -/
theorem C15G_decodeAll (dbg : Bool) : ∀ (gs : List Gen.Writer.Frame), (∀ g ∈ gs, FrameDom dbg g) →
    toOpt (Repo.decodeAll dbg (gs.map C08Gen.frameOfGen)) = (mapO (Frame.decode dbg) gs).bind fun xs => some xs.flatten := by
  intro gs
  induction gs with
  | nil => intro _; rfl
  | cons g gs ih =>
    intro h
    simp only [List.map_cons, Repo.decodeAll, toOpt_bind, mapO, Repo.DResult.pure_eq, toOpt_ok]
    rw [← C15G_frame_decode dbg g (h g (by simp)), ih (fun x hx => h x (by simp [hx]))]
    cases Frame.decode dbg g with
    | none => rfl
    | some a =>
      simp only [Option.bind_some]
      cases mapO (Frame.decode dbg) gs with
      | none => rfl
      | some xs => simp

example : decode_signbit true 7 = some (-4) ∧ decode_signbit false 4294967295 = some (-2147483648) ∧
    decode_signbit true 4294967295 = none := by decide
example : toOpt (Repo.decodeSignbitD true 4294967295) = decode_signbit true 4294967295 :=
  C15G_decode_signbit true _ (by decide)
example : encode_signbit true (-3) = some 5 ∧ encode_signbit true (-2147483648) = none ∧
    encodeSignbit (-2147483648) = encode_signbit true (-2147483648) := ⟨by decide, by decide, C15G_encode_signbit _⟩

def exRes : Residual := ⟨1, 4, 1, [1, 0], [0, 1, 0, 2], [0, 1, 0, 0]⟩
example : Residual.decode true exRes = some [0, -2, 0, 1] := by decide
example : Residual.copy_signal true exRes [9, 9, 9, 9, 7, 7] = some [0, -2, 0, 1, 7, 7] := by decide
example : Residual.copy_signal true exRes [9, 9, 9, 9, 7, 7] =
    (toOpt (Repo.residualSignal true exRes)).map (· ++ [7, 7]) := C15G_residual_copy_signal true exRes _ (by decide)
/-- a Rice parameter of 40 (a `u8` the type allows): dev profile panics on `<< 40`, release shifts by `40 % 32` -/
example : Residual.decode true ⟨0, 2, 0, [40], [1, 0], [0, 1]⟩ = none ∧
    Residual.decode false ⟨0, 2, 0, [40], [1, 0], [0, 1]⟩ = some [128, -1] := by decide

example : Constant.decode true 3 (-5) 16 = some [-5, -5, -5] := by decide
example : Verbatim.decode false [1, -2, 3] 16 = some [1, -2, 3] := by decide
example : FixedLpc.decode true [10] exRes 16 = some [10, 8, 8, 9] := by decide
example : FixedLpc.decode true [10] exRes 16 = toOpt (Repo.decodeSubframe true (.fixed [10] exRes 16)) :=
  C15G_fixed_decode true [10] exRes 16 (Or.inl rfl)
example : Lpc.decode true [10] [3] 1 4 exRes 16 = some [10, 13, 19, 29] := by decide
example : Lpc.decode false [10] [3] 1 4 exRes 16 = toOpt (Repo.decodeSubframe false (.lpc [10] [3] 1 4 exRes 16)) :=
  C15G_lpc_decode false [10] [3] 1 4 exRes 16 ⟨by decide, Or.inr (by decide), by decide⟩
/-- the point of `C15G_lpc_decode_discrepancy`: shift `-1`, warm-up = whole block -/
example : Lpc.decode true [5, 6, 7, 8] [1, 1, 1, 1] (-1) 4 exRes 16 = some [5, 6, 7, 8] ∧
    toOpt (Repo.decodeSubframe true (.lpc [5, 6, 7, 8] [1, 1, 1, 1] (-1) 4 exRes 16)) = none :=
  C15G_lpc_decode_discrepancy [5, 6, 7, 8] [1, 1, 1, 1] (-1) 4 exRes 16 (by decide) (Or.inl (by decide)) rfl
    [0, -2, 0, 1] (by decide)

def exFrame (ca : Gen.Headers.ChannelAssignment) : Gen.Writer.Frame :=
  ⟨⟨false, .ExtraByte 3, ca, .B16, .R44_1kHz, 0, 0⟩, [.verbatim [100, 101, 103, 106] 16, .fixed [10] exRes 17], none⟩
example : Frame.decode true (exFrame .LeftSide) = some [100, 90, 101, 93, 103, 95, 106, 97] := by decide
example : Frame.decode true (exFrame .MidSide) = some [105, 95, 105, 97, 107, 99, 111, 102] := by decide +kernel
example : SubFrame.decode true (.fixed [10] exRes 17) = toOpt (Repo.decodeSubframe true (.fixed [10] exRes 17)) :=
  C15G_subframe_decode true _ (Or.inl rfl)
theorem exFrameDom (dbg : Bool) (ca : Gen.Headers.ChannelAssignment) : FrameDom dbg (exFrame ca) := by
  constructor
  · intro s hs
    simp only [exFrame, List.mem_cons, List.not_mem_nil, or_false] at hs
    rcases hs with rfl | rfl
    · trivial
    · exact Or.inr (by decide)
  · intro bs hbs
    have : FrameHeader.block_size dbg (exFrame ca).header = some 4 := by cases dbg <;> rfl
    rw [this] at hbs
    injection hbs with hbs
    subst hbs
    show (4 + 1) * 2 ≤ 2 ^ 64
    decide
example : Frame.decode false (exFrame .RightSide) = toOpt (Repo.decodeFrameMode false (C08Gen.frameOfGen (exFrame .RightSide))) :=
  C15G_frame_decode false _ (exFrameDom false _)
example : toOpt (Repo.decodeAll true ([exFrame .LeftSide, exFrame (.Independent 2)].map C08Gen.frameOfGen)) =
    some [100, 90, 101, 93, 103, 95, 106, 97, 100, 10, 101, 8, 103, 8, 106, 9] := by
  rw [C15G_decodeAll true _ (fun g hg => by
    simp only [List.mem_cons, List.not_mem_nil, or_false] at hg
    rcases hg with rfl | rfl <;> exact exFrameDom true _)]
  decide
/-- a frame whose second channel is longer than the block: the interleaving index runs out of the buffer -/
def exFrameLong : Gen.Writer.Frame :=
  ⟨⟨false, .ExtraByte 1, .Independent 2, .B16, .R44_1kHz, 0, 0⟩, [.verbatim [1, 2] 16, .verbatim [3, 4, 5] 16], none⟩
example : Frame.decode false exFrameLong = none ∧
    (Repo.decodeFrameMode false (C08Gen.frameOfGen exFrameLong)).isPanic = true := by
  have h : FrameDom false exFrameLong := by
    constructor
    · intro s hs
      simp only [exFrameLong, List.mem_cons, List.not_mem_nil, or_false] at hs
      rcases hs with rfl | rfl <;> trivial
    · intro bs hbs
      have : FrameHeader.block_size false exFrameLong.header = some 2 := rfl
      rw [this] at hbs
      injection hbs with hbs
      subst hbs
      decide
  have h1 : Frame.decode false exFrameLong = none := by decide
  exact ⟨h1, (C15G_frame_panic_iff false _ h).1 h1⟩
example : Constant.decode true 3 (-5) 16 = toOpt (Repo.decodeSubframe true (.constant 3 (-5) 16)) :=
  C15G_constant_decode true 3 (-5) 16
example : Verbatim.decode false [1, -2, 3] 16 = toOpt (Repo.decodeSubframe false (.verbatim [1, -2, 3] 16)) :=
  C15G_verbatim_decode false [1, -2, 3] 16

end FlacVerif.C15Gen
