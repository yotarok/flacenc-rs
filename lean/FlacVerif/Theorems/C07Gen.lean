/-
C07Gen — the float functions cannot panic at the INTEGER level.  Gen/FloatSkel.lean (part `floatskel`,
tools/translate_floatskel.py) holds the index skeletons of the float functions (coding.rs `estimate_entropy`; lpc.rs
`find_shift`, `quantize_parameter`, `quantize_parameters`): all integer expressions (index arithmetic, slice ranges, loop
bounds, divisions, asserts, clamps) mirrored from the current source, every float value opaque, every float primitive an
uninterpreted parameter.  The theorems below therefore hold for ALL behaviours of the float code and extend C07's no-panic
clause into it.  What they need of a float-derived integer is a hypothesis: the per-partition estimate `as usize` stays
below 2^57 (`estimate_entropy`); a float -> `i16` cast lands in the `i16` range, and the cast of `Float::max(a, T::from(c))`
is at least `c` (`find_shift`, `quantize_parameters`).  `C07G_quantize_parameters_ok` discharges, for the integer part of
the source, the shape assumption `OEvent.Ok` (Lemmas/EncoderShape.lean) that the end-to-end theorems make about a logged
`qlpc` event.
-/
import FlacVerif.Gen.FloatSkel
import FlacVerif.Theorems.C01Gen
import FlacVerif.Lemmas.EncoderShape
namespace FlacVerif.C07Gen
open Gen.Lpc Gen.FloatSkel C01Gen

/-- `estimate_entropy` is total for any block, any warm-up and any positive number of partitions, as long as the
per-partition estimates (`as usize` of a float) stay below a bound `B` whose `partitions`-fold fits `usize`: the
warm-up length and the lower bound on the block play no role. -/
theorem estimate_entropy_total {F : Type} (dbg : Bool) (sumAbs : List Int → F) (fLit : String → F)
    (fprim : String → List F → F) (fOfNat : Nat → F) (fToNat : Nat → F → Nat)
    (errors : List Int) (warm partitions B : Nat) (hp : 1 ≤ partitions)
    (hn : errors.length + partitions < 2 ^ 63) (hcast : ∀ x, fToNat 64 x < B) (hB : partitions * B < 2 ^ 64) :
    ∃ bits, estimate_entropy dbg sumAbs fLit fprim fOfNat fToNat errors warm partitions = some bits ∧ bits ≤ partitions * B := by
  unfold estimate_entropy
  simp only []
  rw [addU_ok dbg 64 _ _ (by omega), Option.bind_some, subU_ok dbg 64 _ _ (by omega), Option.bind_some,
    divU_ok _ _ (by omega), Option.bind_some]
  have hps : (errors.length + partitions - 1) / partitions ≤ errors.length + partitions - 1 := Nat.div_le_self _ _
  rw [loopM_eq_loop, rangeL_zero]
  refine Prelude.loop_range'_total_bind _ (fun J x => x.1 ≤ J * B ∧ x.2 ≤ errors.length) _ _ _ _
    ⟨by rw [Nat.zero_mul]; exact Nat.le_refl 0, Nat.zero_le _⟩ ?hstep ?hk
  case hk =>
    intro s hs
    exact ⟨s.1, rfl, hs.1⟩
  case hstep =>
    intro J hJ x hx
    obtain ⟨acc, offset⟩ := x
    obtain ⟨ha, ho⟩ := hx
    simp only at ha ho ⊢
    have hend : offset ≤ min errors.length (offset + (errors.length + partitions - 1) / partitions) := by
      rw [Nat.le_min]; exact ⟨ho, Nat.le_add_right _ _⟩
    have hJB : (J + 1) * B ≤ partitions * B := Nat.mul_le_mul_right _ hJ
    rw [Nat.succ_mul] at hJB
    rw [addU_ok dbg 64 _ _ (by omega), Option.bind_some, subU_ok dbg 64 _ _ hend, Option.bind_some]
    by_cases hge : min errors.length (offset + (errors.length + partitions - 1) / partitions) ≥ warm
    · rw [if_pos (decide_eq_true hge), subU_ok dbg 64 _ _ hge, Option.bind_some,
        sliceR_ok errors _ _ ⟨hend, Nat.min_le_left _ _⟩, Option.bind_some]
      generalize hq : fToNat 64 _ = q
      have hq' : q < B := hq ▸ hcast _
      rw [addU_ok dbg 64 _ _ (by omega), Option.bind_some, Option.bind_some]
      refine ⟨_, rfl, ?_, Nat.min_le_left _ _⟩
      show acc + q ≤ (J + 1) * B
      rw [Nat.succ_mul]
      omega
    · rw [if_neg (by simpa using hge), Option.bind_some]
      exact ⟨_, rfl, Nat.le_trans ha (Nat.mul_le_mul_right _ (Nat.le_succ J)), Nat.min_le_left _ _⟩

/-- **`estimate_entropy` is total** on the encoder's domain, whatever the float code computes. -/
theorem C07G_estimate_entropy_total {F : Type} (dbg : Bool) (sumAbs : List Int → F) (fLit : String → F)
    (fprim : String → List F → F) (fOfNat : Nat → F) (fToNat : Nat → F → Nat)
    (errors : List Int) (warm partitions : Nat)
    (hn : 64 ≤ errors.length ∧ errors.length ≤ 65535) (hw : warm ≤ 32) (hp : 1 ≤ partitions ∧ partitions ≤ 64)
    (hcast : ∀ x, fToNat 64 x < 2 ^ 57) :
    ∃ bits, estimate_entropy dbg sumAbs fLit fprim fOfNat fToNat errors warm partitions = some bits ∧ bits ≤ partitions * 2 ^ 57 :=
  estimate_entropy_total dbg sumAbs fLit fprim fOfNat fToNat errors warm partitions (2 ^ 57) hp.1 (by omega) hcast
    (by omega)

/-- zero partitions divide by zero in both profiles, whatever the block: on an overflow before the division the dev
profile panics there and the release profile wraps and reaches it -/
theorem estimate_entropy_zero_partitions {F : Type} (dbg : Bool) (sumAbs : List Int → F) (fLit : String → F)
    (fprim : String → List F → F) (fOfNat : Nat → F) (fToNat : Nat → F → Nat) (errors : List Int) (warm : Nat) :
    estimate_entropy dbg sumAbs fLit fprim fOfNat fToNat errors warm 0 = none := by
  unfold estimate_entropy
  simp only []
  cases addU dbg 64 errors.length 0 with
  | none => rfl
  | some v1 =>
    rw [Option.bind_some]
    cases subU dbg 64 v1 1 <;> rfl

/-- outside the verified range `1..=64` of `ApproxEnt { partitions }`: zero partitions divide by zero, in both profiles -/
theorem C07G_estimate_entropy_zero_partitions {F : Type} (dbg : Bool) (sumAbs : List Int → F) (fLit : String → F)
    (fprim : String → List F → F) (fOfNat : Nat → F) (fToNat : Nat → F → Nat) (errors : List Int) (warm : Nat)
    (hn : 1 ≤ errors.length ∧ errors.length < 2 ^ 63) :
    estimate_entropy dbg sumAbs fLit fprim fOfNat fToNat errors warm 0 = none :=
  estimate_entropy_zero_partitions dbg sumAbs fLit fprim fOfNat fToNat errors warm

/-- **`find_shift`** never panics on a non-empty slice with precision <= 15 and returns a shift in `0..=15`, for every
behaviour of the float code that satisfies two facts about IEEE floats: a float -> `i16` cast is an `i16`, and the cast of
`max(a, c)` for an `i16` constant `c` is at least `c`.  The `i16` arithmetic `(precision - 1) - abs_log2` cannot overflow
BECAUSE of the `Float::max(.., i16::MIN + 16)` floor; the result range is `qlpc::MIN_SHIFT ..= MAX_SHIFT`, what `OEvent.Ok` /
`QuantizedParameters::new` require of the shift. -/
theorem C07G_find_shift {F : Type} (dbg : Bool) (fprim : String → List F → F) (fOfInt : Int → F) (fToInt : Nat → F → Int)
    (coefs : List F) (precision : Nat) (hne : coefs ≠ []) (hp : precision ≤ 15)
    (hrange : ∀ x, -(32768 : Int) ≤ fToInt 16 x ∧ fToInt 16 x ≤ 32767)
    (hmax : ∀ a (c : Int), -(32768 : Int) ≤ c → c ≤ 32767 → c ≤ fToInt 16 (fprim "Float::max" [a, fOfInt c])) :
    ∃ s, find_shift dbg fprim fOfInt fToInt coefs precision = some s ∧ 0 ≤ s ∧ s ≤ 15 := by
  unfold find_shift
  have hemp : (!coefs.isEmpty) = true := by cases coefs with | nil => exact absurd rfl hne | cons _ _ => rfl
  rw [req_ok _ (decide_eq_true hp), Option.bind_some, req_ok _ hemp, Option.bind_some, Option.bind_some,
    arithS_ok dbg 16 _ (by omega), Option.bind_some, wrapS_of_inRange 16 (by omega) (by simp only [Int.ofNat_eq_natCast]; omega)]
  generalize hq : fToInt 16 _ = a
  have ha1 : (-32752 : Int) ≤ a := hq ▸ hmax _ (-32768 + 16) (by omega) (by omega)
  have ha2 : a ≤ 32767 := hq ▸ (hrange _).2
  rw [arithS_ok dbg 16 _ (by simp only [Int.ofNat_eq_natCast]; omega), Option.bind_some,
    arithS_ok dbg 16 _ (by simp only [Int.ofNat_eq_natCast]; omega), Option.bind_some]
  refine ⟨_, rfl, ?_⟩
  show 0 ≤ wrapS 8 (max (0 : Int) (min (Int.ofNat precision - 1 - a) 15)) ∧ wrapS 8 (max (0 : Int) (min (Int.ofNat precision - 1 - a) 15)) ≤ 15
  rw [wrapS_of_inRange 8 (by omega) (by omega)]
  omega

/-- the two asserts: an empty slice or a precision above 15 panics in both profiles (the encoder calls `find_shift` only for
`lpc_order >= 1` coefficients and a verified `quant_precision <= 15`) -/
theorem C07G_find_shift_panics {F : Type} (dbg : Bool) (fprim : String → List F → F) (fOfInt : Int → F) (fToInt : Nat → F → Int)
    (coefs : List F) (precision : Nat) (h : coefs = [] ∨ 15 < precision) :
    find_shift dbg fprim fOfInt fToInt coefs precision = none := by
  unfold find_shift
  rcases h with rfl | h
  · have r2 : req (!([] : List F).isEmpty) = none := rfl
    simp only [r2]
    cases req (decide (precision ≤ 15)) <;> rfl
  · have r1 : req (decide (precision ≤ 15)) = none := by
      have : ¬ precision ≤ 15 := by omega
      simp [req, this]
    simp only [r1]
    rfl

/-- **`quantize_parameter`** has no integer-level panic site at all (it is emitted without `Option`); its result is the
`as i16` cast (`fToInt 16`) of the clamped float, so it is an `i16` as soon as that cast yields one: `hrange`, the fact
about IEEE floats that `C07G_find_shift` and `C07G_quantize_parameters_ok` assume too, is all that is used. -/
theorem C07G_quantize_parameter_range {F : Type} (fOfInt : Int → F) (fprim : String → List F → F) (fToInt : Nat → F → Int)
    (p : F) (shift : Int) (hrange : ∀ x, -(32768 : Int) ≤ fToInt 16 x ∧ fToInt 16 x ≤ 32767) :
    -(32768 : Int) ≤ quantize_parameter fOfInt fprim fToInt p shift ∧ quantize_parameter fOfInt fprim fToInt p shift ≤ 32767 := by
  unfold quantize_parameter
  exact hrange _

theorem one_le_two_pow_int (n : Nat) : (1 : Int) ≤ 2 ^ n := by
  have : (1 : Nat) ≤ 2 ^ n := Nat.one_le_two_pow
  exact_mod_cast this

theorem pow_small (p : Nat) (hp : 1 ≤ p ∧ p ≤ 15) : (1 : Int) ≤ 2 ^ (p - 1) ∧ (2 ^ (p - 1) : Int) ≤ 16384 := by
  have h2 : 2 ^ (p - 1) ≤ 2 ^ 14 := Nat.pow_le_pow_right (by omega) (by omega)
  constructor
  · exact one_le_two_pow_int _
  · have : ((2 ^ (p - 1) : Nat) : Int) ≤ ((2 ^ 14 : Nat) : Int) := by exact_mod_cast h2
    simpa using this

/-- the clamp `min(max(v, -(1 << (p-1))), (1 << (p-1)) - 1)` lands in the `p`-bit range, for every `p` -/
theorem clamp_inRange (p : Nat) (v : Int) :
    SubFrame.inRange p (min (max v (-(2 ^ (p - 1) : Int))) ((2 ^ (p - 1) : Int) - 1)) = true := by
  have hP : (1 : Int) ≤ 2 ^ (p - 1) := one_le_two_pow_int _
  unfold SubFrame.inRange
  generalize (2 ^ (p - 1) : Int) = P at hP ⊢
  simp only [Bool.and_eq_true, decide_eq_true_eq]
  omega

/-- the coefficient clamp of `quantize_parameters` -/
theorem C07G_quantize_clamp (p : Nat) (hp : 1 ≤ p ∧ p ≤ 15) (v : Int) :
    SubFrame.inRange p (min (max v (-(2 ^ (p - 1) : Int))) ((2 ^ (p - 1) : Int) - 1)) = true :=
  clamp_inRange p v

theorem tailZeros_le (xs : List Int) : tailZeros xs ≤ xs.length :=
  Nat.le_trans (List.takeWhile_sublist _).length_le (Nat.le_of_eq List.length_reverse)

/-- **`quantize_parameters`** never panics for 1..=24 coefficients and precision 1..=15, whatever the float code computes,
and what it hands on is a parameter set `OEvent.Ok` accepts (1..=24 coefficients, each in the `precision`-bit range,
shift in 0..=15, precision 1..=15). -/
theorem C07G_quantize_parameters_ok {F : Type} (dbg : Bool) (fprim : String → List F → F) (fOfInt : Int → F)
    (fToInt : Nat → F → Int) (coefs : List F) (precision : Nat)
    (hn : 1 ≤ coefs.length ∧ coefs.length ≤ 24) (hp : 1 ≤ precision ∧ precision ≤ 15)
    (hrange : ∀ x, -(32768 : Int) ≤ fToInt 16 x ∧ fToInt 16 x ≤ 32767)
    (hmax : ∀ a (c : Int), -(32768 : Int) ≤ c → c ≤ 32767 → c ≤ fToInt 16 (fprim "Float::max" [a, fOfInt c])) :
    ∃ q, quantize_parameters dbg fprim fOfInt fToInt coefs precision = some q ∧
      (OEvent.qlpc (q.coefs.take q.order) q.shift q.precision).Ok ∧ q.coefs.length = 32 := by
  have hne : coefs ≠ [] := by intro e; rw [e] at hn; simp at hn
  have hemp : coefs.isEmpty = false := by cases coefs with | nil => exact absurd rfl hne | cons _ _ => rfl
  obtain ⟨sh, hsh, hs0, hs15⟩ := C07G_find_shift dbg fprim fOfInt fToInt coefs precision hne hp.2 hrange hmax
  obtain ⟨hP1, hP2⟩ := pow_small precision hp
  unfold quantize_parameters
  rw [hemp, if_neg Bool.false_ne_true, hsh, Option.bind_some]
  simp only [loopM_eq_loop]
  refine Prelude.loop_total_bind _ (fun _ q => q.length = 24 ∧ ∀ c ∈ q, SubFrame.inRange precision c = true) _ _ _ _
    ⟨List.length_replicate, ?h0⟩ ?hstep ?hk
  case h0 =>
    intro c hc
    have h := clamp_inRange precision 0
    rwa [Int.max_eq_left (by omega), Int.min_eq_left (by omega), ← (List.mem_replicate.mp hc).2] at h
  case hstep =>
    intro i hi q hq
    have hi' : i < coefs.length := by simpa [enumL] using hi
    rw [show (enumL coefs)[i] = (i, coefs[i]) by simp [enumL]]
    simp only []
    rw [subU_ok dbg 64 _ _ hp.1, Option.bind_some, shAmt_ok dbg 16 _ (by omega), Option.bind_some, Int.one_mul,
      wrapS_of_inRange 16 (by omega) (by omega), arithS_ok dbg 16 _ (by omega), Option.bind_some,
      Option.bind_some, shAmt_ok dbg 16 _ (by omega), Option.bind_some, Int.one_mul,
      wrapS_of_inRange 16 (by omega) (by omega), arithS_ok dbg 16 _ (by omega), Option.bind_some,
      setAt_ok _ _ _ (by omega), Option.bind_some]
    refine ⟨_, rfl, by rw [List.length_set]; exact hq.1, ?_⟩
    intro c hc
    rcases List.mem_or_eq_of_mem_set hc with h | h
    · exact hq.2 c h
    · rw [h]; exact clamp_inRange precision _
  case hk =>
    intro q hq
    rw [subU_ok dbg 64 _ _ (tailZeros_le q), Option.bind_some]
    generalize hord : max 1 (q.length - tailZeros q) = order
    have ho : 1 ≤ order ∧ order ≤ 24 := by omega
    have hsl : (q.take order).length = order := by rw [List.length_take]; omega
    rw [sliceR_ok q 0 _ ⟨Nat.zero_le _, by omega⟩, Option.bind_some, List.drop_zero]
    have hfp := C01G_from_parts dbg (q.take order) sh precision (by omega)
    rw [hsl] at hfp
    rw [hfp, Option.bind_some]
    refine ⟨_, rfl, ?_, by simp [mkQ]; omega⟩
    show OEvent.Ok (.qlpc (((q.take order) ++ List.replicate (32 - (q.take order).length) 0).take (q.take order).length) sh precision)
    rw [List.take_left' rfl]
    exact ⟨by omega, by unfold maxLpcOrder; omega, hp.1, hp.2, hs0, hs15, fun c hc => hq.2 c (List.mem_of_mem_take hc)⟩

/-- ... and such a parameter set is one `QuantizedParameters::new` / `verify` accepts (hand model `QParams.verify`, tied to
verify.rs by `C18G_qparams_verify`) -/
theorem C07G_ok_verify (coefs : List Int) (shift : Int) (precision : Nat) (h : (OEvent.qlpc coefs shift precision).Ok) :
    (QParams.mk coefs shift precision).verify = true := by
  obtain ⟨_, h2, h3, h4, h5, h6, h7⟩ := h
  unfold QParams.verify
  simp only [Bool.and_eq_true, decide_eq_true_eq, List.all_eq_true]
  refine ⟨⟨⟨⟨⟨by unfold maxLpcOrder at h2; exact h2, h5⟩, h6⟩, h3⟩, h4⟩, ?_⟩
  intro c hc
  have := h7 c hc
  unfold SubFrame.inRange at this
  simp only [Bool.and_eq_true, decide_eq_true_eq] at this
  omega

/-- non-vacuity: 3 coefficients quantised with integer stand-ins for the floats; the trailing zero is trimmed -/
example : (quantize_parameters (F := Int) true (fun op l => if op = "Float::max" then max (l.getD 0 0) (l.getD 1 0) else l.getD 0 0) id
    (fun _ x => max (-32768) (min x 32767)) [3, -70000, 0] 12).map (fun q => (q.coefs.take q.order, q.shift, q.precision, q.order))
    = some ([3, -2048], 8, 12, 2) := by decide +kernel

/-- non-vacuity of `C07G_find_shift`: floats instantiated by integers, `max` by the integer maximum, the cast by a clamp -/
example : find_shift (F := Int) true (fun op l => if op = "Float::max" then max (l.getD 0 0) (l.getD 1 0) else l.getD 0 0) id
    (fun _ x => max (-32768) (min x 32767)) [3, -7] 12 = some 8 := by decide

/-- a concrete run (the hypotheses are satisfiable; the float parameters instantiated by integers): 100 samples, warm-up 4,
64 partitions - most partitions are empty (`offset = end = 100`) -/
example : estimate_entropy (F := Nat) true (fun l => l.length) (fun _ => 1) (fun _ l => l.sum) (fun n => n) (fun _ x => x % 1000)
    (List.replicate 100 7) 4 64 = some 1371 := by decide +kernel

end FlacVerif.C07Gen
