/-
C10 — The bytes produced for a given (configuration, input) do not depend on what the calling
thread encoded, serialised or parsed before.

The mechanism under scrutiny is the crate's thread-local reusable scratch storage (`reusable!` /
`reuse!`, `src/lib.rs:92-116`): every use site receives a buffer with the STALE contents and
length of the previous call. `FlacVerif/Model/Scratch.lean` mirrors each site as a function of the
stale buffer(s); the frame theorems below ("frame" as in the frame rule of program logics: what a call
does not depend on may be changed at will; `C10_call_frame` is named for it, `C10_frame_crc_buffer` for the
FLAC frame) state that what the caller reads afterwards does not depend on them — wherever a stateless mirror
exists, as equality with that mirror.
-/
import FlacVerif.Lemmas.WordSink
import FlacVerif.Lemmas.ScratchCache
import FlacVerif.Lemmas.ScratchFinder
import FlacVerif.Lemmas.ScratchQlpc
import FlacVerif.Lemmas.ScratchFixed
import FlacVerif.Lemmas.ScratchMs
import FlacVerif.Lemmas.ScratchCrc
namespace FlacVerif
open Scratch

/-! ### site 1 — `FIXED_LPC_ERRORS` (`coding.rs` `reset_fixed_lpc_errors`) -/

/-- `errors[k].as_ref()` after the reset is the `k`-th wrapping difference signal of the stateless
mirror, for ANY five stale `SimdVec`s (any lengths, any lane contents). No range hypothesis is
needed: the lanes are copied unchanged for `k = 0`, and both sides wrap to `i32` in every pass. -/
theorem C10_fixed_errors (stale : List SimdVec) (h5 : stale.length = 5) (signal : List Int)
    (k : Nat) (hk : k ≤ 4) :
    readErrors (resetFixedLpcErrors stale signal) k = diffs k signal := by
  rw [resetFixedLpcErrors_eq stale h5]
  show (((List.range 5).map (errAt signal)).getD k default).asRef = _
  rw [List.getD_eq_getElem?_getD, List.getElem?_map, List.getElem?_range (Nat.lt_succ_of_le hk), Option.map_some,
    Option.getD_some, errAt_asRef]

/-- Further sites of the same kind in `lpc.rs`: `CAST_BUFFER` (read through `iter_simd()`, i.e.
including the padding lanes of the last vector), `LpcEstimator::windowed_signal`
(`reset_from_iter_simd`) and `corr_coefs` (`resize` + `fill(0)`) are functions of the new data
only. -/
theorem C10_lpc_estimator_buffers (stale : SimdVec) (staleC : List Int) (signal : List Int)
    (it : List Vec16) (newLen lpcOrder : Nat) :
    castBuffer stale signal = castBuffer default signal ∧
    (castBuffer stale signal).asRef = signal ∧
    stale.resetFromIterSimd newLen it = (default : SimdVec).resetFromIterSimd newLen it ∧
    corrCoefsInit staleC lpcOrder = List.replicate (lpcOrder + 1) 0 := by
  refine ⟨?_, ?_, rfl, ?_⟩
  · rw [castBuffer, castBuffer, resetFromSlice_eq, resetFromSlice_eq]
  · rw [castBuffer, resetFromSlice_eq]
    exact errAt_asRef signal 0
  · simp [corrCoefsInit, vecFill, List.map_const']

/-! ### site 2 — `QLPC_ERROR_BUFFER` (`coding.rs` `estimated_qlpc`, `lpc.rs` `compute_error`) -/

/-- The residual buffer (handed to `encode_residual` if the flag is set) and the flag are those of the
stateless `computeError`, whatever the re-used vector contained and however long it was. -/
theorem C10_qlpc_errors (stale : List Int) (coefs : List Int) (shift : Nat) (signal : List Int) :
    qlpcErrors stale coefs shift signal = computeError coefs shift signal :=
  computeErrorInto_eq coefs shift signal _ (vecResize_length _ _ _)

/-! ### site 3 — `MSFRAMEBUF` (`coding.rs` `try_stereo_coding`, `source.rs` `FrameBuf`) -/

/-- After `resize(size)` and `fill_stereo_with_iter`, `filled_size()` and the two channel slices
read by `encode_frame_impl` are the (length-limited) mid and side signals of `(l, r)`, for any
stale stereo buffer; the buffer invariant (two channels of `size > 0` cells) is re-established. -/
theorem C10_msframebuf (stale : Scratch.FrameBuf) (hinv : stale.Inv) (size : Nat) (hs : 0 < size)
    (l r : List Int) :
    ∃ fb, msFrameBuf stale size l r = some (fb,
        ⟨(((l.zip r).map fun p => midSide p.1 p.2).take size).length,
         (((l.zip r).map fun p => midSide p.1 p.2).take size).map (·.1),
         (((l.zip r).map fun p => midSide p.1 p.2).take size).map (·.2)⟩) ∧ fb.Inv := by
  obtain ⟨fb1, h1, hi1, hz1⟩ := FrameBuf.resize_spec stale hinv size hs
  obtain ⟨fb2, h2, hi2, _, hf2, hm2, hs2⟩ := FrameBuf.fill_spec fb1 hi1 ((l.zip r).map fun p => midSide p.1 p.2)
  rw [hz1] at hf2 hm2 hs2
  refine ⟨fb2, ?_, hi2⟩
  unfold msFrameBuf
  simp only [h1, h2, hm2, hs2, hf2, Option.bind_eq_bind, Option.bind_some]

/-- Two stale buffers give the same reads. -/
theorem C10_msframebuf_indep (s1 s2 : Scratch.FrameBuf) (h1 : s1.Inv) (h2 : s2.Inv) (size : Nat)
    (hs : 0 < size) (l r : List Int) :
    (msFrameBuf s1 size l r).map (·.2) = (msFrameBuf s2 size l r).map (·.2) := by
  obtain ⟨_, e1, _⟩ := C10_msframebuf s1 h1 size hs l r
  obtain ⟨_, e2, _⟩ := C10_msframebuf s2 h2 size hs l r
  rw [e1, e2]; rfl

/-- The initial value of the thread-local satisfies the invariant. -/
theorem C10_msframebuf_init : Scratch.FrameBuf.newStereoBuffer.Inv :=
  ⟨by decide, by simp only [FrameBuf.newStereoBuffer, List.length_replicate]⟩

/-! ### site 4 — `PRC_FINDER` (`rice.rs` `PrcParameterFinder::find`) -/

/-- The parameter returned by `find_partitioned_rice_parameter` does not depend on the four stale
vectors (`errors`, `tables`, `ps`, `min_ps`) left by earlier calls. No hypothesis. -/
theorem C10_prc_finder_indep (s1 s2 : FinderState) (signal : List Int) (warm maxP : Nat) :
    findResult s1 signal warm maxP = findResult s2 signal warm maxP := by
  rw [findResult_eq s1, findResult_eq s2]

/-- … and it is the result of the stateless mirror `search` (the subject of C13). The bound on
the length keeps the partition count below `MAX_RICE_PARTITIONS = 2^15`, whose `assert!` in
`merge_partitions` the stateless mirror does not model (block sizes are `< 2^16`). -/
theorem C10_prc_finder (stale : FinderState) (signal : List Int) (warm maxP : Nat)
    (hlen : signal.length < 2 ^ 21) :
    findResult stale signal warm maxP = search signal warm maxP := by
  rw [findResult_eq, if_neg]
  exact fun ho => absurd (RiceSearch.finestOrder_lt_15 hlen ho) (Nat.lt_irrefl 15)

/-! ### site 5 — `FRAME_CRC_BUFFER`, `HEADER_CRC_BUFFER` (`bitrepr.rs`) -/

/-- `Frame::write`: after `clear()` the re-used `MemSink<u64>` is an empty sink, and
`bytebuf.resize(len >> 3, 0)` + `write_to_byte_slice` overwrite every byte: the bytes handed to the
destination sink and to the CRC-16 are the exported bytes of a FRESH sink that received the same
writes, for any stale pair. -/
theorem C10_frame_crc_buffer (stale : WordSink × List Nat) (countBits : Nat) (ops : List Op)
    (hv : ∀ op ∈ ops, op.Valid) :
    ∃ s, WordSink.empty.run ops = some s ∧
      frameCrcWrite stale countBits ops
        = some ((s.alignToByte, s.alignToByte.exportBytes), s.alignToByte.exportBytes) := by
  obtain ⟨s, hrun, r⟩ := WordSink.run_stores WordSink.empty [] ⟨rfl, 0, by decide, rfl⟩ ops hv
  refine ⟨s, hrun, ?_⟩
  obtain ⟨h8, hsz⟩ := alignToByte_facts s ((WordSink.stores_iff s _).mp r).1
  unfold frameCrcWrite
  simp only [wordSinkClear_eq, wordSinkReserve, hrun, Option.bind_eq_bind, Option.bind_some]
  rw [writeToByteSlice_eq s.alignToByte _ h8 hsz (vecResize_length _ _ _)]
  rfl

/-- `FrameHeader::write`: after `clear()` the re-used `ByteSink` is an empty sink. -/
theorem C10_header_crc_buffer (stale : ByteSink) (countBits : Nat) (ops : List Op) :
    headerCrcWrite stale countBits ops = (ByteSink.empty.run ops).map fun s => (s, s.exportBytes) := by
  unfold headerCrcWrite
  simp only [byteSinkClear_eq, byteSinkReserve]
  cases ByteSink.empty.run ops <;> rfl

/-- `clear()` alone gives the state of `MemSink::new()`: the storage is emptied, the bit length reset, and capacity is
not observable. -/
theorem C10_sink_clear (w : WordSink) (b : ByteSink) :
    wordSinkClear w = WordSink.empty ∧ byteSinkClear b = ByteSink.empty := ⟨wordSinkClear_eq w, byteSinkClear_eq b⟩

/-! ### site 6 — window cache (`lpc.rs` `WINDOW_CACHE`, `WindowKey`, `fingerprint_window`) -/

/-- The cache key separates any two requests: equal keys mean equal size and equal window.
`Win.Valid` is the type invariant `alpha.to_bits() < 2^32`. -/
theorem C10_key_injective (s1 s2 : Nat) (w1 w2 : Win) (h1 : w1.Valid) (h2 : w2.Valid) :
    Key.mk s1 (fingerprint w1) = Key.mk s2 (fingerprint w2) → s1 = s2 ∧ w1 = w2 :=
  fun h => ⟨congrArg Key.size h, fingerprint_injective w1 w2 h1 h2 (congrArg Key.fingerprint h)⟩

/-- One `get_window` call on a cache in ANY state reachable by earlier calls (`Inv`: every entry
was computed for the `(size, window)` of its key): the weights handed out were computed for
exactly the requested `(size, window)`, and the invariant is kept. -/
theorem C10_window_cache (c : Cache) (hinv : c.Inv) (size : Nat) (w : Win) (hw : w.Valid) :
    (c.lookupOrInsert size w).2 = (size, w) ∧ (c.lookupOrInsert size w).1.Inv := by
  obtain ⟨hget, hgood⟩ := memo_lookup Cache.get Cache.insert (fun _ _ => rfl) (fun _ _ _ => rfl)
    (fun e => e.1 = Key.mk e.2.1 (fingerprint e.2.2) ∧ e.2.2.Valid) c hinv ⟨size, fingerprint w⟩ (size, w) ⟨rfl, hw⟩
    fun p hp => by
      obtain ⟨hs, hw'⟩ := C10_key_injective size p.1 w p.2 hw hp.2 hp.1
      exact Prod.ext hs.symm hw'.symm
  simp only [Cache.lookupOrInsert, Cache.lookupOrInsertWith, hget]
  exact ⟨rfl, hgood⟩

/-- History form: any sequence of `get_window` calls on one thread, from any reachable cache state, returns call by
call the `(size, window)` that was asked for. -/
theorem Scratch.Cache.run_spec (c : Cache) (hinv : c.Inv) (reqs : List (Nat × Win)) (hv : ∀ r ∈ reqs, r.2.Valid) :
    c.run reqs = reqs := by
  unfold Cache.run
  induction reqs generalizing c with
  | nil => rfl
  | cons r rest ih =>
    obtain ⟨h1, h2⟩ := C10_window_cache c hinv r.1 r.2 (hv r List.mem_cons_self)
    unfold Cache.lookupOrInsert at h1 h2
    simp only [Cache.runWith, h1]
    rw [ih _ h2 (fun r hr => hv r (List.mem_cons_of_mem _ hr))]

/-- History form: any sequence of `get_window` calls on one thread, starting from the empty
thread-local map, returns call by call what a fresh cache returns for that call alone. -/
theorem C10_window_history (reqs : List (Nat × Win)) (hv : ∀ r ∈ reqs, r.2.Valid) :
    Cache.empty.run reqs = reqs.map fun r => (Cache.empty.lookupOrInsert r.1 r.2).2 := by
  rw [Cache.run_spec Cache.empty Cache.inv_empty reqs hv]
  exact (List.map_id' reqs).symm.trans (List.map_congr_left fun r hr =>
    (C10_window_cache Cache.empty Cache.inv_empty r.1 r.2 (hv r hr)).1.symm)

/-- … and the same from any reachable cache state. -/
theorem C10_window_history_from (c : Cache) (hinv : c.Inv) (reqs : List (Nat × Win))
    (hv : ∀ r ∈ reqs, r.2.Valid) : c.run reqs = Cache.empty.run reqs := by
  rw [Cache.run_spec c hinv reqs hv, Cache.run_spec Cache.empty Cache.inv_empty reqs hv]

/-- NEGATIVE control. With the old quantised fingerprint (any map that identifies two distinct
alphas) the second call of this two-call history is served the window computed for the FIRST
alpha: the result of a call depends on the thread's history. Hence `C10_window_cache` is not
vacuous, and `C10_key_injective` is what it rests on. -/
theorem C10_old_fingerprint_leaks :
    fingerprintOld (.tukey 0x3DCCCCCD) = fingerprintOld (.tukey 0x3DCCCCCC) ∧
    Cache.runWith fingerprintOld Cache.empty [(4096, .tukey 0x3DCCCCCD), (4096, .tukey 0x3DCCCCCC)]
      = [(4096, .tukey 0x3DCCCCCD), (4096, .tukey 0x3DCCCCCD)] ∧
    Cache.runWith fingerprintOld Cache.empty [(4096, .tukey 0x3DCCCCCC)] = [(4096, .tukey 0x3DCCCCCC)] ∧
    Cache.runWith fingerprint Cache.empty [(4096, .tukey 0x3DCCCCCD), (4096, .tukey 0x3DCCCCCC)]
      = [(4096, .tukey 0x3DCCCCCD), (4096, .tukey 0x3DCCCCCC)] := by
  decide

/-- A history of calls on a state machine whose replies are a function `f` of the call alone wherever an invariant
holds that every step keeps: the history of replies is `f` call by call. -/
theorem Scratch.runHistory_eq {S A R : Type} (step : S → A → Option (S × R)) (Inv : S → Prop) (P : A → Prop)
    (f : A → Option R)
    (h : ∀ s a, Inv s → P a → (step s a).map (·.2) = f a ∧ ∀ s' r, step s a = some (s', r) → Inv s')
    (s : S) (hs : Inv s) (calls : List A) (hc : ∀ a ∈ calls, P a) :
    runHistory step s calls = calls.map f := by
  induction calls generalizing s with
  | nil => rfl
  | cons a rest ih =>
    obtain ⟨h1, h2⟩ := h s a hs (hc a (by simp))
    have hr : ∀ x ∈ rest, P x := fun x hx => hc x (by simp [hx])
    unfold runHistory
    cases hst : step s a with
    | none =>
      rw [hst] at h1
      simp only [List.map_cons, ← h1, Option.map_none, ih s hs hr]
    | some p =>
      obtain ⟨s', r⟩ := p
      rw [hst] at h1
      simp only [List.map_cons, ← h1, Option.map_some, ih s' (h2 s' r hst) hr]

def Scratch.ThreadState.Inv (st : ThreadState) : Prop := st.fixed.length = 5 ∧ st.ms.Inv ∧ st.cache.Inv

theorem Scratch.ThreadState.inv_fresh : ThreadState.fresh.Inv :=
  ⟨List.length_replicate, C10_msframebuf_init, Cache.inv_empty⟩

/-- What a call replies, as a function of the call alone. -/
def Scratch.Call.reply : Call → Option Reply
  | .fixed signal => some (.fixed ((List.range 5).map fun k => diffs k signal))
  | .qlpc coefs shift signal => (computeError coefs shift signal).map fun e => .qlpc e.1 e.2
  | .ms size l r =>
    let J := ((l.zip r).map fun p => midSide p.1 p.2).take size
    some (.ms ⟨J.length, J.map (·.1), J.map (·.2)⟩)
  | .find signal warm maxP =>
    (if finestOrder signal.length (max 64 warm) = some 15 then none else search signal warm maxP).map .find
  | .frameCrc _ ops => (WordSink.empty.run ops).map fun s => .bytes s.alignToByte.exportBytes
  | .headerCrc _ ops => (ByteSink.empty.run ops).map fun s => .bytes s.exportBytes
  | .window size w => some (.window (size, w))

/-- How `stepAll` embeds a site: the site returns `a`, the new thread state is `put a`, the reply `wrap a`.  What is to be
shown of a site is then its reply as a function of the call, and the invariant of `put a`. -/
theorem Scratch.site_reply {α : Type} (o : Option α) (put : α → ThreadState) (wrap : α → Reply) (f : Option Reply)
    (hr : o.map wrap = f) (hi : ∀ a, o = some a → (put a).Inv) :
    (o.map fun a => (put a, wrap a)).map (·.2) = f ∧
      ∀ st' r, (o.map fun a => (put a, wrap a)) = some (st', r) → st'.Inv := by
  subst hr
  cases o with
  | none => exact ⟨rfl, fun _ _ h => nomatch h⟩
  | some a => exact ⟨rfl, fun _ _ h => by cases h; exact hi a rfl⟩

/-- One call on ANY reachable scratch state of a thread replies `c.reply` and keeps the state reachable: the site
theorems above, one per constructor. -/
theorem Scratch.stepAll_reply (st : ThreadState) (c : Call) (hinv : st.Inv) (hok : c.Ok) :
    (stepAll st c).map (·.2) = c.reply ∧ ∀ st' r, stepAll st c = some (st', r) → st'.Inv := by
  have ⟨h5, hms, hca⟩ := hinv
  cases c with
  | fixed signal =>
    refine site_reply (some (resetFixedLpcErrors st.fixed signal)) (fun e => { st with fixed := e })
      (fun e => .fixed ((List.range 5).map (readErrors e))) _ ?_
      fun _ h => ⟨by cases h; simp [resetFixedLpcErrors_eq _ h5], hms, hca⟩
    exact congrArg (fun l => some (Reply.fixed l)) (List.map_congr_left fun k hk =>
      C10_fixed_errors st.fixed h5 signal k (Nat.le_of_lt_succ (List.mem_range.mp hk)))
  | qlpc coefs shift signal =>
    refine site_reply _ _ _ _ ?_ fun _ _ => hinv
    rw [C10_qlpc_errors]
    rfl
  | ms size l r =>
    obtain ⟨fb1, e1, i1⟩ := C10_msframebuf st.ms hms size hok l r
    refine site_reply _ _ _ _ ?_
      fun _ h => ⟨h5, by cases e1.symm.trans h; exact i1, hca⟩
    rw [e1]
    rfl
  | find signal warm maxP =>
    refine site_reply _ _ _ _ ?_ fun _ _ => hinv
    rw [Call.reply, ← findResult_eq st.finder, findResult, Option.map_map]
    rfl
  | frameCrc cb ops =>
    obtain ⟨s1, r1, e1⟩ := C10_frame_crc_buffer st.frameCrc cb ops hok
    refine site_reply _ _ _ _ ?_ fun _ _ => hinv
    rw [e1, Call.reply, r1]
    rfl
  | headerCrc cb ops =>
    refine site_reply _ _ _ _ ?_ fun _ _ => hinv
    rw [C10_header_crc_buffer, Call.reply, Option.map_map]
    rfl
  | window size w =>
    obtain ⟨a1, a2⟩ := C10_window_cache st.cache hca size w hok
    refine site_reply (some (st.cache.lookupOrInsert size w)) (fun r => { st with cache := r.1 })
      (fun r => .window r.2) _ ?_
      fun _ h => ⟨h5, hms, by cases h; exact a2⟩
    exact congrArg (fun p => some (Reply.window p)) a1

/-- One call on ANY reachable scratch state of a thread (`ThreadState.Inv`: five error planes, a
two-channel stereo buffer of positive size, a cache whose entries match their keys) replies what
the same call replies on a fresh thread, and keeps the state reachable. -/
theorem C10_call_frame (st : ThreadState) (c : Call) (hinv : st.Inv) (hok : c.Ok) :
    (stepAll st c).map (·.2) = (stepAll ThreadState.fresh c).map (·.2) ∧
    ∀ st' r, stepAll st c = some (st', r) → st'.Inv :=
  ⟨(stepAll_reply st c hinv hok).1.trans (stepAll_reply _ c ThreadState.inv_fresh hok).1.symm,
    (stepAll_reply st c hinv hok).2⟩

/-- C10 on the scratch storage: ANY sequence of uses of the seven thread-local buffers — with
differing signal lengths, block sizes, orders, windows and sink contents — gives, call by call, the
reply that each call gives alone on a fresh thread. -/
theorem C10_history (calls : List Call) (hok : ∀ c ∈ calls, c.Ok) :
    runHistory stepAll ThreadState.fresh calls
      = calls.map fun c => (stepAll ThreadState.fresh c).map (·.2) :=
  runHistory_eq stepAll ThreadState.Inv Call.Ok _ C10_call_frame ThreadState.fresh ThreadState.inv_fresh calls hok

/-- … and from any reachable state, not only from the beginning of a thread. -/
theorem C10_history_from (st : ThreadState) (hinv : st.Inv) (calls : List Call) (hok : ∀ c ∈ calls, c.Ok) :
    runHistory stepAll st calls = runHistory stepAll ThreadState.fresh calls := by
  rw [C10_history calls hok]
  exact runHistory_eq stepAll ThreadState.Inv Call.Ok _ C10_call_frame st hinv calls hok

/-! ### non-vacuity: concrete stale buffers LONGER and SHORTER than the new data -/

section NonVacuity

private def sv (n : Nat) (c : Int) : SimdVec := ⟨List.replicate n (List.replicate 16 c), 16 * n⟩

private def sig20 : List Int := [3, 10, 8, 20, 0, 17, 2, 1, 14, 18, 13, 22, 22, 13, 18, 14, 1, 2, 17, 5]

set_option maxRecDepth 100000 in
/-- Site 1: stale planes longer (5, 3 vectors), equal (2) and shorter (0, 1) than the 2 vectors of
a 20-sample signal; the second-order plane is read correctly, and the lanes past `len` of the
result are NOT zero (they are computed but never read). -/
example :
    readErrors (resetFixedLpcErrors [sv 5 7, sv 0 9, sv 1 11, sv 3 13, sv 2 99] sig20) 2 = diffs 2 sig20 ∧
    (((resetFixedLpcErrors [sv 5 7, sv 0 9, sv 1 11, sv 3 13, sv 2 99] sig20).getD 1 default).inner.getD 1 []).getD 4 0 = -5 := by
  decide +kernel

/-- Site 1, negative control: `SimdVec::resize` alone keeps the stale lanes readable. -/
example : ((sv 3 13).resize 20 zeroV).asRef = List.replicate 20 13 := by decide

/-- Site 2: stale buffer longer and shorter than the 7-sample signal, both arithmetic paths (on the `i64`
path the exact error at `t = 2` is `3276634470`: the wrapped value is stored, the flag is `false`). -/
example :
    qlpcErrors (List.replicate 12 5) [2, -1] 0 [1, 2, 4, 7, 11, 16, 22] = some ([0, 0, 1, 1, 1, 1, 1], true) ∧
    qlpcErrors [5, 5] [2, -1] 0 [1, 2, 4, 7, 11, 16, 22] = some ([0, 0, 1, 1, 1, 1, 1], true) ∧
    qlpcErrors (List.replicate 12 5) [32767, -32767] 0 [100000, 2, 4, 7, 11, 16, 22]
      = some ([0, 0, -1018332826, -65527, -98290, -131052, -163813], false) := by
  decide +kernel

/-- Site 2, negative control: without `errors.fill(0)` the stale cells would enter the result. -/
example : computeError32From [1] 0 [1, 2, 3] [5, 5, 5] = some [0, -4, -4] ∧
    computeError32 [1] 0 [1, 2, 3] = some [0, 1, 1] := by decide

/-- Site 3: stale stereo buffers larger (size 6, `filled` 5) and smaller (size 2) than the new
block (size 4, 3 samples filled); the cell past `filled` keeps stale data but is not read. -/
example :
    msFrameBuf ⟨List.replicate 12 9, 6, 5⟩ 4 [1, 2, 3] [5, 5, 5]
      = some (⟨[3, 3, 4, 9, -4, -3, -2, 9], 4, 3⟩, ⟨3, [3, 3, 4], [-4, -3, -2]⟩) ∧
    msFrameBuf ⟨List.replicate 4 9, 2, 2⟩ 4 [1, 2, 3] [5, 5, 5]
      = some (⟨[3, 3, 4, 9, -4, -3, -2, 0], 4, 3⟩, ⟨3, [3, 3, 4], [-4, -3, -2]⟩) ∧
    (⟨List.replicate 12 9, 6, 5⟩ : Scratch.FrameBuf).Inv ∧ (⟨List.replicate 4 9, 2, 2⟩ : Scratch.FrameBuf).Inv := by
  refine ⟨by decide, by decide, ⟨by decide, by decide⟩, ⟨by decide, by decide⟩⟩

/-- Site 3, negative control: `resize` alone leaves the stale `filled_size` and samples readable. -/
example : ((⟨List.replicate 12 9, 6, 5⟩ : Scratch.FrameBuf).resize 4).bind (·.channelSlice 0) = some [9, 9, 9, 9, 9] := by
  decide

private def sig128 : List Int := (List.replicate 64 1) ++ (List.replicate 64 (-300))

set_option maxRecDepth 100000 in
/-- Site 4: stale `ps` / `min_ps` longer (100) and shorter (1, 0) than the 2 partitions searched. -/
example :
    findResult ⟨[1, 2, 3], [[1], [2]], List.replicate 100 77, List.replicate 100 55⟩ sig128 2 14
      = some ⟨1, [0, 8], 898⟩ ∧
    findResult ⟨List.replicate 300 9, [], [6], []⟩ sig128 2 14 = some ⟨1, [0, 8], 898⟩ ∧
    findResult FinderState.fresh sig128 2 14 = some ⟨1, [0, 8], 898⟩ := by
  decide +kernel

/-- Site 4, negative control: `eval_partitions` into a vector longer than the table list keeps the
stale tail — this is why `min_ps.resize(nparts, 0)` / `ps.resize(nparts, 0)` must give exactly
`nparts` cells. -/
example : (evalInto 14 [List.replicate 16 5] [7, 7, 7] 0).2 = [0, 7, 7] := by decide

set_option maxRecDepth 100000 in
/-- Site 5: a stale sink with 190 bits in three words and a stale byte vector longer (40) and
shorter (2) than the 11 bytes of the new frame. -/
example :
    (frameCrcWrite (⟨[7#64, 9#64, 10#64], 190⟩, List.replicate 40 0xEE) 0
        [.writeLsbs 16 0xFFF8 16, .writeLsbs 8 0xAB 8, .writeLsbs 64 0x123456789 60, .writeLsbs 8 3 3]).map (·.2)
      = some [255, 248, 171, 0, 0, 0, 18, 52, 86, 120, 150] ∧
    (frameCrcWrite (⟨[7#64, 9#64, 10#64], 190⟩, List.replicate 2 0xEE) 0
        [.writeLsbs 16 0xFFF8 16, .writeLsbs 8 0xAB 8, .writeLsbs 64 0x123456789 60, .writeLsbs 8 3 3]).map (·.2)
      = some [255, 248, 171, 0, 0, 0, 18, 52, 86, 120, 150] ∧
    (headerCrcWrite ⟨[7#8, 9#8], 13⟩ 0 [.writeLsbs 16 0xFFF8 16, .writeLsbs 8 0xAB 4]).map (·.2)
      = some [255, 248, 176] := by
  decide +kernel

/-- Site 6: a cache that already holds entries (longer history) serves a new request correctly;
the hypotheses of `C10_window_cache` are satisfiable by a non-empty cache. -/
example :
    (Cache.empty.lookupOrInsert 4096 (.tukey 0x3DCCCCCD)).1.Inv ∧
    Cache.empty.run [(4096, .tukey 0x3DCCCCCD), (4096, .tukey 0x3DCCCCCC), (4096, .rectangle),
        (16, .tukey 0x3DCCCCCD), (4096, .tukey 0x3DCCCCCC)]
      = [(4096, .tukey 0x3DCCCCCD), (4096, .tukey 0x3DCCCCCC), (4096, .rectangle),
        (16, .tukey 0x3DCCCCCD), (4096, .tukey 0x3DCCCCCC)] :=
  ⟨(C10_window_cache Cache.empty Cache.inv_empty 4096 (.tukey 0x3DCCCCCD) (by decide)).2, by decide⟩

set_option maxRecDepth 100000 in
/-- A mixed history: a long block, then a short one, a different window, a mid/side call with a
smaller block: the replies of the 2nd..5th calls (made on dirty buffers) are those of the fresh
thread; the hypotheses of `C10_history` hold for it. -/
example :
    let calls : List Call := [.fixed sig20, .fixed [5, 7], .qlpc [2, -1] 0 [1, 2, 4, 7, 11, 16, 22],
      .qlpc [1] 0 [9, 9], .ms 300 [1, 2, 3] [5, 5, 5], .ms 4 [1, 2] [0, 1],
      .window 4096 (.tukey 0x3DCCCCCD), .window 4096 (.tukey 0x3DCCCCCC)]
    (∀ c ∈ calls, c.Ok) ∧
    (runHistory stepAll ThreadState.fresh calls).drop 5
      = [some (.ms ⟨2, [0, 1], [1, 1]⟩), some (.window (4096, .tukey 0x3DCCCCCD)),
         some (.window (4096, .tukey 0x3DCCCCCC))] := by
  refine ⟨?_, by decide +kernel⟩
  intro c hc
  simp only [List.mem_cons, List.not_mem_nil, or_false] at hc
  rcases hc with h | h | h | h | h | h | h | h <;> subst h <;> simp [Call.Ok, Win.Valid]

end NonVacuity

end FlacVerif
