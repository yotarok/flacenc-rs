/-
C16Gen — the hand-written mirror of the repository's nom parser (`Model/RepoParser.lean`, parser half) equals the code
GENERATED from the current text of `src/component/parser.rs` (`Gen/Parser.lean`, translator part `parser`), function by
function, from the bit primitives up to `stream`.

The mirror describes the DEV profile (every checked arithmetic step is a panic site), so the theorems are stated for
`dbg = true`; `Theorems/C16GenRel.lean` covers the release profile on the inputs where the dev profile does not panic.
Bit level (`u_to_i` ... `subframe`): equations `generated = cls mirror` for every argument value, without hypotheses
(`cls`: same Ok value and rest / same error class / panic iff panic; the panic-site label is dropped; for the four full
sub-frame parsers `if bps ≤ 25 then cls mirror else none`; for `quantized_parameters` the map `clsQ`).
Byte level (`block_size_code` ... `stream`): relation `relB` (`relStream` for `stream`), with the domain hypothesis `IsBytes bs`
(every element < 256, the Rust type `&[u8]`) where a byte VALUE is used; values are compared through the maps of
`Theorems/C02Hdr.lean` and `Theorems/GenFrame.lean` (`C08Gen.hdrOfGen`), and `frOfGen`, `mbOfGen`, `psOfGen` here.
Every proof walks its parser once with the step lemmas of `Lemmas/ParserCorr.lean`.

Corollaries at the end: the properties of the mirror transported to the code generated from the current source text -
`C16G_total*` (never `none`, i.e. never a panic: from `*_sat` / `C16_total`), `C15G_frame_roundtrip`, `C15G_stream_roundtrip`
(from `C15_frame_bits`, `C15_stream_bits`).

One observation, inside `outer_loop`: the generated code has the step `part + 1` (`addU`) of `partition_len * (part + 1)`,
which the mirror does not list as a panic site; it cannot overflow because `part < partition_count <= 2^15` (hypothesis
`part + n < 2^64` of `outer_loop`, discharged in `C16G_residual_run`).
-/
import FlacVerif.Theorems.C18Gen
import FlacVerif.Theorems.GenBlockSize
import FlacVerif.Theorems.C15
import FlacVerif.Theorems.C16
import FlacVerif.Lemmas.ParserCorr
import FlacVerif.Lemmas.Verify

namespace FlacVerif.C16Gen
open FlacVerif.Repo FlacVerif.Gen.Parser
open FlacVerif.Gen.Decode (addU mulU arithS shAmt shlU wrapS divU req rangeL)

theorem C16G_takeBits (w n : Nat) (i : Bits) : Gen.Parser.takeBits w n i = cls (Repo.takeBits w n i) := by
  unfold Gen.Parser.takeBits Repo.takeBits
  simp only [apply_ite cls]
  rfl

theorem C16G_tagBits (w p n : Nat) (i : Bits) : Gen.Parser.tagBits w p n i = cls (Repo.tagBits w p n i) := by
  unfold Gen.Parser.tagBits Repo.tagBits
  rw [C16G_takeBits]
  rcases Repo.takeBits w n i with ⟨v, r⟩ | ⟨_ | _⟩ | _
  · show (if v = p then _ else _) = cls (if v = p then _ else _)
    split <;> rfl
  all_goals rfl

theorem wrapS_eq_asSigned (w : Nat) (v : Int) : wrapS w v = asSigned w v := rfl

theorem u_to_i_tail (x : Nat) (off : Int) (s1 s2 : String) :
    ((req (decide (x < 2147483648))).bind fun _ => (arithS true 32 ((x : Int) - off)).bind fun v5 => some v5) =
      clsO (if x ≥ 2 ^ 31 then PResult.panic s1 else
        (if inI32 ((x : Int) - off) then PResult.ok ((x : Int) - off) else PResult.panic s2)) := by
  by_cases hx : x < 2147483648
  · rw [if_neg (Nat.not_le.mpr hx), show decide (x < 2147483648) = true from decide_eq_true hx]
    refine (Option.bind_fun_some _).trans ?_
    unfold arithS
    simp only [apply_ite clsO, inI32, Bool.and_eq_true, decide_eq_true_eq]
    rfl
  · rw [if_pos (Nat.not_lt.mp hx), show decide (x < 2147483648) = false from decide_eq_false hx]
    rfl

theorem C16G_u_to_i (x bits : Nat) : u_to_i true x bits = clsO (uToI x bits) := by
  unfold u_to_i uToI
  refine clsO_bind (subU_eq 64 _ bits 1) fun b1 => ?_
  refine clsO_shl ?_
  dsimp only
  by_cases hm : x ≥ shlU 64 1 b1
  · rw [if_pos hm, if_pos (decide_eq_true hm)]
    exact clsO_bind (clsO_shl rfl) fun off => u_to_i_tail x off _ _
  · rw [if_neg hm, if_neg (by rw [decide_eq_false hm]; exact Bool.false_ne_true)]
    exact u_to_i_tail x 0 _ _

/-- `many0_count(bit_tag(0, 1))` with `c` zeros counted so far, then `bit_tag(1, 1)`: the mirror's count is added to `c` -/
theorem many0_unary (i : Bits) : ∀ (fuel c : Nat), i.length < fuel →
    (bindP (many0CountAux (Gen.Parser.tagBits 32 0 1) fuel i c) fun (r, ret) =>
      bindP (Gen.Parser.tagBits 32 1 1 r) fun (r', _) => okP (r', ret)) = outcome (fun p => (p.2, p.1 + c)) (unaryCode i) := by
  induction i with
  | nil =>
    intro fuel c h
    cases fuel with
    | zero => exact absurd h (Nat.not_lt_zero _)
    | succ f => rfl
  | cons b r ih =>
    intro fuel c h
    cases fuel with
    | zero => exact absurd h (Nat.not_lt_zero _)
    | succ f =>
      cases b with
      | true => exact congrArg (fun n => some (Except.ok (r, n))) (Nat.zero_add c).symm
      | false =>
        have hne : ¬ r.length = (false :: r).length := Nat.ne_of_lt (Nat.lt_succ_self _)
        show bindP (if r.length = (false :: r).length then errP else many0CountAux _ f r (c + 1)) _ = _
        rw [if_neg hne, ih f (c + 1) (Nat.lt_of_succ_lt_succ h), unaryCode]
        rcases unaryCode r with ⟨q, r'⟩ | ⟨_ | _⟩ | _
        · exact congrArg (fun n => some (Except.ok (r', n))) (by rw [Nat.add_assoc, Nat.add_comm c 1])
        all_goals rfl

theorem C16G_unary_code (i : Bits) : unary_code true i = cls (unaryCode i) :=
  (many0_unary i (i.length + 1) 0 (Nat.lt_succ_self _)).trans (cls_eq _).symm

theorem uToI_ne_error (x b : Nat) : noErr (uToI x b) := by
  unfold uToI
  refine noErr_bind (noErr_usub _ _ _) fun b1 => noErr_bind (noErr_ushl _ _ _ _) fun msb => ?_
  refine noErr_ite (noErr_bind (noErr_bind (noErr_ushl _ _ _ _) fun _ => noErr_ok _) fun _ => ?_)
    (noErr_bind (noErr_ok _) fun _ => ?_)
  all_goals exact noErr_ite (noErr_panic _) (noErr_ite (noErr_ok _) (noErr_panic _))

theorem raw_loop (bps : Nat) (l : List Nat) : ∀ (i : Bits) (acc : List Int),
    (loopP l (i, acc) fun _ (st : List Bool × List Int) =>
      bindP (Gen.Parser.takeBits 32 bps st.1) fun (r : List Bool × Nat) =>
      (u_to_i true r.2 bps).bind fun v2 => okP (r.1, st.2 ++ [v2])) =
      outcome (fun p => (p.2, acc ++ p.1)) (rawSamplesLoop bps l.length i) := by
  induction l with
  | nil => intro i acc; exact congrArg (fun a => okP (i, a)) (List.append_nil acc).symm
  | cons a l ih =>
    intro i acc
    rw [loopP, List.length_cons, rawSamplesLoop, bindP_assoc]
    refine outcome_bind (C16G_takeBits 32 bps i) fun u i' => ?_
    rw [bindP_obind]
    refine outcome_bindO (C16G_u_to_i u bps) (uToI_ne_error u bps) fun x _ => ?_
    rw [bindP_okP, ih]
    exact outcome_bind_pure fun p => by rw [List.append_assoc]; rfl

theorem C16G_raw_samples_run (bps size : Nat) (i : Bits) :
    raw_samples_run true bps size i = cls (rawSamplesLoop bps size i) := by
  refine (bindP_okP_id _).trans ((raw_loop bps (rangeL 0 size) i []).trans ?_)
  rw [rangeL, List.length_range', cls_eq]
  rfl

/-- the `debug_assert!(bits_per_sample <= MAX_BITS_PER_SAMPLE + 1)` every sub-frame parser starts with when it is built -/
theorem bpsAssert_eq (bps : Nat) (s : String) :
    ((addU true 64 24 1).bind fun v1 => (req (!true || decide (bps ≤ v1))).bind fun _ => some ()) =
      clsO (passert (bps ≤ 25) s) := by
  show (req (decide (bps ≤ 25))).bind _ = _
  cases decide (bps ≤ 25) <;> rfl

theorem C16G_raw_samples (bps size : Nat) (i : Bits) :
    raw_samples true bps size i = cls (rawSamples bps size i) :=
  (outcome_bindO (bpsAssert_eq bps _) (noErr_passert _ _) fun _ _ => (C16G_raw_samples_run bps size i).trans (cls_eq _)).trans
    (cls_eq _).symm

theorem subframe_header_eq (i : Bits) :
    subframe_header true i = outcome (fun p => (p.2, (p.1, false))) (subframeHeader i) := by
  unfold subframe_header subframeHeader
  refine outcome_bind (C16G_takeBits 8 7 i) fun t r => ?_
  refine outcome_bind (C16G_takeBits 8 1 r) fun w r2 => ?_
  refine ite_eq_map _ decide_eq_true_iff (fun _ => rfl) fun hw => ?_
  rw [decide_eq_false hw]
  rfl

theorem C16G_subframe_header (i : Bits) :
    subframe_header true i = (match subframeHeader i with
      | .ok (t, r) => some (.ok (r, (t, false)))
      | .error true => some (.error .incomplete)
      | .error false => some (.error .error)
      | .panic _ => none) := by
  rw [subframe_header_eq]
  rcases subframeHeader i with ⟨_, _⟩ | ⟨_ | _⟩ | _ <;> rfl

/-- a sub-frame parser after its header: the type tag is the value, the wasted-bits flag is `false` -/
theorem outcome_bind_header {β γ : Type} {k : β → γ} {i : Bits} {g : List Bool × Nat × Bool → PM γ}
    {f : Nat × Bits → PResult β} (h : ∀ t r, g (r, t, false) = outcome k (f (t, r))) :
    bindP (subframe_header true i) g = outcome k (subframeHeader i >>= f) :=
  outcome_bindK (subframe_header_eq i) fun p _ => h p.1 p.2

theorem C16G_constant_run (bs bps : Nat) (i : Bits) :
    constant_run true bs bps i = cls (Repo.constant bs bps i) := by
  rw [cls_eq]
  unfold constant_run Repo.constant
  refine outcome_bind_header fun t r => ?_
  refine ite_eq_map _ decide_eq_true_iff (fun _ => rfl) fun _ => ?_
  unfold mapP
  rw [bindP_assoc]
  refine outcome_bind (C16G_takeBits 32 bps r) fun u r2 => ?_
  rw [bindP_obind, Option.bind_assoc]
  exact outcome_bindO (C16G_u_to_i u bps) (uToI_ne_error u bps) fun x _ => rfl

theorem C16G_verbatim_run (bs bps : Nat) (i : Bits) :
    verbatim_run true bs bps i = cls (Repo.verbatim bs bps i) := by
  rw [cls_eq]
  unfold verbatim_run Repo.verbatim
  refine outcome_bind_header fun t r => ?_
  refine ite_eq_map _ decide_eq_true_iff (fun _ => rfl) fun _ => ?_
  rw [← bindP_obind]
  exact outcome_bind (C16G_raw_samples bps bs r) fun xs r2 => rfl

/-- inner loop body of the generated `residual` -/
def innerBody (p w : Nat) (t : Nat) (st : List Nat × List Nat × List Bool) : PM (List Nat × List Nat × List Bool) :=
  match st with
  | (quotients, remainders, remaining_input) =>
    if (decide (t < w)) then
      okP (quotients ++ [0], remainders ++ [0], remaining_input)
    else
      bindP (unary_code true remaining_input) fun (i, q) =>
      bindP ((Gen.Parser.takeBits 32 p) i) fun (i, r) =>
      okP (quotients ++ [(q % 4294967296)], remainders ++ [r], i)

theorem inner_loop (p w : Nat) : ∀ (n t : Nat) (i : Bits) (aq ar : List Nat),
    loopP (List.range' t n) (aq, ar, i) (innerBody p w) =
      outcome (fun x => (aq ++ x.1.1, ar ++ x.1.2, x.2)) (residualSamples p w n t i) := by
  intro n
  induction n with
  | zero =>
    intro t i aq ar
    show okP _ = okP (aq ++ [], ar ++ [], i)
    rw [List.append_nil, List.append_nil]
  | succ n ih =>
    intro t i aq ar
    rw [List.range'_succ, loopP, residualSamples]
    show bindP (if decide (t < w) = true then _ else _) _ = _
    by_cases ht : t < w
    · rw [if_pos (decide_eq_true ht), if_pos ht, bindP_okP, ih]
      exact outcome_bind_pure fun x => by rw [List.append_assoc, List.append_assoc]; rfl
    · rw [if_neg (mt of_decide_eq_true ht), if_neg ht, bindP_assoc]
      refine outcome_bind (C16G_unary_code i) fun q r1 => ?_
      rw [bindP_assoc]
      refine outcome_bind (C16G_takeBits 32 p r1) fun rv r2 => ?_
      rw [bindP_okP, ih]
      exact outcome_bind_pure fun x => by rw [List.append_assoc, List.append_assoc]; rfl

/-- outer loop body of the generated `residual` -/
def outerBody (pBits plen w : Nat) (part : Nat) (st : List Bool × List Nat × List Nat × List Nat) :
    PM (List Bool × List Nat × List Nat × List Nat) :=
  match st with
  | (remaining_input, rice_params, quotients, remainders) =>
    bindP ((Gen.Parser.takeBits 8 pBits) remaining_input) fun (i, rice_p) =>
    (mulU true 64 plen part).bind fun v4 =>
    (addU true 64 part 1).bind fun v5 =>
    (mulU true 64 plen v5).bind fun v6 =>
    bindP (loopP (rangeL v4 v6) (quotients, remainders, i) (innerBody rice_p w)) fun (quotients, remainders, remaining_input) =>
    okP (remaining_input, rice_params ++ [rice_p], quotients, remainders)

/-- `outcome` with the three accumulators prepended (`accO_eq`) -/
def accO (ap aq ar : List Nat) : PResult ((List Nat × List Nat × List Nat) × Bits) →
    PM (List Bool × List Nat × List Nat × List Nat)
  | .ok ((ps, qs, rs), r) => some (.ok (r, ap ++ ps, aq ++ qs, ar ++ rs))
  | .error true => some (.error .incomplete)
  | .error false => some (.error .error)
  | .panic _ => none

theorem accO_eq (ap aq ar : List Nat) (x : PResult ((List Nat × List Nat × List Nat) × Bits)) :
    accO ap aq ar x = outcome (fun v => (v.2, ap ++ v.1.1, aq ++ v.1.2.1, ar ++ v.1.2.2)) x := by
  rcases x with ⟨⟨_, _, _⟩, _⟩ | ⟨_ | _⟩ | _ <;> rfl

theorem outer_loop (pBits plen w : Nat) : ∀ (n part : Nat) (i : Bits) (ap aq ar : List Nat), part + n < 2 ^ 64 →
    loopP (List.range' part n) (i, ap, aq, ar) (outerBody pBits plen w) =
      accO ap aq ar (residualParts pBits plen w n part i) := by
  intro n
  induction n with
  | zero =>
    intro part i ap aq ar _
    show okP _ = okP (i, ap ++ [], aq ++ [], ar ++ [])
    rw [List.append_nil, List.append_nil, List.append_nil]
  | succ n ih =>
    intro part i ap aq ar hb
    -- `part + 1` of `partition_len * (part + 1)` is not a panic site of the mirror: it cannot overflow
    have a1 : addU true 64 part 1 = some (part + 1) := if_pos (by omega)
    rw [List.range'_succ, loopP, residualParts, accO_eq]
    show bindP (bindP _ _) _ = _
    rw [bindP_assoc]
    refine outcome_bind (C16G_takeBits 8 pBits i) fun p r1 => ?_
    rw [bindP_obind]
    refine outcome_check fun _ => ?_
    rw [a1, Option.bind_some, bindP_obind]
    refine outcome_check fun _ => ?_
    rw [bindP_assoc]
    refine outcome_bindK (inner_loop p w _ _ r1 aq ar) fun x _ => ?_
    rw [bindP_okP, ih (part + 1) x.2 _ _ _ (by omega), accO_eq]
    exact outcome_bind_pure fun y => by rw [List.append_assoc, List.append_assoc, List.append_assoc]; rfl

/-- the generated `residual_run` with its two loop bodies named -/
def residualR (bs w : Nat) (i : Bits) : PM (List Bool × Residual) :=
  bindP (Gen.Parser.takeBits 8 2 i) fun (r, method) =>
  bindP (if method = 0 then okP 4 else if method = 1 then okP 5 else errP) fun pBits =>
  bindP (Gen.Parser.takeBits 8 4 r) fun (r, po) =>
  (shAmt true 64 po).bind fun v2 =>
  (divU bs (shlU 64 1 v2)).bind fun plen =>
  bindP (loopP (rangeL 0 (shlU 64 1 v2)) (r, [], [], []) (outerBody pBits plen w)) fun (r, rp, q, rm) =>
  (Residual_from_parts true po bs w rp q rm).bind fun v8 => okP (r, v8)

theorem residual_run_eq (bs w : Nat) (i : Bits) : residual_run true bs w i = residualR bs w i := rfl

theorem C16G_residual_run (bs w : Nat) (i : Bits) : residual_run true bs w i = cls (Repo.residual bs w i) := by
  rw [residual_run_eq, cls_eq]
  unfold residualR Repo.residual
  refine outcome_bind (C16G_takeBits 8 2 i) fun method r1 => ?_
  refine outcome_bindK (k1 := id) ?_ fun pBits _ => ?_
  · exact ite_eq_map _ Iff.rfl (fun _ => rfl) fun _ => ite_eq_map _ Iff.rfl (fun _ => rfl) fun _ => rfl
  refine outcome_bind (C16G_takeBits 8 4 r1) fun po r2 => ?_
  refine outcome_shl fun hpo => ?_
  -- `block_size / partition_count`
  show (if _ then none else some _).bind _ = outcome _ (if _ then _ else _)
  by_cases hc : shlU 64 1 po = 0
  · rw [if_pos hc, if_pos hc]; rfl
  rw [if_neg hc, if_neg hc, Option.bind_some]
  have hlt : 0 + shlU 64 1 po < 2 ^ 64 := by rw [Nat.zero_add]; exact Nat.mod_lt _ (by decide)
  refine outcome_bindK ((outer_loop pBits _ w _ 0 r2 [] [] [] hlt).trans (accO_eq ..)) fun ⟨⟨ps, qs, rs⟩, r3⟩ _ => ?_
  -- `Residual::from_parts`: the assertion, `max * block_size`, the two sums
  dsimp only [List.nil_append]
  unfold Residual_from_parts
  rw [if_pos rfl, show shAmt true 64 po = some po from if_pos hpo, Option.bind_some, Option.bind_assoc]
  refine outcome_check fun _ => ?_
  rw [Option.bind_assoc]
  refine outcome_check fun _ => ?_
  rw [Option.bind_assoc]
  refine outcome_bindO ?_ ?_ fun _ _ => ?_
  · exact ite_eq_map clsO Iff.rfl (fun _ => rfl) fun _ => sumU_eq 64 _ _
  · exact noErr_ite (noErr_ok _) (noErr_uadd _ _ _ _)
  rw [Option.bind_assoc]
  exact outcome_check fun _ => rfl

theorem C16G_residual (bs w : Nat) (i : Bits) : Gen.Parser.residual true bs w i = cls (Repo.residual bs w i) :=
  C16G_residual_run bs w i

/-- `f(args)(input)`: the builder's `debug_assert!` on `bits_per_sample`, then the closure `g`.  The mirror's `Repo.constant` /
`verbatim` / `fixedLpc` / `lpc` are the closures alone (the assertion is listed in `Repo.subframe`), hence
`if bps ≤ 25 … else none` in the four full statements. -/
theorem bpsAssert_run {α : Type} (bps : Nat) {g : PM (List Bool × α)} {x : PResult (α × Bits)} (h : g = cls x) :
    (((addU true 64 24 1).bind fun v1 => (req (!true || decide (bps ≤ v1))).bind fun _ => some ()).bind fun _ => g) =
      if bps ≤ 25 then cls x else none := by
  rw [bpsAssert_eq bps "", h, passert]
  by_cases hb : bps ≤ 25
  · rw [if_pos (decide_eq_true hb), if_pos hb]; rfl
  · rw [if_neg (mt of_decide_eq_true hb), if_neg hb]; rfl

theorem C16G_constant (bs bps : Nat) (i : Bits) :
    Gen.Parser.constant true bs bps i = if bps ≤ 25 then cls (Repo.constant bs bps i) else none :=
  bpsAssert_run bps (C16G_constant_run bs bps i)

theorem C16G_verbatim (bs bps : Nat) (i : Bits) :
    Gen.Parser.verbatim true bs bps i = if bps ≤ 25 then cls (Repo.verbatim bs bps i) else none :=
  bpsAssert_run bps (C16G_verbatim_run bs bps i)

theorem not_and_decide {a b : Prop} [Decidable a] [Decidable b] : (!(decide a && decide b)) = true ↔ ¬(a ∧ b) := by
  rw [Bool.not_eq_true', ← Bool.decide_and, decide_eq_false_iff_not]

theorem C16G_fixed_lpc_run (bs bps : Nat) (i : Bits) :
    fixed_lpc_run true bs bps i = cls (Repo.fixedLpc bs bps i) := by
  rw [cls_eq]
  unfold fixed_lpc_run Repo.fixedLpc
  refine outcome_bind_header fun t r => ?_
  refine ite_eq_map _ not_and_decide (fun _ => rfl) fun _ => ?_
  refine outcome_check fun _ => ?_
  rw [← bindP_obind]
  refine outcome_bind (C16G_raw_samples bps _ r) fun warm r2 => ?_
  refine outcome_fromSlice ?_
  exact outcome_bind (C16G_residual_run bs _ r2) fun res r3 => rfl

theorem C16G_fixed_lpc (bs bps : Nat) (i : Bits) :
    Gen.Parser.fixed_lpc true bs bps i = if bps ≤ 25 then cls (Repo.fixedLpc bs bps i) else none :=
  bpsAssert_run bps (C16G_fixed_lpc_run bs bps i)

/-- the mirror's `quantizedNew` is `QParams.new` (hand model of C18) and has no panic outcome: the two panic sites it
lists (`order <= 32`, `1i32 << (precision - 1)`) are excluded by the range checks that run first -/
theorem quantizedNew_eq (coefs : List Int) (order : Nat) (shift : Int) (precision : Nat) :
    quantizedNew coefs order shift precision = .ok ((QParams.new coefs order shift precision).map fun _ => ()) := by
  unfold quantizedNew QParams.new
  by_cases h1 : order > 24
  · rw [if_pos h1, if_neg (fun h => Nat.not_le.mpr h1 h.1)]; rfl
  by_cases h2 : coefs.length = order
  · have h24 : order ≤ 24 := Nat.le_of_not_gt h1
    -- the two assertions of `from_parts` hold, and so does the first check of `verify`
    rw [if_neg h1, if_neg (not_not_intro h2), if_pos (⟨h24, h2⟩ : order ≤ 24 ∧ coefs.length = order),
      show passert (decide (coefs.length = order)) _ = .ok () from if_pos (decide_eq_true h2),
      show passert (decide (order ≤ 32)) _ = .ok () from if_pos (decide_eq_true (Nat.le_trans h24 (by decide))),
      PResult.ok_bind, PResult.ok_bind, if_neg h1]
    unfold QParams.verify
    dsimp only
    rw [decide_eq_true (h2 ▸ h24 : coefs.length ≤ 24), Bool.true_and]
    simp only [Bool.and_eq_true, decide_eq_true_eq]
    by_cases h3 : shift < 0 ∨ shift > 15
    · rw [if_pos h3, if_neg (fun h => by omega)]; rfl
    by_cases h4 : precision < 1 ∨ precision > 15
    · rw [if_neg h3, if_pos h4, if_neg (fun h => by omega)]; rfl
    -- `1i32 << (precision - 1)` is `2 ^ (precision - 1)`: no panic, and the same bounds as in `verify`
    have hlt : 2 ^ (precision - 1) < 2 ^ 31 := Nat.pow_lt_pow_right (by decide) (by omega)
    rw [if_neg h3, if_neg h4, show usub _ precision 1 = .ok (precision - 1) from if_pos (by omega), PResult.ok_bind,
      show ushl 32 _ 1 (precision - 1) = .ok (2 ^ (precision - 1)) from
        (if_pos (by omega)).trans (by rw [Nat.one_mul, Nat.mod_eq_of_lt (by omega)]),
      PResult.ok_bind, if_neg (Nat.not_le.mpr hlt)]
    have hP : ((0 ≤ shift ∧ shift ≤ 15) ∧ 1 ≤ precision) ∧ precision ≤ 15 := by omega
    have hc : ((2 ^ (precision - 1) : Nat) : Int) = (2 : Int) ^ (precision - 1) := Int.natCast_pow 2 _
    rw [hc, ite_congr (propext (and_iff_right hP)) (fun _ => rfl) fun _ => rfl]
    split <;> rfl
  · rw [if_neg h1, if_pos h2, if_neg (fun h => h2 h.2)]; rfl

/-- `outcome` for `quantized_parameters` (`clsQ_eq`): the mirror returns the triple, the Rust code the `QuantizedParameters` value -/
def clsQ : PResult ((List Int × Int × Nat) × Bits) → PM (List Bool × QParams)
  | .ok ((c, s, p), r) => some (.ok (r, ⟨c, s, p⟩))
  | .error true => some (.error .incomplete)
  | .error false => some (.error .error)
  | .panic _ => none

theorem clsQ_eq (x : PResult ((List Int × Int × Nat) × Bits)) :
    clsQ x = outcome (fun v => (v.2, ⟨v.1.1, v.1.2.1, v.1.2.2⟩)) x := by
  rcases x with ⟨⟨_, _, _⟩, _⟩ | ⟨_ | _⟩ | _ <;> rfl

theorem C16G_quantized_parameters (order : Nat) (i : Bits) :
    Gen.Parser.quantized_parameters true order i = clsQ (quantizedParameters order i) := by
  rw [clsQ_eq]
  unfold Gen.Parser.quantized_parameters quantized_parameters_run quantizedParameters mapP
  rw [bindP_assoc]
  refine outcome_bind (C16G_takeBits 8 4 i) fun p r1 => ?_
  rw [bindP_obind, Option.bind_assoc]
  refine outcome_check fun _ => ?_
  dsimp only [Option.bind_some, bindP_okP]
  rw [bindP_assoc]
  refine outcome_bind (C16G_takeBits 8 5 r1) fun x r2 => ?_
  rw [bindP_obind, Option.bind_assoc]
  refine outcome_bindO (C16G_u_to_i x 5) (uToI_ne_error x 5) fun sv _ => ?_
  dsimp only [Option.bind_some, bindP_okP]
  rw [← bindP_obind]
  refine outcome_bind (C16G_raw_samples (p + 1) order r2) fun cs r3 => ?_
  show (Gen.Verify.QuantizedParameters.new _ _ _ _).bind _ = outcome _ (quantizedNew _ _ _ _ >>= _)
  rw [C18Gen.C18G_qparams_new, quantizedNew_eq, Option.bind_some, PResult.ok_bind]
  simp only [wrapS_eq_asSigned]
  cases h : QParams.new (cs.map (asSigned 16)) order (asSigned 8 sv) (p + 1) with
  | none => rfl
  | some q => rw [((VerifyL.qparams_new_some _ _ _ _ _).mp h).1]; rfl

theorem quantizedParameters_length {order : Nat} {i : Bits} :
    ∀ v, quantizedParameters order i = .ok v → v.1.1.length = order := by
  refine bind_ok_of fun _ => bind_ok_of fun _ => bind_ok_of fun _ => bind_ok_of fun _ => bind_ok_of fun (cs, _) => ?_
  dsimp only
  rw [quantizedNew_eq, PResult.ok_bind]
  intro v hv
  cases h : QParams.new (cs.map (asSigned 16)) order (asSigned 8 _) _ with
  | none => rw [h] at hv; exact nomatch hv
  | some q =>
    rw [h] at hv
    rw [← PResult.ok.inj hv]
    exact ((VerifyL.qparams_new_some _ _ _ _ _).mp h).2.1

theorem qp_both (order : Nat) (i : Bits) :
    quantized_parameters_run true order i = clsQ (quantizedParameters order i) ∧
    ∀ c s p r, quantizedParameters order i = .ok ((c, s, p), r) → c.length = order :=
  ⟨C16G_quantized_parameters order i, fun _ _ _ _ h => quantizedParameters_length _ h⟩

theorem C16G_lpc_run (bs bps : Nat) (i : Bits) :
    lpc_run true bs bps i = cls (Repo.lpc bs bps i) := by
  rw [cls_eq]
  unfold lpc_run Repo.lpc
  refine outcome_bind_header fun t r => ?_
  refine ite_eq_map _ not_and_decide (fun _ => rfl) fun _ => ?_
  refine outcome_check fun _ => ?_
  refine outcome_check fun _ => ?_
  rw [← bindP_obind]
  refine outcome_bind (C16G_raw_samples bps _ r) fun warm r2 => ?_
  refine outcome_fromSlice ?_
  refine outcome_bindK ((C16G_quantized_parameters _ r2).trans (clsQ_eq _)) fun ⟨⟨c, sft, pr⟩, r3⟩ hq => ?_
  refine outcome_bind (C16G_residual_run bs _ r3) fun res r4 => ?_
  -- `Lpc::from_parts` compares with the number of coefficients, the mirror with the order
  show Option.bind (if warm.length = c.length then _ else _) _ = outcome _ (passert (warm.length = _) _ >>= _)
  rw [show c.length = _ from quantizedParameters_length _ hq]
  unfold passert
  by_cases hw : warm.length = t - 32 + 1
  · rw [if_pos hw, if_pos (decide_eq_true hw)]; rfl
  · rw [if_neg hw, if_neg (mt of_decide_eq_true hw)]; rfl

theorem C16G_lpc (bs bps : Nat) (i : Bits) :
    Gen.Parser.lpc true bs bps i = if bps ≤ 25 then cls (Repo.lpc bs bps i) else none :=
  bpsAssert_run bps (C16G_lpc_run bs bps i)

theorem C16G_subframe (bs bps : Nat) (i : Bits) :
    Gen.Parser.subframe true bs bps i = cls (Repo.subframe bs bps i) := by
  rw [cls_eq]
  unfold Gen.Parser.subframe subframe_pre Repo.subframe bpsAssert
  simp only [Option.bind_assoc]
  refine outcome_bindO (bpsAssert_eq bps _) (noErr_passert _ _) fun _ _ => ?_
  refine outcome_bindO (bpsAssert_eq bps _) (noErr_passert _ _) fun _ _ => ?_
  refine outcome_bindO (bpsAssert_eq bps _) (noErr_passert _ _) fun _ _ => ?_
  refine outcome_bindO (bpsAssert_eq bps _) (noErr_passert _ _) fun _ _ => ?_
  refine outcome_bindO (bpsAssert_eq bps _) (noErr_passert _ _) fun _ _ => ?_
  rw [← cls_eq]
  exact altP_cls _ _ _ _ i (C16G_constant_run bs bps i)
    (altP_cls _ _ _ _ i (C16G_fixed_lpc_run bs bps i)
      (altP_cls _ _ _ _ i (C16G_lpc_run bs bps i) (C16G_verbatim_run bs bps i)))

theorem C16G_block_size_code (tag : Nat) (bs : List Nat) :
    relB C02Hdr.bsOfGen bs (block_size_code true tag bs) (blockSizeCode tag (bytesToBits bs)) := by
  unfold block_size_code block_size_code_run blockSizeCode
  refine rel_ite Iff.rfl (fun _ => relB_pure (Nat.zero_le _) rfl) fun _ => ?_
  refine rel_ite Iff.rfl (fun _ => rel_check (fun _ => rfl) fun _ => relB_pure (Nat.zero_le _) rfl) fun _ => ?_
  refine rel_ite Iff.rfl (fun _ => relB_bind (relB_beU 1 bs) fun _ _ hk _ => relB_pure hk rfl) fun _ => ?_
  refine rel_ite Iff.rfl (fun _ => relB_bind (relB_beU 2 bs) fun _ _ hk _ => relB_pure hk rfl) fun _ => ?_
  exact rel_ite Iff.rfl (fun _ => rel_check (fun _ => rfl) fun _ => relB_pure (Nat.zero_le _) rfl) fun _ => rfl

/-- the end of `sample_rate_code`: `from_tag_and_data` with the extra bytes read before -/
theorem sr_tail {bs : List Nat} {k : Nat} (hk : k ≤ bs.length) (tag : Nat) (d : Option Nat) (h : tag < 15) :
    relB C02Hdr.srOfGen bs
      ((Gen.Decode.hdrVal (Gen.Headers.SampleRateSpec.from_tag_and_data_exact tag d)
          (Gen.Headers.SampleRateSpec.from_tag_and_data tag d)).bind fun v2 => bindO v2 fun spec => okP (bs.drop k, spec))
      (match (Gen.Headers.SampleRateSpec.from_tag_and_data tag d).map C02Hdr.srOfGen with
        | some s => .ok (s, bytesToBits (bs.drop k))
        | none => .error false) := by
  rw [C02Hdr.C02H_sampleRate_fromTag_exact tag (by omega) d]
  cases Gen.Headers.SampleRateSpec.from_tag_and_data tag d with
  | none => rfl
  | some g => exact ⟨k, g, hk, rfl, rfl, rfl⟩

theorem C16G_sample_rate_code (tag : Nat) (bs : List Nat) :
    relB C02Hdr.srOfGen bs (sample_rate_code true tag bs) (sampleRateCode tag (bytesToBits bs)) := by
  unfold sample_rate_code sample_rate_code_run
  by_cases h0 : tag > 14
  · unfold sampleRateCode
    rw [if_pos (decide_eq_true h0), if_pos h0]
    rfl
  have h15 : tag < 15 := Nat.lt_succ_of_le (Nat.le_of_not_gt h0)
  rw [if_neg (mt of_decide_eq_true h0)]
  by_cases h12 : tag = 12
  · rw [C02Hdr.C02H_sampleRateCode_data tag (Or.inl h12), if_pos (decide_eq_true h12), if_pos h12, bindP_assoc]
    exact relB_bind (relB_beU 1 bs) fun k x hk _ => sr_tail hk tag (some x) h15
  by_cases h134 : tag = 13 ∨ tag = 14
  · rw [C02Hdr.C02H_sampleRateCode_data tag (Or.inr h134), if_neg (mt of_decide_eq_true h12),
      if_pos (by simpa using h134), if_neg h12, bindP_assoc]
    exact relB_bind (relB_beU 2 bs) fun k x hk _ => sr_tail hk tag (some x) h15
  · rw [C02Hdr.C02H_sampleRateCode_nodata tag (by omega) ⟨h12, fun h => h134 (Or.inl h), fun h => h134 (Or.inr h)⟩,
      if_neg (mt of_decide_eq_true h12), if_neg (by simpa using h134)]
    exact sr_tail (Nat.zero_le _) tag none h15

theorem utf8_rest (a : Nat) (t : List Nat) (n acc : Nat) (hb : IsBytes (a :: t)) :
    relB id (a :: t)
      (bindP (Gen.Parser.byteTake n t) fun (x : List Nat × List Nat) =>
        bindP (loopP x.2 acc fun b acc => okP ((shlU 64 acc 6) ||| (b &&& 63))) fun acc => okP (x.1, acc))
      (do
        let (tail, i) ← Repo.byteTake n (bytesToBits t)
        pure (tail.foldl (fun a b => ((a * 64) % 2 ^ 64) ||| (b % 64)) acc, i)) := by
  refine relB_shift (k := 1) (Nat.le_add_left 1 _) (relB_bind (relB_byteTake n t (hb.drop 1)) fun k tail hk _ => ?_)
  have hf : (fun (acc b : Nat) => (shlU 64 acc 6) ||| (b &&& 63)) = fun a b => ((a * 64) % 2 ^ 64) ||| (b % 64) :=
    funext fun a => funext fun b => congrArg _ (Nat.and_two_pow_sub_one_eq_mod b 6)
  rw [loopP_pure (fun (acc b : Nat) => (shlU 64 acc 6) ||| (b &&& 63)), hf]
  exact relB_pure hk rfl

/-- one test of the length classification of the first byte in `utf8_code`; on a miss both sides fall through to the next
test (`g`, `m`) -/
theorem relB_classify {α β : Type} {conv : β → α} {bs : List Nat} {c : Prop} [Decidable c] {p p' : Nat × Nat}
    {g : PM (Nat × Nat)} {m : Option (Nat × Nat)} {K : Nat → Nat → PM (List Nat × β)}
    {S : Nat → Nat → PResult (α × Bits)} (hp : p = p') (hK : ∀ n acc, relB conv bs (K n acc) (S n acc))
    (hg : relB conv bs (bindP g fun (n, acc) => K n acc) (match m with | none => .error false | some (n, acc) => S n acc)) :
    relB conv bs (bindP (if decide c then okP p else g) fun (n, acc) => K n acc)
      (match (if c then some p' else m) with | none => .error false | some (n, acc) => S n acc) := by
  subst hp
  by_cases hc : c
  · rw [if_pos (decide_eq_true hc), if_pos hc]; exact hK _ _
  · rw [if_neg (mt of_decide_eq_true hc), if_neg hc]; exact hg

theorem C16G_utf8_code (bs : List Nat) (hb : IsBytes bs) :
    relB id bs (utf8_code true bs) (utf8Code (bytesToBits bs)) := by
  unfold utf8_code utf8Code
  cases bs with
  | nil => rfl
  | cons a t =>
    have h1 : Repo.byteTake 1 (bytesToBits (a :: t)) = .ok ([a], bytesToBits t) :=
      Repo.bytesToBits_append [a] t ▸ Repo.byteTake_bytesToBits [a] (bytesToBits t) (hb.take 1)
    have mask : ∀ k n : Nat, (n, a &&& 2 ^ k - 1) = (n, a % 2 ^ k) := fun k n =>
      congrArg _ (Nat.and_two_pow_sub_one_eq_mod a k)
    have hK := fun n acc => utf8_rest a t n acc hb
    rw [h1]
    exact relB_classify (mask 7 0) hK (relB_classify (mask 5 1) hK (relB_classify (mask 4 2) hK
      (relB_classify (mask 3 3) hK (relB_classify (mask 2 4) hK (relB_classify (mask 1 5) hK
        (relB_classify rfl hK rfl))))))

/-- `SampleSizeSpec::from_tag` accepts exactly the 3-bit tags -/
theorem relB_ssTag {α β : Type} {conv : β → α} {bs : List Nat} {t : Nat} (ht : t < 256)
    {K : Gen.Headers.SampleSizeSpec → PM (List Nat × β)} {M : PResult (α × Bits)}
    (h : ∀ g, Gen.Headers.SampleSizeSpec.into_tag g = t → relB conv bs (K g) M) :
    relB conv bs (bindO (Gen.Headers.SampleSizeSpec.from_tag t) K) (if t > 7 then .error false else M) := by
  have ht := C02Hdr.C02H_sampleSize_fromTag t ht
  cases hg : Gen.Headers.SampleSizeSpec.from_tag t with
  | none =>
    rw [hg] at ht
    by_cases h7 : t > 7
    · rw [if_pos h7]; rfl
    · rw [if_neg h7] at ht; exact nomatch ht
  | some g =>
    rw [hg] at ht
    by_cases h7 : t > 7
    · rw [if_pos h7] at ht; exact nomatch ht
    · rw [if_neg h7] at ht ⊢; exact h g (Option.some.inj ht)

theorem relB_chTag {α β : Type} {conv : β → α} {bs : List Nat} {t : Nat} (ht : t < 256)
    {K : Gen.Headers.ChannelAssignment → PM (List Nat × β)} {M : Option ChannelAssignment → PResult (α × Bits)}
    (hnone : M none = .error false) (h : ∀ g, relB conv bs (K g) (M (some (C02Hdr.caOfGen g)))) :
    relB conv bs
      ((Gen.Decode.hdrVal (Gen.Headers.ChannelAssignment.from_tag_exact t) (Gen.Headers.ChannelAssignment.from_tag t)).bind
        fun v => bindO v K)
      (channelFromTag t >>= M) := by
  obtain ⟨h1, h2⟩ := C02Hdr.C02H_channel_fromTag t ht
  rw [h1, h2, PResult.ok_bind]
  cases Gen.Headers.ChannelAssignment.from_tag t with
  | none => rw [Option.map_none, hnone]; rfl
  | some g => exact h g

/-- `FrameHeader::from_specs` followed by `set_frame_offset`, read as the mirror's header: a frame number makes the header
fixed-blocking and is kept modulo 2^32, a start sample makes it variable-blocking; the other of the two numbers is 0 -/
theorem hdrOfGen_from_specs (b : Gen.Headers.BlockSizeSpec) (ca : Gen.Headers.ChannelAssignment)
    (ss : Gen.Headers.SampleSizeSpec) (sr : Gen.Headers.SampleRateSpec) (blocking x : Nat) :
    C08Gen.hdrOfGen (Gen.Verify.FrameHeader.set_frame_offset (FrameHeader_from_specs b ca ss sr)
        (if decide (blocking = 0) = true then .Frame (x % 4294967296) else .StartSample x)) =
      { isVariable := blocking != 0, blockSizeSpec := C02Hdr.bsOfGen b, assignment := C02Hdr.caOfGen ca,
        sampleSizeTag := Gen.Headers.SampleSizeSpec.into_tag ss, sampleRateSpec := C02Hdr.srOfGen sr,
        frameNumber := if blocking = 0 then x % 2 ^ 32 else 0, startSample := if blocking = 0 then 0 else x } := by
  by_cases hbk : blocking = 0
  · subst hbk; rfl
  · rw [if_neg (mt of_decide_eq_true hbk), if_neg hbk, if_neg hbk, bne_iff_ne.mpr hbk]; rfl

/-- the common tail of `frame_header` / `frame`: checksum of the consumed bytes, `verify(be_uN, ..)`, result -/
theorem crc_tail {α β : Type} (params : CrcParams) (n : Nat) (c : Bool) (bs : List Nat) (K : Nat) (hK : K ≤ bs.length)
    (conv : β → α) (gv : β) (v : α) (hconv : conv gv = v) :
    relB conv bs
      ((boolThenO c fun _ =>
          (Gen.Decode.sliceR bs 0 (bs.length - (bs.drop K).length)).bind fun v5 =>
            some (crcBits params (bytesToBits v5))).bind fun t =>
        bindP (verifyP (beU n) (fun crc => some (match t with | none => true | some v => decide (v = crc))) (bs.drop K))
          fun x_1 => okP (x_1.fst, gv))
      (do
        let x ← beUint n (bytesToBits (bs.drop K))
        if (c && x.fst != crcBits params (consumed (bytesToBits bs) (bytesToBits (bs.drop K)))) = true then PResult.error false
        else pure (v, x.snd)) := by
  have hs : bs.length - (bs.drop K).length = K := by rw [List.length_drop]; omega
  have hsl : Gen.Decode.sliceR bs 0 K = some (bs.take K) := if_pos ⟨Nat.zero_le _, hK⟩
  have hcons : consumed (bytesToBits bs) (bytesToBits (bs.drop K)) = bytesToBits (bs.take K) := by
    rw [bits_split bs K]; exact Repo.consumed_append _ _
  rw [hs, hsl, hcons]
  unfold verifyP
  cases c with
  | false =>
    show relB conv bs (bindP (bindP _ _) _) _
    rw [bindP_assoc]
    refine relB_bind (relB_shift hK (relB_beU n _)) fun k x hk _ => ?_
    exact relB_pure hk hconv
  | true =>
    show relB conv bs (bindP (bindP _ _) _) _
    rw [bindP_assoc]
    refine relB_bind (relB_shift hK (relB_beU n _)) fun k x hk _ => ?_
    show relB conv bs (bindP (if decide (_ = x) = true then _ else _) _) (if (true && x != _) = true then _ else _)
    by_cases hc : crcBits params (bytesToBits (bs.take K)) = x
    · rw [if_pos (decide_eq_true hc), if_neg (by simp [hc])]
      exact relB_pure hk hconv
    · rw [if_neg (mt of_decide_eq_true hc), if_pos (by simpa using fun h => hc h.symm)]
      rfl

theorem C16G_frame_header (c : Bool) (bs : List Nat) (hb : IsBytes bs) :
    relB C08Gen.hdrOfGen bs (frame_header true c bs) (frameHeader c (bytesToBits bs)) := by
  unfold frame_header frame_header_run frameHeader
  rw [bitsP_bind]
  refine relB_bits (Suffix.refl _) (C16G_tagBits _ _ _ _) suf_tagBits fun _ i1 _ h1 => ?_
  refine relB_bits h1 (C16G_takeBits _ _ _) suf_takeBits fun blocking i2 _ h2 => ?_
  refine relB_bits h2 (C16G_takeBits _ _ _) suf_takeBits fun bsTag i3 _ h3 => ?_
  refine relB_bits h3 (C16G_takeBits _ _ _) suf_takeBits fun srTag i4 _ h4 => ?_
  refine relB_bits h4 (C16G_takeBits _ _ _) suf_takeBits fun chTag i5 ech h5 => ?_
  refine relB_bits h5 (C16G_takeBits _ _ _) suf_takeBits fun ssTag i6 ess h6 => ?_
  refine relB_bits h6 (C16G_tagBits _ _ _ _) suf_tagBits fun _ i7 _ h7 => ?_
  obtain ⟨k, hk, e1, e2⟩ := h7.align
  dsimp only [bindP_okP]
  rw [e1, e2]
  refine relB_ssTag (Nat.lt_trans ((Repo.takeBits_sat _ _ _ (by decide)).post ess) (by decide)) fun gss hss => ?_
  refine relB_chTag (Nat.lt_trans ((Repo.takeBits_sat _ _ _ (by decide)).post ech) (by decide)) rfl fun gca => ?_
  rw [ite_mapP_bind]
  refine relB_bind (relB_shift hk (C16G_utf8_code _ (hb.drop k))) fun k1 x hk1 _ => ?_
  refine relB_bind (relB_shift hk1 (C16G_block_size_code bsTag _)) fun k2 gbs hk2 _ => ?_
  refine relB_bind (relB_shift hk2 (C16G_sample_rate_code srTag _)) fun k3 gsr hk3 _ => ?_
  refine crc_tail rfcCrc8 1 c bs k3 hk3 C08Gen.hdrOfGen _ _ ?_
  subst hss
  exact hdrOfGen_from_specs _ _ _ _ _ _

/-- the closure of `many_m_n` in the generated `frame` (state = the channel counter); `C16G_frame` unifies it with the
generated term where it applies `many_subframes` -/
def sfBody (bs bps : Nat) (gca : Gen.Headers.ChannelAssignment) (ch : Nat) (i : List Bool) :
    Option (Nat × PM (List Bool × SubFrame)) :=
  (addU true 64 bps (Gen.Headers.ChannelAssignment.bits_per_sample_offset gca ch)).bind fun v2 =>
  (subframe_pre true bs v2).bind fun _ =>
  let ret : PM ((List Bool) × FlacVerif.SubFrame) := (subframe_run true bs v2) i
  (addU true 64 ch 1).bind fun v3 =>
  let ch : Nat := v3
  some (ch, ret)

theorem many_subframes (bs bps : Nat) (gca : Gen.Headers.ChannelAssignment) :
    ∀ (n ch : Nat) (i : Bits) (acc : List SubFrame), ch + n < 2 ^ 64 →
      manyMNSAux (sfBody bs bps gca) n ch i acc =
        outcome (fun p => (p.2, acc ++ p.1)) (Repo.subframes bs bps (C02Hdr.caOfGen gca) n ch i) := by
  intro n
  induction n with
  | zero =>
    intro ch i acc _
    show okP _ = okP (i, acc ++ [])
    rw [List.append_nil]
  | succ n ih =>
    intro ch i acc hb
    have hch : addU true 64 ch 1 = some (ch + 1) := if_pos (by omega)
    rw [manyMNSAux, Repo.subframes, sfBody, C02Hdr.bps_offset_eq, hch]
    unfold uadd addU
    by_cases hbp : bps + (C02Hdr.caOfGen gca).bpsOffset ch < 2 ^ 64
    · rw [if_pos hbp, if_pos hbp, PResult.ok_bind, Option.bind_some]
      have hsub := C16G_subframe bs (bps + (C02Hdr.caOfGen gca).bpsOffset ch) i
      unfold Gen.Parser.subframe at hsub
      cases hp : subframe_pre true bs (bps + (C02Hdr.caOfGen gca).bpsOffset ch) with
      | none =>
        -- the assertions of the builder fail: the mirror's `subframe` panics
        rw [hp] at hsub
        obtain ⟨s, h2⟩ := cls_eq_none hsub.symm
        rw [h2]
        rfl
      | some u =>
        rw [hp] at hsub
        dsimp only [Option.bind_some] at hsub ⊢
        rw [hsub]
        rcases Repo.subframe bs (bps + (C02Hdr.caOfGen gca).bpsOffset ch) i with ⟨sf, tail⟩ | ⟨_ | _⟩ | _
        · refine ite_eq_map _ Iff.rfl (fun _ => rfl) fun _ => ?_
          rw [ih (ch + 1) tail (acc ++ [sf]) (by omega)]
          exact outcome_bind_pure fun p => by rw [List.append_assoc]; rfl
        all_goals rfl
    · rw [if_neg hbp, if_neg hbp]
      rfl

/-- hand-model image of a generated `Frame` (the same map as `C08Gen.frameOfGen`) -/
def frOfGen (g : Gen.Writer.Frame) : Frame := { header := C08Gen.hdrOfGen g.header, subframes := g.subframes }

/-- `FrameHeader::block_size()` in the form of a step that is not a parser -/
theorem block_size_step (g : Gen.Writer.FrameHeader) :
    Gen.Decode.FrameHeader.block_size true g = clsO (headerBlockSize (C08Gen.hdrOfGen g)) ∧
      noErr (headerBlockSize (C08Gen.hdrOfGen g)) := by
  have h := C15Gen.block_size_eq true g
  revert h
  rcases headerBlockSize (C08Gen.hdrOfGen g) with n | e | s <;> intro h
  · exact ⟨h, noErr_ok n⟩
  · exact h.elim
  · exact ⟨h, noErr_panic s⟩

theorem C16G_frame (info : StreamInfo) (c : Bool) (bs : List Nat) (hb : IsBytes bs) (hch : info.channels < 2 ^ 64) :
    relB frOfGen bs (Gen.Parser.frame true info c bs) (Repo.frame info c (bytesToBits bs)) := by
  unfold Gen.Parser.frame frame_pre frame_run Repo.frame
  refine relB_bind (C16G_frame_header true bs hb) fun k gh hk _ => ?_
  dsimp only
  rw [show (C08Gen.hdrOfGen gh).assignment.channels = Gen.Headers.ChannelAssignment.channels gh.channel_assignment from
      (C02Hdr.channels_eq _).symm,
    show sampleSizeBits (C08Gen.hdrOfGen gh).sampleSizeTag = Gen.Headers.SampleSizeSpec.into_bits gh.sample_size_spec from
      C02Hdr.ss_bits_eq _]
  refine rel_ite decide_eq_true_iff (fun _ => rfl) fun hc => ?_
  refine rel_bindO (fun _ => rfl) (block_size_step gh).1 (block_size_step gh).2 fun n _ => ?_
  refine rel_ite decide_eq_true_iff (fun _ => rfl) fun _ => ?_
  rw [bitsP_bind]
  have hsub := many_subframes n ((Gen.Headers.SampleSizeSpec.into_bits gh.sample_size_spec).getD info.bps)
    gh.channel_assignment (Gen.Headers.ChannelAssignment.channels gh.channel_assignment) 0 (bytesToBits (bs.drop k)) []
    (by rw [Nat.zero_add, Decidable.of_not_not hc]; exact hch)
  refine relB_bits_end (Suffix.refl _) (hsub.trans (cls_eq _).symm) suf_subframes fun sfs j _ hj => ?_
  obtain ⟨k', hk', e1, e2⟩ := hj.align
  dsimp only
  rw [e1, e2, List.drop_drop]
  exact crc_tail rfcCrc16 2 c bs _ (by rw [List.length_drop] at hk'; omega) frOfGen _ _ rfl

/-- outcome map that ignores the mirror's rest (used with a separate statement about the rest) -/
def clsL {α : Type} (r : List Nat) : PResult (α × Bits) → PM (List Nat × α)
  | .ok (v, _) => some (.ok (r, v))
  | .error true => some (.error .incomplete)
  | .error false => some (.error .error)
  | .panic _ => none

theorem relB_of_clsL {α : Type} {bs : List Nat} {k : Nat} (hk : k ≤ bs.length) {g : PM (List Nat × α)}
    {m : PResult (α × Bits)} (hg : g = clsL (bs.drop k) m)
    (hr : ∀ v rb, m = .ok (v, rb) → rb = bytesToBits (bs.drop k)) : relB id bs g m := by
  cases m with
  | ok x => obtain ⟨v, rb⟩ := x; exact ⟨k, v, hk, hg, rfl, hr v rb rfl⟩
  | error e => cases e <;> exact hg
  | panic s => exact hg

theorem verifyBps_same (b : Nat) : Repo.verifyBps b = FlacVerif.verifyBps b := rfl

theorem blocks_stage (S0 : StreamInfo) (v4 mb xb : Nat) :
    (if (!(decide (v4 = 0) && decide (mb = 65535) && decide (xb = 0))) = true then
        (Gen.Verify.StreamInfo.set_block_sizes S0 mb xb).bind fun r4 =>
          if r4.fst = true then some (some r4.snd) else some none
      else some (some S0)) =
    if v4 = 0 ∧ mb = 65535 ∧ xb = 0 then some (some S0)
    else if (1 ≤ mb ∧ mb ≤ 32767) ∧ (1 ≤ xb ∧ xb ≤ 32767) ∧ mb ≤ xb then
      some (some { S0 with minBlock := mb, maxBlock := xb })
    else some none := by
  have hU : (!(decide (v4 = 0) && decide (mb = 65535) && decide (xb = 0))) = true ↔ ¬(v4 = 0 ∧ mb = 65535 ∧ xb = 0) := by
    rw [Bool.not_eq_true', ← Bool.decide_and, ← Bool.decide_and, decide_eq_false_iff_not, and_assoc]
  have hV : (verifyBlockSize mb && (verifyBlockSize xb && decide (mb ≤ xb))) = true ↔
      (1 ≤ mb ∧ mb ≤ 32767) ∧ (1 ≤ xb ∧ xb ≤ 32767) ∧ mb ≤ xb := by
    unfold verifyBlockSize maxBlockSize
    simp only [Bool.and_eq_true, decide_eq_true_eq]
  rw [C18Gen.C18G_set_block_sizes, Option.bind_some]
  by_cases hu : v4 = 0 ∧ mb = 65535 ∧ xb = 0
  · rw [if_neg (fun h => hU.mp h hu), if_pos hu]
  rw [if_pos (hU.mpr hu), if_neg hu]
  by_cases ok : (1 ≤ mb ∧ mb ≤ 32767) ∧ (1 ≤ xb ∧ xb ≤ 32767) ∧ mb ≤ xb
  · rw [if_pos (hV.mpr ok), if_pos ok, if_pos (by omega), if_pos (by omega)]
  · rw [if_neg (fun h => ok (hV.mp h)), if_neg ok]

theorem frames_stage (S : StreamInfo) (r : List Nat) (mf xf : Nat) (hmf : mf < 2 ^ 32) (hxf : xf < 2 ^ 32) :
    ((bindVR (if (decide (mf ≠ 0) || decide (xf ≠ 0)) = true then
          (Gen.Verify.StreamInfo.set_frame_sizes S mf xf).bind fun r5 =>
            if r5.fst = true then some (some r5.snd) else some none
        else some (some S)) fun info => some (some info)).bind fun v6 => bindO v6 fun info => okP (r, info)) =
    if ¬(mf = 0 ∧ xf = 0) ∧ mf > xf then errP
    else okP (r, { S with minFrame := if mf = 0 ∧ xf = 0 then S.minFrame else mf,
                          maxFrame := if mf = 0 ∧ xf = 0 then S.maxFrame else xf }) := by
  have hU : (decide (mf ≠ 0) || decide (xf ≠ 0)) = true ↔ ¬(mf = 0 ∧ xf = 0) := by
    rw [Bool.or_eq_true, decide_eq_true_iff, decide_eq_true_iff, Decidable.not_and_iff_or_not]
  rw [C18Gen.C18G_set_frame_sizes, Option.bind_some, if_pos hmf, if_pos hxf, decide_eq_true hmf, decide_eq_true hxf,
    Bool.true_and, Bool.true_and]
  by_cases hf : mf = 0 ∧ xf = 0
  · rw [if_neg (fun h => hU.mp h hf), if_neg (fun h => h.1 hf), if_pos hf, if_pos hf]
    rfl
  rw [if_pos (hU.mpr hf), if_neg hf, if_neg hf]
  by_cases a4 : mf ≤ xf
  · rw [if_pos (decide_eq_true a4), if_neg (fun h => Nat.not_le.mpr h.2 a4)]; rfl
  · rw [if_neg (mt of_decide_eq_true a4), if_pos ⟨hf, Nat.not_le.mp a4⟩]; rfl

/-- The value-level statement about the closure `info_fn` of `stream_info` (proved below, `streamInfoLogic`): the generated
`Gen.Verify.StreamInfo.new`, `set_total_samples`, `set_md5_digest`, `set_block_sizes` / `set_frame_sizes` (part `verify`) and the two
fall-through `if`s agree with the range checks the mirror inlines, for all field values. -/
def StreamInfoLogic : Prop :=
  ∀ (bs : List Nat) (k5 : Nat) (_hk5 : k5 ≤ bs.length) (v1 c b v4 mb xb mf xf : Nat) (md5 : List Nat)
    (_hmd : md5.length = 16) (_hmf : mf < 2 ^ 32) (_hxf : xf < 2 ^ 32),
    relB id bs
    ((Option.bind (Gen.Verify.StreamInfo.new v1 c b) fun v3_1 =>
          bindR v3_1 fun info =>
            (req (decide (md5.length = 16))).bind fun x =>
              bindVR
                (if (!(decide (v4 = 0) && decide (mb = 65535) && decide (xb = 0))) = true then
                  (Gen.Verify.StreamInfo.set_block_sizes
                        (StreamInfo_set_md5_digest (Gen.Verify.StreamInfo.set_total_samples info v4) md5) mb xb).bind
                    fun r4 => if r4.fst = true then some (some r4.snd) else some none
                else some (some (StreamInfo_set_md5_digest (Gen.Verify.StreamInfo.set_total_samples info v4) md5)))
                fun info =>
                bindVR
                  (if (decide (mf ≠ 0) || decide (xf ≠ 0)) = true then
                    (Gen.Verify.StreamInfo.set_frame_sizes info mf xf).bind fun r5 =>
                      if r5.fst = true then some (some r5.snd) else some none
                  else some (some info))
                  fun info => some (some info)).bind
      fun v6 => bindO v6 fun info => okP (List.drop k5 bs, info))
    (if v1 > 96000 then PResult.error false
    else
      if c < 1 ∨ c > 8 then PResult.error false
      else
        if b > 255 then PResult.error false
        else
          if ¬(Repo.verifyBps b = true ∧ b % 4 = 0) then PResult.error false
          else do
            passert (decide (md5.length = 16)) "stream_info: md5.try_into().expect(\"Internal error\")"
            if ¬(v4 = 0 ∧ mb = 65535 ∧ xb = 0) ∧ ¬(1 ≤ mb ∧ mb ≤ 32767) then PResult.error false
              else
                if ¬(v4 = 0 ∧ mb = 65535 ∧ xb = 0) ∧ ¬(1 ≤ xb ∧ xb ≤ 32767) then PResult.error false
                else
                  if ¬(v4 = 0 ∧ mb = 65535 ∧ xb = 0) ∧ mb > xb then PResult.error false
                  else
                    if ¬(mf = 0 ∧ xf = 0) ∧ mf > xf then PResult.error false
                    else
                      pure
                        ({ minBlock := mb, maxBlock := xb,
                            minFrame := (if mf = 0 ∧ xf = 0 then (2 ^ 32 - 1, 0) else (mf, xf)).fst,
                            maxFrame := (if mf = 0 ∧ xf = 0 then (2 ^ 32 - 1, 0) else (mf, xf)).snd, rate := v1,
                            channels := c, bps := b, total := v4, md5 := md5 },
                          bytesToBits (List.drop k5 bs)))

theorem bindVR_some {σ β : Type} (s : σ) (f : σ → Option (Option β)) : bindVR (some (some s)) f = f s := rfl
theorem bindVR_none {σ β : Type} (f : σ → Option (Option β)) : bindVR (some (none : Option σ)) f = some none := rfl

theorem streamInfoLogic : StreamInfoLogic := by
  intro bs k5 hk5 v1 c b v4 mb xb mf xf md5 hmd hmf hxf
  rw [C18Gen.C18G_streaminfo_new]
  have hnew : ¬ (v1 ≤ 96000 ∧ 1 ≤ c ∧ c ≤ 8 ∧ b ≤ 255 ∧ FlacVerif.verifyBps b = true ∧ b % 4 = 0) →
      FlacVerif.StreamInfo.new v1 c b = none := fun h => if_neg h
  refine relB_guardM (fun h => by rw [hnew (fun hC => by omega)]; rfl) fun m1 => ?_
  refine relB_guardM (fun h => by rw [hnew (fun hC => by omega)]; rfl) fun m2 => ?_
  refine relB_guardM (fun h => by rw [hnew (fun hC => by omega)]; rfl) fun m3 => ?_
  refine relB_guardM (fun h => by rw [hnew (fun hC => h ⟨hC.2.2.2.2.1, hC.2.2.2.2.2⟩)]; rfl) fun m4 => ?_
  have m4 := Decidable.of_not_not m4
  rw [show FlacVerif.StreamInfo.new v1 c b = some (StreamInfo.empty v1 c b) from
      if_pos ⟨by omega, by omega, by omega, by omega, m4.1, m4.2⟩,
    show req (decide (md5.length = 16)) = some () from if_pos (decide_eq_true hmd),
    show passert (decide (md5.length = 16)) _ = .ok () from if_pos (decide_eq_true hmd), PResult.ok_bind]
  dsimp only [Option.bind_some, bindR]
  rw [blocks_stage]
  refine relB_guardM (fun h => by rw [if_neg h.1, if_neg (fun ok => h.2 ok.1)]; rfl) fun n1 => ?_
  refine relB_guardM (fun h => by rw [if_neg h.1, if_neg (fun ok => h.2 ok.2.1)]; rfl) fun n2 => ?_
  refine relB_guardM (fun h => by rw [if_neg h.1, if_neg (fun ok => Nat.not_le.mpr h.2 ok.2.2)]; rfl) fun n3 => ?_
  by_cases hu : v4 = 0 ∧ mb = 65535 ∧ xb = 0
  · rw [if_pos hu, bindVR_some, frames_stage _ _ _ _ hmf hxf]
    refine rel_ite Iff.rfl (fun _ => rfl) fun _ => relB_pure hk5 ?_
    obtain ⟨rfl, rfl, rfl⟩ := hu
    rw [apply_ite Prod.fst, apply_ite Prod.snd]; rfl
  · rw [if_neg hu, if_pos ⟨Decidable.of_not_not fun h => n1 ⟨hu, h⟩, Decidable.of_not_not fun h => n2 ⟨hu, h⟩,
      Nat.le_of_not_gt fun h => n3 ⟨hu, h⟩⟩, bindVR_some, frames_stage _ _ _ _ hmf hxf]
    refine rel_ite Iff.rfl (fun _ => rfl) fun _ => relB_pure hk5 ?_
    rw [apply_ite Prod.fst, apply_ite Prod.snd]; rfl

theorem C16G_stream_info (bs : List Nat) (hb : IsBytes bs) :
    relB id bs (stream_info true bs) (streamInfo (bytesToBits bs)) := by
  unfold stream_info streamInfo
  refine relB_bind (relB_beU 2 bs) fun k1 mb hk1 _ => ?_
  refine relB_bind (relB_shift hk1 (relB_beU 2 _)) fun k2 xb hk2 _ => ?_
  refine relB_bind (relB_shift hk2 (relB_beU 3 _)) fun k3 mf hk3 e3 => ?_
  refine relB_bind (relB_shift hk3 (relB_beU 3 _)) fun k4 xf hk4 e4 => ?_
  refine relB_shift hk4 ?_
  show relB id _ (bindP (bitsP _ _) _) _
  rw [bitsP_bind]
  refine relB_bits (Suffix.refl _) (C16G_takeBits _ _ _) suf_takeBits fun sr j1 _ h1 => ?_
  refine relB_bits h1 (C16G_takeBits _ _ _) suf_takeBits fun ch j2 _ h2 => ?_
  refine relB_bits h2 (C16G_takeBits _ _ _) suf_takeBits fun bps j3 _ h3 => ?_
  refine relB_bits h3 (C16G_takeBits _ _ _) suf_takeBits fun total j4 _ h4 => ?_
  rw [bindP_obind]
  refine rel_check (fun _ => rfl) fun _ => ?_
  rw [bindP_obind]
  refine rel_check (fun _ => rfl) fun _ => ?_
  obtain ⟨k, hk, e1, e2⟩ := h4.align
  dsimp only [bindP_okP, id]
  rw [e1, e2]
  refine relB_bind (relB_shift hk (relB_byteTake 16 _ ((hb.drop k4).drop k))) fun k5 md5 hk5 e5 => ?_
  exact streamInfoLogic (bs.drop k4) k5 hk5 sr (ch + 1) (bps + 1) total mb xb mf xf md5 ((Repo.byteTake_sat _ _).post e5).1
    (Nat.lt_of_lt_of_le ((Repo.beUint_sat _ _).post e3) (by decide))
    (Nat.lt_of_lt_of_le ((Repo.beUint_sat _ _).post e4) (by decide))

/-- hand-model image of a generated `MetadataBlock`: the pair (is_last, block) of the mirror -/
def mbOfGen (g : Gen.Writer.MetadataBlock) : Bool × MetaData :=
  (g.is_last, match g.data with
    | .StreamInfo s => .streamInfo s
    | .Unknown t d => .unknown ⟨t, d⟩)

theorem C16G_metadata_block (bs : List Nat) (hb : IsBytes bs) :
    relB mbOfGen bs (metadata_block true bs) (metadataBlock (bytesToBits bs)) := by
  unfold metadata_block metadataBlock
  refine relB_bind (relB_beU 1 bs) fun k1 first hk1 _ => ?_
  refine relB_bind (relB_shift hk1 (relB_beU 3 _)) fun k2 len hk2 _ => ?_
  dsimp only [id]
  rw [show first &&& 127 = first % 128 from Nat.and_two_pow_sub_one_eq_mod first 7]
  by_cases h0 : first % 128 = 0
  · rw [if_pos h0, if_pos h0, mapP_some_bind, bindP_assoc]
    refine relB_bind (relB_shift hk2 (C16G_stream_info _ (hb.drop k2))) fun k info hk _ => ?_
    exact ⟨k, _, hk, rfl, rfl, rfl⟩
  · rw [if_neg h0, if_neg h0, bindP_assoc]
    refine relB_bind (relB_shift hk2 (relB_byteTake len _ (hb.drop k2))) fun k blob hk _ => ?_
    dsimp only [id]
    rw [C18Gen.C18G_unknown_new]
    unfold UnknownBlock.new
    by_cases h126 : first % 128 > 126
    · rw [if_neg (by omega), if_pos h126]; rfl
    · rw [if_pos (by omega), if_neg h126]; exact ⟨k, _, hk, rfl, rfl, rfl⟩

/-- hand-model image of a generated `Stream`: the mirror's `PStream` (the last-block flags are not part of it) -/
def psOfGen (g : Gen.Writer.Stream) : PStream :=
  { info := (match g.stream_info.data with
      | .StreamInfo s => s
      | .Unknown _ _ => StreamInfo.empty 0 0 0),
    metadata := g.metadata.map fun m => (mbOfGen m).2,
    frames := g.frames.map frOfGen }

theorem add_block_ps (s : Gen.Writer.Stream) (m : Gen.Writer.MetadataBlockData) :
    psOfGen (Stream_add_metadata_block s m) =
      { psOfGen s with metadata := (psOfGen s).metadata ++ [(mbOfGen ⟨true, m⟩).2] } := by
  unfold Stream_add_metadata_block psOfGen
  cases h : s.metadata.getLast? with
  | none => simp
  | some x =>
    have := map_dropLast_replace (fun m => (mbOfGen m).2) s.metadata x { x with is_last := false } h rfl
    simp only [List.map_append, List.map_cons, List.map_nil] at this ⊢
    rw [this]

theorem add_blocks_ps (l : List Gen.Writer.MetadataBlock) : ∀ s : Gen.Writer.Stream,
    psOfGen (l.foldl (fun s b => Stream_add_metadata_block s b.data) s) =
      { psOfGen s with metadata := (psOfGen s).metadata ++ l.map fun b => (mbOfGen b).2 } := by
  induction l with
  | nil => intro s; simp
  | cons b l ih =>
    intro s
    simp only [List.foldl_cons, ih, add_block_ps, List.map_cons, List.append_assoc, List.singleton_append]
    simp [mbOfGen]

theorem push_frames_ps (l : List Gen.Writer.Frame) : ∀ s : Gen.Writer.Stream,
    psOfGen (l.foldl Stream_push_frame s) = { psOfGen s with frames := (psOfGen s).frames ++ l.map frOfGen } := by
  induction l with
  | nil => intro s; simp
  | cons f l ih =>
    intro s
    simp only [List.foldl_cons, ih]
    simp [psOfGen, Stream_push_frame]

theorem bits_inj {x y : List Nat} (hx : IsBytes x) (hy : IsBytes y) (h : bytesToBits x = bytesToBits y) : x = y :=
  bytesToBits_inj hx hy h

theorem byteTag_rel (t bs : List Nat) (ht : IsBytes t) (hb : IsBytes bs) :
    relB (fun (_ : List Nat) => ()) bs (byteTagP t bs) (Repo.byteTag t (bytesToBits bs)) := by
  unfold byteTagP Repo.byteTag
  have hmin : min (bytesToBits t).length (bytesToBits bs).length = 8 * min t.length bs.length := by
    rw [Repo.bytesToBits_length, Repo.bytesToBits_length]; omega
  dsimp only
  rw [hmin, take_bytesToBits bs, take_bytesToBits t, Repo.bytesToBits_length,
    Repo.bytesToBits_length]
  refine rel_ite (not_congr ⟨congrArg bytesToBits, bits_inj (hb.take _) (ht.take _)⟩) (fun _ => rfl) fun _ => ?_
  refine rel_ite (by omega) (fun _ => rfl) fun hl => ?_
  exact ⟨t.length, _, by omega, rfl, rfl, by rw [drop_bytesToBits]⟩

/-- (proved below, `metadataBlockConsumes`) an accepted metadata block of the mirror is shorter than its input (it consumes at
least the 4 header bytes); this is what makes the `else .error true` branch of `Repo.metadataLoop` unreachable and the fuel
of the generated `while` loop sufficient -/
def MetadataBlockConsumes : Prop :=
  ∀ (i : Bits) (v : Bool × MetaData) (r : Bits), metadataBlock i = .ok (v, r) → r.length < i.length

/-- (proved below, `streamInfoChannels`) an accepted STREAMINFO block has a channel count that fits `usize` (in fact at most 8) -/
def StreamInfoChannels : Prop :=
  ∀ (i : Bits) (b : Bool) (info : StreamInfo) (r : Bits), metadataBlock i = .ok ((b, .streamInfo info), r) → info.channels < 2 ^ 64

theorem streamInfoChannels : StreamInfoChannels := fun i _ _ _ h =>
  Nat.lt_of_le_of_lt ((Repo.metadataBlock_sat_range i).post h).channels.2 (by decide)

theorem metadataBlockConsumes : MetadataBlockConsumes := by
  intro i
  unfold metadataBlock
  refine shorter_of_bind (fun first i1 h => ?_) fun first i1 => Suf.bind (suf_beUint _ _) fun len i2 =>
    Suf.ite (Suf.bind (suf_streamInfo _) fun _ _ => Suf.ok_self)
      (Suf.bind (suf_byteTake _ _) fun _ _ => Suf.guard Suf.ok_self)
  unfold beUint at h
  split at h
  · exact nomatch h
  · cases h; rw [List.length_drop]; omega

/-- the condition and the body of the generated `while !is_last` loop of `stream` -/
def mdCond (st : Bool × List Nat × List Gen.Writer.MetadataBlock) : Bool := !st.1
def mdBody (st : Bool × List Nat × List Gen.Writer.MetadataBlock) : PM (Bool × List Nat × List Gen.Writer.MetadataBlock) :=
  bindP (metadata_block true st.2.1) fun (x : List Nat × Gen.Writer.MetadataBlock) =>
    okP (x.2.is_last, x.1, st.2.2 ++ [x.2])

def relLoop (bs : List Nat) (acc : List Gen.Writer.MetadataBlock)
    (g : PM (Bool × List Nat × List Gen.Writer.MetadataBlock)) (m : PResult (List MetaData × Bits)) : Prop :=
  match m with
  | .ok (ms, rb) => ∃ k gms, k ≤ bs.length ∧ g = some (.ok (true, bs.drop k, acc ++ gms)) ∧
      gms.map (fun b => (mbOfGen b).2) = ms ∧ rb = bytesToBits (bs.drop k)
  | .error true => g = some (.error .incomplete)
  | .error false => g = some (.error .error)
  | .panic _ => g = none

/-- `hcons` is a theorem (`metadataBlockConsumes`, above); the statement carries it as a hypothesis -/
theorem md_loop (hcons : MetadataBlockConsumes) (bs : List Nat) (hb : IsBytes bs) :
    ∀ (fuel k : Nat) (acc : List Gen.Writer.MetadataBlock), k ≤ bs.length → (bs.drop k).length < fuel →
      relLoop bs acc (whileP mdCond mdBody fuel (false, bs.drop k, acc)) (metadataLoop (bytesToBits (bs.drop k))) := by
  intro fuel
  induction fuel with
  | zero => intro k acc _ h; exact absurd h (Nat.not_lt_zero _)
  | succ n ih =>
    intro k acc hk hfuel
    rw [metadataLoop_eq, whileP, if_pos (show mdCond (false, bs.drop k, acc) = true from rfl), mdBody, bindP_assoc]
    refine relB_bindT (fun _ => rfl) rfl rfl
      (relB_shift hk (C16G_metadata_block _ (hb.drop k))) fun k2 gb hk2 e => ?_
    have hlt := hcons _ _ _ e
    dsimp only [bindP_okP]
    cases hl : gb.is_last with
    | true =>
      rw [show (mbOfGen gb).1 = true from hl, if_pos rfl, whileP_done n _ rfl]
      exact ⟨k2, [gb], hk2, rfl, rfl, rfl⟩
    | false =>
      rw [show (mbOfGen gb).1 = false from hl, if_neg Bool.false_ne_true, if_pos hlt]
      rw [Repo.bytesToBits_length, Repo.bytesToBits_length] at hlt
      have := ih k2 (acc ++ [gb]) hk2 (by omega)
      revert this
      rcases metadataLoop (bytesToBits (bs.drop k2)) with ⟨ms, rb⟩ | ⟨_ | _⟩ | _
      · rintro ⟨k3, gms, hk3, g1, g2, g3⟩
        exact ⟨k3, gb :: gms, hk3, by rw [g1, List.append_assoc]; rfl, congrArg ((mbOfGen gb).2 :: ·) g2, g3⟩
      all_goals exact id

/-- outcome relation for `many_till(frame, eof)`: the mirror returns the frames only (the rest is empty) -/
def relFrames (acc : List Gen.Writer.Frame) (g : PM (List Nat × (List Gen.Writer.Frame × List Nat))) (m : PResult (List Frame)) : Prop :=
  match m with
  | .ok fs => ∃ gfs, g = some (.ok ([], (acc ++ gfs, []))) ∧ gfs.map frOfGen = fs
  | .error true => g = some (.error .incomplete)
  | .error false => g = some (.error .error)
  | .panic _ => g = none

theorem frame_run_eq (info : StreamInfo) (c : Bool) (bs : List Nat) :
    frame_run true info c bs = Gen.Parser.frame true info c bs := rfl

theorem many_frames (info : StreamInfo) (hch : info.channels < 2 ^ 64) (bs : List Nat) (hb : IsBytes bs) :
    ∀ (fuel k : Nat) (acc : List Gen.Writer.Frame), k ≤ bs.length → (bs.drop k).length < fuel →
      relFrames acc (manyTillEofAux (frame_run true info true) fuel (bs.drop k) acc)
        (framesTillEof info (bytesToBits (bs.drop k))) := by
  intro fuel
  induction fuel with
  | zero => intro k acc _ h; exact absurd h (Nat.not_lt_zero _)
  | succ n ih =>
    intro k acc hk hfuel
    rw [framesTillEof, manyTillEofAux, Repo.bytesToBits_length]
    by_cases h0 : (bs.drop k).length = 0
    · rw [if_pos h0, if_pos (by rw [h0])]
      exact ⟨[], by rw [List.eq_nil_of_length_eq_zero h0, List.append_nil]; rfl, rfl⟩
    rw [if_neg h0, if_neg (fun h => h0 ((Nat.mul_eq_zero.mp h).resolve_left (by decide)))]
    rcases relB_elim (C16G_frame info true (bs.drop k) (hb.drop k) hch) with
      ⟨k1, gf, hk1, e1, e2⟩ | ⟨e1, e2⟩ | ⟨e1, e2⟩ | ⟨e1, s, e2⟩
    · rw [frame_run_eq, e1, e2]
      dsimp only
      rw [Repo.bytesToBits_length, List.drop_drop, List.length_drop, List.length_drop]
      rw [List.length_drop] at hk1 hfuel
      by_cases hz : k1 = 0
      · -- a frame that consumes nothing: both `many_till` and the mirror stop with an error
        rw [hz, Nat.add_zero, if_pos rfl, dif_neg (Nat.lt_irrefl _)]
        rfl
      · rw [if_neg (by omega), dif_pos (by omega)]
        have := ih (k + k1) (acc ++ [gf]) (by omega) (by rw [List.length_drop]; omega)
        revert this
        rcases framesTillEof info (bytesToBits (bs.drop (k + k1))) with fs | ⟨_ | _⟩ | _
        · rintro ⟨gfs, g1, g2⟩
          exact ⟨gf :: gfs, by rw [g1, List.append_assoc]; rfl, congrArg (frOfGen gf :: ·) g2⟩
        all_goals exact id
    all_goals rw [frame_run_eq, e1, e2]; rfl

/-- outcome relation for `stream`: the mirror returns the parsed stream only (all input is consumed) -/
def relStream (g : PM (List Nat × Gen.Writer.Stream)) (m : PResult PStream) : Prop :=
  match m with
  | .ok ps => ∃ gs, g = some (.ok ([], gs)) ∧ psOfGen gs = ps
  | .error true => g = some (.error .incomplete)
  | .error false => g = some (.error .error)
  | .panic _ => g = none

theorem relStream_ne_none {g : PM (List Nat × Gen.Writer.Stream)} {m : PResult PStream} (h : relStream g m)
    (hm : ∀ s, m ≠ .panic s) : g ≠ none := by
  rcases m with ps | ⟨_ | _⟩ | s
  · obtain ⟨gs, e, _⟩ := h; rw [e]; exact nofun
  · rw [show g = _ from h]; exact nofun
  · rw [show g = _ from h]; exact nofun
  · exact absurd rfl (hm s)

theorem isBytes_flac : IsBytes [102, 76, 97, 67] := by
  intro b hb; simp at hb; omega

/-- the tail of `stream` after the metadata blocks: `many_till(frame, eof)` and the `Stream` builders -/
theorem stream_tail (info : StreamInfo) (hch : info.channels < 2 ^ 64) (bs : List Nat) (hb : IsBytes bs) (k : Nat)
    (hk : k ≤ bs.length) (gms : List Gen.Writer.MetadataBlock) :
    relStream
      ((frame_pre true info true).bind fun _ =>
        bindP (manyTillEof (frame_run true info true) (bs.drop k)) fun (x : List Nat × (List Gen.Writer.Frame × List Nat)) =>
        bindP (loopP gms (Stream_with_stream_info info) fun mdblock stream =>
            okP (Stream_add_metadata_block stream mdblock.data)) fun stream =>
        bindP (loopP x.2.1 stream fun f stream => okP (Stream_push_frame stream f)) fun stream =>
        okP (x.1, stream))
      (do
        let frames ← framesTillEof info (bytesToBits (bs.drop k))
        pure { info := info, metadata := gms.map fun b => (mbOfGen b).2, frames := frames }) := by
  have hf := many_frames info hch bs hb ((bs.drop k).length + 1) k [] hk (Nat.lt_succ_self _)
  show relStream (bindP (manyTillEofAux _ _ _ []) _) _
  revert hf
  rcases framesTillEof info (bytesToBits (bs.drop k)) with fs | ⟨_ | _⟩ | _
  · rintro ⟨gfs, g1, g2⟩
    rw [g1, bindP_ok, loopP_pure (fun s (b : Gen.Writer.MetadataBlock) => Stream_add_metadata_block s b.data), bindP_okP,
      loopP_pure Stream_push_frame, bindP_okP]
    refine ⟨_, rfl, ?_⟩
    rw [push_frames_ps, add_blocks_ps, ← g2]
    rfl
  all_goals exact fun hf => by rw [hf]; rfl

theorem C16G_stream (bs : List Nat) (hb : IsBytes bs) :
    relStream (Gen.Parser.stream true bs) (Repo.stream (bytesToBits bs)) := by
  unfold Gen.Parser.stream Repo.stream
  refine relB_bindT (fun _ => rfl) rfl rfl (byteTag_rel _ bs isBytes_flac hb) fun k1 _ hk1 _ => ?_
  refine relB_bindT (fun _ => rfl) rfl rfl (relB_shift hk1 (C16G_metadata_block _ (hb.drop k1)))
    fun k2 gb hk2 e => ?_
  obtain ⟨gl, gd⟩ := gb
  cases gd with
  | Unknown t d => rfl
  | StreamInfo info =>
    have hch : info.channels < 2 ^ 64 := streamInfoChannels _ gl info _ e
    cases gl with
    | true => exact stream_tail info hch bs hb k2 hk2 []
    | false =>
      have hl := md_loop metadataBlockConsumes bs hb ((bs.drop k2).length + 1) k2 [] hk2 (Nat.lt_succ_self _)
      show relStream (bindP (bindP (whileP mdCond mdBody _ _) _) _) (metadataLoop _ >>= _)
      revert hl
      rcases metadataLoop (bytesToBits (bs.drop k2)) with ⟨ms, rb⟩ | ⟨_ | _⟩ | _
      · rintro ⟨k3, gms, hk3, g1, rfl, rfl⟩
        rw [g1]
        exact stream_tail info hch bs hb k3 hk3 gms
      all_goals exact fun hl => by rw [show whileP _ _ _ _ = _ from hl]; rfl

/-! `C15G_*_roundtrip` here and in Theorems/C16GenRel.lean are property C15 for the generated PARSER; the `C15G_*` of
Theorems/C15Gen.lean are about the generated decoder. -/

/-- C16 ("the parser never panics") for the generated `residual`, dev profile: any bit input, block size below 2^32. -/
theorem C16G_total_residual (bs w : Nat) (i : Bits) (hbs : bs < 2 ^ 32) : Gen.Parser.residual true bs w i ≠ none := by
  rw [C16G_residual]
  exact cls_ne_none (Repo.residual_sat bs w hbs i).noPanic

/-- C16 for the generated `subframe`: any bit input, block size below 2^32, 1..=25 bits per sample. -/
theorem C16G_total_subframe (bs bps : Nat) (i : Bits) (hbs : bs < 2 ^ 32) (h1 : 1 ≤ bps) (h2 : bps ≤ 25) :
    Gen.Parser.subframe true bs bps i ≠ none := by
  rw [C16G_subframe]
  exact cls_ne_none (Repo.subframe_sat bs bps hbs h1 h2 i).noPanic

/-- C16 for the generated `frame_header`: any byte string. -/
theorem C16G_total_frame_header (c : Bool) (bs : List Nat) (hb : IsBytes bs) : Gen.Parser.frame_header true c bs ≠ none :=
  relB_ne_none (C16G_frame_header c bs hb) (Repo.frameHeader_sat c _).noPanic

/-- C16 for the generated `frame`: any byte string, a STREAMINFO with 1..=24 bits per sample (what `stream_info` lets
through, `C16_streaminfo_range`) and a channel count that fits `usize`. -/
theorem C16G_total_frame (info : StreamInfo) (c : Bool) (bs : List Nat) (hb : IsBytes bs) (hch : info.channels < 2 ^ 64)
    (h1 : 1 ≤ info.bps) (h2 : info.bps ≤ 24) : Gen.Parser.frame true info c bs ≠ none :=
  relB_ne_none (C16G_frame info c bs hb hch) (Repo.frame_sat info c h1 h2 _).noPanic

/-- C15 ("the parser inverts the writer") for the generated `frame`: on bytes whose bits are a written frame `fb` followed
by whole further bytes `k`, the generated parser returns that frame and exactly the bytes of `k`. -/
theorem C15G_frame_roundtrip (f : Frame) (info : StreamInfo) (c : Bool) (bs : List Nat) (fb k : Bits)
    (hb : IsBytes bs) (hch : info.channels < 2 ^ 64)
    (hbits : f.bits rfcCrc8 rfcCrc16 = some fb) (hok : Repo.FrameOk info f) (hk : k.length % 8 = 0)
    (hbs : bytesToBits bs = fb ++ k) :
    ∃ n g, Gen.Parser.frame true info c bs = some (.ok (bs.drop n, g)) ∧ frOfGen g = f ∧ bytesToBits (bs.drop n) = k := by
  have h := C16G_frame info c bs hb hch
  rw [hbs, C15_frame_bits f info c fb k hbits hok hk] at h
  obtain ⟨n, g, _, e, hc, hr⟩ := h
  exact ⟨n, g, e, hc, hr.symm⟩

/-- C16 ("the parser never panics") for the generated `stream`, dev profile, EVERY byte string: transport of `C16_total`
along `C16G_stream`.  `IsBytes bs` is the Rust type of the input (`&[u8]`): the generated code works on `List Nat` and does not
build the bound in; for elements >= 256 the mirror (which reads the BITS of the bytes) and the generated code (which
also hands byte VALUES on, e.g. to `utf8_code` and the MD5 field) are not comparable. -/
theorem C16G_total (bs : List Nat) (hb : IsBytes bs) :
    Gen.Parser.stream true bs ≠ none :=
  relStream_ne_none (C16G_stream bs hb) (C16_total bs hb)

/-- C15 ("the parser inverts the writer") for the generated `stream`: on bytes whose bits are what `Stream::write` produced
for `s`, the generated parser consumes everything and returns a stream whose hand-model image is `s` (transport of
`C15_stream_bits`). -/
theorem C15G_stream_roundtrip (s : Stream) (bs : List Nat)
    (hb : IsBytes bs) (hbits : s.bits rfcCrc8 rfcCrc16 = some (bytesToBits bs)) (hok : Repo.StreamOk s) :
    ∃ g, Gen.Parser.stream true bs = some (.ok ([], g)) ∧ psOfGen g = Repo.PStream.ofStream s ∧
      (psOfGen g).toStream? = some s := by
  have h := C16G_stream bs hb
  rw [C15_stream_bits s (bytesToBits bs) hbits hok] at h
  obtain ⟨g, g1, g2⟩ := h
  exact ⟨g, g1, g2, by rw [g2]; exact Repo.PStream.ofStream_toStream s⟩

/-- The hypothesis `IsBytes` is satisfiable on a non-trivial input: a complete frame header (sync, fixed blocking, block
size 4096, 44.1 kHz, 2 channels, 16 bit, frame 0) followed by its CRC-8 slot. -/
example : IsBytes [0xFF, 0xF8, 0xC9, 0x18, 0x00, 0xC2] := by
  intro b hb; simp at hb; omega

/-- A concrete run: partition order 0, 4-bit parameter 1, block of two samples, residual codes `1|0` and `01|1`
(unary quotient, one remainder bit each). -/
example : Gen.Parser.residual true 2 0
    [false, false, false, false, false, false, false, false, false, true, true, false, false, true, true, true] =
    some (.ok ([true], { order := 0, blockSize := 2, warmup := 0, params := [1], quotients := [0, 1], remainders := [0, 1] })) := by
  rfl

end FlacVerif.C16Gen
