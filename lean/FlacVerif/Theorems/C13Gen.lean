/-
C13 (also C01 / C09 / C10), generated: the Rice parameter search of `Model/Rice.lean` (`Table.fromErrors / accFast / accSlow /
merge / minimizer`, `finestOrder`, `evalPartitions`, `mergePartitions`, `searchFolded`, `search`) against the functions
GENERATED from the current text of src/rice.rs and src/arrayutils.rs by `tools/translate.py`, part `rice`
(`tools/translate_rice.py` -> `Gen/Rice.lean`).  `search` is the very function the generated decision logic of part
`coding` calls (CD_CALLEES: `rice::find_partitioned_rice_parameter` = `FlacVerif.search`), so the chain
coding.rs -> rice.rs is closed by `C13G_find_partitioned_rice_parameter`; the second callee of part `coding`,
`encode_residual_with_prc_parameter` (coding.rs), is read as `Residual.ofErrors` and closed by `C13G_encode_residual_chain`.

One theorem `C13G_<function>` per generated function says that it computes what its model counterpart computes, lane by
lane under the fakesimd semantics, for BOTH profiles (`dbg = true` dev, `dbg = false` release) unless a hypothesis says
otherwise, and for all argument values in the stated domains.  Hypotheses of the top theorems: `signal.length < 2^21`,
`max_p <= 14`, and for the release profile only: the block is not shorter than `max 64 warmup` and no sample is `i32::MIN`
(there the release build wraps where the model, which follows the dev profile, reports a panic).

Where model and source disagree, a hypothesis excludes the point and a lemma exhibits it:
  C13G_merge_partitions_assert    (D1) order 15: `assert!(tables.len() < 32768)` fails on 32768 tables, the model has no assert
                                  (`C13G_D1_order_le_14` and the examples under "D1, the exact boundary" give the exact boundary, 2^21 samples)
  C13G_from_errors_dev_overflow   (D2) dev: `len * 16` overflows u32 in lane 15 from 2^28 errors on, the model wraps
  C13G_encode_signbit_release_min (D3) release: encode_signbit(i32::MIN) wraps to u32::MAX, the model reports the dev panic
  C13G_finest_release_wraps       (D4) release: size < min_part_size wraps `32 - 32 - 1`, the model reports the dev panic
  C13G_encode_signbit_simd_negative   the vector sign fold PANICS on a negative lane (fakesimd `cast` = checked NumCast); it is
                                  dead code in that build

A call that succeeds is removed with `simp only [addU_ok .., Option.bind_some]`: the generated text of part `rice` puts `let`s between
the binds, which `simp` reduces on the way (a `rw` chain stops at each of them); the chains are short, so what the kernel is left
to compare is small.

Mutation evidence: notes/rice_mutations.md.
-/
import FlacVerif.Gen.Rice
import FlacVerif.Model.Rice
import FlacVerif.Lemmas.RiceSearchLoop
import FlacVerif.Lemmas.GenPrelude
import FlacVerif.Lemmas.SourcePrelude
import FlacVerif.Lemmas.ScratchVec

namespace FlacVerif.C13Gen
open FlacVerif.Gen.Rice FlacVerif.Prelude
open FlacVerif.Gen.Decode (req setAt sliceR loopM rangeL enumerate enumFrom wrapS castU arithS addU subU mulU shAmt shlU shrU divU)
open FlacVerif.Gen.Decode (addU_ok subU_ok mulU_ok shAmt_ok shlU_one sliceR_ok sliceR_prefix setAt_boundary getElem?_boundary
  setAt_append enumFrom_cons length_enumFrom getElem_enumFrom loopM_nil loopM_cons loopM_eq_loop)

theorem allSome_map_some {α : Type} (l : List α) : allSome (l.map some) = some l := by
  induction l with
  | nil => rfl
  | cons x xs ih => simp [allSome, ih]

theorem allSome_map_of {α β : Type} (l : List α) (g : α → Option β) (h : α → β) (hg : ∀ x ∈ l, g x = some (h x)) :
    allSome (l.map g) = some (l.map h) := by
  have : l.map g = (l.map h).map some := by
    rw [List.map_map]; apply List.map_congr_left; intro x hx; simp [hg x hx]
  rw [this, allSome_map_some]

theorem lanes2_map {α β γ ι : Type} (g : α → β → γ) (f1 : ι → α) (f2 : ι → β) (r : List ι) :
    lanes2 g (r.map f1) (r.map f2) = r.map (fun p => g (f1 p) (f2 p)) := by
  unfold lanes2
  induction r with
  | nil => rfl
  | cons x xs ih => simp [ih]

theorem lanesM2_map {α β γ ι : Type} (g : α → β → Option γ) (h : ι → γ) (f1 : ι → α) (f2 : ι → β) (r : List ι)
    (hg : ∀ p ∈ r, g (f1 p) (f2 p) = some (h p)) :
    lanesM2 g (r.map f1) (r.map f2) = some (r.map h) := by
  unfold lanesM2
  have := lanes2_map g f1 f2 r
  unfold lanes2 at this
  rw [this]
  exact allSome_map_of r _ h hg

theorem lanes3_map {α β γ δ ι : Type} (g : α → β → γ → δ) (f1 : ι → α) (f2 : ι → β) (f3 : ι → γ) (r : List ι) :
    lanes3 g (r.map f1) (r.map f2) (r.map f3) = r.map (fun p => g (f1 p) (f2 p) (f3 p)) := by
  unfold lanes3
  induction r with
  | nil => rfl
  | cons x xs ih => simp [ih]

theorem splat_eq {α : Type} (n : Nat) (v : α) : splat n v = (List.range n).map (fun _ => v) := by
  unfold splat
  apply List.ext_getElem <;> simp

theorem INDEX_eq : INDEX = (List.range 16).map (fun p => p) := by decide
theorem INDEX1_eq : INDEX1 = (List.range 16).map (fun p => p + 1) := by decide
theorem ZEROS_eq : ZEROS = (List.range 16).map (fun _ => 0) := splat_eq 16 0
theorem MAXES_eq : MAXES = (List.range 16).map (fun _ => 4294967295) := splat_eq 16 4294967295
theorem MAXV_eq : MAX_P_TO_BITS_VEC = (List.range 16).map (fun _ => 268435455) := splat_eq 16 268435455

theorem lanes16 (t : List Nat) (h : t.length = 16) : t = (List.range 16).map (fun p => t.getD p 0) := by
  simpa [List.take_of_length_le (Nat.le_of_eq h)] using (map_getD_slice t 0 16 0 id (by omega)).symm

theorem dbgAssert_ok (dbg c : Bool) (h : dbg = true → c = true) : dbgAssert dbg c = some () := by
  cases dbg with
  | false => rfl
  | true => rw [dbgAssert, h rfl]; rfl

theorem C13G_merge (a b : PrcBitTable) (off : Nat) (ha : a.p_to_bits.length = 16) (hb : b.p_to_bits.length = 16) :
    (PrcBitTable.merge a b off).p_to_bits = Table.merge a.p_to_bits b.p_to_bits off := by
  unfold PrcBitTable.merge Table.merge
  conv => lhs; rw [lanes16 _ ha, lanes16 _ hb, splat_eq, MAXV_eq]
  simp only [lanes2_map]
  apply List.map_congr_left
  intro p hp
  simp only [waddU, wsubU, u32, maxPToBits, Nat.mod_mod]

theorem lanesM2_shl {ι : Type} (dbg : Bool) (r : List ι) (f g : ι → Nat) (hg : ∀ p ∈ r, g p < 32) :
    lanesM2 (shlL dbg 32) (r.map f) (r.map g) = some (r.map fun p => shlU 32 (f p) (g p)) :=
  lanesM2_map _ _ _ _ r (fun p hp => by rw [shlL, shAmt_ok dbg 32 _ (hg p hp)]; rfl)

theorem lanesM2_shr {ι : Type} (dbg : Bool) (r : List ι) (f g : ι → Nat) (hg : ∀ p ∈ r, g p < 32) :
    lanesM2 (shrL dbg 32) (r.map f) (r.map g) = some (r.map fun p => shrU (f p) (g p)) :=
  lanesM2_map _ _ _ _ r (fun p hp => by rw [shrL, shAmt_ok dbg 32 _ (hg p hp)]; rfl)

theorem reduceMin_eq (l : List Nat) (B : Nat) (hne : l ≠ []) (hB : ∀ x ∈ l, x ≤ B) :
    reduceMin l = some (l.foldl min B) := by
  cases l with
  | nil => exact absurd rfl hne
  | cons x xs =>
    have : min B x = x := Nat.min_eq_right (hB x (by simp))
    simp [reduceMin, this]

theorem C13G_minimizer (dbg : Bool) (t : PrcBitTable) (maxP : Nat) (ht : t.p_to_bits.length = 16) (hm : maxP ≤ 14) :
    PrcBitTable.minimizer dbg t maxP = some (Table.minimizer t.p_to_bits maxP) := by
  unfold PrcBitTable.minimizer Table.minimizer
  have hmp : maxP % 4294967296 = maxP := Nat.mod_eq_of_lt (by omega)
  have hda : dbgAssert dbg (decide (maxP ≤ FlacVerif.Gen.Const.rice_MAX_RICE_PARAMETER)) = some () :=
    dbgAssert_ok _ _ (fun _ => decide_eq_true hm)
  rw [hda]
  simp only [Option.bind_some]
  conv => lhs; rw [lanes16 _ ht, INDEX_eq, MAXES_eq, splat_eq, splat_eq]
  simp only [lanes2_map, lanes3_map]
  rw [lanesM2_shl dbg _ _ _ (fun _ _ => by decide)]
  simp only [Option.bind_some, lanes2_map]
  rw [reduceMin_eq _ (u32 - 1) (by simp) ?_]
  · simp only [Option.bind_some, hmp]
    have hpk : (List.range 16).map (fun p => Nat.lor (shlU 32 (if decide (p ≤ maxP) = true then t.p_to_bits.getD p 0 else 4294967295) 4) p)
        = (List.range 16).map (fun p => (((if p ≤ maxP then t.p_to_bits.getD p 0 else u32 - 1) <<< 4) % u32) ||| p) := by
      apply List.map_congr_left
      intro p _
      simp only [shlU, Nat.shiftLeft_eq, u32, decide_eq_true_eq]
      rfl
    rw [hpk]
    generalize (List.range 16).map (fun p => (((if p ≤ maxP then t.p_to_bits.getD p 0 else u32 - 1) <<< 4) % u32) ||| p) = pk
    simp only [shrU, Nat.shiftRight_eq_div_pow]
    congr 2
    exact Nat.and_two_pow_sub_one_eq_mod _ 4
  · intro x hx
    obtain ⟨p, hp, rfl⟩ := List.mem_map.mp hx
    exact Nat.le_pred_of_lt (Nat.or_lt_two_pow (Nat.mod_lt _ (by decide)) (Nat.lt_trans (List.mem_range.mp hp) (by decide)))

/-- `usize::trailing_zeros` is the model's search for the lowest set bit (64 for 0) -/
theorem tzU_eq (size : Nat) :
    tzU 64 size = if size = 0 then 64 else ((List.range 64).find? (fun i => size.testBit i)).getD 64 := by
  unfold tzU
  by_cases hs : size = 0
  · have h0 : (List.range 64).find? (fun i => (0 : Nat).testBit i) = none := by
      rw [List.find?_eq_none]; intro x _; simp
    rw [if_pos hs, hs, h0]; rfl
  · rw [if_neg hs]

/-- `32 - leading_zeros(ms) - 1` is `log2 ms` for a non-zero `u32` -/
theorem log2_of_lz (dbg : Bool) (ms : Nat) (hz : ms ≠ 0) (hlt : ms < 2 ^ 32) :
    (subU dbg 32 32 (lzU 32 ms)).bind (fun v => subU dbg 32 v 1) = some (Nat.log2 ms) := by
  have hlog : Nat.log2 ms < 32 := (Nat.log2_lt hz).mpr hlt
  rw [lzU, if_neg hz, subU_ok dbg 32 32 _ (by omega), Option.bind_some, subU_ok dbg 32 _ 1 (by omega)]
  congr 1; omega

/-- dev profile: equal for every argument; release: equal wherever the model does not report the underflow panic
(`(size / min_part_size) as u32 = 0`: `size < min_part_size`, see `C13G_finest_release_wraps`, or a quotient that is a
multiple of `2^32`). -/
theorem C13G_finest (dbg : Bool) (size minPart : Nat) (h : dbg = true ∨ (size / minPart) % u32 ≠ 0) :
    finest_partition_order dbg size minPart = finestOrder size minPart := by
  unfold finest_partition_order finestOrder
  by_cases h0 : minPart = 0
  · subst h0; simp [req]
  · have h1 : decide (minPart ≥ 1) = true := decide_eq_true (Nat.pos_of_ne_zero h0)
    have hu : (4294967296 : Nat) = u32 := rfl
    simp only [h0, h1, req, ↓reduceIte, Option.bind_some, divU, tzU_eq, hu]
    have hlt : (size / minPart) % u32 < 2 ^ 32 := Nat.mod_lt _ (by decide)
    generalize (size / minPart) % u32 = ms at h hlt ⊢
    by_cases hz : ms = 0
    · -- `32 - 32 - 1`: the dev profile panics, as the model does
      subst hz
      cases h with
      | inl hd => subst hd; simp [lzU, subU]
      | inr hn => exact absurd rfl hn
    · rw [if_neg hz, ← Option.bind_assoc, log2_of_lz dbg ms hz hlt]
      rfl

/-- release profile, `size < min_part_size`: the Rust code wraps (`32 - 32 - 1`) and goes on where the dev profile (and the
model) panic. -/
theorem C13G_finest_release_wraps : finest_partition_order false 32 64 = some 5 ∧ finestOrder 32 64 = none := by
  constructor <;> decide

theorem C13G_find_max (dbg : Bool) (es : List Nat) : find_max dbg 64 es = some (es.foldl max 0) := by
  have hf : (fun acc x => max x acc) = (max : Nat → Nat → Nat) := funext fun a => funext fun x => Nat.max_comm x a
  have hv : reduceMax (List.replicate 64 0) = some 0 := by
    rw [List.replicate_succ, reduceMax]
    exact congrArg some (C14Gen.reduce_replicate max Nat.max_self 63 (by decide) 0 0)
  unfold find_max
  rw [C14Gen.simd_map_and_reduce_scalar 64 es (fun x => x) max _ _ _ 0 0 hv, hf, Nat.max_zero]
  rfl

theorem loopM_congr {α σ : Type} (l : List α) (s : σ) (f g : α → σ → Option σ) (h : ∀ x ∈ l, ∀ s, f x s = g x s) :
    loopM l s f = loopM l s g := by
  rw [loopM_eq_loop, loopM_eq_loop, loop_congr l s f g h]

/-- a loop whose state is a vector of lanes, each lane updated independently -/
theorem loopM_lanes {α : Type} (r : List Nat) (es : List α) (f : Nat → Nat) (body : α → List Nat → Option (List Nat))
    (step : α → Nat → Nat → Nat)
    (hb : ∀ e ∈ es, ∀ g : Nat → Nat, body e (r.map g) = some (r.map fun p => step e (g p) p)) :
    loopM es (r.map f) body = some (r.map fun p => es.foldl (fun a e => step e a p) (f p)) := by
  induction es generalizing f with
  | nil => rw [loopM_nil]; rfl
  | cons e es ih =>
    rw [loopM_cons, hb e (by simp) f]
    simp only [Option.bind_some, List.foldl_cons]
    exact ih (fun p => step e (f p) p) (fun e' he' g => hb e' (by simp [he']) g)

/-- `for n in 0..len { body(chunk[n]) }` is a loop over the elements -/
theorem loopM_index {α σ : Type} (body : α → σ → Option σ) (chunk : List α) (s : σ) :
    loopM (rangeL 0 chunk.length) s (fun n s => (chunk[n]?).bind fun e => body e s) = loopM chunk s body := by
  rw [loopM_eq_loop, loopM_eq_loop, rangeL, Nat.sub_zero]
  exact loop_index body [] chunk s

/-- `repeat!(n to N; while n < len => body(chunk[n]))` is a loop over the elements too (`len ≤ N`) -/
theorem repeatWhileM_index_aux {α σ : Type} (body : α → σ → Option σ) (chunk pre : List α) (n : Nat) (s : σ)
    (hn : chunk.length ≤ n) :
    repeatWhileM (fun k => decide (k < (pre ++ chunk).length)) (fun k s => ((pre ++ chunk)[k]?).bind fun e => body e s)
      (List.range' pre.length n) s = loopM chunk s body := by
  induction chunk generalizing pre n s with
  | nil =>
    cases n with
    | zero => rfl
    | succ n => simp [List.range'_succ, repeatWhileM, loopM_nil]
  | cons x xs ih =>
    obtain ⟨n, rfl⟩ := Nat.exists_eq_succ_of_ne_zero (Nat.ne_of_gt (Nat.lt_of_lt_of_le (Nat.succ_pos _) hn))
    have hx : (pre ++ x :: xs)[pre.length]? = some x := by simp
    have hc : decide (pre.length < (pre ++ x :: xs).length) = true := by simp
    rw [List.range'_succ, repeatWhileM, if_pos hc, hx, loopM_cons]
    congr 1; funext s'
    have := ih (pre ++ [x]) n s' (Nat.le_of_succ_le_succ hn)
    simpa using this

theorem repeatWhileM_index {α σ : Type} (body : α → σ → Option σ) (chunk : List α) (n : Nat) (s : σ) (hn : chunk.length ≤ n) :
    repeatWhileM (fun k => decide (k < chunk.length)) (fun k s => (chunk[k]?).bind fun e => body e s) (rangeL 0 n) s
      = loopM chunk s body := by
  have := repeatWhileM_index_aux body chunk [] n s hn
  simpa [rangeL] using this

abbrev r16 : List Nat := List.range 16

theorem lanesM2_mul {ι : Type} (dbg : Bool) (r : List ι) (f g : ι → Nat) (h : dbg = true → ∀ p ∈ r, f p * g p < 2 ^ 32) :
    lanesM2 (mulU dbg 32) (r.map f) (r.map g) = some (r.map fun p => (f p * g p) % 2 ^ 32) :=
  lanesM2_map _ _ _ _ r fun p hp => by
    unfold mulU
    by_cases hlt : f p * g p < 2 ^ 32
    · simp [hlt, Nat.mod_eq_of_lt hlt]
    · cases dbg with
      | true => exact absurd (h rfl p hp) hlt
      | false => simp [hlt]

/-- one step of both accumulation loops: `splat(e) >> INDEX` -/
theorem shr_step (dbg : Bool) (e : Nat) :
    lanesM2 (shrL dbg 32) (splat 16 e) INDEX = some (r16.map fun p => e >>> p) := by
  rw [splat_eq, INDEX_eq, lanesM2_shr dbg _ _ _ (fun p hp => Nat.lt_trans (List.mem_range.mp hp) (by decide))]
  simp only [shrU, Nat.shiftRight_eq_div_pow]

/-- lane `p` of the accumulator after one chunk: the wrapping sum of the chunk's quotients, then the clamp -/
def chunkStep (p : Nat) (a : Nat) (chunk : List Nat) : Nat :=
  min (chunk.foldl (fun a e => (a + (e >>> p)) % u32) a) maxPToBits

/-- the body of the `chunks(16)` loop of `from_errors`, the unrolled branch for a full chunk and the `repeat!` branch for the
last, shorter one alike: every lane takes one `chunkStep` -/
theorem chunk_body (dbg : Bool) (chunk : List Nat) (g : Nat → Nat) (hc : chunk.length ≤ 16) :
    ((if (decide (chunk.length = PRC_BIT_TABLE_FROM_ERRORS_UNROLL_N)) then
          (loopM (rangeL 0 PRC_BIT_TABLE_FROM_ERRORS_UNROLL_N) (r16.map g) fun n p_to_bits =>
              (chunk[n]?).bind fun v4' =>
              (lanesM2 (shrL dbg 32) (splat 16 v4') INDEX).bind fun v5' =>
              some (lanes2 (waddU 32) p_to_bits v5')).bind fun p_to_bits =>
          some p_to_bits
        else
          (repeatWhileM (fun n => (decide (n < chunk.length))) (fun n p_to_bits =>
              (chunk[n]?).bind fun v6' =>
              (lanesM2 (shrL dbg 32) (splat 16 v6') INDEX).bind fun v7' =>
              some (lanes2 (waddU 32) p_to_bits v7')) (rangeL 0 PRC_BIT_TABLE_FROM_ERRORS_UNROLL_N) (r16.map g)).bind fun p_to_bits =>
          some p_to_bits).bind fun p_to_bits =>
      some (lanes2 min p_to_bits MAX_P_TO_BITS_VEC))
    = some (r16.map fun p => chunkStep p (g p) chunk) := by
  have hN : PRC_BIT_TABLE_FROM_ERRORS_UNROLL_N = 16 := rfl
  -- both branches run the same step over the elements of the chunk
  have hloop : loopM chunk (r16.map g) (fun e p_to_bits =>
      (lanesM2 (shrL dbg 32) (splat 16 e) INDEX).bind fun v5' => some (lanes2 (waddU 32) p_to_bits v5'))
      = some (r16.map fun p => chunk.foldl (fun a e => (a + (e >>> p)) % u32) (g p)) :=
    loopM_lanes r16 chunk g _ (fun e a p => (a + (e >>> p)) % u32) (fun e _ g => by
      rw [shr_step]; simp only [Option.bind_some, lanes2_map, waddU, u32])
  rw [hN]
  by_cases h16 : chunk.length = 16
  · rw [if_pos (decide_eq_true h16), show rangeL 0 16 = rangeL 0 chunk.length by rw [h16], loopM_index, hloop, MAXV_eq]
    simp only [Option.bind_some, lanes2_map, chunkStep, maxPToBits]
  · rw [if_neg (by simpa using h16), repeatWhileM_index _ chunk 16 _ hc, hloop, MAXV_eq]
    simp only [Option.bind_some, lanes2_map, chunkStep, maxPToBits]

theorem chunksAux_len {α : Type} (n fuel : Nat) (rest : List α) : ∀ c ∈ chunksAux n fuel rest, c.length ≤ n := by
  induction fuel generalizing rest with
  | zero => intro c hc; simp [chunksAux] at hc
  | succ fuel ih =>
    intro c hc
    unfold chunksAux at hc
    split at hc
    · simp at hc
    · simp only [List.mem_cons] at hc
      cases hc with
      | inl h => subst h; simp [List.length_take]; omega
      | inr h => exact ih _ c h

theorem go_eq_chunks (p : Nat) (fuel : Nat) (rest : List Nat) (acc : Nat) (h : rest.length ≤ fuel) :
    Table.accFast.go p acc rest (fuel + 1) = (chunksAux 16 fuel rest).foldl (chunkStep p) acc := by
  induction fuel generalizing rest acc with
  | zero =>
    have : rest = [] := List.eq_nil_of_length_eq_zero (by omega)
    subst this
    simp [Table.accFast.go, chunksAux]
  | succ fuel ih =>
    unfold Table.accFast.go chunksAux
    by_cases he : rest.isEmpty = true
    · simp [he]
    · simp only [he, Bool.false_eq_true, ↓reduceIte, List.foldl_cons]
      have hne : rest ≠ [] := by intro h0; subst h0; simp at he
      have hl : (rest.drop 16).length ≤ fuel := by
        have : 0 < rest.length := List.length_pos_iff.mpr hne
        rw [List.length_drop]; omega
      rw [ih (rest.drop 16) _ hl]
      rfl

theorem C13G_from_errors (dbg : Bool) (es : List Nat) (offset : Nat)
    (ho : dbg = true → offset < 2 ^ 31) (hl : dbg = true → es.length < 2 ^ 28) :
    PrcBitTable.from_errors dbg es offset = some ⟨Table.fromErrors es offset⟩ := by
  unfold PrcBitTable.from_errors
  have hda : dbgAssert dbg (decide (offset < shlU 64 1 31)) = some () :=
    dbgAssert_ok _ _ (fun hd => decide_eq_true (ho hd))
  have hmul := lanesM2_mul dbg r16 (fun _ => es.length % 4294967296) (fun p => p + 1) (fun hd p hp => by
    have := hl hd
    have : es.length % 4294967296 * (p + 1) ≤ es.length * 16 :=
      Nat.mul_le_mul (Nat.mod_le _ _) (Nat.succ_le_of_lt (List.mem_range.mp hp))
    omega)
  have h27 : shlU 32 1 27 = 2 ^ 27 := by decide
  rw [hda, splat_eq, INDEX1_eq, hmul, C13G_find_max, splat_eq, ZEROS_eq, h27]
  simp only [Option.bind_some, lanes2_map, ge_iff_le]
  unfold Table.fromErrors
  by_cases hbig : 2 ^ 27 ≤ es.foldl max 0
  · simp only [hbig, decide_true, ge_iff_le, ↓reduceIte]
    rw [loopM_lanes r16 es _ _ (fun e a p => min ((a + min (e >>> p) maxPToBits) % u32) maxPToBits) (fun e _ g => by
      rw [shr_step, MAXV_eq]; simp only [Option.bind_some, lanes2_map, waddU, u32, maxPToBits]), MAXV_eq]
    simp only [Option.bind_some, lanes2_map]
    congr 2
    apply List.map_congr_left
    intro p hp
    have hp' : p < 16 := List.mem_range.mp hp
    simp only [Table.accSlow, getD_map_range _ _ _ _ hp', waddU, u32, maxPToBits, Nat.add_mod_mod, ge_iff_le, hbig, ↓reduceIte]
  · simp only [hbig, decide_false, Bool.false_eq_true, ge_iff_le, ↓reduceIte]
    have hreq : req (decide (PRC_BIT_TABLE_FROM_ERRORS_UNROLL_N ≠ 0)) = some () := by decide
    have hN : chunks es PRC_BIT_TABLE_FROM_ERRORS_UNROLL_N = chunksAux 16 es.length es := rfl
    rw [hreq, hN]
    simp only [Option.bind_some]
    rw [loopM_lanes r16 (chunksAux 16 es.length es) (fun _ => 0) _ (fun chunk a p => chunkStep p a chunk)
      (fun chunk hc g => chunk_body dbg chunk g (chunksAux_len 16 es.length es chunk hc)), MAXV_eq]
    simp only [Option.bind_some, lanes2_map]
    congr 2
    apply List.map_congr_left
    intro p hp
    have hp' : p < 16 := List.mem_range.mp hp
    simp only [Table.accFast, getD_map_range _ _ _ _ hp', waddU, u32, maxPToBits, Nat.add_mod_mod]
    rw [go_eq_chunks p es.length es 0 (Nat.le_refl _)]

theorem C13G_eval_partitions (dbg : Bool) (tables : List PrcBitTable) (ps : List Nat) (maxP : Nat) (hm : maxP ≤ 14)
    (hlen : ∀ t ∈ tables, t.p_to_bits.length = 16) (hn : tables.length ≤ 2 ^ 16) :
    eval_partitions dbg tables ps maxP =
      if tables.length ≤ ps.length then
        some ((evalPartitions (tables.map (·.p_to_bits)) maxP).1,
              (evalPartitions (tables.map (·.p_to_bits)) maxP).2 ++ ps.drop tables.length)
      else none := by
  unfold eval_partitions
  by_cases h : tables.length ≤ ps.length
  · have hreq : req (decide (ps.length ≥ tables.length)) = some () := by simp [req, h]
    have hk : (List.zip (enumFrom 0 ps) tables).length = tables.length := by
      rw [List.length_zip, length_enumFrom, Nat.min_eq_right h]
    rw [hreq, if_pos h, RiceSearch.evalPartitions_eq]
    simp only [Option.bind_some, enumerate, List.map_map]
    -- after `i` tables: the sum of their minimal sizes, and their parameters at the head of `ps`
    rw [loopM_eq_loop, loop_inv _ _ (fun i => (((tables.take i).map fun t => (Table.minimizer t.p_to_bits maxP).2).sum,
      (tables.take i).map (fun t => (Table.minimizer t.p_to_bits maxP).1) ++ ps.drop i))]
    · rw [hk, List.take_length]
      rfl
    · rfl
    · intro i hi
      rw [hk] at hi
      have hsum := sum_map_le_length_mul (tables.take i) (fun t => (Table.minimizer t.p_to_bits maxP).2) (2 ^ 28)
        (fun t _ => Nat.le_of_lt (RiceSearch.minimizer_snd_lt _ _))
      rw [List.length_take, Nat.min_eq_left (Nat.le_of_lt hi)] at hsum
      have hb := RiceSearch.minimizer_snd_lt tables[i].p_to_bits maxP
      simp only [List.getElem_zip, getElem_enumFrom, Nat.zero_add,
        C13G_minimizer dbg _ maxP (hlen _ (List.getElem_mem hi)) hm, Option.bind_some]
      rw [addU_ok dbg 64 _ _ (by omega), Option.bind_some,
        setAt_boundary _ ps i _ (by rw [List.length_map, List.length_take, Nat.min_eq_left (Nat.le_of_lt hi)]) (by omega),
        Option.bind_some, List.take_succ_eq_append_getElem hi, List.map_append, List.map_append, List.sum_append]
      rfl
  · have hreq : req (decide (ps.length ≥ tables.length)) = none := by simp [req]; omega
    rw [hreq, if_neg h]
    rfl

/-- table `k` after the pairwise merge of `orig`: entries `2k` and `2k + 1` merged -/
def mk (orig : List PrcBitTable) (k : Nat) : PrcBitTable :=
  PrcBitTable.merge (orig.getD (2 * k) default) (orig.getD (2 * k + 1) default) 4

theorem C13G_merge_partitions (dbg : Bool) (tables : List PrcBitTable) :
    merge_partitions dbg tables =
      if tables.length < 32768 then
        some (tables.length / 2, (List.range (tables.length / 2)).map (mk tables) ++ tables.drop (tables.length / 2))
      else none := by
  unfold merge_partitions
  by_cases h : tables.length < 32768
  · have hreq : req (decide (tables.length < FlacVerif.Gen.Const.rice_MAX_PARTITIONS)) = some () := by
      simp [req, FlacVerif.Gen.Const.rice_MAX_PARTITIONS, h]
    have hdiv : divU tables.length 2 = some (tables.length / 2) := rfl
    rw [hreq, hdiv, if_pos h]
    simp only [Option.bind_some]
    -- after `j` iterations the first `j` entries are merged pairs, the rest is untouched
    rw [loopM_eq_loop, loop_inv _ _ (fun j => (List.range j).map (mk tables) ++ tables.drop j)]
    · simp [rangeL]
    · rfl
    · intro j hj
      simp only [rangeL, List.length_range', List.getElem_range', Nat.sub_zero, Nat.zero_add, Nat.one_mul] at hj ⊢
      have hlen : ((List.range j).map (mk tables)).length = j := by simp
      have hget : ∀ k, j ≤ k → k < tables.length →
          ((List.range j).map (mk tables) ++ tables.drop j)[k]? = some (tables.getD k default) := by
        intro k hjk hk
        rw [getElem?_boundary _ _ j k hlen hjk, List.getD_eq_getElem?_getD, List.getElem?_eq_getElem hk]
        rfl
      simp only [mulU_ok dbg 64 j 2 (by omega), addU_ok dbg 64 (j * 2) 1 (by omega), hget (j * 2) (by omega) (by omega),
        hget (j * 2 + 1) (by omega) (by omega), Option.bind_some]
      rw [Nat.mul_comm j 2, setAt_boundary _ _ j _ hlen (by omega), List.range_succ, List.map_append]
      rfl
  · have hreq : req (decide (tables.length < FlacVerif.Gen.Const.rice_MAX_PARTITIONS)) = none := by
      simp [req, FlacVerif.Gen.Const.rice_MAX_PARTITIONS, h]
    rw [hreq, if_neg h]
    rfl

/-- `dest[i] = f(dest[i], src[i])` for every `i < dest.len()`, in order; `none` = a call panics or `src` is too short -/
def zipUpd {T U : Type} (sf : T → U → Option T) : List T → List U → Option (List T)
  | [], _ => some []
  | _ :: _, [] => none
  | d :: ds, x :: xs => (sf d x).bind fun y => (zipUpd sf ds xs).map (y :: ·)

theorem scalar_loop {T U : Type} (dbg : Bool) (sf : T → U → Option T) (rest : List T) (pre : List T) (spre srest : List U)
    (hk : spre.length = pre.length) (h64 : (spre ++ srest).length < 2 ^ 64) :
    (loopM (enumFrom pre.length rest) (pre ++ rest, pre.length) fun (v1', p) (head, t) =>
      ((spre ++ srest)[t]?).bind fun v2' =>
      (sf p v2').bind fun v3' =>
      (setAt head v1' v3').bind fun head =>
      let p := v3'
      (addU dbg 64 t 1).bind fun v4' =>
      let t : Nat := v4'
      some (head, t))
    = (zipUpd sf rest srest).map fun ys => (pre ++ ys, pre.length + rest.length) := by
  induction rest generalizing pre spre srest with
  | nil => simp [FlacVerif.Gen.Decode.enumFrom, loopM_nil, zipUpd]
  | cons d ds ih =>
    rw [enumFrom_cons, loopM_cons]
    cases srest with
    | nil =>
      have : (spre ++ ([] : List U))[pre.length]? = none := by simp [hk]
      simp only [this, zipUpd, Option.bind_none, Option.map_none]
    | cons x xs =>
      have hx : (spre ++ x :: xs)[pre.length]? = some x := by rw [← hk]; simp
      simp only [hx, Option.bind_some, zipUpd]
      cases hs : sf d x with
      | none => simp
      | some y =>
        have hadd := addU_ok dbg 64 pre.length 1 (by simp at h64; omega)
        simp only [Option.bind_some, setAt_append, hadd]
        have := ih (pre ++ [y]) (spre ++ [x]) xs (by simp [hk]) (by simpa using h64)
        simp only [List.length_append, List.length_cons, List.length_nil, List.append_assoc, List.cons_append, List.nil_append] at this
        rw [this]
        cases zipUpd sf ds xs with
        | none => rfl
        | some ys => simp [Nat.add_assoc, Nat.add_comm 1]

/-- In the fakesimd build `slice_as_simd_mut` returns `(data, [], [])`: only the scalar head loop runs, over all of `dest`. -/
theorem C13G_unaligned {T U : Type} (dbg : Bool) (N : Nat) (src : List U) (dest : List T) (sf : T → U → Option T)
    (vf : List T → List U → Option (List T)) (h64 : src.length < 2 ^ 64) :
    unaligned_map_and_update dbg N src dest sf vf = zipUpd sf dest src := by
  unfold unaligned_map_and_update slice_as_simd_mut
  have := scalar_loop dbg sf dest [] [] src rfl (by simpa using h64)
  simp only [List.length_nil, List.nil_append, Nat.zero_add] at this
  simp only [enumerate, this]
  cases zipUpd sf dest src with
  | none => rfl
  | some ys => simp [FlacVerif.Gen.Decode.enumFrom, loopM_nil, simdJoin]

/-- below `2^21` samples the finest order is at most 14, so `merge_partitions` never sees more than 16384 tables -/
theorem C13G_D1_order_le_14 (n warm o : Nat) (hn : n < 2 ^ 21) (h : finestOrder n (max 64 warm) = some o) : o ≤ 14 :=
  Nat.le_of_lt_succ (RiceSearch.finestOrder_lt_15 hn h)

/-- Both compute `(|v| << 1) - (v < 0)` in `u32`; they differ only where the subtraction underflows (`v = i32::MIN`): the
model and the dev profile panic there, release wraps. -/
theorem encode_signbit_eq (dbg : Bool) (v : Int) (h : dbg = true ∨ encodeSignbit v ≠ none) :
    FlacVerif.Gen.Decode.encode_signbit dbg v = encodeSignbit v := by
  have ha : shlU 32 v.natAbs 1 = (2 * v.natAbs) % u32 := by rw [shlU, Nat.pow_one, Nat.mul_comm]; rfl
  have hs : (if decide (v < (0 : Int)) = true then 1 else 0) = if v < 0 then 1 else 0 := by simp only [decide_eq_true_eq]
  unfold FlacVerif.Gen.Decode.encode_signbit
  rw [ha, hs]
  by_cases hle : (if v < 0 then 1 else 0) ≤ (2 * v.natAbs) % u32
  · rw [subU_ok dbg 32 _ _ hle, encodeSignbit, if_pos hle]
    rfl
  · have hm : encodeSignbit v = none := by rw [encodeSignbit, if_neg hle]
    rcases h with rfl | hn
    · rw [hm, subU, if_neg hle]; rfl
    · exact absurd hm hn

/-- the scalar closure of `find` applied to every sample -/
theorem zipUpd_encode_signbit (dbg : Bool) (signal : List Int) (d : List Nat) (hd : d.length = signal.length)
    (h : dbg = true ∨ ∀ v ∈ signal, encodeSignbit v ≠ none) :
    zipUpd (fun (p : Nat) (x : Int) => (FlacVerif.Gen.Decode.encode_signbit dbg x).bind fun v3' =>
        let p : Nat := v3'
        some p) d signal = signal.mapM encodeSignbit := by
  induction signal generalizing d with
  | nil =>
    have : d = [] := List.eq_nil_of_length_eq_zero hd
    subst this; simp [zipUpd]
  | cons x xs ih =>
    cases d with
    | nil => simp at hd
    | cons y ys =>
      have hx : FlacVerif.Gen.Decode.encode_signbit dbg x = encodeSignbit x :=
        encode_signbit_eq dbg x (h.imp id (fun hh => hh x (by simp)))
      have := ih ys (by simpa using hd) (h.imp id (fun hh v hv => hh v (by simp [hv])))
      simp only [zipUpd, hx, this, List.mapM_cons]
      cases encodeSignbit x with
      | none => rfl
      | some e =>
        cases List.mapM encodeSignbit xs with
        | none => rfl
        | some es => rfl

/-- body of the table-building loop of `find` (generated text) -/
def tblBody (dbg : Bool) (warmup_length part_size : Nat) : Nat → PrcParameterFinder → Option PrcParameterFinder :=
  fun p self =>
      (mulU dbg 64 p part_size).bind fun v7' =>
      let start : Nat := (max v7' warmup_length)
      (addU dbg 64 p 1).bind fun v8' =>
      (mulU dbg 64 v8' part_size).bind fun v9' =>
      let end_ : Nat := v9'
      (sliceR self.errors start end_).bind fun v10' =>
      (PrcBitTable.from_errors dbg v10' 4).bind fun v11' =>
      let table : PrcBitTable := v11'
      let self : PrcParameterFinder := { self with tables := self.tables ++ [table] }
      some self

/-- table of partition `k` as the model builds it -/
def tblAt (es : List Nat) (warm psize k : Nat) : PrcBitTable :=
  ⟨Table.fromErrors ((es.take ((k + 1) * psize)).drop (max (k * psize) warm)) 4⟩

theorem tblBody_ok (dbg : Bool) (es : List Nat) (warm psz j : Nat) (self : PrcParameterFinder) (hself : self.errors = es)
    (hn : es.length < 2 ^ 28) (hj : j < es.length) (hend : (j + 1) * psz ≤ es.length) (hw : warm ≤ (j + 1) * psz) :
    tblBody dbg warm psz j self = some { self with tables := self.tables ++ [tblAt es warm psz j] } := by
  have hj0 : j * psz ≤ (j + 1) * psz := Nat.mul_le_mul_right _ (Nat.le_succ j)
  unfold tblBody
  simp only [mulU_ok dbg 64 j psz (by omega), addU_ok dbg 64 j 1 (by omega), mulU_ok dbg 64 (j + 1) psz (by omega), hself,
    sliceR_ok es _ _ ⟨Nat.max_le.mpr ⟨hj0, hw⟩, hend⟩, Option.bind_some]
  rw [C13G_from_errors dbg _ 4 (fun _ => by omega) (fun _ => by rw [List.length_drop, List.length_take]; omega)]
  rfl

/-- state of the merge loop of `find`: `(nparts, self, partition_order, min_bits, min_order)` -/
abbrev WSt := Nat × PrcParameterFinder × Nat × Nat × Nat

def whCond : WSt → Bool := fun (nparts, self, partition_order, min_bits, min_order) => (decide (nparts > 1))

/-- body of the merge loop of `find` (generated text) -/
def whBody (dbg : Bool) (max_p : Nat) : WSt → Option WSt :=
  fun (nparts, self, partition_order, min_bits, min_order) =>
      (sliceR self.tables 0 nparts).bind fun v14' =>
      (merge_partitions dbg v14').bind fun (v16', v15') =>
      let self : PrcParameterFinder := { self with tables := (sliceSet self.tables 0 nparts v15') }
      let nparts : Nat := v16'
      (subU dbg 64 partition_order 1).bind fun v17' =>
      let partition_order : Nat := v17'
      let self : PrcParameterFinder := { self with ps := vecResize self.ps nparts 0 }
      (sliceR self.tables 0 nparts).bind fun v18' =>
      (eval_partitions dbg v18' self.ps max_p).bind fun (v20', v19') =>
      let self : PrcParameterFinder := { self with ps := v19' }
      let next_bits : Nat := v20'
      (if (decide (next_bits < min_bits)) then
          let min_bits : Nat := next_bits
          let self : PrcParameterFinder := { self with min_ps := [] }
          let self : PrcParameterFinder := { self with min_ps := self.min_ps ++ self.ps }
          let min_order : Nat := partition_order
          some (min_bits, self, min_order)
        else
          some (min_bits, self, min_order)).bind fun (min_bits, self, min_order) =>
      some (nparts, self, partition_order, min_bits, min_order)

theorem sliceSet_prefix {α : Type} (l r new : List α) : sliceSet (l ++ r) 0 l.length new = new ++ r := by
  simp [sliceSet]

/-- each generated prelude has its own `vecResize`, `rfl`-equal to `Scratch.vecResize`; `rw` and the elaboration of `_` need the law
about the local constant -/
theorem vecResize_length {α : Type} (v : List α) (n : Nat) (x : α) : (vecResize v n x).length = n :=
  Scratch.vecResize_length v n x

theorem merge_live (live : List PrcBitTable) (m : Nat) (hlen : live.length = 2 * m)
    (h16 : ∀ t ∈ live, t.p_to_bits.length = 16) :
    ((List.range m).map (mk live)).map (·.p_to_bits) = mergePartitions (live.map (·.p_to_bits)) ∧
    ∀ t ∈ (List.range m).map (mk live), t.p_to_bits.length = 16 := by
  have hel : ∀ k, k < m → (mk live k).p_to_bits
      = Table.merge ((live.map (·.p_to_bits)).getD (2 * k) []) ((live.map (·.p_to_bits)).getD (2 * k + 1) []) 4 := by
    intro k hk
    have hget : ∀ i, i < live.length → live.getD i default ∈ live ∧ (live.map (·.p_to_bits)).getD i [] = (live.getD i default).p_to_bits := by
      intro i hi
      simp [List.getD_eq_getElem?_getD, List.getElem?_eq_getElem hi]
    obtain ⟨ha, ea⟩ := hget (2 * k) (by omega)
    obtain ⟨hb, eb⟩ := hget (2 * k + 1) (by omega)
    rw [ea, eb]
    exact C13G_merge _ _ 4 (h16 _ ha) (h16 _ hb)
  constructor
  · unfold mergePartitions
    rw [List.length_map, hlen, Nat.mul_div_cancel_left _ (by decide), List.map_map]
    exact List.map_congr_left fun k hk => hel k (List.mem_range.mp hk)
  · intro t ht
    obtain ⟨k, hk, rfl⟩ := List.mem_map.mp ht
    rw [hel k (List.mem_range.mp hk)]
    simp [Table.merge]

/-- One iteration of the merge loop: the `2 ^ (o + 1)` live tables at the head of the buffer are merged pairwise in place, the
parameters `E` of the `2 ^ o` merged ones are evaluated into `ps`, and the best choice so far is replaced if they are cheaper. -/
theorem whBody_ok (dbg : Bool) (maxP : Nat) (hm : maxP ≤ 14) (o : Nat) (ho : o + 1 ≤ 14) (self : PrcParameterFinder)
    (live stale : List PrcBitTable) (b bo : Nat) (ht : self.tables = live ++ stale) (hl : live.length = 2 ^ (o + 1))
    (hml : ((List.range (2 ^ o)).map (mk live)).map (·.p_to_bits) = mergePartitions (live.map (·.p_to_bits)))
    (hm16 : ∀ t ∈ (List.range (2 ^ o)).map (mk live), t.p_to_bits.length = 16) (E : Nat × List Nat)
    (hE : evalPartitions (mergePartitions (live.map (·.p_to_bits))) maxP = E) :
    whBody dbg maxP (2 ^ (o + 1), self, o + 1, b, bo) =
      some (2 ^ o, { self with tables := (List.range (2 ^ o)).map (mk live) ++ (live.drop (2 ^ o) ++ stale), ps := E.2,
                               min_ps := (RiceSearch.keep ⟨bo, self.min_ps, b⟩ ⟨o, E.2, E.1⟩).ps },
        o, (RiceSearch.keep ⟨bo, self.min_ps, b⟩ ⟨o, E.2, E.1⟩).codeBits, (RiceSearch.keep ⟨bo, self.min_ps, b⟩ ⟨o, E.2, E.1⟩).order) := by
  have hll : live.length = 2 * 2 ^ o := by rw [hl, Nat.pow_succ, Nat.mul_comm]
  have hpow : 2 ^ o ≤ 2 ^ 13 := Nat.pow_le_pow_right (by decide) (by omega)
  have hmlen : ((List.range (2 ^ o)).map (mk live)).length = 2 ^ o := by simp
  have e2 : merge_partitions dbg live = some (2 ^ o, (List.range (2 ^ o)).map (mk live) ++ live.drop (2 ^ o)) := by
    rw [C13G_merge_partitions, if_pos (by omega), hll, Nat.mul_div_cancel_left _ (by decide)]
  generalize (List.range (2 ^ o)).map (mk live) = merged at *
  have e1 : sliceR self.tables 0 (2 ^ (o + 1)) = some live := by rw [ht, ← hl, sliceR_prefix]
  have e3 : sliceSet self.tables 0 (2 ^ (o + 1)) (merged ++ live.drop (2 ^ o)) = merged ++ (live.drop (2 ^ o) ++ stale) := by
    rw [ht, ← hl, sliceSet_prefix, List.append_assoc]
  have e4 : sliceR (merged ++ (live.drop (2 ^ o) ++ stale)) 0 (2 ^ o) = some merged := by
    rw [← hmlen, sliceR_prefix]
  have e5 : eval_partitions dbg merged (vecResize self.ps (2 ^ o) 0) maxP = some (E.1, E.2) := by
    rw [C13G_eval_partitions dbg _ _ maxP hm hm16 (by omega), hmlen, vecResize_length, if_pos (Nat.le_refl _), hml, hE,
      List.drop_eq_nil_of_le (by rw [vecResize_length]; exact Nat.le_refl _), List.append_nil]
  unfold whBody
  simp only [e1, e2, e3, e4, e5, subU_ok dbg 64 (o + 1) 1 (by omega), Nat.add_sub_cancel, Option.bind_some]
  by_cases hlt : E.1 < b
  · simp only [RiceSearch.keep, hlt, decide_true, if_true, Option.bind_some]
    rfl
  · simp only [RiceSearch.keep, hlt, decide_false, if_false, Bool.false_eq_true, Option.bind_some]

/-- The merge loop of `find` and the loop of `searchFolded` return the same choice. -/
theorem while_loop (dbg : Bool) (maxP : Nat) (hm : maxP ≤ 14) :
    ∀ (o fuelG fuelM : Nat) (self : PrcParameterFinder) (live stale : List PrcBitTable) (b bo : Nat),
      o < fuelG → o < fuelM → o ≤ 14 → self.tables = live ++ stale → live.length = 2 ^ o →
      (∀ t ∈ live, t.p_to_bits.length = 16) →
      ∃ np self' o' mb mo, whileM fuelG whCond (whBody dbg maxP) (2 ^ o, self, o, b, bo) = some (np, self', o', mb, mo) ∧
        (⟨mo, self'.min_ps, mb⟩ : FlacVerif.PrcParameter)
          = searchFolded.loop maxP (live.map (·.p_to_bits)) o ⟨bo, self.min_ps, b⟩ fuelM := by
  intro o
  induction o with
  | zero =>
    intro fuelG fuelM self live stale b bo hG _ _ _ hl _
    obtain ⟨fG, rfl⟩ := Nat.exists_eq_succ_of_ne_zero (Nat.ne_of_gt hG)
    refine ⟨_, _, _, _, _, by rw [whileM]; rfl, ?_⟩
    rw [RiceSearch.loop_stop _ _ _ _ _ (by simp [hl])]
  | succ o ih =>
    intro fuelG fuelM self live stale b bo hG hM ho ht hl h16
    obtain ⟨fG, rfl⟩ := Nat.exists_eq_succ_of_ne_zero (Nat.ne_of_gt (Nat.lt_of_le_of_lt (Nat.zero_le _) hG))
    obtain ⟨fM, rfl⟩ := Nat.exists_eq_succ_of_ne_zero (Nat.ne_of_gt (Nat.lt_of_le_of_lt (Nat.zero_le _) hM))
    have h2 : 1 < 2 ^ (o + 1) := Nat.one_lt_two_pow (by omega)
    have hc : whCond (2 ^ (o + 1), self, o + 1, b, bo) = true := by simp [whCond, h2]
    obtain ⟨hml, hm16⟩ := merge_live live (2 ^ o) (by rw [hl, Nat.pow_succ, Nat.mul_comm]) h16
    rw [whileM, if_pos hc, whBody_ok dbg maxP hm o ho self live stale b bo ht hl hml hm16 _ rfl, Option.bind_some,
      RiceSearch.loop_step _ _ _ _ _ (by rw [List.length_map, hl]; omega), Nat.add_sub_cancel, ← hml]
    exact ih fG fM _ _ (live.drop (2 ^ o) ++ stale) _ _ (by omega) (by omega) (by omega) rfl (by simp) hm16

/-- the generated `find` cut into stages (each `rfl`-equal to the generated text), so that every proof step works on a small term -/
def findD (dbg : Bool) : WSt → Option (FlacVerif.Gen.Rice.PrcParameter × PrcParameterFinder) :=
  fun (nparts, self, partition_order, min_bits, min_order) =>
  (shAmt dbg 64 min_order).bind fun v21' =>
  let self : PrcParameterFinder := { self with min_ps := self.min_ps.take (shlU 64 1 v21') }
  some ((PrcParameter.new min_order (self.min_ps.map (fun x => (x % 256))) min_bits), self)

def findC (dbg : Bool) (max_p partition_order nparts : Nat) (self : PrcParameterFinder) : Option (FlacVerif.Gen.Rice.PrcParameter × PrcParameterFinder) :=
  (eval_partitions dbg self.tables self.min_ps max_p).bind fun (v13', v12') =>
  let self : PrcParameterFinder := { self with min_ps := v12' }
  let min_bits : Nat := v13'
  let min_order : Nat := partition_order
  (whileM whileFuel whCond (whBody dbg max_p) (nparts, self, partition_order, min_bits, min_order)).bind (findD dbg)

def findB (dbg : Bool) (signal : List Int) (warmup_length max_p partition_order nparts : Nat) (self : PrcParameterFinder) (v5' : List Nat) :
    Option (FlacVerif.Gen.Rice.PrcParameter × PrcParameterFinder) :=
  let self : PrcParameterFinder := { self with errors := v5' }
  (divU signal.length nparts).bind fun v6' =>
  let part_size : Nat := v6'
  (loopM (rangeL 0 nparts) self (tblBody dbg warmup_length part_size)).bind fun self =>
  findC dbg max_p partition_order nparts self

def findA (dbg : Bool) (self : PrcParameterFinder) (signal : List Int) (warmup_length max_p partition_order : Nat) :
    Option (FlacVerif.Gen.Rice.PrcParameter × PrcParameterFinder) :=
  (shAmtS dbg 64 (wrapS 32 (partition_order : Int))).bind fun v2' =>
  let nparts : Nat := (shlU 64 1 v2')
  let self : PrcParameterFinder := { self with tables := [] }
  let self : PrcParameterFinder := { self with min_ps := vecResize self.min_ps nparts 0 }
  let self : PrcParameterFinder := { self with errors := [] }
  let self : PrcParameterFinder := { self with errors := vecResize self.errors signal.length 0 }
  (unaligned_map_and_update dbg 64 signal self.errors ((fun p x =>
       (FlacVerif.Gen.Decode.encode_signbit dbg x).bind fun v3' =>
       let p : Nat := v3'
       some p)) ((fun pv v =>
       (encode_signbit_simd dbg 64 v).bind fun v4' =>
       let pv : List Nat := v4'
       some pv))).bind (findB dbg signal warmup_length max_p partition_order nparts self)

theorem find_eq (dbg : Bool) (self : PrcParameterFinder) (signal : List Int) (warmup_length max_p : Nat) :
    PrcParameterFinder.find dbg self signal warmup_length max_p =
  (finest_partition_order dbg signal.length (max FlacVerif.Gen.Const.rice_MIN_PARTITION_SIZE warmup_length)).bind
    (findA dbg self signal warmup_length max_p) := rfl

def toModel (r : FlacVerif.Gen.Rice.PrcParameter) : FlacVerif.PrcParameter := ⟨r.order, r.ps, r.code_bits⟩

/-- The last stage: with `2 ^ min_order` parameters below 256 in `min_ps`, `truncate(1 << min_order)` and the casts `as u8`
change nothing, and the result is the choice the loop state holds. -/
theorem findD_ok (dbg : Bool) (np : Nat) (self : PrcParameterFinder) (o mb mo : Nat) (hmo : mo ≤ 14)
    (hlen : self.min_ps.length = 2 ^ mo) (hlt : ∀ p ∈ self.min_ps, p < 256) :
    (findD dbg (np, self, o, mb, mo)).map (fun r => toModel r.1) = some ⟨mo, self.min_ps, mb⟩ := by
  have hmod : self.min_ps.map (fun x => x % 256) = self.min_ps :=
    (List.map_congr_left fun p hp => Nat.mod_eq_of_lt (hlt p hp)).trans (List.map_id' _)
  simp only [findD, shAmt_ok dbg 64 mo (by omega), shlU_one 64 mo (by omega), Option.bind_some, Option.map_some, toModel,
    PrcParameter.new, List.take_of_length_le (Nat.le_of_eq hlen), hmod]

/-- `eval_partitions` on the finest tables, the merge loop (`while_loop`), and the last stage, whose side conditions are
what `RiceSearch.loop_wf` says of the model loop's result. -/
theorem findC_spec (dbg : Bool) (maxP : Nat) (hm : maxP ≤ 14) (o : Nat) (ho14 : o ≤ 14) (self : PrcParameterFinder)
    (htl : self.tables.length = 2 ^ o) (h16 : ∀ t ∈ self.tables, t.p_to_bits.length = 16)
    (hmp : self.min_ps.length = 2 ^ o) :
    (findC dbg maxP o (2 ^ o) self).map (fun r => toModel r.1) =
      some (searchFolded.loop maxP (self.tables.map (·.p_to_bits)) o
        ⟨o, (evalPartitions (self.tables.map (·.p_to_bits)) maxP).2, (evalPartitions (self.tables.map (·.p_to_bits)) maxP).1⟩ 16) := by
  have hpw : 2 ^ o ≤ 2 ^ 14 := Nat.pow_le_pow_right (by decide) ho14
  unfold findC
  rw [C13G_eval_partitions dbg self.tables _ maxP hm h16 (by omega), if_pos (by omega),
    List.drop_eq_nil_of_le (by omega), List.append_nil]
  have hE1 := RiceSearch.evalPartitions_snd_length (self.tables.map (·.p_to_bits)) maxP
  have hE2 := RiceSearch.evalPartitions_snd_lt (self.tables.map (·.p_to_bits)) maxP
  generalize evalPartitions (self.tables.map (·.p_to_bits)) maxP = E at hE1 hE2 ⊢
  obtain ⟨np', self', ord', mb', mo', hw, hr⟩ := while_loop dbg maxP hm o whileFuel 16 { self with min_ps := E.2 } self.tables []
    E.1 o (by unfold whileFuel; omega) (by omega) ho14 (List.append_nil _).symm htl h16
  obtain ⟨hlen, hlt, hord⟩ := RiceSearch.loop_wf maxP 16 o (self.tables.map (·.p_to_bits)) ⟨o, E.2, E.1⟩
    (by rw [List.length_map, htl]) (by omega) (by rw [hE1, List.length_map, htl]) hE2 (Nat.le_refl o)
  simp only at hr
  rw [← hr] at hlen hlt hord ⊢
  simp only [Option.bind_some, hw]
  exact findD_ok dbg np' self' ord' mb' mo' (Nat.le_trans hord ho14) hlen (fun p hp => Nat.lt_trans (hlt p hp) (by decide))

theorem findB_spec (dbg : Bool) (signal : List Int) (warm maxP : Nat) (hm : maxP ≤ 14) (o : Nat) (ho14 : o ≤ 14)
    (self : PrcParameterFinder) (es : List Nat) (hl : es.length = signal.length) (hn : signal.length < 2 ^ 21)
    (hoM : max 64 warm * 2 ^ o ≤ signal.length) (hfo : finestOrder signal.length (max 64 warm) = some o)
    (ht : self.tables = []) (hmp : self.min_ps.length = 2 ^ o) :
    (findB dbg signal warm maxP o (2 ^ o) self es).map (fun r => toModel r.1) = searchFolded es warm maxP := by
  have hpos : 0 < 2 ^ o := Nat.two_pow_pos o
  have hM : max 64 warm ≤ es.length / 2 ^ o := (Nat.le_div_iff_mul_le hpos).mpr (hl ▸ hoM)
  have hps : 2 ^ o * (es.length / 2 ^ o) ≤ es.length := Nat.mul_div_le _ _
  have h2o : 2 ^ o ≤ es.length := Nat.le_trans (Nat.le_mul_of_pos_left _ (by omega)) (hl ▸ hoM)
  have hdiv : divU signal.length (2 ^ o) = some (es.length / 2 ^ o) := by
    rw [divU, if_neg (by omega), hl]
  unfold findB
  simp only [Option.bind_some, hdiv]
  rw [loopM_eq_loop, loop_inv _ _ (fun j => ({ self with errors := es, tables := (List.range j).map (tblAt es warm (es.length / 2 ^ o)) } :
    PrcParameterFinder))]
  · simp only [rangeL, List.length_range', Nat.sub_zero, Option.bind_some]
    rw [findC_spec dbg maxP hm o ho14
      ⟨es, (List.range (2 ^ o)).map (tblAt es warm (es.length / 2 ^ o)), self.ps, self.min_ps⟩ (by simp) (fun t ht => by
        obtain ⟨k, _, rfl⟩ := List.mem_map.mp ht
        simp [tblAt, Table.fromErrors]) hmp]
    unfold searchFolded
    rw [← hl] at hfo
    simp only [hfo, Option.bind_eq_bind, Option.bind_some, List.map_map]
    rfl
  · rw [ht]; rfl
  · intro j hj
    simp only [rangeL, List.length_range', List.getElem_range', Nat.sub_zero, Nat.zero_add, Nat.one_mul] at hj ⊢
    have hj1 : (j + 1) * (es.length / 2 ^ o) ≤ 2 ^ o * (es.length / 2 ^ o) := Nat.mul_le_mul_right _ hj
    have hj2 : es.length / 2 ^ o ≤ (j + 1) * (es.length / 2 ^ o) := Nat.le_mul_of_pos_left _ (by omega)
    rw [tblBody_ok dbg es warm _ j _ rfl (by omega) (by omega) (by omega) (by omega), List.range_succ, List.map_append]
    rfl

theorem shAmtS_wrapS (dbg : Bool) (o : Nat) (h : o < 64) : shAmtS dbg 64 (wrapS 32 (o : Int)) = some o := by
  have hw : wrapS 32 (o : Int) = o := by
    unfold wrapS
    simp only []
    split <;> omega
  rw [hw, shAmtS, if_pos (by omega), Int.toNat_natCast]

theorem C13G_find (dbg : Bool) (prev : PrcParameterFinder) (signal : List Int) (warm maxP : Nat)
    (hn : signal.length < 2 ^ 21) (hm : maxP ≤ 14)
    (hrel : dbg = true ∨ (max 64 warm ≤ signal.length ∧ ∀ v ∈ signal, encodeSignbit v ≠ none)) :
    (PrcParameterFinder.find dbg prev signal warm maxP).map (fun r => toModel r.1) = search signal warm maxP := by
  have hMin : FlacVerif.Gen.Const.rice_MIN_PARTITION_SIZE = 64 := rfl
  have hfin : finest_partition_order dbg signal.length (max 64 warm) = finestOrder signal.length (max 64 warm) := by
    apply C13G_finest
    refine hrel.imp id fun h => ?_
    have h1 : 1 ≤ signal.length / max 64 warm := (Nat.le_div_iff_mul_le (by omega)).mpr (by omega)
    have h2 : signal.length / max 64 warm < u32 := Nat.lt_of_le_of_lt (Nat.div_le_self _ _) (by unfold u32; omega)
    rw [Nat.mod_eq_of_lt h2]; omega
  rw [find_eq, hMin, hfin]
  unfold search
  cases hfo : finestOrder signal.length (max 64 warm) with
  | none =>
    cases hes : signal.mapM encodeSignbit with
    | none => rfl
    | some es =>
      have hl := mapM_length hes
      simp only [Option.bind_eq_bind, Option.bind_some, Option.bind_none, Option.map_none, searchFolded, hl, hfo]
  | some o =>
    obtain ⟨_, _, hoM⟩ := (RiceSearch.orderOk_iff _ _ _).mp (RiceSearch.finestOrder_some _ _ _ (by omega) hfo)
    have ho14 : o ≤ 14 := C13G_D1_order_le_14 _ _ _ hn hfo
    rw [Option.bind_some]
    unfold findA
    rw [shAmtS_wrapS dbg o (by omega), Option.bind_some]
    simp only [shlU_one 64 o (by omega)]
    rw [C13G_unaligned _ _ _ _ _ _ (by omega),
      zipUpd_encode_signbit dbg signal _ (vecResize_length _ _ _) (hrel.imp id (fun h => h.2))]
    cases hes : signal.mapM encodeSignbit with
    | none => rfl
    | some es =>
      rw [Option.bind_some, findB_spec dbg signal warm maxP hm o ho14 _ es (mapM_length hes) hn hoM hfo rfl
        (vecResize_length _ _ _)]
      rfl

/-- The generated `find_partitioned_rice_parameter` returns what the model's `search` returns, for EVERY content the
previous call left in the thread-local finder (`prev`), in both profiles. -/
theorem C13G_find_partitioned_rice_parameter (dbg : Bool) (prev : PrcParameterFinder) (signal : List Int) (warm maxP : Nat)
    (hn : signal.length < 2 ^ 21) (hm : maxP ≤ 14)
    (hrel : dbg = true ∨ (max 64 warm ≤ signal.length ∧ ∀ v ∈ signal, encodeSignbit v ≠ none)) :
    (find_partitioned_rice_parameter dbg prev signal warm maxP).map (fun r => toModel r.1) = search signal warm maxP := by
  unfold find_partitioned_rice_parameter
  rw [← C13G_find dbg prev signal warm maxP hn hm hrel]
  simp only
  cases PrcParameterFinder.find dbg prev signal warm maxP with
  | none => rfl
  | some r => obtain ⟨a, b⟩ := r; rfl

/-- history independence (C10) of the generated function: two calls with different stale scratch contents agree -/
theorem C13G_scratch_independent (dbg : Bool) (prev prev' : PrcParameterFinder) (signal : List Int) (warm maxP : Nat)
    (hn : signal.length < 2 ^ 21) (hm : maxP ≤ 14)
    (hrel : dbg = true ∨ (max 64 warm ≤ signal.length ∧ ∀ v ∈ signal, encodeSignbit v ≠ none)) :
    (find_partitioned_rice_parameter dbg prev signal warm maxP).map (fun r => toModel r.1)
      = (find_partitioned_rice_parameter dbg prev' signal warm maxP).map (fun r => toModel r.1) := by
  rw [C13G_find_partitioned_rice_parameter dbg prev signal warm maxP hn hm hrel,
    C13G_find_partitioned_rice_parameter dbg prev' signal warm maxP hn hm hrel]

/-- the hypotheses are satisfiable on a non-trivial value (128 samples of both signs, warm-up 2, either profile) -/
example : ∃ signal : List Int, signal.length = 128 ∧ signal.length < 2 ^ 21 ∧
    (max 64 2 ≤ signal.length ∧ ∀ v ∈ signal, encodeSignbit v ≠ none) := by
  have hl : (List.replicate 64 (-3) ++ List.replicate 64 5 : List Int).length = 128 := by
    rw [List.length_append, List.length_replicate, List.length_replicate]
  refine ⟨List.replicate 64 (-3) ++ List.replicate 64 5, hl, by rw [hl]; decide, by rw [hl]; decide, ?_⟩
  intro v hv
  rcases List.mem_append.mp hv with h | h <;> rw [List.eq_of_mem_replicate h] <;> decide

/-- (D1) `merge_partitions` asserts `tables.len() < MAX_PARTITIONS = 32768`; at partition order 15 `find` passes all 32768
tables, so the Rust code panics (both profiles) where `mergePartitions` / `search` of the model go on.  Order 15 needs
`64 * 2^15 = 2^21` samples: excluded by `signal.length < 2^21` (the encoder's blocks have at most 65535 samples). -/
theorem C13G_merge_partitions_assert (dbg : Bool) (tables : List PrcBitTable) (h : tables.length = 32768) :
    merge_partitions dbg tables = none ∧ (mergePartitions (tables.map (·.p_to_bits))).length = 16384 := by
  rw [C13G_merge_partitions]
  simp [h, mergePartitions]
example : finestOrder (2 ^ 21) 64 = some 15 := by decide

/-- (D2) dev profile: `splat(len as u32) * INDEX1` overflows `u32` in lane 15 once a partition has `2^28` errors; the model
wraps (release semantics).  Excluded by the length bound. -/
theorem C13G_from_errors_dev_overflow :
    lanesM2 (mulU true 32) (splat 16 (2 ^ 28)) INDEX1 = none ∧
    (lanesM2 (mulU false 32) (splat 16 (2 ^ 28)) INDEX1).isSome = true := by
  constructor <;> decide

/-- (D3) release profile, `i32::MIN`: the Rust code wraps to `u32::MAX` where the model (dev semantics) reports the panic -/
theorem C13G_encode_signbit_release_min :
    FlacVerif.Gen.Decode.encode_signbit false (-2147483648) = some 4294967295 ∧ encodeSignbit (-2147483648) = none := by
  constructor <;> decide

theorem allSome_none {α : Type} (l : List (Option α)) (h : none ∈ l) : allSome l = none := by
  induction l with
  | nil => simp at h
  | cons x xs ih =>
    cases x with
    | none => rfl
    | some y =>
      have : none ∈ xs := by simpa using h
      simp [allSome, ih this]

/-- with fakesimd, `cast` is `NumCast` (checked): one negative lane makes `encode_signbit_simd` panic in BOTH profiles
(`v.cast() >> 31`), whereas the scalar `encode_signbit` is defined there.  `std::simd`'s `cast` is `as`.  (The function is never executed in
that build: `slice_as_simd_mut` returns an empty body.) -/
theorem C13G_encode_signbit_simd_negative (dbg : Bool) (N : Nat) (v : List Int) (h : ∃ x ∈ v, x < 0) :
    encode_signbit_simd dbg N v = none := by
  unfold encode_signbit_simd
  have h4 : lanesM1 (castNum 32) v = none := by
    unfold lanesM1
    apply allSome_none
    obtain ⟨x, hx, hneg⟩ := h
    simp only [List.mem_map]
    refine ⟨x, hx, ?_⟩
    unfold castNum
    have : ¬ (0 ≤ x ∧ x < (2 ^ 32 : Int)) := by omega
    rw [if_neg this]
  -- the fourth step fails whatever the first three return
  simp only [h4, Option.bind_none, Option.bind_fun_none]

/-- on non-negative lanes the vector function is the scalar `encode_signbit` applied lane by lane (both profiles) -/
theorem C13G_encode_signbit_simd_nonneg (dbg : Bool) (v : List Int) (h : ∀ x ∈ v, 0 ≤ x ∧ x < 2147483648) :
    encode_signbit_simd dbg v.length v = allSome (v.map (FlacVerif.Gen.Decode.encode_signbit dbg)) ∧
    encode_signbit_simd dbg v.length v = some (v.map fun x => 2 * x.toNat) := by
  have hsplat : ∀ c : Nat, splat v.length c = v.map (fun _ => c) := fun c => (List.map_const' ..).symm
  -- lane by lane: `abs` and the two casts keep the value, `<< 1` doubles it without wrapping, `>> 31` gives 0
  have h1 : lanesM1 (absS dbg 32) v = some (v.map fun x => x) :=
    allSome_map_of v _ _ (fun x hx => by
      have e : ((x.natAbs : Nat) : Int) = x := by have := (h x hx).1; omega
      rw [absS, e, arithS, if_pos (by have := h x hx; omega)])
  have h2 : lanesM1 (castNum 32) v = some (v.map fun x => x.toNat) :=
    allSome_map_of v _ _ (fun x hx => by rw [castNum, if_pos (by have := h x hx; omega)])
  have h3 := lanesM2_shl dbg v (fun x => x.toNat) (fun _ => 1) (fun _ _ => by decide)
  have h5 := lanesM2_shr dbg v (fun x => x.toNat) (fun _ => 31) (fun _ _ => by decide)
  have hlane : ∀ x ∈ v, wsubU 32 (shlU 32 x.toNat 1) (shrU x.toNat 31) = 2 * x.toNat := by
    intro x hx
    have hn : x.toNat < 2147483648 := by have := h x hx; omega
    have : x.toNat / 2 ^ 31 = 0 := Nat.div_eq_of_lt hn
    unfold wsubU shlU shrU
    rw [this]
    omega
  have hgen : encode_signbit_simd dbg v.length v = some (v.map fun x => 2 * x.toNat) := by
    unfold encode_signbit_simd
    rw [h1, Option.bind_some, List.map_id', h2]
    simp only [Option.bind_some, hsplat, h3, h5, lanes2_map]
    exact congrArg some (List.map_congr_left hlane)
  refine ⟨hgen.trans (allSome_map_of v _ _ (fun x hx => ?_)).symm, hgen⟩
  obtain ⟨h0, h31⟩ := h x hx
  have e : x.natAbs = x.toNat := by omega
  unfold FlacVerif.Gen.Decode.encode_signbit subU shlU
  simp only [show ¬ x < 0 by omega, decide_false, Bool.false_eq_true, ↓reduceIte, Nat.zero_le, Nat.sub_zero, Option.bind_some, e]
  congr 1
  omega

/-! ### D1, the exact boundary (the hypothesis `signal.length < 2^21` of `C13G_find` cannot be weakened) -/

/-- at exactly `2^21 = 64 * 2^15` samples (warm-up <= 64) the finest order is 15 ... -/
example : finestOrder 2097152 (max 64 0) = some 15 ∧ finestOrder 2097152 (max 64 64) = some 15 := by
  constructor <;> decide
/-- ... one partition step below (`2^21 - 2^15` samples: the largest shorter block divisible by 2^15) it is still 14 ... -/
example : finestOrder (2097152 - 32768) 64 = some 14 := by decide
/-- ... and `merge_partitions` accepts 32767 tables (and the 16384 of order 14) but panics on the 32768 of order 15, in both
profiles, although 32768 partitions (order 15) are legal FLAC and `finest_partition_order` allows them. -/
example (dbg : Bool) (t : PrcBitTable) :
    (merge_partitions dbg (List.replicate 16384 t)).isSome = true ∧
    (merge_partitions dbg (List.replicate 32767 t)).isSome = true ∧
    merge_partitions dbg (List.replicate 32768 t) = none := by
  refine ⟨?_, ?_, ?_⟩
  · rw [C13G_merge_partitions, List.length_replicate, if_pos (by decide)]; rfl
  · rw [C13G_merge_partitions, List.length_replicate, if_pos (by decide)]; rfl
  · rw [C13G_merge_partitions, List.length_replicate, if_neg (by decide)]

/-- folded error at position `i` as the model reads it -/
def foldedAt (errors : List Int) (i : Nat) : Nat := (encodeSignbit (errors.getD i 0)).getD 0

theorem C13G_quotients_and_remainders (dbg : Bool) (err : Int) (p : Nat) (hp : p < 32) (he : encodeSignbit err ≠ none) :
    quotients_and_remainders dbg err p
      = some ((encodeSignbit err).getD 0 >>> p, (encodeSignbit err).getD 0 % 2 ^ p) := by
  unfold quotients_and_remainders
  rw [shAmt_ok dbg 32 p hp, Option.bind_some, shlU_one 32 p hp, subU_ok dbg 32 _ 1 (Nat.two_pow_pos p), Option.bind_some,
    encode_signbit_eq dbg err (Or.inr he)]
  cases hes : encodeSignbit err with
  | none => exact absurd hes he
  | some e =>
    simp only [Option.bind_some, Option.getD_some, shrU, Nat.shiftRight_eq_div_pow]
    rw [Nat.and_two_pow_sub_one_eq_mod]

/-- a write of `F (a + i)` at position `a + i` extends the interval `[a, a + i)` on which a vector holds `F` -/
theorem setAt_interval (n a i : Nat) (F g : Nat → Nat) (h : a + i < n) :
    setAt ((List.range n).map fun j => if a ≤ j ∧ j < a + i then F j else g j) (a + i) (F (a + i))
      = some ((List.range n).map fun j => if a ≤ j ∧ j < a + (i + 1) then F j else g j) := by
  unfold setAt
  rw [if_pos (by simpa using h)]
  congr 1
  apply List.ext_getElem (by simp)
  intro j h1 h2
  simp only [List.getElem_set, List.getElem_map, List.getElem_range]
  by_cases hj : a + i = j
  · subst hj; rw [if_pos rfl, if_pos (by omega)]
  · rw [if_neg hj]
    by_cases hin : a ≤ j ∧ j < a + i
    · rw [if_pos hin, if_pos (by omega)]
    · rw [if_neg hin, if_neg (by omega)]

theorem C13G_encode_residual_partition (dbg : Bool) (errors : List Int) (a b p : Nat) (gq gr : Nat → Nat)
    (hp : p < 32) (hn : errors.length < 2 ^ 64) (hab : a ≤ b) (hb : b ≤ errors.length)
    (henc : ∀ i, a ≤ i → i < b → encodeSignbit (errors.getD i 0) ≠ none) :
    encode_residual_partition dbg a b p errors ((List.range errors.length).map gq) ((List.range errors.length).map gr)
      = some ((List.range errors.length).map (fun i => if a ≤ i ∧ i < b then foldedAt errors i >>> p else gq i),
              (List.range errors.length).map (fun i => if a ≤ i ∧ i < b then foldedAt errors i % 2 ^ p else gr i)) := by
  have hempty : ∀ F g : Nat → Nat, (fun j => if a ≤ j ∧ j < a + 0 then F j else g j) = g :=
    fun F g => funext fun j => if_neg (by omega)
  unfold encode_residual_partition
  rw [sliceR_ok errors a b ⟨hab, hb⟩]
  simp only [Option.bind_some]
  -- after `i` iterations the positions `[a, a + i)` hold the quotients and remainders
  rw [loopM_eq_loop, loop_inv _ _ (fun i =>
    ((List.range errors.length).map (fun j => if a ≤ j ∧ j < a + i then foldedAt errors j >>> p else gq j),
     (List.range errors.length).map (fun j => if a ≤ j ∧ j < a + i then foldedAt errors j % 2 ^ p else gr j), a + i))]
  · simp only [List.length_drop, List.length_take, Nat.min_eq_left hb, Nat.add_sub_cancel' hab, Option.bind_some]
  · simp only [hempty]; rfl
  · intro i hi
    have hi' : a + i < b := by
      rw [List.length_drop, List.length_take, Nat.min_eq_left hb] at hi; omega
    have hx : ((errors.take b).drop a)[i] = errors.getD (a + i) 0 := by
      rw [List.getElem_drop, List.getElem_take, List.getD_eq_getElem?_getD, List.getElem?_eq_getElem (by omega)]
      rfl
    have hf : (encodeSignbit (errors.getD (a + i) 0)).getD 0 = foldedAt errors (a + i) := rfl
    simp only [hx, C13G_quotients_and_remainders dbg _ p hp (henc _ (by omega) hi'), hf, Option.bind_some,
      setAt_interval errors.length a i (fun j => foldedAt errors j >>> p) gq (by omega),
      setAt_interval errors.length a i (fun j => foldedAt errors j % 2 ^ p) gr (by omega), addU_ok dbg 64 (a + i) 1 (by omega)]
    rfl

/-- quotient / remainder of position `i` as `Residual.ofErrors` computes them -/
def qAt (errors : List Int) (ps : List Nat) (plen i : Nat) : Nat := foldedAt errors i >>> ps.getD (i / plen) 0
def rAt (errors : List Int) (ps : List Nat) (plen i : Nat) : Nat := foldedAt errors i % 2 ^ ps.getD (i / plen) 0

/-- `Residual.ofErrors` writes every position from the warm-up on -/
theorem ofErrors_eq (errors : List Int) (warm order : Nat) (ps : List Nat) :
    Residual.ofErrors errors warm order ps =
      { order := order, blockSize := errors.length, warmup := warm, params := ps.take (2 ^ order),
        quotients := (List.range errors.length).map fun i =>
          if warm ≤ i ∧ i < errors.length then qAt errors ps (errors.length >>> order) i else 0,
        remainders := (List.range errors.length).map fun i =>
          if warm ≤ i ∧ i < errors.length then rAt errors ps (errors.length >>> order) i else 0 } := by
  unfold Residual.ofErrors
  simp only [List.map_map]
  congr 1 <;>
  · apply List.map_congr_left
    intro i hi
    have hi' : i < errors.length := List.mem_range.mp hi
    by_cases hwi : i < warm
    · simp only [Function.comp, if_pos hwi, if_neg (show ¬ (warm ≤ i ∧ i < errors.length) by omega)]
    · simp only [Function.comp, if_neg hwi, if_pos (show warm ≤ i ∧ i < errors.length from ⟨by omega, hi'⟩), qAt, rAt, foldedAt]

/-- partition `k` extends the written positions from `[warm, k * plen)` to `[warm, (k + 1) * plen)` -/
theorem written_extend (ps : List Nat) (warm plen k : Nat) (F : Nat → Nat → Nat) :
    (fun i => if max (k * plen) warm ≤ i ∧ i < (k + 1) * plen then F i (ps.getD k 0)
      else if warm ≤ i ∧ i < k * plen then F i (ps.getD (i / plen) 0) else 0)
    = (fun i => if warm ≤ i ∧ i < (k + 1) * plen then F i (ps.getD (i / plen) 0) else 0) := by
  have hk1 : (k + 1) * plen = k * plen + plen := Nat.succ_mul k plen
  funext i
  by_cases h1 : max (k * plen) warm ≤ i ∧ i < (k + 1) * plen
  · have hdiv : i / plen = k := Nat.div_eq_of_lt_le (by omega) (by omega)
    rw [if_pos h1, if_pos (by omega), hdiv]
  · by_cases h2 : warm ≤ i ∧ i < k * plen
    · rw [if_neg h1, if_pos h2, if_pos (by omega)]
    · rw [if_neg h1, if_neg h2, if_neg (by omega)]

/-- The callee-table reading of part `coding` (CD_CALLEES: `encode_residual_with_prc_parameter(_config, errors, warmup, prc_p)`
= `Residual.ofErrors errors warmup prc_p.order prc_p.ps`), for every argument the encoder can produce, in both profiles.
The hypotheses are facts about a `prc_p` returned by the search on the same errors (`C13G_encode_residual_chain`). -/
theorem C13G_encode_residual_with_prc_parameter (dbg : Bool) (cfg : FlacVerif.Gen.Prc) (errors : List Int) (warm : Nat)
    (prc : FlacVerif.Gen.Rice.PrcParameter)
    (hn : errors.length < 2 ^ 64) (ho : prc.order ≤ 15) (hl : prc.ps.length = 2 ^ prc.order)
    (hdiv : 2 ^ prc.order * (errors.length >>> prc.order) = errors.length) (hw : warm ≤ errors.length >>> prc.order)
    (hps : ∀ p ∈ prc.ps, p < 32) (henc : ∀ e ∈ errors, encodeSignbit e ≠ none) :
    encode_residual_with_prc_parameter dbg cfg errors warm prc
      = some (FlacVerif.Residual.ofErrors errors warm prc.order prc.ps) := by
  have hpw : 2 ^ prc.order < 2 ^ 64 := Nat.pow_lt_pow_right (by decide) (by omega)
  have hshr : shrU errors.length prc.order = errors.length >>> prc.order := (Nat.shiftRight_eq_div_pow _ _).symm
  have hmod : prc.order % 256 = prc.order := Nat.mod_eq_of_lt (by omega)
  have hda2 : dbgAssert dbg (decide (prc.order < 64) && decide (prc.ps.length = (1 <<< prc.order) % 18446744073709551616))
      = some () := by
    have h64 : (18446744073709551616 : Nat) = 2 ^ 64 := by decide
    rw [Nat.shiftLeft_eq, Nat.one_mul, h64, Nat.mod_eq_of_lt hpw]
    exact dbgAssert_ok _ _ (fun _ => by rw [decide_eq_true hl, decide_eq_true (show prc.order < 64 by omega)]; rfl)
  have hsl : sliceR prc.ps 0 (2 ^ prc.order) = some prc.ps := by
    have := sliceR_prefix prc.ps []
    rwa [List.append_nil, hl] at this
  rw [ofErrors_eq, List.take_of_length_le (Nat.le_of_eq hl)]
  unfold encode_residual_with_prc_parameter
  simp only [shAmt_ok dbg 64 prc.order (by omega), Option.bind_some, shlU_one 64 prc.order (by omega), hshr]
  generalize errors.length >>> prc.order = plen at *
  have hda : dbgAssert dbg (decide (plen ≥ warm)) = some () := dbgAssert_ok _ _ (fun _ => decide_eq_true hw)
  have hlen : prc.ps.length * plen = errors.length := by rw [hl]; exact hdiv
  rw [hda, Option.bind_some, hsl, Option.bind_some]
  -- after `k` partitions the positions `[warm, k * plen)` are written
  rw [loopM_eq_loop, loop_inv _ _ (fun k => (k * plen,
      (List.range errors.length).map (fun i => if warm ≤ i ∧ i < k * plen then qAt errors prc.ps plen i else 0),
      (List.range errors.length).map (fun i => if warm ≤ i ∧ i < k * plen then rAt errors prc.ps plen i else 0)))]
  · simp only [Option.bind_some, hmod, hda2, hlen]
  · have h0 : ∀ G : Nat → Nat, (List.range errors.length).map (fun i => if warm ≤ i ∧ i < 0 then G i else 0)
        = List.replicate errors.length 0 := by
      intro G
      rw [List.map_congr_left (g := fun _ => 0) (fun i _ => if_neg (by omega)), List.map_const', List.length_range]
    simp only [Nat.zero_mul, h0]
  · intro k hk
    have hk1 : (k + 1) * plen = k * plen + plen := Nat.succ_mul k plen
    have hend : (k + 1) * plen ≤ errors.length := hlen ▸ Nat.mul_le_mul_right _ hk
    have hstart : max (k * plen) warm ≤ (k + 1) * plen :=
      Nat.max_le.mpr ⟨hk1 ▸ Nat.le_add_right _ _, Nat.le_trans hw (hk1 ▸ Nat.le_add_left _ _)⟩
    have hpk : prc.ps[k] = prc.ps.getD k 0 := by
      rw [List.getD_eq_getElem?_getD, List.getElem?_eq_getElem hk]; rfl
    simp only [hpk, addU_ok dbg 64 (k * plen) plen (hk1 ▸ Nat.lt_of_le_of_lt hend hn), Option.bind_some, ← hk1]
    rw [C13G_encode_residual_partition dbg errors _ _ _ _ _ (hps _ (hpk ▸ List.getElem_mem hk)) hn hstart hend
      (fun i _ h2 => henc _ (getD_mem _ i _ (Nat.lt_of_lt_of_le h2 hend)))]
    simp only [Option.bind_some, qAt, rAt,
      written_extend prc.ps warm plen k (fun i p => foldedAt errors i >>> p),
      written_extend prc.ps warm plen k (fun i p => foldedAt errors i % 2 ^ p)]

/-- CHAIN coding -> rice: whatever the search returns on a block of fewer than 2^16 errors satisfies the hypotheses of
`C13G_encode_residual_with_prc_parameter`, so the generated `encode_residual_with_prc_parameter` applied to it is the hand
model's `Residual.ofErrors` - exactly the term `Gen.Coding.encode_residual` contains. -/
theorem C13G_encode_residual_chain (dbg : Bool) (cfg : FlacVerif.Gen.Prc) (errors : List Int) (warm maxP : Nat)
    (r : FlacVerif.PrcParameter) (prc : FlacVerif.Gen.Rice.PrcParameter) (hn : errors.length < 2 ^ 16)
    (hs : search errors warm maxP = some r) (hr : toModel prc = r) :
    encode_residual_with_prc_parameter dbg cfg errors warm prc
      = some (FlacVerif.Residual.ofErrors errors warm r.order r.ps) := by
  unfold search at hs
  cases hes : errors.mapM encodeSignbit with
  | none => simp [hes] at hs
  | some es =>
    simp only [hes, Option.bind_eq_bind, Option.bind_some] at hs
    have hl : es.length = errors.length := mapM_length hes
    obtain ⟨hok, hpl, hp16⟩ := RiceSearch.searchFolded_space es warm maxP (by omega) r hs
    obtain ⟨h15, hmod, hmul⟩ := (RiceSearch.orderOk_iff _ _ _).mp hok
    subst hr
    rw [hl] at hmod hmul
    have hpos : 0 < 2 ^ prc.order := Nat.two_pow_pos _
    apply C13G_encode_residual_with_prc_parameter dbg cfg errors warm prc (by omega) h15 hpl
    · rw [Nat.shiftRight_eq_div_pow]
      exact Nat.mul_div_cancel' (Nat.dvd_of_mod_eq_zero hmod)
    · rw [Nat.shiftRight_eq_div_pow, Nat.le_div_iff_mul_le hpos]
      exact Nat.le_trans (Nat.mul_le_mul_right _ (Nat.le_max_right 64 warm)) hmul
    · exact fun p hp => Nat.lt_trans (hp16 p hp) (by decide)
    · exact fun e he => Option.ne_none_iff_exists'.2 (mapM_some_forall hes e he)

end FlacVerif.C13Gen
