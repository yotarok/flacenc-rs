/-
C16 (CRC part) — error-detection properties of the frame-header CRC-8 and the frame CRC-16
(`Model/Codes.lean`: `crcBits`, `rfcCrc8`, `rfcCrc16`), first for any CRC parameters with an odd
generator polynomial and initial register 0 (proofs in `Lemmas/Crc.lean`), then at the two FLAC
polynomials.  The last four theorems have the shape of the parser's check: the stored value is
compared with the CRC of the bits before it, and the burst may cross into the check field.
-/
import FlacVerif.Lemmas.Crc
namespace FlacVerif
open Crc

theorem crc_register_lt (p : CrcParams) (hpoly : p.poly < 2 ^ p.width) (hinit : p.init < 2 ^ p.width)
    (bs : Bits) : crcBits p bs < 2 ^ p.width :=
  crcBits_lt p hpoly hinit bs

theorem crc_linear (p : CrcParams) (hinit : p.init = 0) (a b : Bits) (h : a.length = b.length) :
    crcBits p (xorBits a b) = crcBits p a ^^^ crcBits p b :=
  crcBits_linear p hinit a b h

theorem crc_zero_step_injective (p : CrcParams) (hw : 0 < p.width) (hodd : p.poly % 2 = 1) (r : Nat) :
    crcStepBit p r false = 0 → r < 2 ^ p.width → r = 0 :=
  step_false_eq_zero p hw hodd r

theorem crc_burst (p : CrcParams) (hw : 0 < p.width) (hpoly : p.poly < 2 ^ p.width)
    (hodd : p.poly % 2 = 1) (hinit : p.init = 0)
    (m : Bits) (i : Nat) (b : Bits) (hb : b.length ≤ p.width) (hnz : b.any id = true) (t : Nat)
    (hlen : m.length = i + b.length + t) :
    crcBits p (xorBits m (List.replicate i false ++ b ++ List.replicate t false)) ≠ crcBits p m :=
  crcBits_burst p ⟨hw, hpoly, hodd, hinit⟩ m i b hb hnz t hlen

theorem crc_accepts_own (p : CrcParams) (hw : 0 < p.width) (hpoly : p.poly < 2 ^ p.width)
    (hodd : p.poly % 2 = 1) (hinit : p.init = 0) (m : Bits) :
    crcBits p (m ++ natToBits p.width (crcBits p m)) = 0 :=
  crcBits_accepts_own p hpoly (Good.init_lt ⟨hw, hpoly, hodd, hinit⟩) m

theorem C16_crc8_register_lt (bs : Bits) : crcBits rfcCrc8 bs < 2 ^ 8 := crc8_lt bs

theorem C16_crc16_register_lt (bs : Bits) : crcBits rfcCrc16 bs < 2 ^ 16 := crc16_lt bs

theorem C16_crc8_linear (a b : Bits) (h : a.length = b.length) :
    crcBits rfcCrc8 (xorBits a b) = crcBits rfcCrc8 a ^^^ crcBits rfcCrc8 b :=
  crcBits_linear rfcCrc8 rfl a b h

theorem C16_crc16_linear (a b : Bits) (h : a.length = b.length) :
    crcBits rfcCrc16 (xorBits a b) = crcBits rfcCrc16 a ^^^ crcBits rfcCrc16 b :=
  crcBits_linear rfcCrc16 rfl a b h

theorem C16_crc8_zero_step_injective (r : Nat) :
    crcStepBit rfcCrc8 r false = 0 → r < 2 ^ 8 → r = 0 :=
  step_false_eq_zero rfcCrc8 (by decide) (by decide) r

theorem C16_crc16_zero_step_injective (r : Nat) :
    crcStepBit rfcCrc16 r false = 0 → r < 2 ^ 16 → r = 0 :=
  step_false_eq_zero rfcCrc16 (by decide) (by decide) r

theorem C16_crc8_burst (m : Bits) (i : Nat) (b : Bits) (hb : b.length ≤ 8) (hnz : b.any id = true)
    (t : Nat) (hlen : m.length = i + b.length + t) :
    crcBits rfcCrc8 (xorBits m (List.replicate i false ++ b ++ List.replicate t false))
      ≠ crcBits rfcCrc8 m :=
  crcBits_burst rfcCrc8 good_crc8 m i b hb hnz t hlen

theorem C16_crc16_burst (m : Bits) (i : Nat) (b : Bits) (hb : b.length ≤ 16) (hnz : b.any id = true)
    (t : Nat) (hlen : m.length = i + b.length + t) :
    crcBits rfcCrc16 (xorBits m (List.replicate i false ++ b ++ List.replicate t false))
      ≠ crcBits rfcCrc16 m :=
  crcBits_burst rfcCrc16 good_crc16 m i b hb hnz t hlen

theorem C16_crc8_accepts_own (m : Bits) :
    crcBits rfcCrc8 (m ++ natToBits 8 (crcBits rfcCrc8 m)) = 0 :=
  crcBits_accepts_own rfcCrc8 good_crc8.poly_lt good_crc8.init_lt m

theorem C16_crc16_accepts_own (m : Bits) :
    crcBits rfcCrc16 (m ++ natToBits 16 (crcBits rfcCrc16 m)) = 0 :=
  crcBits_accepts_own rfcCrc16 good_crc16.poly_lt good_crc16.init_lt m

/-- Frame CRC-16, parser shape: a non-zero error burst of at most 16 bits anywhere in the frame
(also across the boundary into the CRC field, or inside it) makes the check fail. -/
theorem C16_frame_burst_rejected (body : Bits) (e : Bits) (he : e.length = body.length + 16)
    (hburst : ∃ i b t, e = List.replicate i false ++ b ++ List.replicate t false ∧
      b.length ≤ 16 ∧ b.any id = true) :
    let frame := body ++ natToBits 16 (crcBits rfcCrc16 body)
    let frame' := xorBits frame e
    crcBits rfcCrc16 (frame'.take body.length) ≠ bitsToNat (frame'.drop body.length) :=
  frame_burst_rejected rfcCrc16 good_crc16 body e he hburst

/-- Frame-header CRC-8, parser shape: a non-zero error burst of at most 8 bits anywhere in the
header (including the CRC byte) makes the check fail. -/
theorem C16_header_burst_rejected (hdr : Bits) (e : Bits) (he : e.length = hdr.length + 8)
    (hburst : ∃ i b t, e = List.replicate i false ++ b ++ List.replicate t false ∧
      b.length ≤ 8 ∧ b.any id = true) :
    let header := hdr ++ natToBits 8 (crcBits rfcCrc8 hdr)
    let header' := xorBits header e
    crcBits rfcCrc8 (header'.take hdr.length) ≠ bitsToNat (header'.drop hdr.length) :=
  frame_burst_rejected rfcCrc8 good_crc8 hdr e he hburst

/-- The uncorrupted frame passes the parser-side check (sanity: the rejection theorems are not
vacuous because the check always fails). -/
theorem C16_frame_clean_accepted (body : Bits) :
    let frame := body ++ natToBits 16 (crcBits rfcCrc16 body)
    crcBits rfcCrc16 (frame.take body.length) = bitsToNat (frame.drop body.length) :=
  clean_accepted rfcCrc16 good_crc16.poly_lt good_crc16.init_lt body

theorem C16_header_clean_accepted (hdr : Bits) :
    let header := hdr ++ natToBits 8 (crcBits rfcCrc8 hdr)
    crcBits rfcCrc8 (header.take hdr.length) = bitsToNat (header.drop hdr.length) :=
  clean_accepted rfcCrc8 good_crc8.poly_lt good_crc8.init_lt hdr

end FlacVerif
