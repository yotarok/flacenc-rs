/-
The `Vec` primitives of Model/Scratch.lean (`vecResize`, `vecFill`, `zipOverwrite`): what every scratch site uses of them.
-/
import FlacVerif.Model.Scratch
namespace FlacVerif.Scratch

@[simp] theorem vecResize_length {α : Type} (xs : List α) (n : Nat) (v : α) :
    (vecResize xs n v).length = n := by
  simp only [vecResize, List.length_append, List.length_take, List.length_replicate]; omega

theorem vecResize_nil {α : Type} (n : Nat) (v : α) : vecResize ([] : List α) n v = List.replicate n v := by
  simp [vecResize]

@[simp] theorem vecFill_length {α : Type} (xs : List α) (v : α) : (vecFill xs v).length = xs.length := by
  simp [vecFill]

/-- Also past the end, where the read gives the default, which is zero too. -/
theorem vecFill_getD (xs : List Int) (t : Nat) : (vecFill xs 0).getD t 0 = 0 := by
  simp only [vecFill, List.getD_eq_getElem?_getD, List.getElem?_map]
  cases xs[t]? <;> rfl

theorem zipOverwrite_short {α : Type} (src dest : List α) (h : src.length ≤ dest.length) :
    zipOverwrite src dest = src ++ dest.drop src.length := by
  unfold zipOverwrite
  rw [List.take_of_length_le h]

theorem zipOverwrite_full {α : Type} (src dest : List α) (h : dest.length = src.length) :
    zipOverwrite src dest = src := by
  rw [zipOverwrite_short _ _ (Nat.le_of_eq h.symm), List.drop_of_length_le (Nat.le_of_eq h), List.append_nil]

end FlacVerif.Scratch
