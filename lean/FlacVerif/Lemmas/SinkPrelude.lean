/-
The laws of the checked arithmetic of `Gen/Sink.lean` (the prelude that part `utf8` shares with part `sink`), under the names
the same laws carry for the copies in `Gen/Decode.lean` and `Gen/Lpc.lean` (Lemmas/GenPrelude, LpcPrelude).
-/
import FlacVerif.Gen.Sink
namespace FlacVerif.Gen.Sink

theorem addU_ok (dbg : Bool) (w a b : Nat) (h : a + b < 2 ^ w) : addU dbg w a b = some (a + b) := if_pos h

theorem subU_ok (dbg : Bool) (w a b : Nat) (h : b ≤ a) : subU dbg w a b = some (a - b) := if_pos h

theorem mulU_ok (dbg : Bool) (w a b : Nat) (h : a * b < 2 ^ w) : mulU dbg w a b = some (a * b) := if_pos h

theorem shAmt_ok (dbg : Bool) (w k : Nat) (h : k < w) : shAmt dbg w k = some k := if_pos h

theorem req_ok (c : Bool) (h : c = true) : req c = some () := if_pos h

end FlacVerif.Gen.Sink
