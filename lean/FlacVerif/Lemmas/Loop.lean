/-
`for x in xs { body }` with the assigned outer variables threaded through, as the generated parts spell it in their own
preludes: one loop, `loop`, its rules, and `eq_loop`, from which each part whose loops are reasoned about gets the equation
that turns its copy into `loop` (`Gen.Decode.loopM_eq_loop`, `Gen.Lpc.loopM_eq_loop`, `C11Gen.forO_eq_loop` for
`Gen.Sink.forO`, `C14Gen.forO_eq_loop` for `Gen.Source.forO`).  A proof about a generated function rewrites with its part's
equation once and then uses the rules here.
-/
namespace FlacVerif.Prelude

def loop {α σ : Type} : List α → σ → (α → σ → Option σ) → Option σ
  | [], s, _ => some s
  | x :: xs, s, f => (f x s).bind fun s' => loop xs s' f

variable {α β σ : Type}

theorem loop_nil (s : σ) (f : α → σ → Option σ) : loop [] s f = some s := rfl

theorem loop_cons (x : α) (xs : List α) (s : σ) (f : α → σ → Option σ) :
    loop (x :: xs) s f = (f x s).bind fun s' => loop xs s' f := rfl

/-- A copy of the loop is the loop: what a part proves once about its own spelling (`hn`, `hc` are its two defining equations). -/
theorem eq_loop (l : List α → σ → (α → σ → Option σ) → Option σ) (hn : ∀ s f, l [] s f = some s)
    (hc : ∀ x xs s f, l (x :: xs) s f = (f x s).bind fun s' => l xs s' f) (xs : List α) (s : σ) (f : α → σ → Option σ) :
    l xs s f = loop xs s f := by
  induction xs generalizing s with
  | nil => exact hn s f
  | cons x xs ih => rw [hc, loop_cons]; exact congrArg _ (funext ih)

theorem loop_congr (xs : List α) (s : σ) (f g : α → σ → Option σ) (h : ∀ x ∈ xs, ∀ s, f x s = g x s) :
    loop xs s f = loop xs s g := by
  induction xs generalizing s with
  | nil => rfl
  | cons x xs ih =>
    rw [loop_cons, loop_cons, h x List.mem_cons_self]
    exact congrArg _ (funext fun s' => ih s' fun y hy => h y (List.mem_cons_of_mem _ hy))

/-- The rule for a loop that does not fail: an invariant indexed by the number of iterations done, established at entry
and carried over by every iteration, holds at the end.  Stated for the loop followed by its continuation `k`, so that
it applies to a goal by `refine`. -/
theorem loop_total_bind (f : α → σ → Option σ) (I : Nat → σ → Prop) (k : σ → Option β) (P : β → Prop) (xs : List α)
    (s0 : σ) (h0 : I 0 s0) (h : ∀ i (hi : i < xs.length) s, I i s → ∃ s', f xs[i] s = some s' ∧ I (i + 1) s')
    (hk : ∀ s, I xs.length s → ∃ b, k s = some b ∧ P b) : ∃ b, (loop xs s0 f).bind k = some b ∧ P b := by
  induction xs generalizing I s0 with
  | nil => exact hk s0 h0
  | cons x xs ih =>
    obtain ⟨s', e, hi⟩ := h 0 (Nat.zero_lt_succ _) s0 h0
    rw [loop_cons, show f x s0 = some s' from e, Option.bind_some]
    exact ih (fun i => I (i + 1)) s' hi (fun i hi s hs => h (i + 1) (Nat.succ_lt_succ hi) s hs) hk

/-- The same where the state after `i` iterations is known in closed form, `S i`.  (`rw [loop_inv _ _ S]` finds the body
in the goal and leaves the initial state and the step to prove.) -/
theorem loop_inv (xs : List α) (f : α → σ → Option σ) (S : Nat → σ) (s : σ) (h0 : S 0 = s)
    (h : ∀ i (hi : i < xs.length), f xs[i] (S i) = some (S (i + 1))) : loop xs s f = some (S xs.length) := by
  subst h0
  induction xs generalizing S with
  | nil => rfl
  | cons x xs ih =>
    rw [loop_cons, show f x (S 0) = some (S 1) from h 0 (Nat.zero_lt_succ _), Option.bind_some]
    exact ih (fun i => S (i + 1)) fun i hi => h (i + 1) (Nat.succ_lt_succ hi)

theorem loop_foldl (I : σ → Prop) (xs : List α) (s : σ) (f : α → σ → Option σ) (g : σ → α → σ) (h0 : I s)
    (hstep : ∀ x ∈ xs, ∀ s, I s → f x s = some (g s x) ∧ I (g s x)) :
    loop xs s f = some (xs.foldl g s) ∧ I (xs.foldl g s) := by
  induction xs generalizing s with
  | nil => exact ⟨rfl, h0⟩
  | cons x xs ih =>
    obtain ⟨h1, h2⟩ := hstep x List.mem_cons_self s h0
    rw [loop_cons, h1, Option.bind_some, List.foldl_cons]
    exact ih (g s x) h2 fun y hy => hstep y (List.mem_cons_of_mem _ hy)

theorem loop_none_of_mem (xs : List α) (f : α → σ → Option σ) (x : α) (hx : x ∈ xs) (hf : ∀ s, f x s = none) (s : σ) :
    loop xs s f = none := by
  induction xs generalizing s with
  | nil => cases hx
  | cons y ys ih =>
    rw [loop_cons]
    rcases List.mem_cons.mp hx with rfl | h
    · rw [hf]; rfl
    · cases f y s with
      | none => rfl
      | some s' => exact ih h s'

/-- `for n in p..p+len { body(v[n]) }` is the loop over the items -/
theorem loop_index (body : α → σ → Option σ) (pre chunk : List α) (s : σ) :
    loop (List.range' pre.length chunk.length) s (fun n s => ((pre ++ chunk)[n]?).bind fun e => body e s)
      = loop chunk s body := by
  induction chunk generalizing pre s with
  | nil => rfl
  | cons x xs ih =>
    have hx : (pre ++ x :: xs)[pre.length]? = some x := by simp
    rw [List.length_cons, List.range'_succ, loop_cons, loop_cons, hx, Option.bind_some]
    refine congrArg _ (funext fun s' => ?_)
    have := ih (pre ++ [x]) s'
    rwa [List.length_append, List.length_singleton, List.append_assoc, List.singleton_append] at this

/-! ### `for J in 0..n` -/

theorem loop_range'_total_bind (f : Nat → σ → Option σ) (I : Nat → σ → Prop) (k : σ → Option β) (P : β → Prop) (n : Nat)
    (s0 : σ) (h0 : I 0 s0) (h : ∀ J, J < n → ∀ s, I J s → ∃ s', f J s = some s' ∧ I (J + 1) s')
    (hk : ∀ s, I n s → ∃ b, k s = some b ∧ P b) : ∃ b, (loop (List.range' 0 n) s0 f).bind k = some b ∧ P b := by
  refine loop_total_bind f I k P _ s0 h0 (fun i hi s hs => ?_) (fun s hs => hk s ?_)
  · rw [List.length_range'] at hi
    rw [List.getElem_range', Nat.zero_add, Nat.one_mul]
    exact h i hi s hs
  · rwa [List.length_range'] at hs

theorem loop_range'_inv (f : Nat → σ → Option σ) (S : Nat → σ) (n : Nat) (s : σ) (h0 : S 0 = s)
    (h : ∀ J, J < n → f J (S J) = some (S (J + 1))) : loop (List.range' 0 n) s f = some (S n) := by
  have := loop_inv (List.range' 0 n) f S s h0 fun i hi => by
    rw [List.length_range'] at hi
    rw [List.getElem_range', Nat.zero_add, Nat.one_mul]
    exact h i hi
  rwa [List.length_range'] at this

end FlacVerif.Prelude
