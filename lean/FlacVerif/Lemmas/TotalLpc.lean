/-
No panic site of the functional encoder is reachable (C07): `compute_error`.

The checked `i32` path of `compute_error` is guarded by `maxabs(signal) · (Σ|coef| + 1) < i32::MAX`.  With
`M = maxabs(signal)` and `S = Σ|coef|` the guard bounds every product (`≤ M·S`), every partial sum of the
accumulator (`≤ M·S`), its shifted value, and the final subtraction `x[t] - (acc >> shift)`
(`≤ M + M·S = M·(S + 1)`): the `i32` path never overflows (`computeError32_total`), for ANY coefficients,
shift and signal, and every value it produces lies strictly inside `-(2^31 - 1) .. 2^31 - 1`.  On the `i64`
path the flag reports whether every exact error is a FLAC residual.  The two paths are the equations
`computeError_narrow` and `computeError_wide`; on either the buffer holds `wrap32` of the exact errors
(`computeError_buffer`).  So `compute_error` never panics (`computeError_total`), its flag is `true` iff the exact LPC
residual lies in `-(2^31-1) ..= 2^31-1` (`computeError_flag_iff`), and with flag `true` the buffer holds exact values,
none of them `i32::MIN`.  What the layers above use of a returned buffer (`Strict.computeError_fits`,
`Strict.computeError_spec`) is read off buffer and flag: `compute_error` enters the checked path only under its guard,
so that path needs no lemma of its own for the case that it returns.

`computeErrorOld` is the dispatch BEFORE the fix (guard `M·S < i32::MAX`, which does not cover the final
subtraction, and an `i64` path that wraps silently); it is kept for the negative controls only.
-/
import FlacVerif.Lemmas.StrictLpc
namespace FlacVerif
namespace Total
open Strict

def sumAbs (l : List Int) : Nat := (l.map Int.natAbs).sum

theorem foldl_sumAbs (l : List Int) (s0 : Nat) : l.foldl (fun s c => s + c.natAbs) s0 = s0 + sumAbs l := by
  induction l generalizing s0 with
  | nil => simp [sumAbs]
  | cons c cs ih =>
    rw [List.foldl_cons, ih]
    simp only [sumAbs, List.map_cons, List.sum_cons]
    omega

theorem foldl_maxAbs (l : List Int) (m0 : Nat) :
    m0 ≤ l.foldl (fun m x => max m x.natAbs) m0 ∧ ∀ x ∈ l, x.natAbs ≤ l.foldl (fun m x => max m x.natAbs) m0 := by
  exact (foldl_forall_iff (fun m (x : Int) => max m x.natAbs) (· ≤ l.foldl (fun m x => max m x.natAbs) m0)
    (fun x => x.natAbs ≤ l.foldl (fun m x => max m x.natAbs) m0) (fun _ _ => Nat.max_le) l m0).1 (Nat.le_refl _)

theorem getD_natAbs_le (l : List Int) (i M : Nat) (h : ∀ x ∈ l, x.natAbs ≤ M) : (l.getD i 0).natAbs ≤ M :=
  getD_of_forall (fun x => x.natAbs ≤ M) l i 0 h (Nat.zero_le M)

theorem sumAbs_take_succ (l : List Int) (k : Nat) (hk : k < l.length) :
    sumAbs (l.take (k + 1)) = sumAbs (l.take k) + (l.getD k 0).natAbs := by
  unfold sumAbs
  rw [List.take_add_one, List.map_append, List.sum_append]
  congr 1
  rw [List.getD_eq_getElem?_getD, List.getElem?_eq_getElem hk]
  simp

theorem sumAbs_take_le (l : List Int) (k : Nat) : sumAbs (l.take k) ≤ sumAbs l := by
  unfold sumAbs
  conv => rhs; rw [← List.take_append_drop k l]
  rw [List.map_append, List.sum_append]
  omega

/-- One step of the checked accumulator of `compute_error_impl::<i32>`. -/
def stepOpt (coefs xs : List Int) (t : Nat) (acc : Option Int) (j : Nat) : Option Int :=
  acc.bind fun a =>
    if t ≥ j + 1 then
      let prod := coefs.getD j 0 * xs.getD (t - 1 - j) 0
      if fitsI32 prod && fitsI32 (a + prod) then some (a + prod) else none
    else some a

def stepInt (coefs xs : List Int) (t : Nat) (a : Int) (j : Nat) : Int :=
  if t ≥ j + 1 then a + coefs.getD j 0 * xs.getD (t - 1 - j) 0 else a

theorem computeError32_eq_stepOpt (coefs : List Int) (shift : Nat) (xs : List Int) :
    computeError32 coefs shift xs = (List.range xs.length).mapM fun t =>
      ((List.range coefs.length).foldl (stepOpt coefs xs t) (some 0)).bind fun a =>
        if fitsI32 (xs.getD t 0 - (a >>> shift)) then
          some (if t < coefs.length then 0 else xs.getD t 0 - (a >>> shift)) else none := rfl

theorem accE_eq_stepInt (coefs xs : List Int) (t : Nat) :
    accE coefs xs t = (List.range coefs.length).foldl (stepInt coefs xs t) 0 := rfl

theorem fits_of_natAbs_lt (v : Int) (h : v.natAbs < 2 ^ 31 - 1) : fitsI32 v = true := by
  rw [fitsI32_iff]
  omega

theorem acc_bound (coefs xs : List Int) (t M : Nat) (hM : ∀ x ∈ xs, x.natAbs ≤ M) :
    ∀ k, k ≤ coefs.length → ((List.range k).foldl (stepInt coefs xs t) 0).natAbs ≤ M * sumAbs (coefs.take k) := by
  intro k
  induction k with
  | zero => intro _; simp
  | succ k ih =>
    intro hk
    have e2 := ih (by omega)
    rw [List.range_succ, List.foldl_append, List.foldl_cons, List.foldl_nil, sumAbs_take_succ coefs k (by omega),
      Nat.mul_add]
    generalize (List.range k).foldl (stepInt coefs xs t) 0 = a at e2 ⊢
    unfold stepInt
    split
    · exact Nat.le_trans (Int.natAbs_add_le _ _)
        (Nat.add_le_add e2 (natAbs_mul_le _ _ M (getD_natAbs_le xs _ M hM)))
    · exact Nat.le_trans e2 (Nat.le_add_right _ _)

theorem acc_checked (coefs xs : List Int) (t M : Nat) (hM : ∀ x ∈ xs, x.natAbs ≤ M)
    (hg : M * sumAbs coefs < 2 ^ 31 - 1) :
    ∀ k, k ≤ coefs.length →
      (List.range k).foldl (stepOpt coefs xs t) (some 0) = some ((List.range k).foldl (stepInt coefs xs t) 0) := by
  intro k
  induction k with
  | zero => intro _; rfl
  | succ k ih =>
    intro hk
    -- the sum after this step, and hence the product added in it, stay below the guard
    have e2 := acc_bound coefs xs t M hM k (by omega)
    have e3 := acc_bound coefs xs t M hM (k + 1) hk
    have hS : M * sumAbs (coefs.take (k + 1)) ≤ M * sumAbs coefs := Nat.mul_le_mul_left _ (sumAbs_take_le coefs (k + 1))
    rw [List.range_succ, List.foldl_append, List.foldl_cons, List.foldl_nil] at e3
    rw [List.range_succ, List.foldl_append, List.foldl_append, ih (by omega)]
    simp only [List.foldl_cons, List.foldl_nil]
    rw [sumAbs_take_succ coefs k (by omega), Nat.mul_add] at hS
    generalize (List.range k).foldl (stepInt coefs xs t) 0 = a at e2 e3 ⊢
    unfold stepInt at e3
    unfold stepOpt stepInt
    simp only [Option.bind_some]
    by_cases ht : t ≥ k + 1
    · rw [if_pos ht] at e3
      rw [if_pos ht, if_pos ht]
      have hp := natAbs_mul_le (coefs.getD k 0) (xs.getD (t - 1 - k) 0) M (getD_natAbs_le xs (t - 1 - k) M hM)
      rw [fits_of_natAbs_lt _ (by omega), fits_of_natAbs_lt _ (by omega)]
      rfl
    · rw [if_neg ht, if_neg ht]

/-- The checked `i32` path, under its guard: it returns iff the final subtraction fits at EVERY position
(the warm-up positions included: the code subtracts there too before zeroing them). -/
theorem computeError32_guarded (coefs : List Int) (shift : Nat) (xs : List Int)
    (hg : (xs.foldl (fun m x => max m x.natAbs) 0) * (coefs.foldl (fun s c => s + c.natAbs) 0) < 2 ^ 31 - 1) :
    computeError32 coefs shift xs =
      (List.range xs.length).mapM fun t =>
        if fitsI32 (errE coefs shift xs t) then some (if t < coefs.length then 0 else errE coefs shift xs t)
        else none := by
  rw [foldl_sumAbs, Nat.zero_add] at hg
  rw [computeError32_eq_stepOpt]
  congr 1
  funext t
  rw [acc_checked coefs xs t _ (foldl_maxAbs xs 0).2 hg coefs.length (Nat.le_refl _), ← accE_eq_stepInt]
  rfl

theorem errE_bound (coefs : List Int) (shift : Nat) (xs : List Int) (t M : Nat) (hM : ∀ x ∈ xs, x.natAbs ≤ M) :
    (accE coefs xs t).natAbs ≤ M * sumAbs coefs ∧ (errE coefs shift xs t).natAbs ≤ M * (sumAbs coefs + 1) := by
  have ha : (accE coefs xs t).natAbs ≤ M * sumAbs (coefs.take coefs.length) :=
    acc_bound coefs xs t M hM coefs.length (Nat.le_refl _)
  rw [List.take_length] at ha
  refine ⟨ha, ?_⟩
  unfold errE
  have h1 := Int.natAbs_sub_le (xs.getD t 0) (accE coefs xs t >>> shift)
  have h2 : (accE coefs xs t >>> shift).natAbs ≤ (accE coefs xs t).natAbs := by
    rw [Int.shiftRight_eq_div_pow]
    exact Int.natAbs_ediv_le_natAbs _ _
  have h3 := getD_natAbs_le xs t M hM
  rw [Nat.mul_add, Nat.mul_one]
  omega

theorem computeError32_total (coefs : List Int) (shift : Nat) (xs : List Int)
    (hg : (xs.foldl (fun m x => max m x.natAbs) 0) * ((coefs.foldl (fun s c => s + c.natAbs) 0) + 1) < 2 ^ 31 - 1) :
    computeError32 coefs shift xs =
      some ((List.range xs.length).map fun t => if t < coefs.length then 0 else errE coefs shift xs t) ∧
    ∀ t, (errE coefs shift xs t).natAbs < 2 ^ 31 - 1 := by
  have hg' : (xs.foldl (fun m x => max m x.natAbs) 0) * (coefs.foldl (fun s c => s + c.natAbs) 0) < 2 ^ 31 - 1 := by
    rw [Nat.mul_add] at hg
    omega
  have hb : ∀ t, (errE coefs shift xs t).natAbs < 2 ^ 31 - 1 := by
    intro t
    rw [foldl_sumAbs, Nat.zero_add] at hg hg'
    exact Nat.lt_of_le_of_lt (errE_bound coefs shift xs t _ (foldl_maxAbs xs 0).2).2 hg
  refine ⟨?_, hb⟩
  rw [computeError32_guarded coefs shift xs hg']
  apply mapM_some_map
  intro t _
  rw [if_pos (fits_of_natAbs_lt _ (hb t))]

theorem computeError_narrow (coefs : List Int) (shift : Nat) (xs : List Int) (hg : ¬ lpcWide coefs xs) :
    computeError coefs shift xs =
      some ((List.range xs.length).map fun t => if t < coefs.length then 0 else errE coefs shift xs t, true) := by
  unfold computeError
  simp only []
  rw [if_pos (Decidable.not_not.1 hg), (computeError32_total coefs shift xs (Decidable.not_not.1 hg)).1]
  rfl

theorem computeError_wide (coefs : List Int) (shift : Nat) (xs : List Int) (hw : lpcWide coefs xs) :
    computeError coefs shift xs = some (computeError64 coefs shift xs, fitsResidual64 coefs shift xs) := by
  unfold computeError
  exact if_neg hw

theorem computeError_buffer (coefs : List Int) (shift : Nat) (xs errors : List Int) {fits : Bool}
    (h : computeError coefs shift xs = some (errors, fits)) :
    errors = (List.range xs.length).map fun t => if t < coefs.length then 0 else wrap32 (errE coefs shift xs t) := by
  by_cases hw : lpcWide coefs xs
  · rw [computeError_wide coefs shift xs hw] at h
    cases h
    rfl
  · rw [computeError_narrow coefs shift xs hw] at h
    cases h
    apply List.map_congr_left
    intro t _
    have := (computeError32_total coefs shift xs (Decidable.not_not.1 hw)).2 t
    rw [wrap32_id _ (by omega) (by omega)]

theorem computeError_flag_iff (coefs : List Int) (shift : Nat) (xs errors : List Int) (fits : Bool)
    (h : computeError coefs shift xs = some (errors, fits)) :
    fits = true ↔ ∀ e ∈ lpcResidual coefs shift xs, e.natAbs ≤ 2 ^ 31 - 1 := by
  by_cases hw : lpcWide coefs xs
  · rw [computeError_wide coefs shift xs hw] at h
    cases h
    exact fitsResidual64_iff_residual coefs shift xs
  · rw [computeError_narrow coefs shift xs hw] at h
    cases h
    refine ⟨fun _ => ?_, fun _ => rfl⟩
    rw [lpcResidual_eq]
    intro e he
    obtain ⟨t, _, rfl⟩ := List.mem_map.1 he
    exact Nat.le_of_lt ((computeError32_total coefs shift xs (Decidable.not_not.1 hw)).2 t)

theorem computeError_flag_pos (coefs : List Int) (shift : Nat) (xs errors : List Int)
    (h : computeError coefs shift xs = some (errors, true)) :
    ∀ t, coefs.length ≤ t → t < xs.length → (errE coefs shift xs t).natAbs ≤ 2 ^ 31 - 1 := by
  by_cases hw : lpcWide coefs xs
  · rw [computeError_wide coefs shift xs hw] at h
    exact (fitsResidual64_iff coefs shift xs).1 (Prod.mk.inj (Option.some.inj h)).2
  · exact fun t _ _ => Nat.le_of_lt ((computeError32_total coefs shift xs (Decidable.not_not.1 hw)).2 t)

/-- Hence `encode_signbit` never meets `i32::MIN` on a buffer flagged `true`. -/
theorem computeError_range (coefs : List Int) (shift : Nat) (xs errors : List Int)
    (h : computeError coefs shift xs = some (errors, true)) :
    ∀ e ∈ errors, e.natAbs ≤ 2 ^ 31 - 1 := by
  rw [computeError_buffer coefs shift xs errors h]
  intro e he
  obtain ⟨t, ht, rfl⟩ := List.mem_map.1 he
  rw [List.mem_range] at ht
  split
  · decide
  · have := computeError_flag_pos coefs shift xs errors h t (by omega) ht
    rw [wrap32_id _ (by omega) (by omega)]
    exact this

theorem _root_.FlacVerif.Strict.computeError_fits (coefs : List Int) (shift : Nat) (xs errors : List Int) {fits : Bool}
    (h : computeError coefs shift xs = some (errors, fits)) :
    errors.length = xs.length ∧ ∀ e ∈ errors, fitsI32 e = true := by
  rw [computeError_buffer coefs shift xs errors h]
  refine ⟨by simp, fun e he => ?_⟩
  obtain ⟨t, _, rfl⟩ := List.mem_map.1 he
  split
  · decide
  · exact wrap32_fits _

/-- From `computeError_buffer` (`wrap32` of the exact errors on either path) and `computeError_flag_pos` (they are in
range, so nothing wrapped). -/
theorem _root_.FlacVerif.Strict.computeError_spec (coefs : List Int) (shift : Nat) (xs errors : List Int)
    (h : computeError coefs shift xs = some (errors, true)) :
    errors.length = xs.length ∧ (∀ e ∈ errors, fitsI32 e = true) ∧
    errors.drop coefs.length = lpcResidual coefs shift xs := by
  obtain ⟨hl, hf⟩ := computeError_fits coefs shift xs errors h
  refine ⟨hl, hf, ?_⟩
  rw [computeError_buffer coefs shift xs errors h, map_ite_drop, lpcResidual_eq]
  apply List.map_congr_left
  intro t ht
  rw [List.mem_range'_1] at ht
  have := computeError_flag_pos coefs shift xs errors h t ht.1 (by omega)
  exact wrap32_id _ (by omega) (by omega)

theorem computeError_total (coefs : List Int) (shift : Nat) (xs : List Int) :
    ∃ errors fits, computeError coefs shift xs = some (errors, fits) ∧ errors.length = xs.length ∧
      (fits = true → (∀ e ∈ errors, -(2 ^ 31 : Int) < e ∧ e < (2 ^ 31 : Int)) ∧
        errors.drop coefs.length = lpcResidual coefs shift xs) := by
  obtain ⟨errors, fits, h⟩ : ∃ errors fits, computeError coefs shift xs = some (errors, fits) := by
    by_cases hw : lpcWide coefs xs
    · exact ⟨_, _, computeError_wide coefs shift xs hw⟩
    · exact ⟨_, _, computeError_narrow coefs shift xs hw⟩
  refine ⟨errors, fits, h, (computeError_fits coefs shift xs errors h).1, ?_⟩
  rintro rfl
  refine ⟨fun e he => ?_, (computeError_spec coefs shift xs errors h).2.2⟩
  have := computeError_range coefs shift xs errors h e he
  omega

/-- `compute_error` BEFORE the fix: the guard `maxabs · Σ|coef| < i32::MAX` covers the accumulation but not
the final subtraction, and the `i64` path casts with `as i32` without telling anybody. -/
def computeErrorOld (coefs : List Int) (shift : Nat) (xs : List Int) : Option (List Int) :=
  let maxabs := xs.foldl (fun m x => max m x.natAbs) 0
  let sumabs := coefs.foldl (fun s c => s + c.natAbs) 0
  if maxabs * sumabs < 2 ^ 31 - 1 then computeError32 coefs shift xs
  else some (computeError64 coefs shift xs)

end Total
end FlacVerif
