/-
Value-level inverse laws: sign folding and its `u32` computation `encodeSignbit`, linear and fixed prediction, stereo; the
wrapping difference passes `diff1.go` / `diffs` along `++` and `take`; `wrap32` as `Int.bmod` and on what fits.
-/
import FlacVerif.Model.Rice
import FlacVerif.Model.Predict
import FlacVerif.Lemmas.Bits
namespace FlacVerif

theorem fold_ofNat (n : Nat) : fold (n : Int) = 2 * n := by
  rw [fold, if_neg (Int.not_lt.mpr (Int.natCast_nonneg n)), Int.toNat_natCast]

theorem fold_negSucc (n : Nat) : fold (Int.negSucc n) = 2 * n + 1 := by
  rw [fold, if_pos (Int.negSucc_lt_zero n), Int.neg_negSucc, Int.toNat_natCast]
  rfl

theorem unfold_fold (v : Int) : unfold (fold v) = v := by
  cases v with
  | ofNat n =>
    rw [Int.ofNat_eq_natCast, fold_ofNat, unfold, Nat.mul_mod_right, if_neg Nat.zero_ne_one,
      Nat.mul_div_cancel_left n (by decide)]
  | negSucc n =>
    rw [fold_negSucc, unfold, Nat.mul_add_mod, if_pos rfl, Nat.mul_add_div (by decide)]
    rfl

theorem fold_unfold (u : Nat) : fold (unfold u) = u := by
  have hu := Nat.div_add_mod u 2
  unfold unfold
  split
  · show fold (Int.negSucc (u / 2)) = u
    rw [fold_negSucc]
    omega
  · rw [fold_ofNat]
    omega

/-- The `u32` computation of `encode_signbit` is the mathematical folding, for every `i32` value
except `i32::MIN` (where the Rust code overflows). -/
theorem encodeSignbit_eq_fold (v : Int) (h1 : -(2 ^ 31 : Int) < v) (h2 : v < (2 ^ 31 : Int)) :
    encodeSignbit v = some (fold v) := by
  unfold encodeSignbit u32
  cases v with
  | ofNat n =>
    rw [Int.ofNat_eq_natCast] at h2 ⊢
    have hn : 2 * n < 2 ^ 32 := by omega
    rw [fold_ofNat, Int.natAbs_natCast, Nat.mod_eq_of_lt hn, if_neg (Int.not_lt.mpr (Int.natCast_nonneg n))]
    rfl
  | negSucc n =>
    have hn : 2 * (n + 1) < 2 ^ 32 := by omega
    rw [fold_negSucc, Int.natAbs_negSucc, Nat.mod_eq_of_lt hn, if_pos (Int.negSucc_lt_zero n)]
    rfl

theorem encodeSignbit_min : encodeSignbit (-(2 ^ 31 : Int)) = none := by decide

theorem encodeSignbit_getD_lt (v : Int) : (encodeSignbit v).getD 0 < 2 ^ 32 := by
  unfold encodeSignbit u32
  simp only []
  have := Nat.mod_lt (2 * v.natAbs) (show 0 < 2 ^ 32 by decide)
  by_cases h : (if v < 0 then 1 else 0) ≤ 2 * v.natAbs % 2 ^ 32
  · rw [if_pos h]; simp only [Option.getD_some]; omega
  · rw [if_neg h]; decide

theorem fold_lt (v : Int) (h1 : -(2 ^ 31 : Int) < v) (h2 : v < (2 ^ 31 : Int)) : fold v < 2 ^ 32 := by
  cases v with
  | ofNat n =>
    rw [Int.ofNat_eq_natCast] at h2 ⊢
    rw [fold_ofNat]
    omega
  | negSucc n =>
    rw [fold_negSucc]
    omega

theorem residualFrom_length (coefs : List Int) (shift : Nat) (h ys : List Int) :
    (residualFrom coefs shift h ys).length = ys.length := by
  induction ys generalizing h with
  | nil => rfl
  | cons y ys ih => simp [residualFrom, ih]

theorem lpcResidual_length (coefs : List Int) (shift : Nat) (xs : List Int) :
    (lpcResidual coefs shift xs).length = xs.length - coefs.length := by
  unfold lpcResidual
  rw [residualFrom_length, List.length_drop]

theorem restoreFrom_residualFrom (coefs : List Int) (shift : Nat) (hist xs : List Int) :
    restoreFrom coefs shift hist (residualFrom coefs shift hist xs) = xs := by
  induction xs generalizing hist with
  | nil => rfl
  | cons x xs ih =>
    simp only [residualFrom, restoreFrom]
    have : x - predict coefs shift hist + predict coefs shift hist = x := by omega
    rw [this, ih]

theorem residualFrom_restoreFrom (coefs : List Int) (shift : Nat) (hist rs : List Int) :
    residualFrom coefs shift hist (restoreFrom coefs shift hist rs) = rs := by
  induction rs generalizing hist with
  | nil => rfl
  | cons r rs ih =>
    simp only [residualFrom, restoreFrom]
    have : r + predict coefs shift hist - predict coefs shift hist = r := by omega
    rw [this, ih]

/-- A decoder reconstructs the block exactly from its warm-up and exact residual, for **any**
coefficients and shift (the float estimator's output is irrelevant to losslessness). -/
theorem lpcRestore_lpcResidual (coefs : List Int) (shift : Nat) (xs : List Int) :
    lpcRestore coefs shift (xs.take coefs.length) (lpcResidual coefs shift xs) = xs := by
  unfold lpcRestore lpcResidual
  rw [restoreFrom_residualFrom, List.take_append_drop]

theorem fixedRestore_fixedResidual (k : Nat) (xs : List Int) (hk : k ≤ 4) :
    fixedRestore k (xs.take k) (fixedResidual k xs) = xs := by
  have hl : (fixedCoefs k).length = k :=
    match k, hk with
    | 0, _ | 1, _ | 2, _ | 3, _ | 4, _ => rfl
  have := lpcRestore_lpcResidual (fixedCoefs k) 0 xs
  rw [hl] at this
  exact this

/-- `diff1.go c` is the wrapping difference pass continued after the sample `c`. -/
theorem diff1.go_nil (c : Int) : diff1.go c [] = [] := by simp [diff1.go]

theorem diff1.go_cons (c x : Int) (rest : List Int) :
    diff1.go c (x :: rest) = wrap32 (x - c) :: diff1.go x rest := by simp [diff1.go]

theorem diff1.go_length (c : Int) (x : List Int) : (diff1.go c x).length = x.length := by
  induction x generalizing c with
  | nil => simp [diff1.go_nil]
  | cons a rest ih => simp [diff1.go_cons, ih]

theorem diff1.go_append (c : Int) (x y : List Int) :
    diff1.go c (x ++ y) = diff1.go c x ++ diff1.go (x.getLast?.getD c) y := by
  induction x generalizing c with
  | nil => simp [diff1.go_nil]
  | cons a rest ih =>
    rw [List.cons_append, diff1.go_cons, diff1.go_cons, ih a, List.cons_append]
    congr 2
    cases rest with
    | nil => simp
    | cons b r =>
      simp only [List.getLast?_cons_cons]
      cases h : (b :: r).getLast? with
      | none => simp at h
      | some v => rfl

theorem diff1.go_take (c : Int) (x : List Int) (n : Nat) : diff1.go c (x.take n) = (diff1.go c x).take n := by
  induction x generalizing c n with
  | nil => simp [diff1.go_nil]
  | cons a rest ih =>
    cases n with
    | zero => simp [diff1.go_nil]
    | succ n => simp [diff1.go_cons, ih]

theorem diffs_take (k : Nat) (x : List Int) (n : Nat) : diffs k (x.take n) = (diffs k x).take n := by
  induction k with
  | zero => rfl
  | succ k ih => simp only [diffs, diff1, ih, diff1.go_take]

theorem diffs_length (k : Nat) (x : List Int) : (diffs k x).length = x.length := by
  induction k with
  | zero => rfl
  | succ k ih => simp only [diffs, diff1, diff1.go_length, ih]

theorem unMidSide_midSide (l r : Int) : unMidSide (midSide l r).1 (midSide l r).2 = (l, r) := by
  -- `l - r` has the parity of `l + r`, so `2 * mid + side % 2` gives the sum back
  have hm : 2 * ((l + r) / 2) + (l - r) % 2 = l + r := by
    have hp : (l + r) % 2 = (l - r) % 2 := by
      rw [show l + r = l - r + r * 2 by omega, Int.add_mul_emod_self_right]
    rw [← hp]
    exact Int.mul_ediv_add_emod (l + r) 2
  simp only [midSide, unMidSide, Int.shiftRight_eq_div_pow]
  rw [show ((2 ^ 1 : Nat) : Int) = 2 from rfl, hm, show l + r + (l - r) = 2 * l by omega,
    show l + r - (l - r) = 2 * r by omega, Int.mul_ediv_cancel_left _ (by decide),
    Int.mul_ediv_cancel_left _ (by decide)]

theorem unLeftSide_spec (l r : Int) : unLeftSide l (l - r) = (l, r) := by
  simp only [unLeftSide]; congr 1; omega

theorem unRightSide_spec (l r : Int) : unRightSide (l - r) r = (l, r) := by
  simp only [unRightSide]; congr 1; omega

namespace Strict

theorem wrap32_eq_bmod (v : Int) : wrap32 v = Int.bmod v (2 ^ 32) := by
  rw [bmod_two_pow_def 32 (by decide)]; unfold wrap32; omega

theorem wrap32_id (v : Int) (h1 : -(2 ^ 31 : Int) ≤ v) (h2 : v < (2 ^ 31 : Int)) : wrap32 v = v :=
  (wrap32_eq_bmod v).trans (bmod_of_fits 32 (by decide) ⟨h1, h2⟩)

theorem wrap32_fits (v : Int) : fitsI32 (wrap32 v) = true := by
  unfold fitsI32 wrap32
  have h1 := Int.emod_nonneg (v + 2 ^ 31) (show (2 ^ 32 : Int) ≠ 0 by decide)
  have h2 := Int.emod_lt_of_pos (v + 2 ^ 31) (show (0 : Int) < 2 ^ 32 by decide)
  simp only [Bool.and_eq_true, decide_eq_true_eq]
  omega

theorem fitsI32_iff (v : Int) : fitsI32 v = true ↔ -(2 ^ 31 : Int) ≤ v ∧ v < (2 ^ 31 : Int) := by
  simp [fitsI32]

theorem natAbs_mul_le (c x : Int) (M : Nat) (hx : x.natAbs ≤ M) : (c * x).natAbs ≤ M * c.natAbs := by
  rw [Int.natAbs_mul, Nat.mul_comm]
  exact Nat.mul_le_mul_right _ hx

end Strict

end FlacVerif
