/-
Strict round trip (C01/C02): the primitive readers of the independent RFC 9639 decoder
(`Model/Rfc.lean`) against the primitive writers (`natToBits`, `twoc`, a run of zeros closed by a one).
-/
import FlacVerif.Model.Rfc
import FlacVerif.Model.Component
import FlacVerif.Lemmas.Bits
import FlacVerif.Lemmas.Layout
namespace FlacVerif
namespace Strict
open Rfc
open Count (twoc_length)

@[simp] theorem ok_bind {α β : Type} (a : α) (f : α → R β) : (Except.ok a >>= f) = f a := rfl
@[simp] theorem error_bind {α β : Type} (e : String) (f : α → R β) : ((Except.error e : R α) >>= f) = .error e := rfl
@[simp] theorem pure_eq {α : Type} (a : α) : (pure a : R α) = .ok a := rfl
@[simp] theorem throw_eq {α : Type} (e : String) : (throw e : R α) = .error e := rfl

theorem takeBits_append (a k : Bits) (n : Nat) (what : String) (h : a.length = n) :
    takeBits n (a ++ k) what = .ok (a, k) := by
  unfold takeBits
  have : ¬ (a ++ k).length < n := by simp [h]
  rw [if_neg this, List.take_left' h, List.drop_left' h]

theorem readNat_natToBits (c v : Nat) (k : Bits) (what : String) :
    readNat c (natToBits c v ++ k) what = .ok (v % 2 ^ c, k) := by
  unfold readNat
  rw [takeBits_append _ _ _ _ (natToBits_length c v)]
  simp [bitsToNat_natToBits]

theorem readNat_natToBits_lt (c v : Nat) (k : Bits) (what : String) (hv : v < 2 ^ c) :
    readNat c (natToBits c v ++ k) what = .ok (v, k) := by
  rw [readNat_natToBits, Nat.mod_eq_of_lt hv]

theorem all_inRange (b : Nat) (xs : List Int) (hx : ∀ x ∈ xs, SubFrame.inRange b x = true) :
    (xs.any fun x => !Rfc.inRange b x) = false := by
  rw [List.any_eq_false]
  intro x hxm
  have : Rfc.inRange b x = true := hx x hxm
  simp [this]

theorem readInt_twoc (b : Nat) (v : Int) (k : Bits) (what : String) (h1 : 1 ≤ b)
    (hv : SubFrame.inRange b v = true) : readInt b (twoc b v ++ k) what = .ok (v, k) := by
  unfold readInt
  rw [takeBits_append _ _ _ _ (twoc_length b v)]
  simp [Layout.fromTwoc_twoc b v h1 hv]

theorem readInts_twoc (b : Nat) (xs : List Int) (k : Bits) (what : String) (h1 : 1 ≤ b)
    (hx : ∀ x ∈ xs, SubFrame.inRange b x = true) :
    readInts xs.length b (xs.flatMap (twoc b) ++ k) what = .ok (xs, k) := by
  induction xs with
  | nil => rfl
  | cons x xs ih =>
    rw [List.length_cons, readInts, List.flatMap_cons, List.append_assoc,
      readInt_twoc b x _ what h1 (hx x (by simp))]
    simp only [ok_bind]
    rw [ih (fun y hy => hx y (by simp [hy]))]
    rfl

theorem readUnary_unary (q : Nat) (k : Bits) : readUnary (List.replicate q false ++ true :: k) = some (q, k) := by
  induction q with
  | zero => simp [readUnary]
  | succ q ih =>
    rw [List.replicate_succ, List.cons_append, readUnary, ih]
    rfl

end Strict
end FlacVerif
