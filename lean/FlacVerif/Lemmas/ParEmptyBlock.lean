/-
Why `Params.NonemptyBlocks` is needed: the empty byte block is the stop token of the md5 channel, so a
source that hands over an *empty* block (returns a non-zero sample count but fills zero bytes) stops
the hasher early; 16 blocks later the md5 channel is full and the feeder blocks forever. Concrete
reachable deadlock for `W = 1` and 18 blocks of which the first is empty.
Second witness (`pEmptyBlock2`, `trEmptyBlock2`): two blocks, the first empty; a complete run whose hasher never sees
block 1 (`C05_empty_block_hash_mismatch`).
-/
import FlacVerif.Lemmas.ParStep
namespace FlacVerif.Par

/-- shape of the deadlock: the feeder is inside a read, the md5 channel is full, the hasher is gone,
every worker is idle and there is nothing to encode -/
def StuckOnMd5 (p : Params) (s : State) : Prop :=
  (∃ id, s.main = .locked id) ∧ p.readFailAt ≠ some s.k ∧ (p.blocks[s.k]?).isSome = true ∧
  s.md5Q.length = md5Cap ∧ s.hasher = .exited ∧ s.encodeQ = [] ∧ ∀ pc ∈ s.workers, pc = .idle

theorem StuckOnMd5.no_step {p : Params} {s : State} (h : StuckOnMd5 p s) (e : Ev) :
    step p s e = none := by
  obtain ⟨⟨id, hm⟩, hf, hb, hq, hh, he, hw⟩ := h
  cases hs : step p s e with
  | none => rfl
  | some s' =>
    cases Step_of_step hs
    -- inside the read with a block at hand the main thread can only send it, and the md5 channel is full
    case md5_data hcap _ _ => rw [hq] at hcap; exact absurd hcap (Nat.lt_irrefl _)
    case md5_eof hb' _ => rw [hb'] at hb; cases hb
    case f_eof_plain hk _ => rw [List.getElem?_eq_none hk] at hb; cases hb
    case f_read_err hf' => exact absurd hf' hf
    -- every other step needs another main pc, queued work, a busy worker, or the hasher
    all_goals first
      | (cases hm.symm.trans ‹s.main = _›; done)
      | (cases he.symm.trans ‹s.encodeQ = _›; done)
      | (cases hw _ (List.mem_of_getElem? ‹_›); done)
      | (cases hh.symm.trans ‹s.hasher = _›; done)

instance (p : Params) (s : State) : Decidable (StuckOnMd5 p s) := by
  unfold StuckOnMd5
  have : Decidable (∃ id, s.main = .locked id) := by
    cases s.main <;> first | exact isTrue ⟨_, rfl⟩ | exact isFalse (by rintro ⟨_, h⟩; cases h)
  infer_instance

namespace Examples

def pEmptyBlock : Params :=
  { W := 1, blocks := ⟨[], true⟩ :: List.replicate 17 ⟨[7], true⟩ }

def trEmptyBlock : List Ev :=
  [.refill_recv 0, .md5_send 0, .f_filled 0 0, .encode_send (some 0), .refill_recv 1,
   .md5_send 1, .f_filled 1 1, .encode_send (some 1), .encode_recv 0 (some 0), .w_lock 0 0 0,
   .refill_send 0 0, .refill_recv 0, .md5_send 1, .f_filled 0 2, .encode_send (some 0),
   .w_push 0 0 0, .encode_recv 0 (some 1), .w_lock 0 1 1, .refill_send 0 1, .refill_recv 1,
   .md5_send 1, .f_filled 1 3, .encode_send (some 1), .w_push 0 1 1, .encode_recv 0 (some 0),
   .w_lock 0 0 2, .refill_send 0 0, .refill_recv 0, .md5_send 1, .f_filled 0 4,
   .encode_send (some 0), .w_push 0 0 2, .encode_recv 0 (some 1), .w_lock 0 1 3,
   .refill_send 0 1, .refill_recv 1, .md5_send 1, .f_filled 1 5, .encode_send (some 1),
   .w_push 0 1 3, .encode_recv 0 (some 0), .w_lock 0 0 4, .refill_send 0 0, .refill_recv 0,
   .md5_send 1, .f_filled 0 6, .encode_send (some 0), .w_push 0 0 4, .encode_recv 0 (some 1),
   .w_lock 0 1 5, .refill_send 0 1, .refill_recv 1, .md5_send 1, .f_filled 1 7,
   .encode_send (some 1), .w_push 0 1 5, .encode_recv 0 (some 0), .w_lock 0 0 6,
   .refill_send 0 0, .refill_recv 0, .md5_send 1, .f_filled 0 8, .encode_send (some 0),
   .w_push 0 0 6, .encode_recv 0 (some 1), .w_lock 0 1 7, .refill_send 0 1, .refill_recv 1,
   .md5_send 1, .f_filled 1 9, .encode_send (some 1), .w_push 0 1 7, .encode_recv 0 (some 0),
   .w_lock 0 0 8, .refill_send 0 0, .refill_recv 0, .md5_send 1, .f_filled 0 10,
   .encode_send (some 0), .w_push 0 0 8, .encode_recv 0 (some 1), .w_lock 0 1 9,
   .refill_send 0 1, .refill_recv 1, .md5_send 1, .f_filled 1 11, .encode_send (some 1),
   .w_push 0 1 9, .encode_recv 0 (some 0), .w_lock 0 0 10, .refill_send 0 0, .refill_recv 0,
   .md5_send 1, .f_filled 0 12, .encode_send (some 0), .w_push 0 0 10, .encode_recv 0 (some 1),
   .w_lock 0 1 11, .refill_send 0 1, .refill_recv 1, .md5_send 1, .f_filled 1 13,
   .encode_send (some 1), .w_push 0 1 11, .encode_recv 0 (some 0), .w_lock 0 0 12,
   .refill_send 0 0, .refill_recv 0, .md5_send 1, .f_filled 0 14, .encode_send (some 0),
   .w_push 0 0 12, .encode_recv 0 (some 1), .w_lock 0 1 13, .refill_send 0 1, .refill_recv 1,
   .md5_send 1, .f_filled 1 15, .encode_send (some 1), .w_push 0 1 13, .encode_recv 0 (some 0),
   .w_lock 0 0 14, .refill_send 0 0, .refill_recv 0, .w_push 0 0 14, .encode_recv 0 (some 1),
   .w_lock 0 1 15, .refill_send 0 1, .w_push 0 1 15, .md5_recv 0, .md5_send 1, .f_filled 0 16,
   .encode_send (some 0), .refill_recv 1, .encode_recv 0 (some 0), .w_lock 0 0 16,
   .refill_send 0 0, .w_push 0 0 16]

/-- `W = 1`; block 0 has no bytes, block 1 is ordinary: with `trEmptyBlock2` a complete run whose hasher stops at
block 0 and never sees block 1 (the witness of `C05_empty_block_hash_mismatch`) -/
def pEmptyBlock2 : Params := { W := 1, blocks := [⟨[], true⟩, ⟨[7], true⟩] }

def trEmptyBlock2 : List Ev :=
  [.refill_recv 0, .md5_send 0, .f_filled 0 0, .encode_send (some 0), .refill_recv 1, .md5_send 1,
   .f_filled 1 1, .encode_send (some 1), .encode_recv 0 (some 0), .w_lock 0 0 0, .refill_send 0 0,
   .refill_recv 0, .md5_send 0, .f_eof 0, .encode_send none, .md5_send 0, .w_push 0 0 0,
   .encode_recv 0 (some 1), .w_lock 0 1 1, .refill_send 0 1, .w_push 0 1 1, .encode_recv 0 none,
   .md5_recv 0, .m_joined_hasher, .m_joined_worker]

end Examples
end FlacVerif.Par
