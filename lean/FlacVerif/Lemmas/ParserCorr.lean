/-
How an outcome of the generated parser (`PM`, Gen/Parser.lean) stands for an outcome of the hand-written mirror (`PResult`,
Model/RepoParser.lean), and the lemmas that carry this correspondence through one step of a parser; used by
`Theorems/C16Gen.lean`, which walks each parser of parser.rs with them (namespace `C16Gen`, shared with that file and with
Lemmas/RepoSuf.lean).

Bit level: `g = outcome k m` (`cls` is `outcome` with the pair swapped: the mirror returns (value, rest), nom (rest, value));
a step is a parser (`outcome_bind`), an arithmetic step or assertion that cannot be a parse error (`outcome_check` where both
sides are one test of the same condition, else `outcome_bindO`, with `clsO` for the dev-profile reading of the prelude
operation), or an `if` (`ite_eq_map`).
Byte level: `relB conv bs g m` relates the generated outcome on the bytes `bs` and the mirror's outcome on `bytesToBits bs`
(`relB_bindT`: a parser step in front of a continuation related by `relB` or by one of the outcome relations of the stream
level; `rel_bindO`, `rel_check`, `rel_ite`: the other steps, over any such relation, the bit-level ones being their instances);
inside `bits(..)` the steps are bit-level (`relB_bits`) and carry what is left of the block's input (`Suffix`), which is
what the realignment at the end of the block needs (`Suffix.align`); that the bit-level parsers of the mirror (and `beUint`, `byteTake`, `streamInfo`) return a
suffix of their input (`Suf`, `suf_*`) is shown in Lemmas/RepoSuf.lean, on the mirror alone.
-/
import FlacVerif.Gen.Parser
import FlacVerif.Lemmas.RepoPrim
import FlacVerif.Lemmas.RepoSuf

namespace FlacVerif.C16Gen
open FlacVerif.Repo FlacVerif.Gen.Parser
open FlacVerif.Gen.Decode (subU shAmt shlU)

variable {α β γ δ α' β' ι σ : Type} {conv : β → α} {bs : List Nat}

def cls {α : Type} : PResult (α × Bits) → PM (List Bool × α)
  | .ok (v, r) => some (.ok (r, v))
  | .error true => some (.error .incomplete)
  | .error false => some (.error .error)
  | .panic _ => none

def clsO {α : Type} : PResult α → Option α
  | .ok v => some v
  | .error _ => none
  | .panic _ => none

def noErr {α : Type} (x : PResult α) : Prop := ∀ e, x ≠ .error e

/-- the generated outcome that stands for an outcome of the mirror: same class, `Ok` values translated by `k`.
`cls` above and `accO`, `clsQ`, `clsL` of Theorems/C16Gen.lean are this map at one `k` each, with their own case table
because statements are phrased with them; `cls_eq`, `accO_eq`, `clsQ_eq` say so and the proofs go through `outcome`. -/
def outcome {α γ : Type} (k : α → γ) : PResult α → PM γ
  | .ok v => some (.ok (k v))
  | .error true => some (.error .incomplete)
  | .error false => some (.error .error)
  | .panic _ => none

theorem cls_eq (x : PResult (α × Bits)) : cls x = outcome (fun p => (p.2, p.1)) x := by
  rcases x with ⟨_, _⟩ | ⟨_ | _⟩ | _ <;> rfl

theorem bindP_assoc (x : PM α) (f : α → PM β) (g : β → PM γ) :
    bindP (bindP x f) g = bindP x fun v => bindP (f v) g := by
  rcases x with _ | _ | _ <;> rfl

theorem bindP_obind (o : Option α) (f : α → PM β) (g : β → PM γ) :
    bindP (o.bind f) g = o.bind fun v => bindP (f v) g := by
  cases o <;> rfl

theorem bindP_okP_id (x : PM (α × β)) :
    (bindP x fun p => match p with | (a, b) => okP (a, b)) = x := by
  rcases x with _ | _ | ⟨_, _⟩ <;> rfl

@[simp] theorem cls_ok {α : Type} (v : α) (r : Bits) : cls (PResult.ok (v, r)) = some (.ok (r, v)) := rfl
@[simp] theorem cls_err_t {α : Type} : cls (PResult.error true : PResult (α × Bits)) = some (.error .incomplete) := rfl
@[simp] theorem cls_err_f {α : Type} : cls (PResult.error false : PResult (α × Bits)) = some (.error .error) := rfl
@[simp] theorem cls_panic {α : Type} (s : String) : cls (PResult.panic s : PResult (α × Bits)) = none := rfl

theorem cls_eq_none {x : PResult (α × Bits)} (h : cls x = none) : ∃ s, x = .panic s := by
  rcases x with ⟨_, _⟩ | ⟨_ | _⟩ | s
  · exact nomatch h
  · exact nomatch h
  · exact nomatch h
  · exact ⟨s, rfl⟩

theorem cls_ne_none {x : PResult (α × Bits)} (h : ∀ s, x ≠ .panic s) : cls x ≠ none := fun hn =>
  let ⟨s, e⟩ := cls_eq_none hn
  h s e

@[simp] theorem bindP_none {α β : Type} (f : α → PM β) : bindP (none : PM α) f = none := rfl
@[simp] theorem bindP_err {α β : Type} (e : PErr) (f : α → PM β) : bindP (some (.error e) : PM α) f = some (.error e) := rfl
@[simp] theorem bindP_ok {α β : Type} (v : α) (f : α → PM β) : bindP (some (.ok v) : PM α) f = f v := rfl
@[simp] theorem bindP_okP {α β : Type} (v : α) (f : α → PM β) : bindP (okP v) f = f v := rfl
@[simp] theorem bindP_errP {α β : Type} (f : α → PM β) : bindP (errP : PM α) f = errP := rfl

/-- `let (i, v) = map(p, h)(i)?` -/
theorem mapP_some_bind (p : ι → PM (ι × α)) (h : α → β) (i : ι) :
    (bindP (mapP p (fun x => some (h x)) i) fun r => okP r) = bindP (p i) fun r => okP (r.1, h r.2) := by
  unfold mapP
  rcases p i with _ | _ | _ <;> rfl

theorem ite_mapP_bind (c : Prop) [Decidable c] (p : ι → PM (ι × α)) (h1 h2 : α → β) (i : ι)
    (K : ι × β → PM γ) :
    bindP (if c then bindP (mapP p (fun x => some (h1 x)) i) fun r => okP r
      else bindP (mapP p (fun x => some (h2 x)) i) fun r => okP r) K =
      bindP (p i) fun r => K (r.1, if c then h1 r.2 else h2 r.2) := by
  split <;> rw [mapP_some_bind, bindP_assoc] <;> rfl

theorem loopP_pure (f : σ → α → σ) (l : List α) : ∀ s : σ,
    (loopP l s fun x s => okP (f s x)) = okP (l.foldl f s) := by
  induction l with
  | nil => intro s; rfl
  | cons a l ih => intro s; exact ih (f s a)

theorem whileP_done {c : σ → Bool} {f : σ → PM σ} (n : Nat) (s : σ) (h : c s = false) : whileP c f n s = okP s := by
  cases n <;> simp [whileP, h]

theorem outcome_bindK {k : β → γ} {k1 : α → δ} {gx : PM δ} {x : PResult α} {g : δ → PM γ}
    {f : α → PResult β} (hx : gx = outcome k1 x) (h : ∀ v, x = .ok v → g (k1 v) = outcome k (f v)) :
    bindP gx g = outcome k (x >>= f) := by
  subst hx
  rcases x with v | ⟨_ | _⟩ | _
  · exact h v rfl
  all_goals rfl

theorem outcome_bind {k : β → γ} {gx : PM (List Bool × α)} {x : PResult (α × Bits)}
    {g : List Bool × α → PM γ} {f : α × Bits → PResult β}
    (hx : gx = cls x) (h : ∀ v r, g (r, v) = outcome k (f (v, r))) : bindP gx g = outcome k (x >>= f) :=
  outcome_bindK (hx.trans (cls_eq x)) fun p _ => h p.1 p.2

theorem noErr_bind {α β : Type} {x : PResult α} {f : α → PResult β} (hx : noErr x) (hf : ∀ v, noErr (f v)) :
    noErr (x >>= f) := by
  cases x with
  | ok v => exact hf v
  | error e => exact absurd rfl (hx e)
  | panic s => exact fun _ h => nomatch h

theorem noErr_ok {α : Type} (v : α) : noErr (PResult.ok v) := fun _ h => nomatch h
theorem noErr_panic {α : Type} (s : String) : noErr (PResult.panic s : PResult α) := fun _ h => nomatch h
theorem noErr_ite {α : Type} {c : Prop} [Decidable c] {a b : PResult α} (ha : noErr a) (hb : noErr b) :
    noErr (if c then a else b) := by
  split <;> assumption
theorem noErr_usub (s : String) (a b : Nat) : noErr (usub s a b) := noErr_ite (noErr_ok _) (noErr_panic _)
theorem noErr_ushl (w : Nat) (s : String) (a b : Nat) : noErr (ushl w s a b) := noErr_ite (noErr_ok _) (noErr_panic _)
theorem noErr_uadd (w : Nat) (s : String) (a b : Nat) : noErr (uadd w s a b) := noErr_ite (noErr_ok _) (noErr_panic _)
theorem noErr_umul (w : Nat) (s : String) (a b : Nat) : noErr (umul w s a b) := noErr_ite (noErr_ok _) (noErr_panic _)
theorem noErr_passert (c : Bool) (s : String) : noErr (passert c s) := noErr_ite (noErr_ok _) (noErr_panic _)

/-! ### steps that are not parsers, over any relation `T` between a generated and a mirror outcome

`T` is `fun g m => g = outcome k m` at bit level (`outcome_bindO`, `outcome_check`, `ite_eq_map`: `T` has to be written there,
an equation does not show it to the unifier) and `relB conv bs` at byte level (found from the goal). -/

/-- a step that is not a parser (arithmetic, assertion, constructor): it has no error outcome -/
theorem rel_bindO {T : PM γ → PResult β → Prop} {o : Option α} {x : PResult α} {g : α → PM γ} {f : α → PResult β}
    (hp : ∀ s, T none (.panic s)) (hx : o = clsO x) (hne : noErr x) (h : ∀ v, x = .ok v → T (g v) (f v)) :
    T (o.bind g) (x >>= f) := by
  subst hx
  rcases x with v | e | _
  · exact h v rfl
  · exact absurd rfl (hne e)
  · exact hp _

/-- a checked step: the dev profile of a prelude operation is `if c then some v else none`, the mirror's checked operation
`if c then .ok v else .panic s` with the same `c` and `v`; both sides unfold to this form -/
theorem rel_check {T : PM γ → PResult β → Prop} {c : Prop} [Decidable c] {v : α} {s : String} {g : α → PM γ}
    {f : α → PResult β} (hp : ∀ s, T none (.panic s)) (h : c → T (g v) (f v)) :
    T ((if c then some v else none).bind g) ((if c then PResult.ok v else .panic s) >>= f) := by
  by_cases hc : c
  · rw [if_pos hc, if_pos hc]; exact h hc
  · rw [if_neg hc, if_neg hc]; exact hp s

theorem rel_ite {T : β → α → Prop} {c' c : Prop} [Decidable c'] [Decidable c] {g g' : β} {m m' : α} (hc : c' ↔ c)
    (h1 : c → T g m) (h2 : ¬ c → T g' m') : T (if c' then g else g') (if c then m else m') := by
  by_cases h : c
  · rw [if_pos (hc.mpr h), if_pos h]; exact h1 h
  · rw [if_neg (fun h' => h (hc.mp h')), if_neg h]; exact h2 h

theorem outcome_bindO {k : β → γ} {o : Option α} {x : PResult α} {g : α → PM γ} {f : α → PResult β}
    (hx : o = clsO x) (hne : noErr x) (h : ∀ v, x = .ok v → g v = outcome k (f v)) : o.bind g = outcome k (x >>= f) :=
  rel_bindO (T := fun g m => g = outcome k m) (fun _ => rfl) hx hne h

theorem outcome_check {k : β → γ} {c : Prop} [Decidable c] {v : α} {s : String} {g : α → PM γ} {f : α → PResult β}
    (h : c → g v = outcome k (f v)) :
    (if c then some v else none).bind g = outcome k ((if c then PResult.ok v else .panic s) >>= f) :=
  rel_check (T := fun g m => g = outcome k m) (fun _ => rfl) h

theorem clsO_bind {o : Option α} {x : PResult α} {g : α → Option β} {f : α → PResult β}
    (hx : o = clsO x) (h : ∀ v, g v = clsO (f v)) : o.bind g = clsO (x >>= f) := by
  subst hx
  rcases x with v | _ | _
  · exact h v
  all_goals rfl

theorem ite_eq_map (T : α → β) {c' c : Prop} [Decidable c'] [Decidable c] (hc : c' ↔ c) {g g' : β}
    {m m' : α} (h1 : c → g = T m) (h2 : ¬ c → g' = T m') : (if c' then g else g') = T (if c then m else m') :=
  rel_ite (T := fun g m => g = T m) hc h1 h2

/-- a continuation that always returns, with value `k' v` under `k`, only changes how the value is translated -/
theorem outcome_bind_pure {k : β → γ} {k' : α → γ} {y : PResult α} {f : α → PResult β}
    (h : ∀ v, outcome k (f v) = some (.ok (k' v))) : outcome k' y = outcome k (y >>= f) := by
  rcases y with v | ⟨_ | _⟩ | _
  · exact (h v).symm
  all_goals rfl

/-- `heapless::Vec::<T, N>::try_from(slice)` -/
theorem outcome_fromSlice {k : β → γ} {cap : Nat} {xs : List α} {K : List α → PM γ} {m : PResult β}
    (h : K xs = outcome k m) :
    bindO (fromSliceH cap xs) K = outcome k (if xs.length > cap then .error false else m) := by
  unfold fromSliceH
  by_cases hl : xs.length ≤ cap
  · rw [if_pos hl, if_neg (Nat.not_lt.mpr hl)]; exact h
  · rw [if_neg hl, if_pos (Nat.not_le.mp hl)]; rfl

theorem altP_cls (p q : List Bool → PM (List Bool × α)) (p' q' : Bits → PResult (α × Bits)) (i : Bits)
    (hp : p i = cls (p' i)) (hq : q i = cls (q' i)) : altP p q i = cls (Repo.alt p' q' i) := by
  unfold altP Repo.alt
  rw [hp, hq]
  rcases p' i with ⟨_, _⟩ | ⟨_ | _⟩ | _ <;> rfl

theorem subU_eq (w : Nat) (s : String) (a b : Nat) : subU true w a b = clsO (usub s a b) := by
  unfold subU usub; split <;> rfl

theorem sumU_eq (w : Nat) (s : String) (xs : List Nat) : sumU true w xs = clsO (uadd w s (xs.foldl (· + ·) 0) 0) := by
  unfold uadd
  rw [Nat.add_zero]
  show (if _ then _ else _) = _
  split <;> rfl

/-- `x << n`: the dev profile checks the amount (`shAmt`), the mirror's `ushl` panics on the same test -/
theorem rel_shl {T : Option γ → PResult β → Prop} {w : Nat} {s : String} {a n : Nat} {g : Nat → Option γ} {f : Nat → PResult β}
    (hp : ∀ s, T none (.panic s)) (h : n < w → T (g n) (f (shlU w a n))) : T ((shAmt true w n).bind g) (ushl w s a n >>= f) := by
  unfold shAmt ushl
  split
  · exact h ‹_›
  · exact hp _

theorem clsO_shl {w : Nat} {s : String} {a n : Nat} {g : Nat → Option β} {f : Nat → PResult β}
    (h : g n = clsO (f (shlU w a n))) : (shAmt true w n).bind g = clsO (ushl w s a n >>= f) :=
  rel_shl (T := fun o m => o = clsO m) (fun _ => rfl) fun _ => h

theorem outcome_shl {k : β → γ} {w : Nat} {s : String} {a n : Nat} {g : Nat → PM γ} {f : Nat → PResult β}
    (h : n < w → g n = outcome k (f (shlU w a n))) : (shAmt true w n).bind g = outcome k (ushl w s a n >>= f) :=
  rel_shl (T := fun g m => g = outcome k m) (fun _ => rfl) h

/-! ### byte level

`relB`: same class; for `Ok` the rest is the same suffix `bs.drop k` of the input and the values agree through `conv`
(generated component -> hand-model component).  `IsBytes bs` is asked only where a byte value is read (`relB_byteTake`). -/

def relB {α β : Type} (conv : β → α) (bs : List Nat) (g : PM (List Nat × β)) (m : PResult (α × Bits)) : Prop :=
  match m with
  | .ok (v, rb) => ∃ k gv, k ≤ bs.length ∧ g = some (.ok (bs.drop k, gv)) ∧ conv gv = v ∧ rb = bytesToBits (bs.drop k)
  | .error true => g = some (.error .incomplete)
  | .error false => g = some (.error .error)
  | .panic _ => g = none

def IsBytes (bs : List Nat) : Prop := ∀ b ∈ bs, b < 256

theorem IsBytes.drop {bs : List Nat} (h : IsBytes bs) (k : Nat) : IsBytes (bs.drop k) :=
  fun b hb => h b (List.mem_of_mem_drop hb)

theorem IsBytes.take {bs : List Nat} (h : IsBytes bs) (k : Nat) : IsBytes (bs.take k) :=
  fun b hb => h b (List.mem_of_mem_take hb)

theorem bits_split (bs : List Nat) (n : Nat) :
    bytesToBits bs = bytesToBits (bs.take n) ++ bytesToBits (bs.drop n) := by
  rw [← Repo.bytesToBits_append, List.take_append_drop]

theorem relB_elim {g : PM (List Nat × β)} {m : PResult (α × Bits)}
    (h : relB conv bs g m) :
    (∃ k gv, k ≤ bs.length ∧ g = some (.ok (bs.drop k, gv)) ∧ m = .ok (conv gv, bytesToBits (bs.drop k))) ∨
    (g = some (.error .incomplete) ∧ m = .error true) ∨ (g = some (.error .error) ∧ m = .error false) ∨
    (g = none ∧ ∃ s, m = .panic s) := by
  rcases m with ⟨v, rb⟩ | ⟨_ | _⟩ | s
  · obtain ⟨k, gv, h1, h2, h3, h4⟩ := h
    exact Or.inl ⟨k, gv, h1, h2, by rw [h3, h4]⟩
  · exact Or.inr (Or.inr (Or.inl ⟨h, rfl⟩))
  · exact Or.inr (Or.inl ⟨h, rfl⟩)
  · exact Or.inr (Or.inr (Or.inr ⟨h, s, rfl⟩))

theorem relB_ne_none {g : PM (List Nat × β)} {m : PResult (α × Bits)}
    (h : relB conv bs g m) (hm : ∀ s, m ≠ .panic s) : g ≠ none := by
  rcases relB_elim h with ⟨k, gv, _, e, _⟩ | ⟨e, _⟩ | ⟨e, _⟩ | ⟨_, s, e⟩
  · rw [e]; simp
  · rw [e]; simp
  · rw [e]; simp
  · exact absurd e (hm s)

theorem relB_pure {k : Nat} (hk : k ≤ bs.length) {gv : β} {v : α}
    (h : conv gv = v) : relB conv bs (okP (bs.drop k, gv)) (pure (v, bytesToBits (bs.drop k))) :=
  ⟨k, gv, hk, rfl, h, rfl⟩

theorem relB_shift {k : Nat} (hk : k ≤ bs.length)
    {g : PM (List Nat × β)} {m : PResult (α × Bits)} (h : relB conv (bs.drop k) g m) : relB conv bs g m := by
  rcases m with ⟨v, rb⟩ | ⟨_ | _⟩ | s
  · obtain ⟨k2, gv, h1, h2, h3, h4⟩ := h
    rw [List.length_drop] at h1
    exact ⟨k + k2, gv, by omega, by rw [h2, List.drop_drop], h3, by rw [h4, List.drop_drop]⟩
  all_goals exact h

/-- a byte-level step in front of a continuation; the relation `T` of the result only has to hold of the three failure
classes (`relB` itself, or one of the outcome relations of the stream level) -/
theorem relB_bindT {T : PM γ → PResult α' → Prop} {g : PM (List Nat × β)} {m : PResult (α × Bits)}
    {Kg : List Nat × β → PM γ} {Km : α × Bits → PResult α'} (hp : ∀ s, T none (.panic s))
    (hi : T (some (.error .incomplete)) (.error true)) (he : T (some (.error .error)) (.error false))
    (h : relB conv bs g m)
    (hK : ∀ k gv, k ≤ bs.length → m = .ok (conv gv, bytesToBits (bs.drop k)) →
      T (Kg (bs.drop k, gv)) (Km (conv gv, bytesToBits (bs.drop k)))) :
    T (bindP g Kg) (m >>= Km) := by
  rcases relB_elim h with ⟨k, gv, hk, e1, e2⟩ | ⟨e1, e2⟩ | ⟨e1, e2⟩ | ⟨e1, s, e2⟩
  · rw [e1, e2]; exact hK k gv hk e2
  · rw [e1, e2]; exact hi
  · rw [e1, e2]; exact he
  · rw [e1, e2]; exact hp s

theorem relB_bind {conv' : β' → α'} {g : PM (List Nat × β)}
    {m : PResult (α × Bits)} {Kg : List Nat × β → PM (List Nat × β')} {Km : α × Bits → PResult (α' × Bits)}
    (h : relB conv bs g m)
    (hK : ∀ k gv, k ≤ bs.length → m = .ok (conv gv, bytesToBits (bs.drop k)) →
      relB conv' bs (Kg (bs.drop k, gv)) (Km (conv gv, bytesToBits (bs.drop k)))) :
    relB conv' bs (bindP g Kg) (m >>= Km) :=
  relB_bindT (fun _ => rfl) rfl rfl h hK

/-- a check that only the mirror spells out as an `if`: the generated code fails it further inside -/
theorem relB_guardM {c : Prop} [Decidable c] {g : PM (List Nat × β)}
    {m : PResult (α × Bits)} (hg : c → g = errP) (h : ¬ c → relB conv bs g m) :
    relB conv bs g (if c then .error false else m) := by
  by_cases hc : c
  · rw [if_pos hc, hg hc]; rfl
  · rw [if_neg hc]; exact h hc

theorem relB_beU (n : Nat) (bs : List Nat) : relB id bs (beU n bs) (beUint n (bytesToBits bs)) := by
  unfold beU beUint
  by_cases hn : n ≤ bs.length
  · rw [if_neg (Nat.not_lt.mpr hn), if_neg (by rw [Repo.bytesToBits_length]; omega)]
    exact ⟨n, _, hn, rfl, congrArg bitsToNat (take_bytesToBits bs n).symm, drop_bytesToBits bs n⟩
  · rw [if_pos (Nat.not_le.mp hn), if_pos (by rw [Repo.bytesToBits_length]; omega)]
    rfl

theorem relB_byteTake (n : Nat) (bs : List Nat) (hb : IsBytes bs) :
    relB id bs (Gen.Parser.byteTake n bs) (Repo.byteTake n (bytesToBits bs)) := by
  by_cases hn : n ≤ bs.length
  · have h := Repo.byteTake_bytesToBits (bs.take n) (bytesToBits (bs.drop n)) (hb.take n)
    rw [List.length_take, Nat.min_eq_left hn, ← bits_split] at h
    rw [h]
    exact ⟨n, _, hn, if_neg (Nat.not_lt.mpr hn), rfl, rfl⟩
  · unfold Gen.Parser.byteTake Repo.byteTake
    rw [if_pos (Nat.not_le.mp hn), if_pos (by rw [Repo.bytesToBits_length]; omega)]
    rfl

/-- the end of `bits(..)`: the generated code resumes at the byte after the last one touched, the mirror drops the rest
of the current byte -/
theorem Suffix.align {bs : List Nat} {r : Bits} (h : Suffix (bytesToBits bs) r) :
    ∃ k, k ≤ bs.length ∧ bs.length - r.length / 8 = k ∧ alignByte r = bytesToBits (bs.drop k) := by
  obtain ⟨m, hm, rfl⟩ := h
  refine ⟨_, Nat.sub_le _ _, rfl, ?_⟩
  rw [Repo.bytesToBits_length] at hm
  unfold alignByte
  rw [List.drop_drop, List.length_drop, Repo.bytesToBits_length, ← drop_bytesToBits]
  congr 1
  omega

theorem bitsP_bind (p : List Bool → PM (List Bool × α)) (bs : List Nat) (K : List Nat × α → PM β) :
    bindP (bitsP p bs) K = bindP (p (bytesToBits bs)) fun r => K (bs.drop (bs.length - r.1.length / 8), r.2) :=
  bindP_assoc _ _ _

/-- a bit-level step inside a byte-level parser whose continuation `g` is byte-level already (the block is this one step, or
it is its last); `I` is the input of the bit-level block -/
theorem relB_bits_end {I i : Bits} (hi : Suffix I i)
    {gx : PM (List Bool × γ)} {x : PResult (γ × Bits)} (hx : gx = cls x) (hs : Suf i x)
    {g : List Bool × γ → PM (List Nat × β)} {f : γ × Bits → PResult (α × Bits)}
    (h : ∀ v r, x = .ok (v, r) → Suffix I r → relB conv bs (g (r, v)) (f (v, r))) :
    relB conv bs (bindP gx g) (x >>= f) := by
  subst hx
  rcases x with ⟨v, r⟩ | ⟨_ | _⟩ | _
  · exact h v r rfl (hi.trans (hs v r rfl))
  all_goals rfl

/-- a bit-level step inside the block: the rest `g` of the block and what follows the block, `C`, are separate continuations -/
theorem relB_bits {I i : Bits} (hi : Suffix I i)
    {gx : PM (List Bool × γ)} {x : PResult (γ × Bits)} (hx : gx = cls x) (hs : Suf i x)
    {g : List Bool × γ → PM δ} {C : δ → PM (List Nat × β)} {f : γ × Bits → PResult (α × Bits)}
    (h : ∀ v r, x = .ok (v, r) → Suffix I r → relB conv bs (bindP (g (r, v)) C) (f (v, r))) :
    relB conv bs (bindP (bindP gx g) C) (x >>= f) := by
  rw [bindP_assoc]
  exact relB_bits_end hi hx hs h

end FlacVerif.C16Gen
