/-
`Repo.DResult` (outcome of the decoder mirror: a value or a panic site) obeys the monad laws, so that core's lemmas about
`List.mapM` and `do` blocks in a lawful monad apply to it; `mapM_ok` is the pointwise way to show what a `mapM` returns.
-/
import FlacVerif.Model.RepoParser
namespace FlacVerif.Repo

instance : LawfulMonad DResult := LawfulMonad.mk'
  (id_map := fun x => by cases x <;> rfl)
  (pure_bind := fun _ _ => rfl)
  (bind_assoc := fun x _ _ => by cases x <;> rfl)

theorem mapM_ok {α β : Type} (f : α → DResult β) (l : List α) (r : List β) (hl : l.length = r.length)
    (h : ∀ i (h1 : i < l.length) (h2 : i < r.length), f l[i] = .ok r[i]) : l.mapM f = .ok r := by
  induction l generalizing r with
  | nil => cases r with
    | nil => rfl
    | cons _ _ => cases hl
  | cons a as ih => cases r with
    | nil => cases hl
    | cons b bs =>
      have h0 : f a = .ok b := h 0 (Nat.zero_lt_succ _) (Nat.zero_lt_succ _)
      rw [List.mapM_cons, h0, ih bs (Nat.succ.inj hl) fun i h1 h2 => h (i + 1) (Nat.succ_lt_succ h1) (Nat.succ_lt_succ h2)]
      rfl

end FlacVerif.Repo
