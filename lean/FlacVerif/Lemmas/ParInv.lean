/-
Every reachable state of the protocol model satisfies the four invariants: one induction over `Reaches`
(`InvNum` is preserved given `InvTok`, `InvMd5` given `InvC` and that no block is empty).
-/
import FlacVerif.Lemmas.ParInvNum
import FlacVerif.Lemmas.ParInvMd5
namespace FlacVerif.Par

theorem InvAll_of_reaches {p : Params} {s : State} (h : Reaches p s) :
    InvC p s ∧ InvTok p s ∧ InvNum p s ∧ (p.NonemptyBlocks → InvMd5 p s) := by
  induction h with
  | init => exact ⟨InvC.init p, InvTok.init p, InvNum.init p, fun _ => InvMd5.init p⟩
  | step _ hstep ih =>
    have hs := Step_of_step hstep
    obtain ⟨hC, hT, hN, hM⟩ := ih
    exact ⟨hC.step hs, hT.step hs, hN.step hT hs, fun hne => (hM hne).step hne hC hs⟩

end FlacVerif.Par
