/-
Safety (no-panic) calculus for the parser mirror `FlacVerif/Model/RepoParser.lean` and the
per-function safety lemmas used by C16.  `Sat r P` = "`r` is not a panic, and if it is `ok v` then
`P v`" (a partial-correctness triple with the error outcome allowed).  Where a function has an exact
value under the same hypotheses (the checked arithmetic, `u_to_i`, `FrameHeader::block_size`), the
`Sat` statement follows from that equation, which stands in `Lemmas/RepoPrim` (the round trip uses it too).
-/
import FlacVerif.Model.RepoParser
import FlacVerif.Lemmas.RepoPrim
import FlacVerif.Lemmas.HeaderCodes
namespace FlacVerif.Repo
open PResult

def PResult.Sat {α : Type} (r : PResult α) (P : α → Prop) : Prop :=
  match r with
  | .ok v => P v
  | .error _ => True
  | .panic _ => False

namespace PResult

theorem Sat.noPanic {α : Type} {r : PResult α} {P : α → Prop} (h : r.Sat P) : ∀ s, r ≠ .panic s := by
  intro s hs; subst hs; exact h

theorem Sat.post {α : Type} {r : PResult α} {P : α → Prop} (h : r.Sat P) {v : α} (e : r = .ok v) : P v := by
  subst e; exact h

theorem sat_of_noPanic {α : Type} {r : PResult α} (h : ∀ s, r ≠ .panic s) : r.Sat (fun _ => True) := by
  cases r with
  | ok v => trivial
  | error b => trivial
  | panic s => exact absurd rfl (h s)

@[simp] theorem sat_ok {α : Type} (v : α) (P : α → Prop) : (PResult.ok v).Sat P ↔ P v := Iff.rfl
@[simp] theorem sat_error {α : Type} (b : Bool) (P : α → Prop) : (PResult.error b : PResult α).Sat P ↔ True := Iff.rfl
@[simp] theorem sat_panic {α : Type} (s : String) (P : α → Prop) : (PResult.panic s : PResult α).Sat P ↔ False := Iff.rfl
@[simp] theorem sat_pure {α : Type} (v : α) (P : α → Prop) : (pure v : PResult α).Sat P ↔ P v := Iff.rfl

theorem Sat.mono {α : Type} {r : PResult α} {P Q : α → Prop} (h : r.Sat P) (hpq : ∀ v, P v → Q v) : r.Sat Q := by
  cases r with
  | ok v => exact hpq v h
  | error b => trivial
  | panic s => exact h

theorem Sat.bind {α β : Type} {x : PResult α} {f : α → PResult β} {P : α → Prop} {Q : β → Prop}
    (hx : x.Sat P) (hf : ∀ v, P v → (f v).Sat Q) : (x >>= f).Sat Q := by
  cases x with
  | ok v => exact hf v hx
  | error b => trivial
  | panic s => exact hx

theorem Sat.and {α : Type} {r : PResult α} {P Q : α → Prop} (h1 : r.Sat P) (h2 : r.Sat Q) :
    r.Sat (fun v => P v ∧ Q v) := by
  cases r with
  | ok v => exact ⟨h1, h2⟩
  | error b => trivial
  | panic s => exact h1

theorem Sat.ite {α : Type} {c : Prop} [Decidable c] {t e : PResult α} {P : α → Prop}
    (ht : c → t.Sat P) (he : ¬ c → e.Sat P) : (if c then t else e).Sat P := by
  split
  · exact ht ‹c›
  · exact he ‹¬ c›

theorem Sat.guard {α : Type} {c : Prop} [Decidable c] {b : Bool} {e : PResult α} {P : α → Prop}
    (he : ¬ c → e.Sat P) : (if c then .error b else e).Sat P :=
  Sat.ite (fun _ => trivial) he

end PResult

theorem uadd_sat (w : Nat) (site : String) (a b : Nat) (h : a + b < 2 ^ w) :
    (uadd w site a b).Sat (fun v => v = a + b) := by
  rw [uadd_ok w site a b h]; rfl

theorem usub_sat (site : String) (a b : Nat) (h : b ≤ a) : (usub site a b).Sat (fun v => v = a - b) := by
  rw [usub_ok site a b h]; rfl

theorem umul_sat (w : Nat) (site : String) (a b : Nat) (h : a * b < 2 ^ w) :
    (umul w site a b).Sat (fun v => v = a * b) := by
  rw [umul_ok w site a b h]; rfl

theorem ushl_one_sat (w : Nat) (site : String) (k : Nat) (h : k < w) :
    (ushl w site 1 k).Sat (fun v => v = 2 ^ k) := by
  rw [ushl_one_ok w site k h]; rfl

theorem passert_sat (c : Bool) (site : String) (h : c = true) : (passert c site).Sat (fun _ => True) := by
  rw [passert_ok c site h]; trivial

theorem takeBits_sat (w c : Nat) (i : Bits) (h : c ≤ w) : (takeBits w c i).Sat (fun r => r.1 < 2 ^ c) := by
  unfold takeBits
  refine Sat.ite (fun _ => Nat.two_pow_pos c) fun _ => Sat.guard fun _ => ?_
  rw [if_neg (Nat.not_lt.mpr h)]
  exact bitsToNat_take_lt c i

theorem tagBits_sat (w p c : Nat) (i : Bits) (h : c ≤ w) : (tagBits w p c i).Sat (fun r => r.1 < 2 ^ c) := by
  have hv := takeBits_sat w c i h
  unfold tagBits
  generalize takeBits w c i = r at hv
  rcases r with ⟨v, r⟩ | b | s
  · exact Sat.ite (fun _ => hv) (fun _ => trivial)
  · trivial
  · exact hv

theorem beUint_sat (n : Nat) (i : Bits) : (beUint n i).Sat (fun r => r.1 < 2 ^ (8 * n)) := by
  unfold beUint
  exact Sat.guard fun _ => bitsToNat_take_lt (8 * n) i

theorem byteTake_sat (n : Nat) (i : Bits) :
    (byteTake n i).Sat (fun r => r.1.length = n ∧ ∀ b ∈ r.1, b < 256) := by
  unfold byteTake
  exact Sat.guard fun _ => ⟨bitsToBytes_length n i, bitsToBytes_lt n i⟩

theorem uToI_sat (x bits : Nat) (h1 : 1 ≤ bits) (h2 : bits ≤ 30) (hx : x < 2 ^ bits) :
    (uToI x bits).Sat (fun r => -(2 ^ (bits - 1) : Int) ≤ r ∧ r < (2 ^ (bits - 1) : Int)) := by
  rw [uToI_eq x bits h1 h2 hx]
  obtain ⟨b, rfl⟩ : ∃ b, bits = b + 1 := ⟨bits - 1, by omega⟩
  rw [Nat.pow_succ] at hx
  simp only [sat_ok, Nat.add_sub_cancel, two_pow_cast b, two_pow_cast (b + 1), Nat.pow_succ]
  split <;> omega

theorem rawSamplesLoop_sat (bps : Nat) (h1 : 1 ≤ bps) (h2 : bps ≤ 30) (n : Nat) (i : Bits) :
    (rawSamplesLoop bps n i).Sat (fun r => r.1.length = n) := by
  induction n generalizing i with
  | zero => exact rfl
  | succ n ih =>
    unfold rawSamplesLoop
    refine Sat.bind (takeBits_sat 32 bps i (by omega)) ?_
    rintro ⟨u, i1⟩ hu
    refine Sat.bind (uToI_sat u bps h1 h2 hu) fun x _ => ?_
    refine Sat.bind (ih i1) ?_
    rintro ⟨xs, i2⟩ hl
    exact congrArg (· + 1) hl

theorem rawSamples_sat (bps size : Nat) (h1 : 1 ≤ bps) (h2 : bps ≤ 25) (i : Bits) :
    (rawSamples bps size i).Sat (fun r => r.1.length = size) :=
  Sat.bind (passert_sat _ _ (decide_eq_true (by omega))) fun _ _ => rawSamplesLoop_sat bps h1 (by omega) size i

theorem unaryCode_sat (i : Bits) : (unaryCode i).Sat (fun _ => True) := by
  induction i with
  | nil => trivial
  | cons b r ih =>
    cases b with
    | true => trivial
    | false =>
      unfold unaryCode
      generalize unaryCode r = u at ih
      rcases u with ⟨q, r'⟩ | e | s
      · trivial
      · trivial
      · exact ih

theorem residualSamples_sat (p warmup : Nat) (hp : p ≤ 32) (n t : Nat) (i : Bits) :
    (residualSamples p warmup n t i).Sat (fun r => r.1.1.length = n ∧ ∀ q ∈ r.1.1, q < 2 ^ 32) := by
  induction n generalizing t i with
  | zero => exact ⟨rfl, fun _ hq => nomatch hq⟩
  | succ n ih =>
    unfold residualSamples
    refine Sat.ite (fun _ => ?_) (fun _ => ?_)
    · refine Sat.bind (ih (t + 1) i) ?_
      rintro ⟨⟨qs, rs⟩, i1⟩ ⟨h1, h3⟩
      exact ⟨congrArg (· + 1) h1, List.forall_mem_cons.mpr ⟨Nat.two_pow_pos 32, h3⟩⟩
    · refine Sat.bind (unaryCode_sat i) ?_
      rintro ⟨q, i1⟩ _
      refine Sat.bind (takeBits_sat 32 p i1 hp) ?_
      rintro ⟨r, i2⟩ _
      refine Sat.bind (ih (t + 1) i2) ?_
      rintro ⟨⟨qs, rs⟩, i3⟩ ⟨h1, h3⟩
      exact ⟨congrArg (· + 1) h1, List.forall_mem_cons.mpr ⟨Nat.mod_lt _ (Nat.two_pow_pos 32), h3⟩⟩

theorem residualParts_sat (pBits plen warmup : Nat) (hpb : pBits ≤ 5) (hplen : plen < 2 ^ 32)
    (n part : Nat) (hn : n + part ≤ 2 ^ 16) (i : Bits) :
    (residualParts pBits plen warmup n part i).Sat
      (fun r => r.1.1.length = n ∧ (∀ p ∈ r.1.1, p < 32) ∧ r.1.2.1.length = n * plen ∧
        ∀ q ∈ r.1.2.1, q < 2 ^ 32) := by
  induction n generalizing part i with
  | zero => exact ⟨rfl, (fun _ h => nomatch h), (Nat.zero_mul plen).symm, (fun _ h => nomatch h)⟩
  | succ n ih =>
    unfold residualParts
    refine Sat.bind (takeBits_sat 8 pBits i (by omega)) ?_
    rintro ⟨p, i1⟩ hp
    have hp32 : p < 32 := Nat.lt_of_lt_of_le hp (Nat.pow_le_pow_right (by decide) hpb)
    -- both products are below `2^32 * 2^16`
    have hb : plen * (part + 1) < 2 ^ 64 :=
      Nat.lt_of_le_of_lt (Nat.mul_le_mul (Nat.le_of_lt hplen) (by omega : part + 1 ≤ 2 ^ 16)) (by decide)
    refine Sat.bind (umul_sat 64 _ plen part (Nat.lt_of_le_of_lt (Nat.mul_le_mul_left plen (Nat.le_succ part)) hb)) ?_
    rintro _ rfl
    refine Sat.bind (umul_sat 64 _ plen (part + 1) hb) ?_
    rintro _ rfl
    rw [Nat.mul_succ, Nat.add_sub_cancel_left]
    refine Sat.bind (residualSamples_sat p warmup (by omega) plen (plen * part) i1) ?_
    rintro ⟨⟨qs, rs⟩, i2⟩ ⟨h1, h3⟩
    refine Sat.bind (ih (part + 1) (by omega) i2) ?_
    rintro ⟨⟨ps, qs', rs'⟩, i3⟩ ⟨g1, g2, g3, g4⟩
    refine ⟨congrArg (· + 1) g1, List.forall_mem_cons.mpr ⟨hp32, g2⟩, ?_, List.forall_mem_append.mpr ⟨h3, g4⟩⟩
    show (qs ++ qs').length = (n + 1) * plen
    rw [List.length_append, h1, g3, Nat.succ_mul, Nat.add_comm]

theorem residual_sat (blockSize warmup : Nat) (hbs : blockSize < 2 ^ 32) (i : Bits) :
    (residual blockSize warmup i).Sat (fun _ => True) := by
  unfold residual
  refine Sat.bind (takeBits_sat 8 2 i (by decide)) ?_
  rintro ⟨method, i1⟩ _
  refine Sat.bind (P := fun pb => pb ≤ 5) ?_ ?_
  · exact Sat.ite (fun _ => (by decide : 4 ≤ 5)) fun _ => Sat.ite (fun _ => Nat.le_refl 5) fun _ => trivial
  intro pBits hpb
  refine Sat.bind (takeBits_sat 8 4 i1 (by decide)) ?_
  rintro ⟨order, i2⟩ (horder : order < 2 ^ 4)
  refine Sat.bind (ushl_one_sat 64 _ order (by omega)) ?_
  rintro _ rfl
  have hpow : (2 : Nat) ^ order ≤ 2 ^ 15 := Nat.pow_le_pow_right (by decide) (by omega)
  rw [if_neg (Nat.ne_of_gt (Nat.two_pow_pos order))]
  have hplen : blockSize / 2 ^ order < 2 ^ 32 := Nat.lt_of_le_of_lt (Nat.div_le_self _ _) hbs
  refine Sat.bind (residualParts_sat pBits _ warmup hpb hplen (2 ^ order) 0 (by omega) i2) ?_
  rintro ⟨⟨ps, qs, rs⟩, i3⟩ ⟨(g1 : ps.length = 2 ^ order), g2, (g3 : qs.length = _), g4⟩
  refine Sat.bind (passert_sat _ _ (decide_eq_true g1)) fun _ _ => ?_
  obtain ⟨hmul, hsumq, hsump⟩ := fromParts_bounds ps qs blockSize hbs g4
    (by rw [g3, Nat.mul_comm]; exact Nat.div_mul_le_self blockSize _) g2 (by omega)
  refine Sat.bind (umul_sat 64 _ _ _ hmul) fun _ _ => ?_
  refine Sat.bind (P := fun _ => True) ?_ fun _ _ => ?_
  · exact Sat.ite (fun _ => trivial) fun _ => (uadd_sat 64 _ _ 0 hsumq).mono fun _ _ => trivial
  exact Sat.bind ((uadd_sat 64 _ _ 0 hsump).mono fun _ _ => trivial) fun _ _ => trivial

theorem subframeHeader_sat (i : Bits) : (subframeHeader i).Sat (fun r => r.1 < 128) := by
  unfold subframeHeader
  refine Sat.bind (takeBits_sat 8 7 i (by decide)) ?_
  rintro ⟨typetag, i1⟩ ht
  refine Sat.bind (takeBits_sat 8 1 i1 (by decide)) ?_
  rintro ⟨wasted, i2⟩ _
  exact Sat.guard fun _ => ht

theorem constant_sat (blockSize bps : Nat) (h1 : 1 ≤ bps) (h2 : bps ≤ 25) (i : Bits) :
    (constant blockSize bps i).Sat (fun _ => True) := by
  unfold constant
  refine Sat.bind (subframeHeader_sat i) ?_
  rintro ⟨typetag, i1⟩ _
  refine Sat.guard fun _ => ?_
  refine Sat.bind (takeBits_sat 32 bps i1 (by omega)) ?_
  rintro ⟨u, i2⟩ hu
  exact Sat.bind (uToI_sat u bps h1 (by omega) hu) fun _ _ => trivial

theorem quantizedNew_sat (coefs : List Int) (order : Nat) (shift : Int) (precision : Nat) :
    (quantizedNew coefs order shift precision).Sat (fun _ => True) := by
  unfold quantizedNew
  refine Sat.ite (fun _ => trivial) fun h24 => Sat.ite (fun _ => trivial) fun hl => ?_
  refine Sat.bind (passert_sat _ _ (decide_eq_true (Decidable.not_not.mp hl))) fun _ _ => ?_
  refine Sat.bind (passert_sat _ _ (decide_eq_true (by omega))) fun _ _ => ?_
  refine Sat.ite (fun _ => trivial) fun _ => Sat.ite (fun _ => trivial) fun _ => Sat.ite (fun _ => trivial) fun hp => ?_
  refine Sat.bind (usub_sat _ precision 1 (by omega)) ?_
  rintro _ rfl
  refine Sat.bind (ushl_one_sat 32 _ (precision - 1) (by omega)) ?_
  rintro _ rfl
  have : (2 : Nat) ^ (precision - 1) ≤ 2 ^ 14 := Nat.pow_le_pow_right (by decide) (by omega)
  rw [if_neg (by omega)]
  exact Sat.ite (fun _ => trivial) (fun _ => trivial)

theorem quantizedParameters_sat (order : Nat) (i : Bits) :
    (quantizedParameters order i).Sat (fun _ => True) := by
  unfold quantizedParameters
  refine Sat.bind (takeBits_sat 8 4 i (by decide)) ?_
  rintro ⟨p, i1⟩ (hp : p < 2 ^ 4)
  refine Sat.bind (uadd_sat 64 _ p 1 (by omega)) ?_
  rintro _ rfl
  refine Sat.bind (takeBits_sat 8 5 i1 (by decide)) ?_
  rintro ⟨x, i2⟩ hx
  refine Sat.bind (uToI_sat x 5 (by decide) (by decide) hx) fun s _ => ?_
  refine Sat.bind (rawSamples_sat (p + 1) order (by omega) (by omega) i2) ?_
  rintro ⟨coefs, i3⟩ _
  refine Sat.bind (quantizedNew_sat _ _ _ _) fun r _ => ?_
  cases r <;> trivial

theorem fixedLpc_sat (blockSize bps : Nat) (hbs : blockSize < 2 ^ 32) (h1 : 1 ≤ bps) (h2 : bps ≤ 25) (i : Bits) :
    (fixedLpc blockSize bps i).Sat (fun _ => True) := by
  unfold fixedLpc
  refine Sat.bind (subframeHeader_sat i) ?_
  rintro ⟨typetag, i1⟩ _
  refine Sat.guard fun ht => ?_
  refine Sat.bind (usub_sat _ typetag 8 (by omega)) fun order _ => ?_
  refine Sat.bind (rawSamples_sat bps order h1 h2 i1) ?_
  rintro ⟨warm, i2⟩ _
  refine Sat.guard fun _ => ?_
  exact Sat.bind (residual_sat blockSize order hbs i2) fun _ _ => trivial

theorem lpc_sat (blockSize bps : Nat) (hbs : blockSize < 2 ^ 32) (h1 : 1 ≤ bps) (h2 : bps ≤ 25) (i : Bits) :
    (lpc blockSize bps i).Sat (fun _ => True) := by
  unfold lpc
  refine Sat.bind (subframeHeader_sat i) ?_
  rintro ⟨typetag, i1⟩ (ht : typetag < 128)
  refine Sat.guard fun htt => ?_
  refine Sat.bind (usub_sat _ typetag 0x20 (by omega)) ?_
  rintro _ rfl
  refine Sat.bind (uadd_sat 64 _ (typetag - 0x20) 1 (by omega)) fun order _ => ?_
  refine Sat.bind (rawSamples_sat bps order h1 h2 i1) ?_
  rintro ⟨warm, i2⟩ (hwl : warm.length = order)
  refine Sat.guard fun _ => ?_
  refine Sat.bind (quantizedParameters_sat order i2) ?_
  rintro ⟨⟨coefs, shift, precision⟩, i3⟩ _
  refine Sat.bind (residual_sat blockSize order hbs i3) ?_
  rintro ⟨res, i4⟩ _
  exact Sat.bind (passert_sat _ _ (decide_eq_true hwl)) fun _ _ => trivial

theorem verbatim_sat (blockSize bps : Nat) (h1 : 1 ≤ bps) (h2 : bps ≤ 25) (i : Bits) :
    (verbatim blockSize bps i).Sat (fun _ => True) := by
  unfold verbatim
  refine Sat.bind (subframeHeader_sat i) ?_
  rintro ⟨typetag, i1⟩ _
  refine Sat.guard fun _ => ?_
  exact Sat.bind (rawSamples_sat bps blockSize h1 h2 i1) fun _ _ => trivial

theorem alt_sat {α : Type} {p q : Bits → PResult α} {i : Bits} {P : α → Prop}
    (hp : (p i).Sat P) (hq : (q i).Sat P) : (alt p q i).Sat P := by
  unfold alt
  generalize p i = r at hp
  rcases r with v | (_ | _) | s
  · exact hp
  · exact hq
  · trivial
  · exact hp

theorem subframe_sat (blockSize bps : Nat) (hbs : blockSize < 2 ^ 32) (h1 : 1 ≤ bps) (h2 : bps ≤ 25) (i : Bits) :
    (subframe blockSize bps i).Sat (fun _ => True) := by
  rw [subframe_asserts blockSize bps h2]
  exact alt_sat (constant_sat blockSize bps h1 h2 i) (alt_sat (fixedLpc_sat blockSize bps hbs h1 h2 i)
    (alt_sat (lpc_sat blockSize bps hbs h1 h2 i) (verbatim_sat blockSize bps h1 h2 i)))

theorem utf8Code_sat (i : Bits) : (utf8Code i).Sat (fun _ => True) := by
  unfold utf8Code
  refine Sat.bind (byteTake_sat 1 i) ?_
  rintro ⟨hd, i1⟩ ⟨(hl : hd.length = 1), _⟩
  refine Sat.bind (P := fun _ => True) ?_ fun head _ => ?_
  · match hd, hl with
    | [b], _ => trivial
  dsimp only
  split
  · trivial
  · refine Sat.bind (byteTake_sat _ i1) ?_
    rintro ⟨tail, i2⟩ _
    trivial

theorem blockSizeCode_sat (tag : Nat) (ht : tag < 16) (i : Bits) :
    (blockSizeCode tag i).Sat (fun r => SpecOk r.1) := by
  unfold blockSizeCode
  refine Sat.ite (fun _ => trivial) fun _ => Sat.ite (fun h => ?_) fun _ => Sat.ite (fun _ => ?_) fun _ =>
    Sat.ite (fun _ => ?_) fun _ => Sat.ite (fun h => ?_) fun _ => trivial
  · refine Sat.bind (usub_sat _ tag 2 h.1) ?_
    rintro _ rfl
    show tag - 2 ≤ 3
    omega
  · refine Sat.bind (beUint_sat 1 i) ?_
    rintro ⟨x, i1⟩ hx
    exact hx
  · refine Sat.bind (beUint_sat 2 i) ?_
    rintro ⟨x, i1⟩ hx
    exact hx
  · refine Sat.bind (usub_sat _ tag 8 h.1) ?_
    rintro _ rfl
    show tag - 8 ≤ 7
    omega

theorem sampleRateCode_sat (tag : Nat) (i : Bits) : (sampleRateCode tag i).Sat (fun _ => True) := by
  unfold sampleRateCode
  refine Sat.guard fun _ => Sat.ite (fun _ => ?_) fun _ => Sat.ite (fun _ => ?_) fun _ =>
    Sat.ite (fun _ => ?_) fun _ => Sat.ite (fun _ => trivial) fun _ => trivial
  · exact Sat.bind (beUint_sat 1 i) fun _ _ => trivial
  · exact Sat.bind (beUint_sat 2 i) fun _ _ => trivial
  · exact Sat.bind (beUint_sat 2 i) fun _ _ => trivial

theorem channelFromTag_sat (tag : Nat) : (channelFromTag tag).Sat (fun _ => True) := by
  unfold channelFromTag
  refine Sat.ite (fun h => ?_) fun _ => Sat.ite (fun _ => trivial) fun _ => Sat.ite (fun _ => trivial) fun _ =>
    Sat.ite (fun _ => trivial) fun _ => trivial
  exact Sat.bind (uadd_sat 8 _ tag 1 (by omega)) fun _ _ => trivial

theorem frameHeader_sat (checkCrc : Bool) (start : Bits) :
    (frameHeader checkCrc start).Sat (fun r => SpecOk r.1.blockSizeSpec) := by
  unfold frameHeader
  refine Sat.bind (tagBits_sat 16 _ 15 start (by decide)) ?_
  rintro ⟨_, i1⟩ _
  refine Sat.bind (takeBits_sat 8 1 i1 (by decide)) ?_
  rintro ⟨blocking, i2⟩ _
  refine Sat.bind (takeBits_sat 8 4 i2 (by decide)) ?_
  rintro ⟨bsTag, i3⟩ (hbs : bsTag < 2 ^ 4)
  refine Sat.bind (takeBits_sat 8 4 i3 (by decide)) ?_
  rintro ⟨srTag, i4⟩ _
  refine Sat.bind (takeBits_sat 8 4 i4 (by decide)) ?_
  rintro ⟨chTag, i5⟩ _
  refine Sat.bind (takeBits_sat 8 3 i5 (by decide)) ?_
  rintro ⟨ssTag, i6⟩ _
  refine Sat.bind (tagBits_sat 32 0 1 i6 (by decide)) ?_
  rintro ⟨_, i7⟩ _
  refine Sat.guard fun _ => ?_
  refine Sat.bind (channelFromTag_sat chTag) fun a _ => ?_
  cases a with
  | none => trivial
  | some assignment =>
    refine Sat.bind (utf8Code_sat _) ?_
    rintro ⟨x, i8⟩ _
    refine Sat.bind (blockSizeCode_sat bsTag hbs i8) ?_
    rintro ⟨bsSpec, i9⟩ hspec
    refine Sat.bind (sampleRateCode_sat srTag i9) ?_
    rintro ⟨srSpec, i10⟩ _
    refine Sat.bind (beUint_sat 1 i10) ?_
    rintro ⟨c, i11⟩ _
    exact Sat.guard fun _ => hspec

theorem headerBlockSize_sat (h : FrameHeader) (hs : SpecOk h.blockSizeSpec) :
    (headerBlockSize h).Sat (fun n => n ≤ 65536) := by
  obtain ⟨n, hn, _, hb⟩ := headerBlockSize_ok h hs
  rw [hn]
  exact hb

theorem subframes_sat (blockSize bps : Nat) (a : ChannelAssignment) (hbs : blockSize < 2 ^ 32)
    (h1 : 1 ≤ bps) (h2 : bps ≤ 24) (n ch : Nat) (i : Bits) :
    (subframes blockSize bps a n ch i).Sat (fun _ => True) := by
  induction n generalizing ch i with
  | zero => trivial
  | succ n ih =>
    unfold subframes
    have ho := bpsOffset_le a ch
    refine Sat.bind (uadd_sat 64 _ bps _ (by omega)) ?_
    rintro _ rfl
    have hsub := subframe_sat blockSize (bps + a.bpsOffset ch) hbs (by omega) (by omega) i
    generalize subframe blockSize (bps + a.bpsOffset ch) i = r at hsub
    rcases r with ⟨sf, tail⟩ | (_ | _) | s
    · exact Sat.guard fun _ => Sat.bind (ih (ch + 1) tail) fun _ _ => trivial
    · trivial
    · trivial
    · exact hsub

theorem frame_sat (info : StreamInfo) (checkCrc : Bool) (h1 : 1 ≤ info.bps) (h2 : info.bps ≤ 24) (start : Bits) :
    (frame info checkCrc start).Sat (fun _ => True) := by
  unfold frame
  refine Sat.bind (frameHeader_sat true start) ?_
  rintro ⟨h, i1⟩ hspec
  refine Sat.guard fun _ => ?_
  refine Sat.bind (headerBlockSize_sat h hspec) fun blockSize (hbs : blockSize ≤ 65536) => ?_
  refine Sat.guard fun hbps => ?_
  rw [Decidable.not_not.mp hbps]
  refine Sat.bind (subframes_sat blockSize info.bps h.assignment (by omega) h1 h2 _ 0 i1) ?_
  rintro ⟨sfs, j⟩ _
  refine Sat.bind (beUint_sat 2 _) ?_
  rintro ⟨c, i2⟩ _
  exact Sat.guard fun _ => trivial

/-- What `stream_info` lets through (`StreamInfo::new` and `verify`). -/
structure InfoRange (s : StreamInfo) : Prop where
  rate : s.rate ≤ 96000
  channels : 1 ≤ s.channels ∧ s.channels ≤ 8
  bps : 8 ≤ s.bps ∧ s.bps ≤ 24
  bps4 : s.bps % 4 = 0
  md5len : s.md5.length = 16

theorem streamInfo_sat_range (i : Bits) :
    (streamInfo i).Sat (fun r => InfoRange r.1) := by
  unfold streamInfo
  refine Sat.bind (beUint_sat 2 i) ?_; rintro ⟨minBlock, i1⟩ _
  refine Sat.bind (beUint_sat 2 i1) ?_; rintro ⟨maxBlock, i2⟩ _
  refine Sat.bind (beUint_sat 3 i2) ?_; rintro ⟨minFrame, i3⟩ _
  refine Sat.bind (beUint_sat 3 i3) ?_; rintro ⟨maxFrame, i4⟩ _
  refine Sat.bind (takeBits_sat 64 20 i4 (by decide)) ?_; rintro ⟨sr, j1⟩ _
  refine Sat.bind (takeBits_sat 64 3 j1 (by decide)) ?_; rintro ⟨ch, j2⟩ (hch : ch < 2 ^ 3)
  refine Sat.bind (takeBits_sat 64 5 j2 (by decide)) ?_; rintro ⟨bps, j3⟩ (hbps : bps < 2 ^ 5)
  refine Sat.bind (takeBits_sat 64 36 j3 (by decide)) ?_; rintro ⟨total, j4⟩ _
  refine Sat.bind (uadd_sat 64 _ ch 1 (by omega)) ?_; rintro _ rfl
  refine Sat.bind (uadd_sat 64 _ bps 1 (by omega)) ?_; rintro _ rfl
  refine Sat.bind (byteTake_sat 16 _) ?_; rintro ⟨md5, i5⟩ ⟨(hmd5 : md5.length = 16), _⟩
  refine Sat.guard fun hsr => Sat.guard fun _ => Sat.guard fun _ => Sat.guard fun hv => ?_
  refine Sat.bind (passert_sat _ _ (decide_eq_true hmd5)) fun _ _ => ?_
  refine Sat.guard fun _ => Sat.guard fun _ => Sat.guard fun _ => Sat.guard fun _ => ?_
  have hv := Decidable.not_not.mp hv
  simp only [verifyBps, Bool.and_eq_true, decide_eq_true_eq] at hv
  simp only [sat_pure]
  exact ⟨Nat.le_of_not_gt hsr, (by omega : 1 ≤ ch + 1 ∧ ch + 1 ≤ 8), ⟨hv.1.1.1, (by omega : bps + 1 ≤ 24)⟩, hv.2, hmd5⟩

theorem metadataBlock_sat_range (i : Bits) :
    (metadataBlock i).Sat (fun r => match r.1.2 with
      | .streamInfo s => InfoRange s
      | .unknown _ => True) := by
  unfold metadataBlock
  refine Sat.bind (beUint_sat 1 i) ?_; rintro ⟨first, i1⟩ _
  refine Sat.bind (beUint_sat 3 i1) ?_; rintro ⟨length, i2⟩ _
  refine Sat.ite (fun _ => ?_) fun _ => ?_
  · refine Sat.bind (streamInfo_sat_range i2) ?_
    rintro ⟨info, i3⟩ hi
    exact hi
  · refine Sat.bind (byteTake_sat length i2) ?_
    rintro ⟨blob, i3⟩ _
    exact Sat.guard fun _ => trivial

theorem metadataLoop_sat (i : Bits) : (metadataLoop i).Sat (fun _ => True) := by
  rw [metadataLoop_eq]
  refine Sat.bind (metadataBlock_sat_range i) ?_
  rintro ⟨⟨isLast, b⟩, i'⟩ _
  refine Sat.ite (fun _ => trivial) fun _ => Sat.ite (fun hlt => ?_) fun _ => trivial
  refine Sat.bind (metadataLoop_sat i') ?_
  rintro ⟨bs, i''⟩ _
  trivial
termination_by i.length

theorem framesTillEof_sat (info : StreamInfo) (h1 : 1 ≤ info.bps) (h2 : info.bps ≤ 24) (i : Bits) :
    (framesTillEof info i).Sat (fun _ => True) := by
  rw [framesTillEof_eq]
  refine Sat.ite (fun _ => trivial) fun _ => Sat.bind (frame_sat info true h1 h2 i) ?_
  rintro ⟨f, i'⟩ _
  refine Sat.ite (fun hlt => ?_) fun _ => trivial
  exact Sat.bind (framesTillEof_sat info h1 h2 i') fun _ _ => trivial
termination_by i.length

theorem byteTag_sat (t : List Nat) (i : Bits) : (byteTag t i).Sat (fun _ => True) := by
  unfold byteTag
  exact Sat.guard fun _ => Sat.guard fun _ => trivial

theorem stream_sat (i : Bits) : (stream i).Sat (fun _ => True) := by
  unfold stream
  refine Sat.bind (byteTag_sat _ i) ?_
  rintro ⟨_, i1⟩ _
  refine Sat.bind (metadataBlock_sat_range i1) ?_
  rintro ⟨⟨isLast, first⟩, i2⟩ hfirst
  cases first with
  | unknown b => trivial
  | streamInfo info =>
    refine Sat.bind (P := fun _ => True) (Sat.ite (fun _ => trivial) fun _ => metadataLoop_sat i2) ?_
    rintro ⟨rest, i3⟩ _
    exact Sat.bind (framesTillEof_sat info (by have := hfirst.bps.1; omega) hfirst.bps.2 i3) fun _ _ => trivial

end FlacVerif.Repo
