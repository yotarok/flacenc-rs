/-
Helper lemmas for C10, site 5: `FRAME_CRC_BUFFER` and `HEADER_CRC_BUFFER`
(`Scratch.frameCrcWrite`, `Scratch.headerCrcWrite`).
-/
import FlacVerif.Model.Scratch
import FlacVerif.Lemmas.WordSink
namespace FlacVerif.Scratch

/-- `MemSink::<u64>::clear()` gives the state of `MemSink::new()` (up to capacity, which is not
observable). -/
theorem wordSinkClear_eq (s : WordSink) : wordSinkClear s = WordSink.empty := rfl

theorem byteSinkClear_eq (s : ByteSink) : byteSinkClear s = ByteSink.empty := rfl

theorem beBytes_length (v : BitVec 64) : (beBytes v).length = 8 := by simp [beBytes]

theorem copyInto_append (pre post src : List Nat) (h : src.length ≤ post.length) :
    copyInto (pre ++ post) pre.length src = some (pre ++ src ++ post.drop src.length) := by
  unfold copyInto
  rw [if_pos (by rw [List.length_append]; omega), List.take_left' rfl, List.drop_length_add_append]

/-- The loop of `write_to_byte_slice`, started behind the bytes `pre` already written: when the stored words just
cover the rest `post` of the destination (at most the last word is cut, so `destlen - head` never underflows), every
byte of `post` is overwritten. -/
theorem writeWords_cover (st : List (BitVec 64)) (pre post : List Nat)
    (h : post.length ≤ 8 * st.length ∧ 8 * st.length ≤ post.length + 8) :
    writeWords (pre.length + post.length) st pre.length (pre ++ post)
      = some (pre ++ (st.flatMap beBytes).take post.length) := by
  induction st generalizing pre post with
  | nil =>
    rw [List.eq_nil_of_length_eq_zero (Nat.le_zero.mp h.1)]
    rfl
  | cons v rest ih =>
    have hb := beBytes_length v
    rw [List.length_cons] at h
    rw [writeWords, List.flatMap_cons]
    by_cases h8 : 8 ≤ post.length
    · have ih' := ih (pre ++ beBytes v) (post.drop 8) (by rw [List.length_drop]; omega)
      rw [List.length_append, hb, List.length_drop, Nat.add_assoc, Nat.add_sub_cancel' h8] at ih'
      rw [if_pos (by omega), copyInto_append pre post _ (by rw [hb]; exact h8), hb]
      simp only [Option.bind_eq_bind, Option.bind_some]
      rw [ih', List.take_append, List.take_of_length_le (l := beBytes v) (by rw [hb]; exact h8), hb, List.append_assoc]
    · have hr : rest = [] := List.eq_nil_of_length_eq_zero (by omega)
      subst hr
      rw [if_neg (by omega), chkSub, if_pos (Nat.le_add_right _ _), Nat.add_sub_cancel_left]
      simp only [Option.bind_eq_bind, Option.bind_some]
      rw [copyInto_append pre post _ (by rw [List.length_take, hb]; omega), List.length_take, hb,
        Nat.min_eq_left (by omega), List.drop_length, List.append_nil, List.flatMap_nil, List.append_nil]
      rfl

theorem alignToByte_facts (s : WordSink) (hs : s.Inv) :
    s.alignToByte.len % 8 = 0 ∧ s.alignToByte.storage.length = (s.alignToByte.len + 63) / 64 := by
  have := hs.size
  simp only [WordSink.alignToByte, WordSink.paddingsToByte]
  omega

/-- `bytebuf.resize(len >> 3, 0)` followed by `write_to_byte_slice`: every byte of the (stale,
resized) vector is overwritten by the contents of the sink. -/
theorem writeToByteSlice_eq (s : WordSink) (dest : List Nat) (h8 : s.len % 8 = 0)
    (hsz : s.storage.length = (s.len + 63) / 64) (hd : dest.length = s.len >>> 3) :
    writeToByteSlice s dest = some s.exportBytes := by
  rw [Nat.shiftRight_eq_div_pow] at hd
  have hw := writeWords_cover s.storage [] dest (by rw [hsz, hd]; omega)
  rw [List.length_nil, Nat.zero_add, List.nil_append, List.nil_append] at hw
  rw [writeToByteSlice, hw, WordSink.exportBytes, show (s.len + 7) / 8 = dest.length by omega]
  rfl

end FlacVerif.Scratch
