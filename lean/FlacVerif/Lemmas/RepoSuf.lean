/-
Every bit-level parser of the mirror (Model/RepoParser.lean), and `beUint`, `byteTake`, `streamInfo`, returns a suffix of
its input: `Suffix i r`, `Suf i x` (the rest of an `Ok` outcome of `x` is a suffix of `i`), the rules that carry `Suf`
through `bind`, `if` and `alt`, and one lemma `suf_*` for each of them, on the mirror alone.  Lemmas/ParserCorr.lean needs
it where the generated code re-aligns to a byte after `bits(..)` (`Suffix.align` there); `suf_streamInfo` is also why a
metadata block consumes input.  (Namespace `C16Gen`, shared with Lemmas/ParserCorr.lean and Theorems/C16Gen.lean.)
-/
import FlacVerif.Model.RepoParser

namespace FlacVerif.C16Gen
open FlacVerif.Repo

variable {α β γ : Type}

theorem bind_ok_of {x : PResult α} {f : α → PResult β} {P : β → Prop} (h : ∀ u v, f u = .ok v → P v) :
    ∀ v, x >>= f = .ok v → P v := by
  intro v hv
  rcases x with u | _ | _
  · exact h u v hv
  all_goals exact nomatch hv

def Suffix (i r : Bits) : Prop := ∃ m, m ≤ i.length ∧ r = i.drop m

theorem Suffix.refl (i : Bits) : Suffix i i := ⟨0, Nat.zero_le _, rfl⟩

theorem Suffix.trans {i j r : Bits} (h1 : Suffix i j) (h2 : Suffix j r) : Suffix i r := by
  obtain ⟨m, hm, rfl⟩ := h1
  obtain ⟨m', hm', rfl⟩ := h2
  rw [List.length_drop] at hm'
  exact ⟨m + m', by omega, by rw [List.drop_drop]⟩

/-- the rest of an `Ok` outcome of `x` is a `Suffix` of `i` (the body is `Suffix i r` written out) -/
def Suf {α : Type} (i : Bits) (x : PResult (α × Bits)) : Prop :=
  ∀ v r, x = .ok (v, r) → ∃ m, m ≤ i.length ∧ r = i.drop m

theorem Suf.ok_self {v : α} {i : Bits} : Suf i (PResult.ok (v, i)) := by
  intro v' r h; cases h; exact Suffix.refl i

theorem Suf.error {i : Bits} {e : Bool} : Suf i (PResult.error e : PResult (α × Bits)) :=
  fun _ _ h => nomatch h

theorem Suf.panic {i : Bits} {s : String} : Suf i (PResult.panic s : PResult (α × Bits)) :=
  fun _ _ h => nomatch h

theorem Suf.bind {i : Bits} {x : PResult (α × Bits)} {f : α × Bits → PResult (β × Bits)}
    (hx : Suf i x) (hf : ∀ v r, Suf r (f (v, r))) : Suf i (x >>= f) := by
  intro v' r' h
  rcases x with ⟨v, r⟩ | _ | _
  · exact Suffix.trans (hx v r rfl) (hf v r v' r' h)
  all_goals exact nomatch h

theorem shorter_of_bind {i : Bits} {x : PResult (α × Bits)} {f : α × Bits → PResult (β × Bits)}
    (hx : ∀ v r, x = .ok (v, r) → r.length < i.length) (hf : ∀ v r, Suf r (f (v, r))) :
    ∀ v r, x >>= f = .ok (v, r) → r.length < i.length := by
  intro v' r' h
  rcases x with ⟨v, r⟩ | _ | _
  · obtain ⟨m, _, rfl⟩ := hf v r v' r' h
    exact Nat.lt_of_le_of_lt (by rw [List.length_drop]; exact Nat.sub_le _ _) (hx v r rfl)
  all_goals exact nomatch h

theorem Suf.bindO {i : Bits} {x : PResult γ} {g : γ → PResult (β × Bits)} (h : ∀ a, Suf i (g a)) :
    Suf i (x >>= g) :=
  fun v r => bind_ok_of (P := fun p => Suffix i p.2) (fun a p => h a p.1 p.2) (v, r)

theorem Suf.ite {i : Bits} {c : Prop} [Decidable c] {x y : PResult (α × Bits)} (hx : Suf i x) (hy : Suf i y) :
    Suf i (if c then x else y) := by
  split
  · exact hx
  · exact hy

theorem Suf.guard {i : Bits} {c : Prop} [Decidable c] {b : Bool} {x : PResult (α × Bits)} (h : Suf i x) :
    Suf i (if c then .error b else x) :=
  Suf.ite (Suf.error) h

theorem Suf.of_suffix {i j : Bits} (hj : Suffix i j) {x : PResult (α × Bits)} (h : Suf j x) : Suf i x :=
  fun v r hx => Suffix.trans hj (h v r hx)

theorem Suf.of_drop {i : Bits} {m : Nat} (hm : m ≤ i.length) {x : PResult (α × Bits)} (h : Suf (i.drop m) x) :
    Suf i x :=
  Suf.of_suffix ⟨m, hm, rfl⟩ h

/-! ### every parser of the mirror returns a suffix of its input

(what `relB_bits` hands on to `Suffix.align`: the primitives for the blocks of `frame_header` and `stream_info`, `suf_subframes`
for the block of `frame`; `suf_streamInfo` is also why a metadata block consumes input) -/

theorem suf_takeBits {w n : Nat} {i : Bits} : Suf i (Repo.takeBits w n i) := by
  intro v r h
  unfold Repo.takeBits at h
  split at h
  · cases h; exact Suffix.refl i
  · split at h
    · exact nomatch h
    · split at h
      · exact nomatch h
      · cases h; exact ⟨n, Nat.le_of_not_lt ‹_›, rfl⟩

theorem suf_tagBits {w p n : Nat} {i : Bits} : Suf i (Repo.tagBits w p n i) := by
  intro v r h
  unfold Repo.tagBits at h
  split at h
  · split at h
    · cases h; exact suf_takeBits _ _ ‹_›
    · exact nomatch h
  all_goals exact nomatch h


theorem suf_unaryCode : ∀ {i : Bits}, Suf i (unaryCode i) := by
  intro i
  induction i with
  | nil => exact Suf.error
  | cons b t ih =>
    intro v r h
    cases b with
    | true => cases h; exact ⟨1, Nat.le_add_left 1 _, rfl⟩
    | false =>
      rw [unaryCode] at h
      split at h
      · cases h; exact Suffix.trans ⟨1, Nat.le_add_left 1 _, rfl⟩ (ih _ _ ‹_›)
      · rename_i hne
        exact absurd h (hne v r)

theorem suf_rawSamplesLoop {bps : Nat} : ∀ {n : Nat} {i : Bits}, Suf i (rawSamplesLoop bps n i) := by
  intro n
  induction n with
  | zero => intro i; exact Suf.ok_self
  | succ n ih =>
    intro i
    unfold rawSamplesLoop
    refine Suf.bind suf_takeBits fun u r => ?_
    refine Suf.bindO fun x => ?_
    exact Suf.bind ih fun xs r2 => Suf.ok_self

theorem suf_rawSamples {bps n : Nat} {i : Bits} : Suf i (rawSamples bps n i) :=
  Suf.bindO fun _ => suf_rawSamplesLoop

theorem suf_residualSamples {p w : Nat} : ∀ {n t : Nat} {i : Bits}, Suf i (residualSamples p w n t i) := by
  intro n
  induction n with
  | zero => intro t i; exact Suf.ok_self
  | succ n ih =>
    intro t i
    unfold residualSamples
    refine Suf.ite (Suf.bind ih (fun v r => Suf.ok_self)) ?_
    refine Suf.bind suf_unaryCode fun q r => ?_
    refine Suf.bind suf_takeBits fun rv r2 => ?_
    exact Suf.bind ih fun v r3 => Suf.ok_self

theorem suf_residualParts {pBits plen w : Nat} : ∀ {n part : Nat} {i : Bits}, Suf i (residualParts pBits plen w n part i) := by
  intro n
  induction n with
  | zero => intro part i; exact Suf.ok_self
  | succ n ih =>
    intro part i
    unfold residualParts
    refine Suf.bind suf_takeBits fun p r => ?_
    refine Suf.bindO fun lo => ?_
    refine Suf.bindO fun hi => ?_
    refine Suf.bind suf_residualSamples fun v r2 => ?_
    exact Suf.bind ih fun v2 r3 => Suf.ok_self

theorem suf_residual {bs w : Nat} {i : Bits} : Suf i (Repo.residual bs w i) := by
  unfold Repo.residual
  refine Suf.bind suf_takeBits fun method r => ?_
  refine Suf.bindO fun pBits => ?_
  refine Suf.bind suf_takeBits fun order r2 => ?_
  refine Suf.bindO (fun count => Suf.ite Suf.panic ?_)
  refine Suf.bind suf_residualParts fun v r3 => ?_
  refine Suf.bindO fun _ => ?_
  refine Suf.bindO fun _ => ?_
  refine Suf.bindO fun _ => ?_
  refine Suf.bindO fun _ => ?_
  exact Suf.ok_self

theorem suf_subframeHeader {i : Bits} : Suf i (subframeHeader i) := by
  unfold subframeHeader
  refine Suf.bind suf_takeBits fun t r => ?_
  refine Suf.bind suf_takeBits fun wf r2 => ?_
  exact Suf.guard Suf.ok_self

theorem suf_constant {bs bps : Nat} {i : Bits} : Suf i (Repo.constant bs bps i) := by
  unfold Repo.constant
  refine Suf.bind suf_subframeHeader fun t r => Suf.guard ?_
  refine Suf.bind suf_takeBits fun u r2 => ?_
  exact Suf.bindO fun _ => Suf.ok_self

theorem suf_verbatim {bs bps : Nat} {i : Bits} : Suf i (Repo.verbatim bs bps i) := by
  unfold Repo.verbatim
  refine Suf.bind suf_subframeHeader fun t r => Suf.guard ?_
  exact Suf.bind suf_rawSamples fun d r2 => Suf.ok_self

theorem suf_fixedLpc {bs bps : Nat} {i : Bits} : Suf i (Repo.fixedLpc bs bps i) := by
  unfold Repo.fixedLpc
  refine Suf.bind suf_subframeHeader fun t r => Suf.guard ?_
  refine Suf.bindO fun order => ?_
  refine Suf.bind suf_rawSamples fun warm r2 => Suf.guard ?_
  exact Suf.bind suf_residual fun res r3 => Suf.ok_self

theorem suf_quantizedParameters {order : Nat} {i : Bits} : Suf i (quantizedParameters order i) := by
  unfold quantizedParameters
  refine Suf.bind suf_takeBits fun p r => ?_
  refine Suf.bindO fun precision => ?_
  refine Suf.bind suf_takeBits fun x r2 => ?_
  refine Suf.bindO fun sv => ?_
  refine Suf.bind suf_rawSamples fun coefs r3 => ?_
  refine Suf.bindO fun o => ?_
  cases o with
  | none => exact Suf.error
  | some u => exact Suf.ok_self

theorem suf_lpc {bs bps : Nat} {i : Bits} : Suf i (Repo.lpc bs bps i) := by
  unfold Repo.lpc
  refine Suf.bind suf_subframeHeader fun t r => Suf.guard ?_
  refine Suf.bindO fun o0 => ?_
  refine Suf.bindO fun order => ?_
  refine Suf.bind suf_rawSamples fun warm r2 => Suf.guard ?_
  refine Suf.bind suf_quantizedParameters fun q r3 => ?_
  refine Suf.bind suf_residual fun res r4 => ?_
  exact Suf.bindO fun _ => Suf.ok_self

theorem suf_alt {α : Type} {p q : Bits → PResult (α × Bits)} {i : Bits} (hp : Suf i (p i)) (hq : Suf i (q i)) :
    Suf i (Repo.alt p q i) := by
  unfold Repo.alt
  split
  · exact hq
  · exact hp

theorem suf_subframe {bs bps : Nat} {i : Bits} : Suf i (Repo.subframe bs bps i) := by
  unfold Repo.subframe
  refine Suf.bindO fun _ => ?_
  refine Suf.bindO fun _ => ?_
  refine Suf.bindO fun _ => ?_
  refine Suf.bindO fun _ => ?_
  refine Suf.bindO fun _ => ?_
  exact suf_alt suf_constant (suf_alt suf_fixedLpc (suf_alt suf_lpc suf_verbatim))

theorem suf_subframes {bs bps : Nat} {a : ChannelAssignment} : ∀ {n ch : Nat} {i : Bits}, Suf i (Repo.subframes bs bps a n ch i) := by
  intro n
  induction n with
  | zero => intro ch i; exact Suf.ok_self
  | succ n ih =>
    intro ch i
    unfold Repo.subframes
    refine Suf.bindO fun b => ?_
    have hs := suf_subframe (bs := bs) (bps := b) (i := i)
    split
    · rename_i sf tail h
      exact Suf.guard (Suf.of_suffix (hs sf tail h) (Suf.bind ih fun sfs r2 => Suf.ok_self))
    · exact Suf.error
    · exact Suf.error
    · exact Suf.panic

theorem suf_bytes {α : Type} {i : Bits} {m : Nat} {v : α} :
    Suf i (if i.length < m then .error true else .ok (v, i.drop m)) := by
  split
  · exact Suf.error
  · intro _ _ h; cases h; exact ⟨m, Nat.le_of_not_lt ‹_›, rfl⟩

theorem suf_beUint (n : Nat) (i : Bits) : Suf i (beUint n i) := suf_bytes

theorem suf_byteTake (n : Nat) (i : Bits) : Suf i (Repo.byteTake n i) := suf_bytes

theorem suf_streamInfo (i : Bits) : Suf i (streamInfo i) := by
  unfold streamInfo
  refine Suf.bind (suf_beUint _ _) fun minBlock i1 => ?_
  refine Suf.bind (suf_beUint _ _) fun maxBlock i2 => ?_
  refine Suf.bind (suf_beUint _ _) fun minFrame i3 => ?_
  refine Suf.bind (suf_beUint _ _) fun maxFrame i4 => ?_
  refine Suf.bind suf_takeBits fun sr j1 => ?_
  refine Suf.bind suf_takeBits fun ch j2 => ?_
  refine Suf.bind suf_takeBits fun bps j3 => ?_
  refine Suf.bind suf_takeBits fun total j4 => ?_
  refine Suf.bindO fun channels => ?_
  refine Suf.bindO fun bitsPerSample => ?_
  refine Suf.of_drop (m := j4.length % 8) (Nat.mod_le _ _) ?_
  refine Suf.bind (suf_byteTake _ _) fun md5 i5 => ?_
  refine Suf.guard (Suf.guard (Suf.guard (Suf.guard ?_)))
  refine Suf.bindO fun _ => ?_
  exact Suf.guard (Suf.guard (Suf.guard (Suf.guard Suf.ok_self)))

end FlacVerif.C16Gen
