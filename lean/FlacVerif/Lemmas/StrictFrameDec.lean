/-
Strict round trip (C01/C02), frame level, reader side. First the coded number: the strict decoder of the UTF-8-like
code inverts `encode_to_utf8like` on every value it accepts (`decodeUtf8like_encodeUtf8like`). Then `Rfc.readFrame` is
cut into pieces, each a verbatim copy of the corresponding part (`readFrame_eq`, by unfolding and `rfl`), and its
`for … in [0:nch]` loop with mutable state is identified with a structurally recursive reader of the sub-frames
(`frameLoop_eq`). Then `Frame.bits` of a frame with a header as the encoder builds it, whose sub-frames are each read
back by the strict sub-frame reader, is read back by `readFrame` (`readFrame_frame`).
-/
import FlacVerif.Lemmas.StrictSubDec
import FlacVerif.Lemmas.Bytes
import FlacVerif.Lemmas.Crc
import FlacVerif.Theorems.C02
import FlacVerif.Lemmas.HeaderCodes
import FlacVerif.Lemmas.Layout
import FlacVerif.Lemmas.Utf8Code
namespace FlacVerif
namespace Strict
open Rfc
open Repo (bytesToBits_length SpecOk SrOk ChOk)
open Crc (crc16_lt crc8_lt)

theorem decodeUtf8like_multi (b0 k : Nat) (conts rest : List Nat) (v : Nat) (hb0 : ¬ b0 < 0x80) (hk : k ≠ 0)
    (hsel : (if b0 < 0xC0 then 0 else if b0 < 0xE0 then 1 else if b0 < 0xF0 then 2 else if b0 < 0xF8 then 3
               else if b0 < 0xFC then 4 else if b0 < 0xFE then 5 else if b0 = 0xFE then 6 else 0) = k)
    (hlen : conts.length = k) (hc : ∀ c ∈ conts, c / 64 = 2)
    (hv : conts.foldl (fun acc c => acc * 64 + c % 64) (b0 % 2 ^ (6 - k)) = v)
    (hsz : utf8likeBytesize v = k + 1) :
    decodeUtf8like (b0 :: (conts ++ rest)) = some (v, k + 1) := by
  unfold decodeUtf8like
  simp only [hsel]
  rw [if_neg hb0, if_neg hk]
  have htake : (conts ++ rest).take k = conts := by rw [← hlen]; simp
  rw [htake]
  have hany : (conts.any fun c => decide (c / 64 ≠ 2)) = false := by
    rw [List.any_eq_false]
    intro c hcm
    simp [hc c hcm]
  rw [if_neg (by rw [hany, hlen]; simp), hv, if_neg (by rw [hsz]; simp)]

/-- A head byte of `t + 1` ones, a zero and the bits `x`, as `decodeUtf8like` reads it. -/
theorem utf8Head_sel (t x : Nat) (ht1 : 1 ≤ t) (ht6 : t ≤ 6) (hx : x < 2 ^ (6 - t)) :
    ¬ 256 - 2 ^ (7 - t) + x < 0x80 ∧ (256 - 2 ^ (7 - t) + x) % 2 ^ (6 - t) = x ∧
    (if 256 - 2 ^ (7 - t) + x < 0xC0 then 0 else if 256 - 2 ^ (7 - t) + x < 0xE0 then 1
      else if 256 - 2 ^ (7 - t) + x < 0xF0 then 2 else if 256 - 2 ^ (7 - t) + x < 0xF8 then 3
      else if 256 - 2 ^ (7 - t) + x < 0xFC then 4 else if 256 - 2 ^ (7 - t) + x < 0xFE then 5
      else if 256 - 2 ^ (7 - t) + x = 0xFE then 6 else 0) = t := by
  obtain rfl | rfl | rfl | rfl | rfl | rfl : t = 1 ∨ t = 2 ∨ t = 3 ∨ t = 4 ∨ t = 5 ∨ t = 6 := by omega
  all_goals
    simp only [Nat.reduceSub, Nat.reducePow] at hx ⊢
    refine ⟨by omega, by omega, ?_⟩
    simp (disch := omega) only [if_neg, if_pos]

theorem decodeUtf8like_encodeUtf8like (v : Nat) (bs rest : List Nat) (he : encodeUtf8like v = some bs) :
    decodeUtf8like (bs ++ rest) = some (v, bs.length) := by
  have hb36 : bitLen v ≤ 36 := by
    apply Nat.le_of_not_lt
    intro h
    rw [encodeUtf8like_big h] at he
    cases he
  by_cases h7 : v < 2 ^ 7
  · rw [encodeUtf8like_small h7, Option.some.injEq] at he
    subst he
    simp only [List.cons_append, List.nil_append, decodeUtf8like, List.length_cons, List.length_nil]
    rw [if_pos (by omega)]
  · obtain ⟨t, ht1, ht6, hx, hsz, henc⟩ := encodeUtf8like_multi h7 ((bitLen_le_iff v 36).1 hb36)
    rw [henc, Option.some.injEq] at he
    subst he
    obtain ⟨hb0, hmod, hsel⟩ := utf8Head_sel t _ ht1 ht6 hx
    rw [List.cons_append, List.length_cons, length_utf8Tail]
    exact decodeUtf8like_multi _ t (utf8Tail t v) rest v hb0 (by omega) hsel (length_utf8Tail t v) (fun c => utf8Tail_continuation)
      (by rw [hmod, foldl_utf8Tail, Nat.div_add_mod']) hsz

/-- Sample width of channel `ch` under channel-assignment code `chCode` (as `readFrame` computes it). -/
def widthOf (chCode b ch : Nat) : Nat :=
  if (chCode = 8 ∧ ch = 1) ∨ (chCode = 9 ∧ ch = 0) ∨ (chCode = 10 ∧ ch = 1) then b + 1 else b

def reconstruct (chCode : Nat) (raw : List (List Int)) : List (List Int) :=
  if chCode < 8 then raw
  else
    let a := raw.getD 0 []
    let c := raw.getD 1 []
    let pairs := List.zipWith (fun x y =>
      if chCode = 8 then unLeftSide x y else if chCode = 9 then unRightSide x y else unMidSide x y) a c
    [pairs.map (·.1), pairs.map (·.2)]

/-- Body of the channel loop of `readFrame`; the state is `(rest, subs)`. -/
def frameLoopBody (n b chCode : Nat) (ch : Nat) (st : Bits × List SubRep) : R (ForInStep (Bits × List SubRep)) :=
  let rest := st.fst
  let subs := st.snd
  do
    let (s, t) ← readSubframe n (widthOf chCode b ch) rest
    let subs := s :: subs
    let rest := t
    pure (ForInStep.yield (rest, subs))

/-- What `readFrame` does after the channel loop. -/
def frameTail (total : Nat) (bytes : List Nat) (number n b chCode bsCode srCode ssCode : Nat)
    (st : Bits × List SubRep) : R (FrameRep × List Nat × Bits) := do
  let rest := st.fst
  let subs := st.snd
  let subsR := subs.reverse
  let consumed := total - rest.length
  let padLen := (8 - consumed % 8) % 8
  let (pad, rest2) ← takeBits padLen rest "frame padding"
  if pad.any id then throw "frame: non-zero padding bits"
  let bodyLen := (consumed + padLen) / 8
  let (crc16, rest3) ← readNat 16 rest2 "frame CRC"
  if crc rfcCrc16 (bytes.take bodyLen) ≠ crc16 then throw "frame: CRC-16 mismatch"
  let chans := reconstruct chCode (subsR.map (·.samples))
  if chans.any (fun c => c.any (fun x => !Rfc.inRange b x)) then throw "frame: decoded sample outside the stream's sample width"
  pure (⟨number, n, bodyLen + 2, chCode, bsCode, srCode, ssCode, subsR, chans⟩, bytes.drop (bodyLen + 2), rest3)

/-- `readFrame` from the code tables to the channel loop. -/
def frameCodes (info : Info) (total : Nat) (bytes : List Nat) (number bsCode srCode chCode ssCode bsExtra srExtra : Nat)
    (bs : Bits) : R (FrameRep × List Nat × Bits) := do
  let n ← match blockSizeOfCode bsCode bsExtra with
    | some n => pure n
    | none => throw "frame: reserved block size"
  if n = 0 ∨ n > 65535 then throw "frame: block size out of range"
  let rate ← match rateOfCode srCode srExtra info.rate with
    | some r => pure r
    | none => throw "frame: invalid sample rate"
  if rate ≠ info.rate then throw "frame: sample rate differs from STREAMINFO"
  let b ← match bpsOfCode ssCode info.bps with
    | some b => pure b
    | none => throw "frame: invalid sample size"
  if b ≠ info.bps then throw "frame: sample size differs from STREAMINFO"
  let nch := if chCode < 8 then chCode + 1 else 2
  if nch ≠ info.channels then throw "frame: channel count differs from STREAMINFO"
  let st ← forIn [0:nch] (bs, ([] : List SubRep)) (frameLoopBody n b chCode)
  frameTail total bytes number n b chCode bsCode srCode ssCode st

/-- `readFrame` at the header CRC. -/
def frameBody (info : Info) (total : Nat) (bytes : List Nat) (number bsCode srCode chCode ssCode bsExtra srExtra : Nat)
    (bs : Bits) : R (FrameRep × List Nat × Bits) := do
  let headerLen := (total - bs.length) / 8
  let (crc8, bs) ← readNat 8 bs "header CRC"
  if crc rfcCrc8 (bytes.take headerLen) ≠ crc8 then throw "frame: header CRC-8 mismatch"
  frameCodes info total bytes number bsCode srCode chCode ssCode bsExtra srExtra bs

/-- `readFrame` from the coded number to the header CRC. -/
def frameNum (info : Info) (index total : Nat) (bytes : List Nat) (bsCode srCode chCode ssCode : Nat)
    (bs : Bits) : R (FrameRep × List Nat × Bits) := do
  let numBytes := bytes.drop 4
  let (number, used) ← match decodeUtf8like numBytes with
    | some r => pure r
    | none => throw "frame: malformed or non-canonical coded number"
  if number ≥ 2 ^ 31 then throw "frame: frame number does not fit 31 bits"
  if number ≠ index then throw s!"frame: frame number {number} out of sequence (expected {index})"
  let bs := bs.drop (8 * used)
  let (bsExtra, bs) ← if bsCode = 6 then readNat 8 bs "block size byte" else if bsCode = 7 then readNat 16 bs "block size word" else pure (0, bs)
  let (srExtra, bs) ← if srCode = 12 then readNat 8 bs "sample rate byte" else if srCode = 13 ∨ srCode = 14 then readNat 16 bs "sample rate word" else pure (0, bs)
  frameBody info total bytes number bsCode srCode chCode ssCode bsExtra srExtra bs

theorem readFrame_eq (info : Info) (index : Nat) (bytes : List Nat) (bs : Bits) :
    readFrame info index bytes bs = (do
      let (sync, bs1) ← readNat 15 bs "frame sync"
      if sync ≠ 0x7FFC then throw "frame: lost sync (or reserved bit set)"
      let (blocking, bs2) ← readNat 1 bs1 "blocking strategy"
      if blocking ≠ 0 then throw "frame: variable-blocksize strategy bit set (encoder is fixed-blocksize)"
      let (bsCode, bs3) ← readNat 4 bs2 "block size code"
      if bsCode = 0 then throw "frame: reserved block size code 0000"
      let (srCode, bs4) ← readNat 4 bs3 "sample rate code"
      if srCode = 15 then throw "frame: invalid sample rate code 1111"
      let (chCode, bs5) ← readNat 4 bs4 "channel assignment"
      if chCode > 10 then throw "frame: reserved channel assignment"
      let (ssCode, bs6) ← readNat 3 bs5 "sample size code"
      if ssCode = 3 then throw "frame: reserved sample size code 011"
      let (rsv, bs7) ← readNat 1 bs6 "reserved bit"
      if rsv ≠ 0 then throw "frame: reserved bit set"
      frameNum info index bs.length bytes bsCode srCode chCode ssCode bs7) := by
  unfold readFrame frameNum frameBody frameCodes frameTail frameLoopBody widthOf reconstruct
  rfl

/-- The channel loop of `readFrame`, structurally recursive: channels `ch, ch+1, …` (`cnt` of them). -/
def readSubframes (n b chCode : Nat) : (cnt ch : Nat) → Bits → R (List SubRep × Bits)
  | 0, _, bs => .ok ([], bs)
  | c + 1, ch, bs => do
    let (s, t) ← readSubframe n (widthOf chCode b ch) bs
    let (ss, t') ← readSubframes n b chCode c (ch + 1) t
    pure (s :: ss, t')

theorem frameLoopBody_eq (n b chCode ch : Nat) (rest : Bits) (subs : List SubRep) :
    frameLoopBody n b chCode ch (rest, subs) =
      (readSubframe n (widthOf chCode b ch) rest >>= fun x => pure (ForInStep.yield (x.2, x.1 :: subs))) := rfl

theorem frameLoop_list (n b chCode : Nat) (cnt ch : Nat) (rest : Bits) (subs : List SubRep) :
    forIn (List.range' ch cnt) (rest, subs) (frameLoopBody n b chCode) =
      (readSubframes n b chCode cnt ch rest >>= fun r => pure (r.2, r.1.reverse ++ subs)) := by
  induction cnt generalizing ch rest subs with
  | zero => rfl
  | succ c ih =>
    rw [List.range'_succ, List.forIn_cons, readSubframes, frameLoopBody_eq]
    cases hr : readSubframe n (widthOf chCode b ch) rest with
    | error e => rfl
    | ok v =>
      obtain ⟨s, t⟩ := v
      simp only [ok_bind, pure_eq]
      rw [ih (ch + 1) t (s :: subs)]
      cases hrs : readSubframes n b chCode c (ch + 1) t with
      | error e => rfl
      | ok w =>
        obtain ⟨ss, t'⟩ := w
        simp only [ok_bind, pure_eq, List.reverse_cons, List.append_assoc, List.singleton_append]

theorem frameLoop_eq (n b chCode nch : Nat) (bs : Bits) :
    forIn [0:nch] (bs, ([] : List SubRep)) (frameLoopBody n b chCode) =
      (readSubframes n b chCode nch 0 bs >>= fun r => pure (r.2, r.1.reverse)) := by
  rw [Std.Legacy.Range.forIn_eq_forIn_range']
  have : ([0:nch] : Std.Legacy.Range).size = nch := by simp [Std.Legacy.Range.size]
  rw [this, frameLoop_list]
  simp

/-- The channel loop on the sub-frames `subs`, channel `ch + i` being read back as `raws[i]`. -/
theorem readSubframes_ok {n b chCode : Nat} : ∀ (subs : List SubFrame) (raws : List (List Int)) (ch : Nat),
    subs.length = raws.length →
    (∀ i (h1 : i < subs.length) (h2 : i < raws.length), SubReads n (widthOf chCode b (ch + i)) subs[i] raws[i]) →
    ∀ k, ∃ reps, readSubframes n b chCode subs.length ch (subs.flatMap SubFrame.bits ++ k) = .ok (reps, k) ∧
      reps.map (·.samples) = raws
  | [], [], _, _, _, _ => ⟨[], rfl, rfl⟩
  | s :: ss, raw :: raws, ch, hl, h, k => by
    have h0 : SubReads n (widthOf chCode b ch) s raw := h 0 (Nat.zero_lt_succ _) (Nat.zero_lt_succ _)
    obtain ⟨rep, hrep, hsam, _⟩ := h0.read (ss.flatMap SubFrame.bits ++ k)
    obtain ⟨reps, hreps, hmap⟩ := readSubframes_ok ss raws (ch + 1) (Nat.succ.inj hl) (fun i h1 h2 => by
      have := h (i + 1) (Nat.succ_lt_succ h1) (Nat.succ_lt_succ h2)
      rwa [show ch + (i + 1) = ch + 1 + i by omega] at this) k
    refine ⟨rep :: reps, ?_, by rw [List.map_cons, hsam, hmap]⟩
    rw [List.length_cons, readSubframes, List.flatMap_cons, List.append_assoc, hrep]
    simp only [ok_bind]
    rw [hreps]
    rfl

theorem any_any_inRange (b : Nat) (chans : List (List Int))
    (h : ∀ c ∈ chans, ∀ x ∈ c, SubFrame.inRange b x = true) :
    (chans.any fun c => c.any fun x => !Rfc.inRange b x) = false := by
  rw [List.any_eq_false]
  intro c hc
  rw [all_inRange b c (h c hc)]
  simp

theorem crc_packBytes (p : CrcParams) (b : Bits) (h : b.length % 8 = 0) : crc p (packBytes b) = crcBits p b := by
  unfold crc
  rw [(bits_as_bytes b h).1]

/-! In `frameTail_ok` and `frameBody_ok` the parts of the written frame are variables (`PRE`, `PAD`, `HB`, `body`)
tied together by equations, not the terms themselves: the goals stay small, and `rw` does not have to find a
thirteen-part concatenation inside itself. -/

theorem frameTail_ok (PRE PAD body fb : Bits) (more : List Nat) (number n b chCode bsCode srCode ssCode : Nat)
    (subs : List SubRep) (chans : List (List Int))
    (hpad : PAD = List.replicate ((8 - PRE.length % 8) % 8) false) (hbody : body = PRE ++ PAD)
    (hb8 : body.length % 8 = 0) (hfb : fb = body ++ natToBits 16 (crcBits rfcCrc16 body))
    (hrec : reconstruct chCode (subs.reverse.map (·.samples)) = chans)
    (hrange : ∀ c ∈ chans, ∀ x ∈ c, SubFrame.inRange b x = true) :
    frameTail (fb ++ bytesToBits more).length (packBytes fb ++ more) number n b chCode bsCode srCode ssCode
        (PAD ++ (natToBits 16 (crcBits rfcCrc16 body) ++ bytesToBits more), subs) =
      .ok (⟨number, n, body.length / 8 + 2, chCode, bsCode, srCode, ssCode, subs.reverse, chans⟩, more,
        bytesToBits more) := by
  have hpl : PAD.length = (8 - PRE.length % 8) % 8 := by rw [hpad, List.length_replicate]
  have hfl : fb.length = body.length + 2 * 8 := by rw [hfb, List.length_append, natToBits_length]
  have hcons : (fb ++ bytesToBits more).length -
      (PAD ++ (natToBits 16 (crcBits rfcCrc16 body) ++ bytesToBits more)).length = PRE.length := by
    rw [hfb, hbody, List.append_assoc, List.append_assoc, List.length_append (as := PRE), Nat.add_sub_cancel]
  unfold frameTail
  simp only []
  rw [hcons, ← hpl, takeBits_append PAD _ _ _ rfl]
  simp only [ok_bind]
  have hany : PAD.any id = false := by rw [hpad, List.any_replicate]; split <;> rfl
  rw [hany]
  simp only [Bool.false_eq_true, if_false]
  rw [readNat_natToBits_lt 16 _ _ _ (crc16_lt body)]
  simp only [ok_bind]
  rw [show PRE.length + PAD.length = body.length by rw [hbody, List.length_append]]
  have htake : (packBytes fb ++ more).take (body.length / 8) = packBytes body := by
    rw [hfb]; exact take_packBytes body _ more hb8
  rw [htake, crc_packBytes _ body hb8]
  simp only [ne_eq, not_true_eq_false, if_false]
  rw [hrec, any_any_inRange b chans hrange]
  simp only [Bool.false_eq_true, if_false, pure_eq]
  have hdrop : (packBytes fb ++ more).drop (body.length / 8 + 2) = more :=
    List.drop_left' (by
      rw [(bits_as_bytes fb (by rw [hfl, Nat.add_mul_mod_self_right]; exact hb8)).2, hfl,
        Nat.add_mul_div_right _ _ (by decide)])
  rw [hdrop]

theorem frameBody_ok (HB PAD body fb : Bits) (more : List Nat) (info : Info)
    (number n chCode bsCode srCode ssCode bsExtra srExtra : Nat)
    (subs : List SubFrame) (raws chans : List (List Int))
    (hHB8 : HB.length % 8 = 0)
    (hpad : PAD = List.replicate
      ((8 - (HB ++ (natToBits 8 (crcBits rfcCrc8 HB) ++ subs.flatMap SubFrame.bits)).length % 8) % 8) false)
    (hbody : body = (HB ++ (natToBits 8 (crcBits rfcCrc8 HB) ++ subs.flatMap SubFrame.bits)) ++ PAD)
    (hb8 : body.length % 8 = 0) (hfb : fb = body ++ natToBits 16 (crcBits rfcCrc16 body))
    (hbs : blockSizeOfCode bsCode bsExtra = some n) (hn : 1 ≤ n ∧ n ≤ 65535)
    (hrate : rateOfCode srCode srExtra info.rate = some info.rate)
    (hbps : bpsOfCode ssCode info.bps = some info.bps)
    (hnch : (if chCode < 8 then chCode + 1 else 2) = info.channels)
    (hsl : subs.length = info.channels)
    (hrl : subs.length = raws.length)
    (hsub : ∀ i (h1 : i < subs.length) (h2 : i < raws.length), SubReads n (widthOf chCode info.bps i) subs[i] raws[i])
    (hrec : reconstruct chCode raws = chans)
    (hrange : ∀ c ∈ chans, ∀ x ∈ c, SubFrame.inRange info.bps x = true) :
    ∃ rep, frameBody info (fb ++ bytesToBits more).length (packBytes fb ++ more) number bsCode srCode chCode ssCode
        bsExtra srExtra
        (natToBits 8 (crcBits rfcCrc8 HB) ++ (subs.flatMap SubFrame.bits ++
          (PAD ++ (natToBits 16 (crcBits rfcCrc16 body) ++ bytesToBits more)))) = .ok (rep, more, bytesToBits more) ∧
      rep.channels = chans ∧ rep.blockSize = n ∧ rep.number = number ∧ rep.byteLen = body.length / 8 + 2 := by
  have hfbeq : fb ++ bytesToBits more = HB ++ (natToBits 8 (crcBits rfcCrc8 HB) ++ (subs.flatMap SubFrame.bits ++
      (PAD ++ (natToBits 16 (crcBits rfcCrc16 body) ++ bytesToBits more)))) := by
    rw [hfb, hbody]; simp only [List.append_assoc]
  have hlen : (fb ++ bytesToBits more).length - (natToBits 8 (crcBits rfcCrc8 HB) ++ (subs.flatMap SubFrame.bits ++
      (PAD ++ (natToBits 16 (crcBits rfcCrc16 body) ++ bytesToBits more)))).length = HB.length := by
    rw [hfbeq, List.length_append (as := HB), Nat.add_sub_cancel]
  have htake : (packBytes fb ++ more).take (HB.length / 8) = packBytes HB := by
    have : fb = HB ++ ((natToBits 8 (crcBits rfcCrc8 HB) ++ subs.flatMap SubFrame.bits) ++ PAD ++
        natToBits 16 (crcBits rfcCrc16 body)) := by
      rw [hfb, hbody]; simp only [List.append_assoc]
    rw [this]; exact take_packBytes HB _ more hHB8
  unfold frameBody
  simp only []
  rw [hlen, readNat_natToBits_lt 8 _ _ _ (crc8_lt HB)]
  simp only [ok_bind]
  rw [htake, crc_packBytes _ HB hHB8]
  simp only [ne_eq, not_true_eq_false, if_false]
  unfold frameCodes
  simp only [hbs, pure_eq, ok_bind]
  rw [if_neg (by omega : ¬ (n = 0 ∨ n > 65535))]
  simp only [hrate, ne_eq, not_true_eq_false, if_false, hbps, hnch]
  rw [frameLoop_eq]
  obtain ⟨reps, hreps, hmap⟩ := readSubframes_ok subs raws 0 hrl (fun i h1 h2 => by rw [Nat.zero_add]; exact hsub i h1 h2)
    (PAD ++ (natToBits 16 (crcBits rfcCrc16 body) ++ bytesToBits more))
  rw [← hsl, hreps]
  simp only [ok_bind, pure_eq]
  have := frameTail_ok (HB ++ (natToBits 8 (crcBits rfcCrc8 HB) ++ subs.flatMap SubFrame.bits)) PAD body fb more
    number n info.bps chCode bsCode srCode ssCode reps.reverse chans hpad hbody hb8 hfb
    (by rw [List.reverse_reverse, hmap]; exact hrec) hrange
  rw [this]
  exact ⟨_, rfl, rfl, rfl, rfl, rfl⟩

/-- The immediate after the coded number, for a block-size spec in its code range. -/
theorem bsExtra_read {β : Type} (bss : BlockSizeSpec) (k : Bits) (F : Nat × Bits → R β) (hs : SpecOk bss) :
    (if bss.tag = 6 then (readNat 8 (bss.extraBits ++ k) "block size byte" >>= F)
      else if bss.tag = 7 then (readNat 16 (bss.extraBits ++ k) "block size word" >>= F)
      else F (0, bss.extraBits ++ k)) = F (C02.bsExtra bss, k) := by
  cases bss with
  | reserved => rfl
  | s192 => rfl
  | pow2Mul576 x =>
    have hx : x ≤ 3 := hs
    have ht : (BlockSizeSpec.pow2Mul576 x).tag = 2 + x := rfl
    rw [if_neg (by rw [ht]; omega), if_neg (by rw [ht]; omega)]; rfl
  | extraByte v =>
    have ht : (BlockSizeSpec.extraByte v).tag = 6 := rfl
    rw [if_pos ht, show (BlockSizeSpec.extraByte v).extraBits = natToBits 8 v from rfl,
      readNat_natToBits_lt 8 v k _ hs]
    rfl
  | extraTwoBytes v =>
    have ht : (BlockSizeSpec.extraTwoBytes v).tag = 7 := rfl
    rw [if_neg (by rw [ht]; decide), if_pos ht, show (BlockSizeSpec.extraTwoBytes v).extraBits = natToBits 16 v from rfl,
      readNat_natToBits_lt 16 v k _ hs]
    rfl
  | pow2Mul256 x =>
    have ht : (BlockSizeSpec.pow2Mul256 x).tag = 8 + x := rfl
    rw [if_neg (by rw [ht]; omega), if_neg (by rw [ht]; omega)]; rfl

theorem srExtra_read {β : Type} (srs : SampleRateSpec) (k : Bits) (F : Nat × Bits → R β) (hs : SrOk srs) :
    (if srs.tag = 12 then (readNat 8 (srs.extraBits ++ k) "sample rate byte" >>= F)
      else if srs.tag = 13 ∨ srs.tag = 14 then (readNat 16 (srs.extraBits ++ k) "sample rate word" >>= F)
      else F (0, srs.extraBits ++ k)) = F (C02.srExtra srs, k) := by
  cases srs with
  | unspecified => rfl
  | fixed t =>
    have : t ≤ 11 := hs.2
    have ht : (SampleRateSpec.fixed t).tag = t := rfl
    rw [if_neg (by rw [ht]; omega), if_neg (by rw [ht]; omega)]; rfl
  | kHz v =>
    have ht : (SampleRateSpec.kHz v).tag = 12 := rfl
    rw [if_pos ht, show (SampleRateSpec.kHz v).extraBits = natToBits 8 v from rfl,
      readNat_natToBits_lt 8 v k _ hs]
    rfl
  | hz v =>
    have ht : (SampleRateSpec.hz v).tag = 13 := rfl
    rw [if_neg (by rw [ht]; decide), if_pos (Or.inl ht), show (SampleRateSpec.hz v).extraBits = natToBits 16 v from rfl,
      readNat_natToBits_lt 16 v k _ hs]
    rfl
  | daHz v =>
    have ht : (SampleRateSpec.daHz v).tag = 14 := rfl
    rw [if_neg (by rw [ht]; decide), if_pos (Or.inr ht), show (SampleRateSpec.daHz v).extraBits = natToBits 16 v from rfl,
      readNat_natToBits_lt 16 v k _ hs]
    rfl

/-- The rate code the encoder stores (`unspecified` when `from_freq` finds none) is in range and the RFC's table
decodes it to the rate. -/
theorem sampleRateSpec_decodes (rate : Nat) :
    let srs := (SampleRateSpec.fromFreq rate).getD .unspecified
    SrOk srs ∧ rateOfCode srs.tag (C02.srExtra srs) rate = some rate := by
  intro srs
  refine ⟨Repo.srOk_getD_fromFreq rate, ?_⟩
  have hall := C02.C02_samplerate_all rate
  cases hf : SampleRateSpec.fromFreq rate with
  | some spec =>
    rw [hf] at hall
    have hs : srs = spec := by simp only [srs, hf, Option.getD_some]
    rw [hs]
    exact hall.2.1
  | none =>
    rw [hf] at hall
    have hs : srs = .unspecified := by simp only [srs, hf, Option.getD_none]
    rw [hs]
    exact hall

theorem sampleSizeTag_decodes (bps : Nat) :
    sampleSizeTag bps ≠ 3 ∧ bpsOfCode (sampleSizeTag bps) bps = some bps := by
  rcases Repo.sampleSizeTag_cases bps with rfl | rfl | rfl | rfl | rfl | rfl | h
  iterate 6 decide
  rw [h]
  exact ⟨by decide, rfl⟩

theorem widthOf_tag (asg : ChannelAssignment) (bps i : Nat) (hasg : ChOk asg) :
    widthOf asg.tag bps i = bps + asg.bpsOffset i := by
  cases asg with
  | independent k =>
    have hk : 1 ≤ k ∧ k ≤ 8 := hasg
    have ht : (ChannelAssignment.independent k).tag = k - 1 := rfl
    unfold widthOf
    rw [if_neg (by rw [ht]; omega)]; rfl
  | leftSide => by_cases h : i = 1 <;> simp [widthOf, ChannelAssignment.tag, ChannelAssignment.bpsOffset, h]
  | rightSide => by_cases h : i = 0 <;> simp [widthOf, ChannelAssignment.tag, ChannelAssignment.bpsOffset, h]
  | midSide => by_cases h : i = 1 <;> simp [widthOf, ChannelAssignment.tag, ChannelAssignment.bpsOffset, h]

theorem frameNum_ok (info : Info) (number total : Nat) (bytes : List Nat) (H32 : Bits) (num : List Nat) (X : Bits)
    (more : List Nat) (bss : BlockSizeSpec) (srs : SampleRateSpec) (Y : Bits) (chCode ssCode : Nat) (fbRest : Bits)
    (hb : bytes = packBytes (H32 ++ (bytesToBits num ++ fbRest)) ++ more)
    (h32 : H32.length = 32) (hnum : encodeUtf8like number = some num) (hlt : number < 2 ^ 31)
    (hX : X = bss.extraBits ++ (srs.extraBits ++ Y))
    (hbs : SpecOk bss) (hsr : SrOk srs) :
    frameNum info number total bytes bss.tag srs.tag chCode ssCode (bytesToBits num ++ X) =
      frameBody info total bytes number bss.tag srs.tag chCode ssCode (C02.bsExtra bss) (C02.srExtra srs) Y := by
  subst hb
  obtain ⟨num', hnum', _, hbytes⟩ := encodeUtf8like_some number (by omega)
  rw [hnum] at hnum'
  simp only [Option.some.injEq] at hnum'
  subst hnum'
  have hdrop : (packBytes (H32 ++ (bytesToBits num ++ fbRest)) ++ more).drop 4 = num ++ (packBytes fbRest ++ more) := by
    have h4 : H32.length / 8 = 4 := by omega
    have := drop_packBytes H32 (bytesToBits num ++ fbRest) more (by omega)
    rw [h4] at this
    rw [this, packBytes_append num.length _ _ (by rw [bytesToBits_length]), packBytes_bytesToBits num hbytes,
      List.append_assoc]
  unfold frameNum
  simp only []
  rw [hdrop, decodeUtf8like_encodeUtf8like number num _ hnum]
  simp only [pure_eq, ok_bind]
  rw [if_neg (by omega : ¬ number ≥ 2 ^ 31)]
  simp only [ne_eq, not_true_eq_false, if_false]
  have hd : (bytesToBits num ++ X).drop (8 * num.length) = X := by
    rw [List.drop_append_of_le_length (by rw [bytesToBits_length]; omega),
      List.drop_of_length_le (by rw [bytesToBits_length]; omega)]
    rfl
  rw [hd, hX]
  exact (bsExtra_read bss (srs.extraBits ++ Y) _ hbs).trans (srExtra_read srs Y _ hsr)

theorem readFrame_head32 (info : Info) (index : Nat) (bytes : List Nat) (bs rest : Bits) (bsCode srCode chCode ssCode : Nat)
    (hbs : bs = natToBits 15 0x7FFC ++ (natToBits 1 0 ++ (natToBits 4 bsCode ++ (natToBits 4 srCode ++
      (natToBits 4 chCode ++ (natToBits 3 ssCode ++ (natToBits 1 0 ++ rest)))))))
    (h1 : bsCode < 2 ^ 4) (h1' : ¬ bsCode = 0) (h2 : srCode < 2 ^ 4) (h2' : ¬ srCode = 15)
    (h3 : chCode < 2 ^ 4) (h3' : ¬ chCode > 10) (h4 : ssCode < 2 ^ 3) (h4' : ¬ ssCode = 3) :
    readFrame info index bytes bs = frameNum info index bs.length bytes bsCode srCode chCode ssCode rest := by
  rw [readFrame_eq]
  generalize bs.length = total
  subst hbs
  simp only [readNat_natToBits_lt, ok_bind, h1, h1', h2, h2', h3, h3', h4, h4', Nat.reducePow, Nat.reduceLT,
    ne_eq, not_true_eq_false, if_false]

/-- The strict frame reader, given the bytes of `fb` followed by anything and expecting frame number `number`,
consumes exactly `fb` and returns the channels `chans` of `n` samples. A structure for the reason given at `SubReads`. -/
structure FrameReads (info : Info) (number : Nat) (fb : Bits) (chans : List (List Int)) (n : Nat) : Prop where
  read : ∀ more, ∃ rep,
    readFrame info number (packBytes fb ++ more) (fb ++ bytesToBits more) = .ok (rep, more, bytesToBits more) ∧
      rep.channels = chans ∧ rep.blockSize = n ∧ rep.number = number ∧ rep.byteLen * 8 = fb.length

theorem readFrame_frame (asg : ChannelAssignment) (hasg : ChOk asg)
    (bss : BlockSizeSpec) (subs : List SubFrame) (raws chans : List (List Int)) (n bps rate number : Nat)
    (fb : Bits) (info : Info)
    (hbss : BlockSizeSpec.fromSize n = some bss) (hn : 1 ≤ n ∧ n ≤ 65535) (hnum : number < 2 ^ 31)
    (hbits : Frame.bits rfcCrc8 rfcCrc16 ⟨⟨false, bss, asg, sampleSizeTag bps,
      (SampleRateSpec.fromFreq rate).getD .unspecified, number, 0⟩, subs⟩ = some fb)
    (hinfo : info.rate = rate ∧ info.channels = asg.channels ∧ info.bps = bps)
    (hsl : subs.length = asg.channels)
    (hrl : subs.length = raws.length)
    (hsub : ∀ i (h1 : i < subs.length) (h2 : i < raws.length), SubReads n (bps + asg.bpsOffset i) subs[i] raws[i])
    (hrec : reconstruct asg.tag raws = chans)
    (hrange : ∀ c ∈ chans, ∀ x ∈ c, SubFrame.inRange bps x = true) :
    FrameReads info number fb chans n := by
  refine ⟨fun more => ?_⟩
  obtain ⟨hrate, hch, hbps⟩ := hinfo
  -- the codes of the header are in range and the RFC's tables decode them
  obtain ⟨hok, hbsz⟩ := BlockSizeSpec.fromSize_ok n hn.1 (by omega) bss hbss
  obtain ⟨hb1, hb15, hbdec, -, -⟩ := C02.blockSizeOfCode_spec bss hok
  rw [hbsz] at hbdec
  obtain ⟨hsr, hsdec⟩ := sampleRateSpec_decodes rate
  have hss8 := Repo.sampleSizeTag_lt bps
  obtain ⟨hss3, hssdec⟩ := sampleSizeTag_decodes bps
  obtain ⟨hc10, hcch⟩ := C02.C02_channel_code asg hasg
  generalize (SampleRateSpec.fromFreq rate).getD .unspecified = srs at hbits hsr hsdec
  have hs14 := Repo.srTag_le srs hsr
  generalize sampleSizeTag bps = sst at hbits hss8 hss3 hssdec
  rw [← hrate] at hsdec
  rw [← hbps] at hssdec
  -- the layout of the written frame
  obtain ⟨hb, PAD, body, hh, hPAD, hbody, hb8, hfb⟩ := Layout.frame_bits_some _ fb hbits
  obtain ⟨num, HB, hnumenc, -, hHB, hHB8, rfl⟩ := Layout.header_bits_some _ hb hh
  replace hHB := hHB (show srs.tag < 16 by omega)
  simp only [FrameHeader.number, Bool.false_eq_true, if_false] at hnumenc hHB
  rw [List.append_assoc] at hbody hPAD
  -- the body, via `frameBody_ok`
  have hwidth : widthOf asg.tag info.bps = fun i => bps + asg.bpsOffset i := by
    funext i
    rw [hbps, widthOf_tag _ _ _ hasg]
  obtain ⟨rep, hrep, hr1, hr2, hr3, hr4⟩ := frameBody_ok HB PAD body fb more info number n asg.tag
    bss.tag srs.tag sst (C02.bsExtra bss) (C02.srExtra srs) subs raws chans
    hHB8 hPAD (by rw [hbody]; simp only [List.append_assoc]) hb8 hfb hbdec hn hsdec hssdec
    (by rw [hcch, hch]) (by rw [hsl, hch]) hrl (fun i h1 h2 => by rw [hwidth]; exact hsub i h1 h2) hrec (by rw [hbps]; exact hrange)
  refine ⟨rep, ?_, hr1, hr2, hr3, ?_⟩
  · -- the header, via `readFrame_head32` and `frameNum_ok`
    generalize hH : natToBits 15 0x7FFC ++ (natToBits 1 0 ++ (natToBits 4 bss.tag ++ (natToBits 4 srs.tag ++
      (natToBits 4 asg.tag ++ (natToBits 3 sst ++ natToBits 1 0))))) = H32
    have h32 : H32.length = 32 := by
      rw [← hH]
      simp only [List.length_append, natToBits_length]
    have hfb1 : fb = H32 ++ (bytesToBits num ++ (bss.extraBits ++ (srs.extraBits ++
        (natToBits 8 (crcBits rfcCrc8 HB) ++ (subs.flatMap SubFrame.bits ++
          (PAD ++ natToBits 16 (crcBits rfcCrc16 body))))))) := by
      rw [hfb, hbody, hHB, ← hH]
      simp only [List.append_assoc]
    have hall : fb ++ bytesToBits more = natToBits 15 0x7FFC ++ (natToBits 1 0 ++ (natToBits 4 bss.tag ++
        (natToBits 4 srs.tag ++ (natToBits 4 asg.tag ++ (natToBits 3 sst ++ (natToBits 1 0 ++
        (bytesToBits num ++ (bss.extraBits ++ (srs.extraBits ++
          (natToBits 8 (crcBits rfcCrc8 HB) ++ (subs.flatMap SubFrame.bits ++
            (PAD ++ (natToBits 16 (crcBits rfcCrc16 body) ++ bytesToBits more))))))))))))) := by
      conv => lhs; rw [hfb1, ← hH]
      simp only [List.append_assoc]
    rw [readFrame_head32 info number _ _ _ bss.tag srs.tag asg.tag sst hall (Nat.lt_succ_of_le hb15) (Nat.ne_of_gt hb1)
        (Nat.lt_of_le_of_lt hs14 (by decide)) (Nat.ne_of_lt (Nat.lt_succ_of_le hs14))
        (Nat.lt_of_le_of_lt hc10 (by decide)) (Nat.not_lt.2 hc10) hss8 hss3,
      frameNum_ok info number _ _ H32 num _ more bss srs _ _ _ _ (congrArg (packBytes · ++ more) hfb1) h32 hnumenc hnum
        rfl hok hsr]
    exact hrep
  · rw [hr4, hfb, List.length_append, natToBits_length, Nat.add_mul, Nat.div_mul_cancel (Nat.dvd_of_mod_eq_zero hb8)]

end Strict
end FlacVerif
