/-
The shape of what `encodeUtf8like` emits: for a value of more than 7 and at most 36 bits, a head byte announcing
`t` continuation bytes and carrying the bits above them, then `t` bytes `0b10xxxxxx` with six bits each. Every reader
of the coded number (the repository's parser, the strict decoder, the generated encoder) is proved against this one
description.
-/
import FlacVerif.Model.Codes
import FlacVerif.Lemmas.Bits
namespace FlacVerif

theorem bitLen_le_iff (v k : Nat) : bitLen v ≤ k ↔ v < 2 ^ k := by
  unfold bitLen
  by_cases hv : v = 0
  · subst hv; simp [Nat.two_pow_pos]
  · simp only [hv, if_false]
    have := Nat.log2_lt (k := k) hv
    omega

theorem encodeUtf8like_small {v : Nat} (h : v < 2 ^ 7) : encodeUtf8like v = some [v] := by
  simp only [encodeUtf8like, (bitLen_le_iff v 7).2 h, if_true]

theorem encodeUtf8like_big {v : Nat} (h : 36 < bitLen v) : encodeUtf8like v = none := by
  simp (disch := omega) only [encodeUtf8like, if_neg, if_pos]

theorem Repo.tail_byte (y : Nat) (hy : y < 64) : (0x80 ||| y) = 128 + y := or_add 6 2 y hy

/-- The `t` continuation bytes of `v`, most significant six bits first. -/
def utf8Tail (t v : Nat) : List Nat := (List.range t).map fun i => 0x80 ||| ((v >>> (6 * (t - 1 - i))) % 64)

theorem utf8Tail_succ (t v : Nat) : utf8Tail (t + 1) v = (128 + v / 64 ^ t % 64) :: utf8Tail t v := by
  unfold utf8Tail
  rw [List.range_succ_eq_map, List.map_cons, List.map_map]
  refine List.cons_eq_cons.2 ⟨?_, List.map_congr_left fun i _ => ?_⟩
  · rw [Nat.add_sub_cancel, Nat.sub_zero, Nat.shiftRight_eq_div_pow, Nat.pow_mul]
    exact Repo.tail_byte _ (Nat.mod_lt _ (by decide))
  · simp only [Function.comp, Nat.add_sub_cancel, show t - (i + 1) = t - 1 - i by omega]

theorem length_utf8Tail (t v : Nat) : (utf8Tail t v).length = t := by simp [utf8Tail]

/-- Every tail byte is a continuation byte `10xxxxxx`. -/
theorem utf8Tail_continuation {t v c : Nat} (h : c ∈ utf8Tail t v) : c / 64 = 2 := by
  induction t with
  | zero => simp [utf8Tail] at h
  | succ t ih =>
    rw [utf8Tail_succ, List.mem_cons] at h
    rcases h with rfl | h
    · omega
    · exact ih h

/-- Folding the continuation bytes back in, six bits at a time, appends the low `6 t` bits of `v`. -/
theorem foldl_utf8Tail (t v a : Nat) :
    (utf8Tail t v).foldl (fun acc c => acc * 64 + c % 64) a = a * 64 ^ t + v % 64 ^ t := by
  induction t generalizing a with
  | zero => simp [utf8Tail, Nat.mod_one]
  | succ t ih =>
    rw [utf8Tail_succ, List.foldl_cons, ih, Nat.mod_pow_succ, Nat.pow_succ]
    have : (128 + v / 64 ^ t % 64) % 64 = v / 64 ^ t % 64 := by omega
    rw [this, Nat.add_mul, Nat.mul_assoc, Nat.mul_comm 64, Nat.mul_comm (64 ^ t) (v / 64 ^ t % 64)]
    omega

/-- The head byte: `t + 1` ones, a zero, then the `6 - t` bits `x`. -/
theorem utf8_head (t x : Nat) (ht1 : 1 ≤ t) (ht6 : t ≤ 6) (hx : x < 2 ^ (6 - t)) :
    (if t = 6 then 0xFE else ([0x80, 0xC0, 0xE0, 0xF0, 0xF8, 0xFC, 0xFE].getD t 0) ||| (x % 2 ^ (6 - t)))
      = 256 - 2 ^ (7 - t) + x := by
  rw [Nat.mod_eq_of_lt hx]
  obtain rfl | rfl | rfl | rfl | rfl | rfl : t = 1 ∨ t = 2 ∨ t = 3 ∨ t = 4 ∨ t = 5 ∨ t = 6 := by omega
  all_goals simp only [Nat.reduceEqDiff, if_false, if_true, List.getD_cons_succ, List.getD_cons_zero, Nat.reduceSub,
    Nat.reducePow] at hx ⊢
  · exact or_add 5 6 x hx
  · exact or_add 4 14 x hx
  · exact or_add 3 30 x hx
  · exact or_add 2 62 x hx
  · exact or_add 1 126 x hx
  · omega

/-- What `encodeUtf8like` emits beyond seven bits: `t = 1 … 6` continuation bytes, after a head byte of `t + 1`
ones, a zero and the bits of `v` above the continuation bytes, which fit because `v < 2 ^ (5 t + 6)`. -/
theorem encodeUtf8like_multi {v : Nat} (h7 : ¬ v < 2 ^ 7) (h36 : v < 2 ^ 36) :
    ∃ t, 1 ≤ t ∧ t ≤ 6 ∧ v / 64 ^ t < 2 ^ (6 - t) ∧ utf8likeBytesize v = t + 1 ∧
      encodeUtf8like v = some ((256 - 2 ^ (7 - t) + v / 64 ^ t) :: utf8Tail t v) := by
  have hb7 : ¬ bitLen v ≤ 7 := by rwa [bitLen_le_iff]
  have hb36 : ¬ bitLen v > 36 := by have := (bitLen_le_iff v 36).2 h36; omega
  obtain ⟨t, ht, ht1, ht6⟩ : ∃ t, (bitLen v - 2) / 5 = t ∧ 1 ≤ t ∧ t ≤ 6 := ⟨_, rfl, by omega, by omega⟩
  have hcap : v < 2 ^ (5 * t + 6) := (bitLen_le_iff v _).1 (by omega)
  have hx : v / 64 ^ t < 2 ^ (6 - t) := by
    rw [Nat.div_lt_iff_lt_mul (Nat.pow_pos (by decide)), show (64 : Nat) ^ t = 2 ^ (6 * t) by rw [Nat.pow_mul],
      ← Nat.pow_add, show 6 - t + 6 * t = 5 * t + 6 by omega]
    exact hcap
  refine ⟨t, ht1, ht6, hx, by simp only [utf8likeBytesize, hb7, if_false]; omega, ?_⟩
  simp only [encodeUtf8like, hb7, hb36, if_false, ht]
  rw [Nat.shiftRight_eq_div_pow, Nat.pow_mul, utf8_head t _ ht1 ht6 hx]
  rfl

theorem encodeUtf8like_some (v : Nat) (h : v < 2 ^ 36) :
    ∃ bs, encodeUtf8like v = some bs ∧ bs.length = utf8likeBytesize v ∧ ∀ b ∈ bs, b < 256 := by
  by_cases h7 : v < 2 ^ 7
  · refine ⟨[v], encodeUtf8like_small h7, ?_, fun b hb => ?_⟩
    · rw [utf8likeBytesize, if_pos ((bitLen_le_iff v 7).2 h7)]
      rfl
    · rw [List.mem_singleton] at hb
      subst hb
      exact Nat.lt_trans h7 (by decide)
  · obtain ⟨t, _, _, hx, hsz, henc⟩ := encodeUtf8like_multi h7 h
    refine ⟨_, henc, by rw [List.length_cons, length_utf8Tail, hsz], fun b hb => ?_⟩
    rcases List.mem_cons.1 hb with rfl | hb
    · have hxP : v / 64 ^ t < 2 ^ (7 - t) := Nat.lt_of_lt_of_le hx (Nat.pow_le_pow_right (by decide) (by omega))
      have hP : 2 ^ (7 - t) ≤ 2 ^ 8 := Nat.pow_le_pow_right (by decide) (Nat.le_trans (Nat.sub_le 7 t) (by decide))
      exact Nat.lt_of_lt_of_le (Nat.add_lt_add_left hxP _) (Nat.le_of_eq (Nat.sub_add_cancel hP))
    · exact Nat.lt_of_div_lt_div (c := 64) (by rw [utf8Tail_continuation hb]; decide)

theorem utf8likeBytesize_le (v : Nat) (hv : v < 2 ^ 36) : utf8likeBytesize v ≤ 7 := by
  have hb : bitLen v ≤ 36 := (bitLen_le_iff v 36).2 hv
  unfold utf8likeBytesize
  simp only
  split
  · omega
  · have : (bitLen v - 2) / 5 ≤ 6 := by omega
    omega

end FlacVerif
