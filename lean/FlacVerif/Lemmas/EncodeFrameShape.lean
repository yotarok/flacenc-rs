/-
What is known of the frame `encode_frame` returns for an admissible block (`FrameOutcome`,
`encodeFrame_outcome`): the block's own facts, a header for one of the channel assignments the stereo selection can
choose and, for every channel of that assignment, a `SubOutcome` of `encode_subframe` on that channel's signal at that
channel's width (`FrameForm.facts`).  The same for the frame loop and the stream (`FramesOutcome`,
`encodeFrames_outcome`, `encodeStream_outcome`).  Results about emitted frames take a `FrameOutcome` as their
hypothesis and are sub-frame-level ones applied channel by channel; the first, here: every emitted frame is
well-formed and serialises (`FrameOutcome.wf`, `FrameOutcome.bits`).
-/
import FlacVerif.Lemmas.Outcome
import FlacVerif.Lemmas.Blocks
import FlacVerif.Lemmas.CountFrame
import FlacVerif.Lemmas.HeaderCodes
import FlacVerif.Theorems.C09
namespace FlacVerif
namespace Strict

theorem midSide_range (bps : Nat) (hb : 1 ≤ bps) (l r : List Int)
    (hl : ∀ x ∈ l, SubFrame.inRange bps x = true) (hr : ∀ x ∈ r, SubFrame.inRange bps x = true) :
    (∀ x ∈ midOf l r, SubFrame.inRange bps x = true) ∧
    (∀ x ∈ sideOf l r, SubFrame.inRange (bps + 1) x = true) := by
  have hdbl : (2 : Nat) ^ (bps + 1 - 1) = 2 * 2 ^ (bps - 1) := by
    rw [show bps + 1 - 1 = (bps - 1) + 1 by omega, Nat.pow_succ, Nat.mul_comm]
  have key : ∀ p ∈ List.zipWith midSide l r, SubFrame.inRange bps p.1 = true ∧ SubFrame.inRange (bps + 1) p.2 = true := by
    intro p hp
    rw [List.mem_iff_getElem] at hp
    obtain ⟨i, hi, rfl⟩ := hp
    rw [List.getElem_zipWith]
    rw [List.length_zipWith] at hi
    have ha := (Layout.inRange_iff_nat bps _).1 (hl _ (List.getElem_mem (show i < l.length by omega)))
    have hb' := (Layout.inRange_iff_nat bps _).1 (hr _ (List.getElem_mem (show i < r.length by omega)))
    simp only [midSide, Layout.inRange_iff_nat, hdbl, Int.shiftRight_eq_div_pow]
    constructor <;> constructor <;> omega
  constructor
  · intro x hx
    obtain ⟨p, hp, rfl⟩ := List.mem_map.1 hx
    exact (key p hp).1
  · intro x hx
    obtain ⟨p, hp, rfl⟩ := List.mem_map.1 hx
    exact (key p hp).2

theorem FrameForm.facts {chans : List (List Int)} {asg : ChannelAssignment} {raws : List (List Int)}
    (hf : FrameForm chans asg raws) (bps n : Nat) (hch : 1 ≤ chans.length ∧ chans.length ≤ 8)
    (hlen : ∀ c ∈ chans, c.length = n) (hb : 1 ≤ bps ∧ bps ≤ 24)
    (hx : ∀ c ∈ chans, ∀ x ∈ c, SubFrame.inRange bps x = true) :
    raws.length = asg.channels ∧ asg.channels = chans.length ∧ Repo.ChOk asg ∧
    ∀ i (h : i < raws.length), raws[i].length = n ∧ (1 ≤ bps + asg.bpsOffset i ∧ bps + asg.bpsOffset i ≤ 25) ∧
      ∀ x ∈ raws[i], SubFrame.inRange (bps + asg.bpsOffset i) x = true := by
  have stereo : ∀ l r, chans = [l, r] →
      (l.length = n ∧ ∀ x ∈ l, SubFrame.inRange bps x = true) ∧
      (r.length = n ∧ ∀ x ∈ r, SubFrame.inRange bps x = true) ∧
      ((midOf l r).length = n ∧ ∀ x ∈ midOf l r, SubFrame.inRange bps x = true) ∧
      ((sideOf l r).length = n ∧ ∀ x ∈ sideOf l r, SubFrame.inRange (bps + 1) x = true) := by
    intro l r hc
    subst hc
    have hl := hlen l (by simp)
    have hr := hlen r (by simp)
    obtain ⟨xm, xs⟩ := midSide_range bps hb.1 l r (hx l (by simp)) (hx r (by simp))
    have hms : (List.zipWith midSide l r).length = n := by rw [List.length_zipWith]; omega
    exact ⟨⟨hl, hx l (by simp)⟩, ⟨hr, hx r (by simp)⟩, ⟨by rw [List.length_map]; exact hms, xm⟩,
      ⟨by rw [List.length_map]; exact hms, xs⟩⟩
  have w0 : 1 ≤ bps ∧ bps ≤ 25 := ⟨hb.1, by omega⟩
  have w1 : 1 ≤ bps + 1 ∧ bps + 1 ≤ 25 := ⟨by omega, by omega⟩
  cases hf with
  | indep =>
    refine ⟨rfl, rfl, hch, fun i hi => ?_⟩
    exact ⟨hlen _ (List.getElem_mem hi), w0, hx _ (List.getElem_mem hi)⟩
  | left l r hc =>
    obtain ⟨fl, _, _, fs⟩ := stereo l r hc
    refine ⟨rfl, by rw [hc]; rfl, trivial, fun i hi => ?_⟩
    match i, hi with
    | 0, _ => exact ⟨fl.1, w0, fl.2⟩
    | 1, _ => exact ⟨fs.1, w1, fs.2⟩
  | right l r hc =>
    obtain ⟨_, fr, _, fs⟩ := stereo l r hc
    refine ⟨rfl, by rw [hc]; rfl, trivial, fun i hi => ?_⟩
    match i, hi with
    | 0, _ => exact ⟨fs.1, w1, fs.2⟩
    | 1, _ => exact ⟨fr.1, w0, fr.2⟩
  | mid l r hc =>
    obtain ⟨_, _, fm, fs⟩ := stereo l r hc
    refine ⟨rfl, by rw [hc]; rfl, trivial, fun i hi => ?_⟩
    match i, hi with
    | 0, _ => exact ⟨fm.1, w0, fm.2⟩
    | 1, _ => exact ⟨fs.1, w1, fs.2⟩

/-- `f` is what `encode_frame` returns as frame `number` for an admissible block: `chans`, 1 to 8 channels of
`1 ≤ n < 2^16` samples of `bps` bits.  Its assignment is `asg`, its sub-frames code the signals `raws`, with a
`SubOutcome` per channel, and together report no more than as many verbatim sub-frames would (`C09_frame`).  The block's
own facts are kept, so that a result about emitted frames needs this and a bound on `number`, nothing else. -/
structure FrameOutcome (cfg : SubCfg) (chans : List (List Int)) (bps rate number n : Nat) (f : Frame)
    (asg : ChannelAssignment) (raws : List (List Int)) : Prop where
  chanCount : 1 ≤ chans.length ∧ chans.length ≤ 8
  chanLen : ∀ c ∈ chans, c.length = n
  size : 1 ≤ n ∧ n < 2 ^ 16
  width : 1 ≤ bps ∧ bps ≤ 24
  range : ∀ c ∈ chans, ∀ x ∈ c, SubFrame.inRange bps x = true
  form : FrameForm chans asg raws
  header : headerFor asg n bps rate number = some f.header
  asgOk : Repo.ChOk asg
  channels : asg.channels = chans.length
  count : f.subframes.length = asg.channels
  len : f.subframes.length = raws.length
  sub : ∀ i (_ : i < f.subframes.length) (_ : i < raws.length),
    raws[i].length = n ∧ SubOutcome cfg raws[i] (bps + asg.bpsOffset i) f.subframes[i]
  total : C09.subTotal f ≤ chans.length * verbatimBits n bps

theorem encodeFrame_outcome (cfg : SubCfg) (st : StereoCfg) (chans : List (List Int)) (bps rate number n : Nat)
    (log log' : List OEvent) (f : Frame)
    (hch : 1 ≤ chans.length ∧ chans.length ≤ 8) (hlen : ∀ c ∈ chans, c.length = n) (hn : 1 ≤ n ∧ n < 2 ^ 16)
    (hb : 1 ≤ bps ∧ bps ≤ 24) (hx : ∀ c ∈ chans, ∀ x ∈ c, SubFrame.inRange bps x = true)
    (hmax : cfg.maxP ≤ 14) (hlog : ∀ e ∈ log, e.Ok)
    (h : encodeFrame cfg st chans bps rate number log = some (f, log')) :
    ∃ asg raws, FrameOutcome cfg chans bps rate number n f asg raws := by
  obtain ⟨_, asg, raws, hform, hhdr, hsl, hsub⟩ := encodeFrame_shape cfg st chans bps rate number log log' f h
  rw [headD_length hch.1 hlen] at hhdr
  obtain ⟨hrl, hac, hasg, hraw⟩ := hform.facts bps n hch hlen hb hx
  refine ⟨asg, raws, hch, hlen, hn, hb, hx, hform, hhdr, hasg, hac, hsl.trans hrl, hsl, fun i h1 h2 => ?_,
    (C09.C09_frame cfg st chans bps rate number n log log' f hn.1 hlen h).1⟩
  obtain ⟨li, li', hli, he⟩ := hsub i h1 h2
  obtain ⟨hl, hbi, hxr⟩ := hraw i h2
  exact ⟨hl, encodeSubframe_outcome cfg _ _ li li' _ (hl ▸ hn.2) hbi hxr hmax (fun e hm => hlog e (hli e hm)) he⟩

section
variable {cfg : SubCfg} {chans : List (List Int)} {bps rate number n : Nat} {f : Frame} {asg : ChannelAssignment}
  {raws : List (List Int)} (fo : FrameOutcome cfg chans bps rate number n f asg raws)
include fo

theorem FrameOutcome.wf : ∀ s ∈ f.subframes, s.WF := by
  intro s hs
  obtain ⟨i, hi, rfl⟩ := List.getElem_of_mem hs
  obtain ⟨hl, o⟩ := fo.sub i hi (fo.len ▸ hi)
  exact o.wf (by have := fo.size; omega)

/-- `Frame::write` succeeds on every emitted frame and writes what `count_bits` reports, a whole number of
bytes — for frame numbers below `2^36`, the range of the UTF-8-like coding (the encoder's own limit; the
repository's parser accepts fewer, `FrameOutcome.good`). -/
theorem FrameOutcome.bits (hnum : number < 2 ^ 36) :
    ∃ fb, f.bits rfcCrc8 rfcCrc16 = some fb ∧ f.count = some fb.length ∧ 8 ∣ fb.length := by
  obtain ⟨bss, _, hf⟩ := headerFor_some fo.header
  exact Count.frame_count rfcCrc8 rfcCrc16 f (by rw [hf]; exact hnum)
    (by rw [hf]; exact Nat.le_trans (Repo.chTag_le asg fo.asgOk) (by decide)) fo.wf

end

/-- What the frame loop returns on admissible blocks of `nch` channels (`BlockOk`), from frame number `number` on:
frame by frame, a `FrameOutcome` of the block with its number. -/
inductive FramesOutcome (cfg : SubCfg) (bps rate nch : Nat) : Nat → List (List (List Int)) → List Frame → Prop
  | nil (number : Nat) : FramesOutcome cfg bps rate nch number [] []
  | cons {number : Nat} {b : List (List Int)} {blocks : List (List (List Int))} {f : Frame} {frames : List Frame}
      {asg : ChannelAssignment} {raws : List (List Int)} : b.length = nch →
      FrameOutcome cfg b bps rate number (b.headD []).length f asg raws →
      FramesOutcome cfg bps rate nch (number + 1) blocks frames →
      FramesOutcome cfg bps rate nch number (b :: blocks) (f :: frames)

theorem encodeFrames_outcome (cfg : SubCfg) (st : StereoCfg) (bps rate nch bs : Nat)
    (hnch : 1 ≤ nch ∧ nch ≤ 8) (hbs : bs < 2 ^ 16) (hb : 1 ≤ bps ∧ bps ≤ 24) (hmax : cfg.maxP ≤ 14) :
    ∀ (blocks : List (List (List Int))) (number : Nat) (log log' : List OEvent) (frames : List Frame),
      (∀ b ∈ blocks, BlockOk nch bps bs b) → (∀ e ∈ log, e.Ok) →
      encodeFrames cfg st bps rate blocks number log = some (frames, log') →
      FramesOutcome cfg bps rate nch number blocks frames := by
  intro blocks
  induction blocks with
  | nil =>
    intro number log log' frames _ _ h
    simp only [encodeFrames, Option.some.injEq, Prod.mk.injEq] at h
    obtain ⟨rfl, _⟩ := h
    exact .nil number
  | cons b bs' ih =>
    intro number log log' frames hok hlog h
    simp only [encodeFrames, Option.bind_eq_bind, Option.bind_eq_some_iff, Option.some.injEq, Prod.mk.injEq] at h
    obtain ⟨⟨f, l1⟩, hf, ⟨fs, l2⟩, hfs, rfl, _⟩ := h
    have hsub := encodeFrame_sub cfg st b bps rate number log l1 f hf
    have hbk := hok b List.mem_cons_self
    obtain ⟨hch, hn⟩ := hbk.frameHyps hnch hbs
    obtain ⟨asg, raws, fo⟩ := encodeFrame_outcome cfg st b bps rate number (b.headD []).length log l1 f hch hbk.len hn
      hb hbk.range hmax hlog hf
    exact .cons hbk.nch fo (ih (number + 1) l1 l2 fs (fun x hx => hok x (List.mem_cons_of_mem _ hx))
      (fun e he => hlog e (hsub e he)) hfs)

/-- What `encode_with_fixed_block_size` returns for admissible channels: the frames of the blocks, from number 0, and
the STREAMINFO assembled from the block sizes and the sizes the frames report. -/
theorem encodeStream_outcome {md5 : List Nat → List Nat} {cfg : SubCfg} {st : StereoCfg} {bs : Nat}
    {chans : List (List Int)} {bps rate : Nat} {log log' : List OEvent} {s : Stream} (total : Nat)
    (hch : 1 ≤ chans.length ∧ chans.length ≤ 8) (hlen : ∀ c ∈ chans, c.length = total)
    (hbs : 1 ≤ bs ∧ bs < 2 ^ 16) (hb : 1 ≤ bps ∧ bps ≤ 24)
    (hx : ∀ c ∈ chans, ∀ x ∈ c, SubFrame.inRange bps x = true) (hmax : cfg.maxP ≤ 14) (hlog : ∀ e ∈ log, e.Ok)
    (h : encodeStream md5 cfg st bs chans bps rate log = some (s, log')) :
    ∃ frames counts, FramesOutcome cfg bps rate chans.length 0 (blocksOf bs chans) frames ∧
      frames.mapM Frame.count = some counts ∧
      s = ⟨assembleInfo rate chans.length bps bs (((blocksOf bs chans).map fun b => (b.headD []).length).zip counts)
        total (md5 (md5Input bps (Rfc.interleave chans))), [], frames⟩ := by
  obtain ⟨frames, counts, hfr, hcounts, rfl⟩ := encodeStream_shape h
  rw [headD_length hch.1 hlen]
  exact ⟨frames, counts, encodeFrames_outcome cfg st bps rate chans.length bs hch hbs.2 hb hmax (blocksOf bs chans) 0 log
    log' frames (blocksOf_ok bs chans total chans.length bps hbs.1 hch.1 rfl hlen hx) hlog hfr, hcounts, rfl⟩

end Strict
namespace Extras
open Strict

theorem encodeFrame_wf (cfg : SubCfg) (st : StereoCfg) (chans : List (List Int)) (bps rate number n : Nat)
    (log log' : List OEvent) (f : Frame)
    (hch : 1 ≤ chans.length ∧ chans.length ≤ 8) (hlen : ∀ c ∈ chans, c.length = n) (hn : 1 ≤ n ∧ n < 2 ^ 16)
    (hb : 1 ≤ bps ∧ bps ≤ 24) (hx : ∀ c ∈ chans, ∀ x ∈ c, SubFrame.inRange bps x = true)
    (hmax : cfg.maxP ≤ 14) (hlog : ∀ e ∈ log, e.Ok)
    (h : encodeFrame cfg st chans bps rate number log = some (f, log')) :
    (∀ s ∈ f.subframes, s.WF) ∧ ∃ asg, asg.tag ≤ 15 ∧ headerFor asg n bps rate number = some f.header := by
  obtain ⟨asg, raws, fo⟩ := encodeFrame_outcome cfg st chans bps rate number n log log' f hch hlen hn hb hx hmax hlog h
  exact ⟨fo.wf, asg, Nat.le_trans (Repo.chTag_le asg fo.asgOk) (by decide), fo.header⟩

end Extras

end FlacVerif
