/-
`MemSink<u8>` (model: `ByteSink`): each write appends its bits to what the storage bytes hold; so `step` appends the ideal
bits of every valid op, and `run` those of an op sequence.
-/
import FlacVerif.Lemmas.BitStore
namespace FlacVerif
namespace ByteSink

structure Inv (s : ByteSink) : Prop where
  size : s.storage.length = (s.len + 7) / 8
  tail : ∀ i, s.len ≤ i → s.bitAt i = false

theorem Inv.size_le {s : ByteSink} (h : s.Inv) : s.storage.length ≤ s.len := by rw [h.size]; omega

theorem inv_empty : empty.Inv := ⟨rfl, fun i _ => by simp [bitAt, empty]⟩

theorem stores_iff (s : ByteSink) (bits : Bits) : Stores s.storage s.len bits ↔ s.Inv ∧ s.abs = bits := by
  rw [FlacVerif.stores_iff (by decide)]
  exact ⟨fun ⟨⟨h1, h2⟩, h3⟩ => ⟨⟨h1, h2⟩, h3⟩, fun ⟨⟨h1, h2⟩, h3⟩ => ⟨⟨h1, h2⟩, h3⟩⟩

theorem stores_pad {s : ByteSink} {bits : Bits} (hs : Stores s.storage s.len bits) :
    s.len = bits.length ∧ s.paddings < 8 ∧ storeBits s.storage = bits ++ List.replicate s.paddings false := by
  have hl := hs.len
  obtain ⟨k, hk, hst, hlen⟩ := hs.length_eq
  have hr : s.paddings = k := by simp only [paddings]; omega
  exact ⟨hl, hr ▸ hk, hr ▸ hst⟩

/-- The whole bytes and the tail byte that `write_msbs` pushes hold the first `K` bits of `v`, `K` being `n` rounded up
to a whole number of bytes. -/
theorem tailBytes_bits {w : Nat} (hw8 : w % 8 = 0) (storage : List (BitVec 8)) (len' : Nat) (v : BitVec w) (n : Nat)
    (hn : n ≤ w) :
    ∃ bytes K, writeMsbs.tailBytes storage len' v n = some ⟨storage ++ bytes, len'⟩ ∧
      storeBits bytes = (msbBits v).take K ∧ n ≤ K ∧ K ≤ w ∧ K < n + 8 := by
  obtain ⟨q, r, hr, rfl⟩ : ∃ q r, r < 8 ∧ n = 8 * q + r := ⟨n / 8, n % 8, Nat.mod_lt _ (by decide), (Nat.div_add_mod n 8).symm⟩
  have hq : (8 * q + r) / 8 = q := by rw [Nat.mul_add_div (by decide), Nat.div_eq_of_lt hr, Nat.add_zero]
  have hm : (8 * q + r) % 8 = r := by rw [Nat.mul_add_mod, Nat.mod_eq_of_lt hr]
  have hfull := storeBits_bytes v q (Nat.le_trans (Nat.le_add_right _ r) hn)
  by_cases ht : r > 0
  · have h1 : 8 * q + 8 ≤ w := by omega
    refine ⟨(List.range q).map (fun i => (v >>> (w - 8 * (i + 1))).setWidth 8) ++
        [((v <<< (q * 8)) >>> (w - 8)).setWidth 8], 8 * q + 8, ?_, ?_, by omega, h1, by omega⟩
    · simp only [writeMsbs.tailBytes, hq, hm, ht, if_true, chkShl, chkSub, chkShr, show q * 8 < w by omega,
        show 8 ≤ w by omega, show w - 8 < w by omega, bind, Option.bind, List.append_assoc]
    · rw [storeBits_append, hfull, storeBits_singleton, msbBits_tailByte v _ (by omega), Nat.mul_comm q 8, ← List.take_add]
  · refine ⟨(List.range q).map (fun i => (v >>> (w - 8 * (i + 1))).setWidth 8), 8 * q, ?_, hfull,
      by omega, Nat.le_trans (Nat.le_add_right _ r) hn, by omega⟩
    simp only [writeMsbs.tailBytes, hq, hm, ht, if_false]

/-- `write_msbs` once its checks have passed: `m` is the masked operand, `k` the free bits of the last byte. -/
theorem writeMsbs_eq {w : Nat} (s : ByteSink) (val m : BitVec w) (n k : Nat) (h0 : n ≠ 0)
    (hm : maskMsbs val n = some m) (hr : s.paddings = k) (hkw : k < w) (hne : k ≠ 0 → s.storage.isEmpty = false) :
    s.writeMsbs val n =
      if k = 0 then writeMsbs.tailBytes s.storage (s.len + n) m n
      else if k ≥ n then
        some ⟨s.storage.modify (s.storage.length - 1) (· ||| (m >>> (w - k)).setWidth 8), s.len + n⟩
      else writeMsbs.tailBytes (s.storage.modify (s.storage.length - 1) (· ||| (m >>> (w - k)).setWidth 8))
        (s.len + n) (m <<< k) (n - k) := by
  by_cases hk0 : k = 0
  · simp only [writeMsbs, h0, if_false, hm, hr, hk0, ne_eq, not_true_eq_false, if_true, bind, Option.bind]
  · simp only [writeMsbs, h0, if_false, hm, hr, hk0, ne_eq, not_false_eq_true, if_true, chkSub, chkShr, chkShl,
      Nat.le_of_lt hkw, Nat.sub_lt (Nat.lt_of_le_of_lt (Nat.zero_le k) hkw) (Nat.pos_of_ne_zero hk0), hkw, hne hk0,
      Bool.false_eq_true, bind, Option.bind]

theorem writeMsbs_stores {w : Nat} (hw8 : w % 8 = 0) (hw : 8 ≤ w) (s : ByteSink) (bits : Bits)
    (hs : Stores s.storage s.len bits) (val : BitVec w) (n : Nat) (hn : n ≤ w) :
    ∃ s', s.writeMsbs val n = some s' ∧ Stores s'.storage s'.len (bits ++ (msbBits val).take n) := by
  by_cases h0 : n = 0
  · subst h0
    exact ⟨s, by simp only [writeMsbs, if_true], by rwa [List.take_zero, List.append_nil]⟩
  obtain ⟨m, hm, hmb⟩ := maskMsbs_bits val n (Nat.pos_of_ne_zero h0) hn
  have hpl : ((msbBits val).take n).length = n := by rw [List.length_take, length_msbBits]; exact Nat.min_eq_left hn
  generalize (msbBits val).take n = p at hmb hpl ⊢
  obtain ⟨hl, hk, hst⟩ := stores_pad hs
  generalize hr : s.paddings = k at hk hst
  have hkw : k < w := Nat.lt_of_lt_of_le hk hw
  by_cases hk0 : k = 0
  · subst hk0
    obtain ⟨bytes, K, hb1, hb2, hK1, hK2, hK3⟩ := tailBytes_bits hw8 s.storage (s.len + n) m n hn
    refine ⟨_, by rw [writeMsbs_eq s val m n 0 h0 hm hr hkw (fun h => absurd rfl h), if_pos rfl]; exact hb1,
      by simp only [hl, List.length_append, hpl], K - n, by omega, ?_⟩
    rw [storeBits_append, hst, hb2, hmb, List.replicate_zero, List.append_nil,
      take_append_zeros p _ _ (by omega) (by omega), hpl, List.append_assoc]
  · -- partial last byte: its `k` free bits take the first `k` bits of `m`
    have hne : s.storage.isEmpty = false :=
      List.isEmpty_eq_false_iff.2 (List.ne_nil_of_length_pos (by have := length_of_storeBits_eq hst; omega))
    have hor := storeBits_orLast s.storage bits ((msbBits m).take k) k
      (by rw [List.length_take, length_msbBits]; exact Nat.min_eq_left (Nat.le_of_lt hkw)) (Nat.pos_of_ne_zero hk0) hst
      ((m >>> (w - k)).setWidth 8) (msbBits_topBits m k hw (Nat.le_of_lt hk))
    by_cases hkn : k ≥ n
    · refine ⟨_, by rw [writeMsbs_eq s val m n k h0 hm hr hkw (fun _ => hne), if_neg hk0, if_pos hkn],
        by simp only [hl, List.length_append, hpl], k - n, by omega, ?_⟩
      rw [hor, hmb, take_append_zeros p _ _ (by omega) (by omega), hpl, List.append_assoc]
    · -- whole bytes go on from the now byte-aligned position
      obtain ⟨bytes, K, hb1, hb2, hK1, hK2, hK3⟩ := tailBytes_bits hw8
        (s.storage.modify (s.storage.length - 1) (· ||| (m >>> (w - k)).setWidth 8)) (s.len + n) (m <<< k) (n - k)
        (Nat.le_trans (Nat.sub_le n k) hn)
      refine ⟨_, by rw [writeMsbs_eq s val m n k h0 hm hr hkw (fun _ => hne), if_neg hk0, if_neg hkn]; exact hb1,
        by simp only [hl, List.length_append, hpl], K - (n - k), by omega, ?_⟩
      have e1 : (msbBits m).take k = p.take k := by rw [hmb, List.take_append_of_le_length (by omega)]
      have e2 : msbBits (m <<< k) = p.drop k ++ List.replicate (w - n + k) false := by
        rw [msbBits_shiftLeft m k (Nat.le_of_lt hkw), hmb, List.drop_append_of_le_length (by omega), List.append_assoc,
          List.replicate_append_replicate]
      have hdl : (p.drop k).length = n - k := by rw [List.length_drop, hpl]
      rw [storeBits_append, hor, hb2, e1, e2, take_append_zeros _ _ _ (by omega) (by omega), hdl,
        List.append_assoc bits, ← List.append_assoc (p.take k), List.take_append_drop, List.append_assoc]

theorem writeLsbs_stores {w : Nat} (hw8 : w % 8 = 0) (hw : 8 ≤ w) (s : ByteSink) (bits : Bits)
    (hs : Stores s.storage s.len bits) (v n : Nat) (hn : n ≤ w) :
    ∃ s', s.writeLsbs (BitVec.ofNat w v) n = some s' ∧ Stores s'.storage s'.len (bits ++ natToBits n v) := by
  by_cases h0 : n = 0
  · subst h0
    exact ⟨s, by simp only [writeLsbs, if_true], by rwa [natToBits, List.append_nil]⟩
  · have hk : w - n < w := Nat.sub_lt (Nat.lt_of_lt_of_le (Nat.pos_of_ne_zero h0) hn) (Nat.pos_of_ne_zero h0)
    have := writeMsbs_stores hw8 hw s bits hs (BitVec.ofNat w v <<< (w - n)) n hn
    rw [msbBits_lsbs w v n hn, List.take_left' (natToBits_length n v)] at this
    simpa only [writeLsbs, h0, if_false, chkSub, chkShl, hn, hk, if_true, bind, Option.bind] using this

/-- `align_to_byte` declares the zeros that end the last byte written: the storage then holds the bit string exactly. -/
theorem alignToByte_eq (s : ByteSink) (bits : Bits) (hs : Stores s.storage s.len bits) :
    s.alignToByte.len = (bits ++ List.replicate ((8 - s.len % 8) % 8) false).length ∧
      storeBits s.alignToByte.storage = bits ++ List.replicate ((8 - s.len % 8) % 8) false := by
  obtain ⟨hl, _, hst⟩ := stores_pad hs
  exact ⟨by rw [List.length_append, List.length_replicate, ← hl]; rfl, hst⟩

theorem alignToByte_stores (s : ByteSink) (bits : Bits) (hs : Stores s.storage s.len bits) :
    Stores s.alignToByte.storage s.alignToByte.len (bits ++ List.replicate ((8 - s.len % 8) % 8) false) :=
  ⟨(alignToByte_eq s bits hs).1, 0, by decide, by rw [(alignToByte_eq s bits hs).2, List.replicate_zero, List.append_nil]⟩

theorem writeZeros_stores (s : ByteSink) (bits : Bits) (hs : Stores s.storage s.len bits) (n : Nat) :
    Stores (s.writeZeros n).storage (s.writeZeros n).len (bits ++ List.replicate n false) := by
  obtain ⟨hl, hk, hst⟩ := stores_pad hs
  generalize hr : s.paddings = k at hk hst
  by_cases hnk : n ≤ k
  · refine ⟨by simp only [writeZeros, hr, hnk, if_true, hl, List.length_append, List.length_replicate], k - n,
      Nat.lt_of_le_of_lt (Nat.sub_le k n) hk, ?_⟩
    simp only [writeZeros, hr, hnk, if_true]
    rw [hst, List.append_assoc, List.replicate_append_replicate, Nat.add_sub_cancel' hnk]
  · -- the zero bytes cover what does not fit into the last byte, with fewer than 8 bits to spare
    have he : n ≤ k + 8 * ((n - k + 7) / 8) ∧ k + 8 * ((n - k + 7) / 8) < n + 8 := by omega
    refine ⟨by simp only [writeZeros, hr, hnk, if_false, hl, List.length_append, List.length_replicate]; omega, ?_⟩
    simp only [writeZeros, hr, hnk, if_false]
    generalize (n - k + 7) / 8 = e at he ⊢
    refine ⟨k + 8 * e - n, by omega, ?_⟩
    rw [storeBits_append, storeBits_replicate_zero, hst, List.append_assoc, List.append_assoc,
      List.replicate_append_replicate, List.replicate_append_replicate, Nat.add_sub_cancel' he.1]

/-- Whole bytes pushed onto a sink whose storage holds `bits` exactly (`write_bytes_aligned`, the end of `write`). -/
theorem pushBytes_stores (st : List (BitVec 8)) (bits : Bits) (hst : storeBits st = bits) (bytes : List (BitVec 8))
    (len' : Nat) (p : Bits) (k : Nat) (hk : k < 8) (hb : storeBits bytes = p ++ List.replicate k false)
    (hl : len' = (bits ++ p).length) : Stores (st ++ bytes) len' (bits ++ p) :=
  ⟨hl, k, hk, by rw [storeBits_append, hst, hb, List.append_assoc]⟩

theorem writeBytesAligned_stores (s : ByteSink) (bits : Bits) (hs : Stores s.storage s.len bits) (bs : List Nat) :
    Stores (s.writeBytesAligned bs).storage (s.writeBytesAligned bs).len
      (bits ++ (List.replicate ((8 - s.len % 8) % 8) false ++ bytesToBits bs)) := by
  obtain ⟨hal, hst⟩ := alignToByte_eq s bits hs
  rw [← List.append_assoc]
  refine pushBytes_stores _ _ hst (bs.map (BitVec.ofNat 8)) _ (bytesToBits bs) 0 (by decide)
    (by rw [storeBits_ofNat8, List.replicate_zero, List.append_nil]) ?_
  rw [List.length_append (bs := bytesToBits bs), ← hal, ← storeBits_ofNat8, length_storeBits, List.length_map]
  rfl

theorem write_stores {w : Nat} (hw8 : w % 8 = 0) (hw : 8 ≤ w) (s : ByteSink) (bits : Bits)
    (hs : Stores s.storage s.len bits) (v : Nat) :
    ∃ s', s.write (BitVec.ofNat w v) = some s' ∧ Stores s'.storage s'.len (bits ++ natToBits w v) := by
  obtain ⟨hl, hk, hst⟩ := stores_pad hs
  generalize hr : s.paddings = k at hk hst
  have hkw : k < w := Nat.lt_of_lt_of_le hk hw
  -- up to the byte boundary with `write_msbs`, the rest as whole bytes
  obtain ⟨s1, e1, r1⟩ : ∃ s1 : ByteSink, s.write (BitVec.ofNat w v) = some ⟨s1.storage ++
        (List.range (w / 8)).map (fun i => ((BitVec.ofNat w v <<< k) >>> (w - 8 * (i + 1))).setWidth 8), s.len + w⟩ ∧
      Stores s1.storage s1.len (bits ++ (natToBits w v).take k) := by
    by_cases hk0 : k > 0
    · obtain ⟨s1, e1, r1⟩ := writeMsbs_stores hw8 hw s bits hs (BitVec.ofNat w v) k (Nat.le_of_lt hkw)
      rw [msbBits_ofNat] at r1
      exact ⟨s1, by simp only [write, hr, hk0, if_true, e1, chkShl, hkw, Option.bind_eq_bind, Option.bind_some], r1⟩
    · have : k = 0 := Nat.eq_zero_of_not_pos hk0
      subst this
      rw [List.take_zero, List.append_nil]
      exact ⟨s, by simp only [write, hr, gt_iff_lt, Nat.lt_irrefl, if_false, chkShl, hkw, if_true, Option.bind_eq_bind,
        Option.bind_some], hs⟩
  -- `s1` is byte aligned, so it holds its bits exactly
  obtain ⟨hl1, k1, hk1, hst1⟩ := r1
  have hlen := length_of_storeBits_eq hst
  have hlen1 := length_of_storeBits_eq hst1
  have htk : ((natToBits w v).take k).length = k := by
    rw [List.length_take, natToBits_length]; exact Nat.min_eq_left (Nat.le_of_lt hkw)
  rw [List.length_append, htk] at hlen1
  have : k1 = 0 := by omega
  subst this
  rw [List.replicate_zero, List.append_nil] at hst1
  refine ⟨_, e1, ?_⟩
  rw [← List.take_append_drop k (natToBits w v), ← List.append_assoc]
  refine pushBytes_stores _ _ hst1 _ _ _ k hk ?_ ?_
  · rw [storeBits_bytes _ _ (by omega), List.take_of_length_le (by rw [length_msbBits]; omega),
      msbBits_shiftLeft _ k (Nat.le_of_lt hkw), msbBits_ofNat]
  · show s.len + w = _
    rw [List.append_assoc, List.take_append_drop, List.length_append, natToBits_length, hl]

theorem step_writeTwoc (s : ByteSink) (v : Int) (n : Nat) :
    s.step (.writeTwoc v n) = if 1 ≤ n ∧ n ≤ 64 then s.writeMsbs (BitVec.ofInt 64 v <<< (64 - n)) n else none :=
  twoc_shift _ v n

/-- Every valid operation succeeds on `MemSink<u8>` (no panic) and appends exactly the ideal bits. -/
theorem step_stores (s : ByteSink) (bits : Bits) (hs : Stores s.storage s.len bits) (op : Op) (hv : op.Valid) :
    ∃ s', s.step op = some s' ∧ Stores s'.storage s'.len (bits ++ op.ideal s.len) := by
  cases op with
  | alignToByte => exact ⟨_, rfl, alignToByte_stores s bits hs⟩
  | writeLsbs w v n =>
    obtain ⟨hw8, hw, _⟩ := validWidth_facts hv.1
    exact writeLsbs_stores hw8 hw s bits hs v n hv.2.2
  | writeMsbs w v n =>
    obtain ⟨hw8, hw, _⟩ := validWidth_facts hv.1
    have := writeMsbs_stores hw8 hw s bits hs (BitVec.ofNat w v) n hv.2.2
    rwa [msbBits_ofNat] at this
  | write w v =>
    obtain ⟨hw8, hw, _⟩ := validWidth_facts hv.1
    exact write_stores hw8 hw s bits hs v
  | writeTwoc v n =>
    obtain ⟨h1, hn, _⟩ := hv
    have := writeMsbs_stores (w := 64) (by decide) (by decide) s bits hs (BitVec.ofInt 64 v <<< (64 - n)) n hn
    rw [msbBits_twoc v n hn, List.take_left' (Count.twoc_length n v)] at this
    rw [step_writeTwoc, if_pos ⟨h1, hn⟩]
    exact this
  | writeZeros n => exact ⟨_, rfl, writeZeros_stores s bits hs n⟩
  | writeBytesAligned bs => exact ⟨_, rfl, writeBytesAligned_stores s bits hs bs⟩

theorem run_stores (s : ByteSink) (bits : Bits) (hs : Stores s.storage s.len bits) (ops : List Op)
    (hv : ∀ op ∈ ops, op.Valid) :
    ∃ s', s.run ops = some s' ∧ Stores s'.storage s'.len (bits ++ idealRun s.len ops) :=
  foldlM_stores step storage len step_stores s bits hs ops hv

end ByteSink
end FlacVerif
