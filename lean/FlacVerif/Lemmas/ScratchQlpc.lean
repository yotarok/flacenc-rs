/-
Helper lemmas for C10, site 2: `QLPC_ERROR_BUFFER` (`Scratch.qlpcErrors`) against the stateless
`computeError`.
-/
import FlacVerif.Lemmas.ScratchVec
import FlacVerif.Lemmas.ListFacts
namespace FlacVerif.Scratch

/-- `compute_error_impl::<i32>` on a buffer of the right length: `errors.fill(0)` removes every
trace of the old contents. -/
theorem computeErrorImpl32_eq (coefs : List Int) (shift : Nat) (xs errors : List Int)
    (h : errors.length = xs.length) :
    computeErrorImpl32 coefs shift xs errors = computeError32 coefs shift xs := by
  unfold computeErrorImpl32 computeError32From computeError32
  simp only [vecFill_length, h]
  apply mapM_congr_mem
  intro t ht
  have ht' : t < xs.length := by simpa using ht
  rw [if_neg (by omega), vecFill_getD]

theorem computeError64_length (coefs : List Int) (shift : Nat) (xs : List Int) :
    (computeError64 coefs shift xs).length = xs.length := by
  simp [computeError64]

theorem computeErrorInto_eq (coefs : List Int) (shift : Nat) (xs errors : List Int)
    (h : errors.length = xs.length) :
    computeErrorInto coefs shift xs errors = computeError coefs shift xs := by
  unfold computeErrorInto computeError
  rw [if_neg (by omega)]
  simp only []
  split
  · rw [computeErrorImpl32_eq coefs shift xs errors h]
  · rw [zipOverwrite_full _ _ (by rw [computeError64_length, h])]

end FlacVerif.Scratch
