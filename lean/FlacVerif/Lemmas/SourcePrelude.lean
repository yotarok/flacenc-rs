/-
The prelude of `Gen/Source.lean` (`bindO`, `req`, `forO`; `simd_map_and_reduce` of arrayutils.rs, which part `rice` calls too)
through the equations the proofs about generated functions use instead of unfolding it.  The names are those of C14Gen, the
first user.
-/
import FlacVerif.Gen.Source
import FlacVerif.Lemmas.Loop
namespace FlacVerif.C14Gen
open FlacVerif.Gen.Source FlacVerif.Prelude

theorem sourceBindO_some {α β : Type} (a : α) (k : α → Option β) : bindO (some a) k = k a := rfl

theorem sourceReq_true {β : Type} (c : Bool) (r : Option β) (h : c = true) : req c r = r := by simp [req, h]

theorem sourceReq_decide {β : Type} (p : Prop) [Decidable p] (r : Option β) (h : p) : req (decide p) r = r :=
  sourceReq_true _ r (decide_eq_true h)

theorem forO_nil {α σ : Type} (s : σ) (f : α → σ → Option σ) : forO [] s f = some s := rfl
theorem forO_cons {α σ : Type} (x : α) (xs : List α) (s : σ) (f : α → σ → Option σ) :
    forO (x :: xs) s f = bindO (f x s) (fun s' => forO xs s' f) := by
  simp only [forO, bindO]

theorem forO_eq_loop {α σ : Type} (xs : List α) (s : σ) (f : α → σ → Option σ) : forO xs s f = loop xs s f :=
  eq_loop forO forO_nil (fun x xs s f => by rw [forO_cons]; cases f x s <;> rfl) xs s f

theorem forO_congr {α σ : Type} (xs : List α) (s : σ) (f g : α → σ → Option σ)
    (h : ∀ x ∈ xs, ∀ s, f x s = g x s) : forO xs s f = forO xs s g := by
  rw [forO_eq_loop, forO_eq_loop, loop_congr xs s f g h]

theorem replicate_nonempty {α : Type} (N : Nat) (hN : 1 ≤ N) (a : α) : (!(List.replicate N a).isEmpty) = true := by
  cases N with
  | zero => omega
  | succ n => simp [List.replicate_succ]

/-- `reduce_max` / `reduce_min` of a splat vector -/
theorem reduce_replicate {α : Type} (f : α → α → α) (hf : ∀ a, f a a = a) (N : Nat) (hN : 1 ≤ N) (a d : α) :
    (List.replicate N a).foldl f ((List.replicate N a).headD d) = a := by
  obtain ⟨n, rfl⟩ : ∃ n, N = n + 1 := ⟨N - 1, by omega⟩
  rw [List.replicate_succ, List.headD_cons, List.foldl_cons, hf]
  clear hN
  induction n with
  | zero => rfl
  | succ n ih => rw [List.replicate_succ, List.foldl_cons, hf, ih]

/-- `simd_map_and_reduce` in the fakesimd build, for closures that cannot panic: `slice_as_simd` makes the whole slice the scalar
head, so the head loop is the fold, the vector accumulator keeps its splat of `init` (whose reduction is `i`), and the two are
combined once more at the end. -/
theorem simd_map_and_reduce_scalar {U T : Type} (N : Nat) (data : List T) (sf : T → U) (rf : U → U → U)
    (vf : List T → Option (List U)) (vrf : List U → List U → Option (List U)) (vts : List U → Option U) (init i : U)
    (hv : vts (List.replicate N init) = some i) :
    simd_map_and_reduce N data (fun x => some (sf x)) vf (fun a b => some (rf a b)) vrf vts init =
      some (rf (data.foldl (fun acc x => rf (sf x) acc) init) i) := by
  unfold simd_map_and_reduce
  simp only [slice_as_simd, sourceBindO_some]
  rewrite [forO_eq_loop, (loop_foldl (fun _ => True) data init _ (fun acc x => rf (sf x) acc) trivial
    (fun x _ s _ => ⟨rfl, trivial⟩)).1]
  simp only [sourceBindO_some, forO, hv]

end FlacVerif.C14Gen
