/-
The release-build decoder (C01): the frame loop — the decoder applied, frame after frame, to the frames
`encodeFrames` emits returns the interleaved blocks — and the interleaved blocks, concatenated, are the
interleaved input (`interleave_blocks`). `C01_stream_wrapdec` puts the two together.
-/
import FlacVerif.Lemmas.WrapFrame
namespace FlacVerif
namespace Wrap
open Repo Strict

theorem interleave_block (bs : Nat) (chans : List (List Int)) (total j : Nat) (hne : 1 ≤ chans.length)
    (hlen : ∀ c ∈ chans, c.length = total) :
    Rfc.interleave (chans.map fun c => (c.drop (j * bs)).take bs) =
      (((List.range total).drop (j * bs)).take bs).flatMap fun t => chans.map fun c => c.getD t 0 := by
  have hbl := block_lengths bs chans total hlen j
  rw [Rfc.interleave_eq_flatMap _ (min bs (total - j * bs)) (by simpa using hne) hbl, chunk_range, List.flatMap_map]
  apply flatMap_congr_mem
  intro t ht
  rw [List.mem_range] at ht
  rw [List.map_map]
  apply List.map_congr_left
  intro c _
  exact getD_take_drop c (j * bs) bs t 0 (by omega)

theorem interleave_blocks (bs : Nat) (chans : List (List Int)) (total : Nat) (hbs : 1 ≤ bs)
    (hne : 1 ≤ chans.length) (hlen : ∀ c ∈ chans, c.length = total) :
    (blocksOf bs chans).flatMap Rfc.interleave = Rfc.interleave chans := by
  rw [Rfc.interleave_eq_flatMap chans total hne hlen, blocksOf_eq bs chans total hne hlen, List.flatMap_map]
  have hr := chunks_all (List.range total) bs hbs
  rw [List.length_range] at hr
  conv => rhs; rw [← hr]
  rw [List.flatMap_assoc]
  apply flatMap_congr_mem
  intro j _
  exact interleave_block bs chans total j hne hlen

theorem encodeFrames_wrapdec {cfg : SubCfg} {bps rate nch number : Nat} {blocks : List (List (List Int))}
    {frames : List Frame} (ho : FramesOutcome cfg bps rate nch number blocks frames) :
    decodeAll false frames = .ok (blocks.flatMap Rfc.interleave) := by
  induction ho with
  | nil _ => rfl
  | cons _ fo _ ih => simp only [decodeAll, fo.wrapdec, ih, DResult.ok_bind, DResult.pure_eq, List.flatMap_cons]

end Wrap
end FlacVerif
