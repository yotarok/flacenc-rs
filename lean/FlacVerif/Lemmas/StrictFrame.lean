/-
Strict round trip (C01/C02), the joins of encoder and strict reader. Sub-frame level: what `encode_subframe` returns on an
admissible block (`SubOutcome`) is read back by the strict sub-frame reader (Lemmas/StrictSubDec) as the input block. Frame
level: the stereo recombinations with their inverses on whole channels, and the frame theorem (`FrameOutcome.strict`), from
what is known of an emitted frame (`FrameOutcome`) and the reader side (`readFrame_frame`).
-/
import FlacVerif.Lemmas.EncodeFrameShape
import FlacVerif.Lemmas.StrictFrameDec
import FlacVerif.Lemmas.StrictSubDec
import FlacVerif.Lemmas.Outcome
import FlacVerif.Lemmas.StrictResidual
namespace FlacVerif
namespace Strict
open Rfc RiceSearch

/-- The strict reader accepts the residual of a successful search for a predictor order below 64 (why below 64: see
`C01_residual_search`). -/
theorem readResidual_of_search (errors : List Int) (warm maxP : Nat) (prc : PrcParameter)
    (hfit : ∀ e ∈ errors, fitsI32 e = true) (hlen : errors.length < 2 ^ 16)
    (hmax : maxP ≤ 14) (hw64 : warm < 64) (h : search errors warm maxP = some prc) (k : Bits) :
    readResidual errors.length warm ((Residual.ofErrors errors warm prc.order prc.ps).bits ++ k) =
      .ok (⟨prc.order, prc.ps, errors.drop warm⟩, k) := by
  obtain ⟨h15, hpl, hdvd, hw, hp⟩ := search_space errors warm maxP prc hfit hlen hmax h
  exact readResidual_ofErrors errors warm prc.order prc.ps h15 hpl hdvd (by omega) hp
    (search_range errors warm maxP prc hfit h) k

theorem SubOutcome.strict {cfg : SubCfg} {xs : List Int} {bps : Nat} {s : SubFrame} (o : SubOutcome cfg xs bps s)
    (hn : 1 ≤ xs.length) :
    s.WF ∧ SubReads xs.length bps s xs := by
  have hb := o.width
  have hx := o.range
  have hwf := o.wf hn
  refine ⟨hwf, ?_⟩
  have hrd : ∀ {coefs shift errors prc}, Predicted cfg.maxP xs coefs shift errors prc → ∀ k,
      readResidual xs.length coefs.length ((Residual.ofErrors errors coefs.length prc.order prc.ps).bits ++ k) =
        .ok (⟨prc.order, prc.ps, lpcResidual coefs shift xs⟩, k) :=
    fun {coefs _ errors prc} p k => by
      have := p.order
      have := readResidual_of_search errors coefs.length cfg.maxP prc (fits_of_range _ p.range)
        (by rw [p.len]; exact p.small) p.maxP14 (by omega) p.found k
      rwa [p.len, p.exact] at this
  cases o.case with
  | constant hc =>
    have hdc := hx _ (headD_mem xs hn)
    have := readSubframe_constant xs.length bps (xs.headD 0) hb.1 hdc
    rwa [← isConstant_replicate xs hc] at this
  | verbatim => exact readSubframe_verbatim xs bps hb.1 hx
  | fixed kord prc hk4 p _ =>
    have := hrd p
    rw [(fixedCoefs_bound kord hk4).1] at this
    exact readSubframe_fixed xs bps kord _ _ _ hwf hx (by have := p.n64; omega) this
  | lpc coefs shift precision errors prc hok p _ =>
    exact readSubframe_lpc xs bps coefs shift precision _ _ _ hwf hx (by have := p.order; have := p.n64; omega) (hrd p)

theorem recon_indep (k : Nat) (hk : k < 8) (raws : List (List Int)) : reconstruct k raws = raws := by
  unfold reconstruct; rw [if_pos hk]

/-- The decoder's three stereo reconstructions undo the encoder's three recombinations (the wrapping decoder's
counterpart is `Wrap.decorrelate_wrap`). -/
theorem recon_stereo (l r : List Int) (h : l.length = r.length) :
    reconstruct 8 [l, sideOf l r] = [l, r] ∧ reconstruct 9 [sideOf l r, r] = [l, r] ∧
    reconstruct 10 [midOf l r, sideOf l r] = [l, r] := by
  obtain ⟨hl, hr⟩ := zipWith_proj l r h
  have h8 := zip_recon (fun a _ => a) (fun a b => a - b) unLeftSide (fun a b => unLeftSide_spec a b) l r h
  have h9 := zip_recon (fun a b => a - b) (fun _ b => b) unRightSide (fun a b => unRightSide_spec a b) l r h
  have h10 := zip_recon (fun (a b : Int) => (a + b) >>> (1 : Nat)) (fun a b => a - b) unMidSide
    (fun a b => unMidSide_midSide a b) l r h
  rw [hl] at h8
  rw [hr] at h9
  unfold reconstruct
  simp only [show ¬ (8 < 8) by decide, show ¬ (9 < 8) by decide, show ¬ (9 = 8) by decide, show ¬ (10 < 8) by decide,
    show ¬ (10 = 8) by decide, show ¬ (10 = 9) by decide, if_false, if_true, List.getD_cons_zero, List.getD_cons_succ,
    midOf_eq, sideOf_eq, h8.1, h8.2, h9.1, h9.2, h10.1, h10.2, and_self]

theorem FrameOutcome.strict {cfg : SubCfg} {chans : List (List Int)} {bps rate number n : Nat} {f : Frame}
    {asg : ChannelAssignment} {raws : List (List Int)} (fo : FrameOutcome cfg chans bps rate number n f asg raws)
    (hnum : number < 2 ^ 31) (info : Info) (hinfo : info.rate = rate ∧ info.channels = chans.length ∧ info.bps = bps) :
    ∃ fb, f.bits rfcCrc8 rfcCrc16 = some fb ∧ f.count = some fb.length ∧ FrameReads info number fb chans n := by
  have hlen := fo.chanLen
  have hn := fo.size
  -- the decoder undoes the stereo recombination of each form
  have hrec : reconstruct asg.tag raws = chans := by
    have hs : ∀ l r, chans = [l, r] → l.length = r.length := fun l r hc =>
      (hlen l (by simp [hc])).trans (hlen r (by simp [hc])).symm
    cases fo.form with
    | indep => exact recon_indep _ (by show chans.length - 1 < 8; have := fo.chanCount; omega) _
    | left l r hc => exact hc ▸ (recon_stereo l r (hs l r hc)).1
    | right l r hc => exact hc ▸ (recon_stereo l r (hs l r hc)).2.1
    | mid l r hc => exact hc ▸ (recon_stereo l r (hs l r hc)).2.2
  obtain ⟨bss, hbss, hheader⟩ := headerFor_some fo.header
  obtain ⟨fb, hfb, hcount, _⟩ := fo.bits (by omega)
  refine ⟨fb, hfb, hcount, readFrame_frame asg fo.asgOk bss f.subframes raws chans n bps rate number fb info
    hbss ⟨hn.1, by omega⟩ hnum (by rw [← hheader]; exact hfb) ⟨hinfo.1, hinfo.2.1.trans fo.channels.symm, hinfo.2.2⟩
    fo.count fo.len (fun i h1 h2 => ?_) hrec fo.range⟩
  obtain ⟨hl, o⟩ := fo.sub i h1 h2
  exact hl ▸ (o.strict (by omega)).2

end Strict
end FlacVerif
