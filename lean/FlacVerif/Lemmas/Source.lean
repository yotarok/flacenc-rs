/-
Lemmas for C14 — sample delivery (`Model/Source.lean`): little-endian round trip (for every byte
width `k ≥ 1`), shape and content of `deinterleave`, and with them what an accepted fill leaves in each channel of a
`FrameBuf` (`channelSlice_fill`).
-/
import FlacVerif.Model.Source
import FlacVerif.Lemmas.ListFacts
namespace FlacVerif

def fitsBytes (k : Nat) (v : Int) : Prop :=
  -(2 ^ (8 * k - 1) : Int) ≤ v ∧ v < (2 ^ (8 * k - 1) : Int)

instance (k : Nat) (v : Int) : Decidable (fitsBytes k v) := by unfold fitsBytes; infer_instance

theorem C03.toLeBytes_length (k : Nat) (v : Int) : (Rfc.toLeBytes k v).length = k := by
  simp [Rfc.toLeBytes]

namespace SourceLemmas

/-- Equality of fill results is decidable (used by the `decide` examples of C14). -/
scoped instance {ε α : Type} [DecidableEq ε] [DecidableEq α] : DecidableEq (Except ε α)
  | .ok a, .ok b => if h : a = b then isTrue (by rw [h]) else isFalse (fun h' => h (Except.ok.inj h'))
  | .error a, .error b => if h : a = b then isTrue (by rw [h]) else isFalse (fun h' => h (Except.error.inj h'))
  | .ok _, .error _ => isFalse (fun h => nomatch h)
  | .error _, .ok _ => isFalse (fun h => nomatch h)

theorem withSize_some {ch bs : Nat} {m : FrameBuf} :
    FrameBuf.withSize ch bs = some m ↔
      ((1 ≤ ch ∧ ch ≤ 8 ∧ 32 ≤ bs ∧ bs ≤ 32767) ∧ m = ⟨List.replicate (bs * ch) 0, bs, ch, 0⟩) := by
  unfold FrameBuf.withSize
  rw [Option.ite_none_right_eq_some, Option.some.injEq, eq_comm]

/-- The little-endian value of the first `j` bytes. -/
def leSum (bytes : List Nat) (j : Nat) : Nat :=
  (List.range j).foldl (fun acc i => acc + bytes.getD i 0 * 2 ^ (8 * i)) 0

theorem leSum_succ (bytes : List Nat) (j : Nat) :
    leSum bytes (j + 1) = leSum bytes j + bytes.getD j 0 * 2 ^ (8 * j) := by
  simp only [leSum, List.range_succ, List.foldl_append, List.foldl_cons, List.foldl_nil]

theorem leSum_cons (b : Nat) (bytes : List Nat) (j : Nat) :
    leSum (b :: bytes) (j + 1) = b + 256 * leSum bytes j := by
  induction j with
  | zero => simp [leSum]
  | succ j ih =>
    rw [leSum_succ, ih, leSum_succ, List.getD_cons_succ, Nat.mul_succ 8 j, Nat.pow_add]
    simp only [Nat.reducePow, Nat.mul_add]
    rw [Nat.add_assoc, ← Nat.mul_assoc, Nat.mul_comm _ 256]

theorem toLeBytes_getD (k : Nat) (v : Int) (i : Nat) (hi : i < k) :
    (Rfc.toLeBytes k v).getD i 0 = ((v % (2 ^ (8 * k) : Int)).toNat >>> (8 * i)) % 256 := by
  simp [Rfc.toLeBytes, List.getD_eq_getElem?_getD, hi]

theorem leSum_toLeBytes (k : Nat) (v : Int) (j : Nat) (hj : j ≤ k) :
    leSum (Rfc.toLeBytes k v) j = (v % (2 ^ (8 * k) : Int)).toNat % 2 ^ (8 * j) := by
  induction j with
  | zero => simp [leSum, Nat.mod_one]
  | succ j ih =>
    rw [leSum_succ, ih (by omega), toLeBytes_getD k v j (by omega), Nat.shiftRight_eq_div_pow]
    have : 2 ^ (8 * (j + 1)) = 2 ^ (8 * j) * 256 := by
      rw [Nat.mul_add, Nat.pow_add]
    rw [this, Nat.mod_mul, Nat.mul_comm (2 ^ (8 * j))]

theorem leToInt_eq (bytes : List Nat) :
    leToInt bytes = if bytes.length = 0 then 0 else
      if leSum bytes bytes.length ≥ 2 ^ (8 * bytes.length - 1)
      then (leSum bytes bytes.length : Int) - 2 ^ (8 * bytes.length) else leSum bytes bytes.length := rfl

theorem leToInt_eq_bmod (bytes : List Nat) (h : leSum bytes bytes.length < 2 ^ (8 * bytes.length)) :
    leToInt bytes = Int.bmod (leSum bytes bytes.length) (2 ^ (8 * bytes.length)) := by
  rw [leToInt_eq]
  generalize leSum bytes bytes.length = u at *
  generalize bytes.length = k at *
  by_cases hk : k = 0
  · subst hk; simp
  · have hpow : 2 ^ (8 * k) = 2 * 2 ^ (8 * k - 1) := by rw [← Nat.pow_succ']; congr 1; omega
    have hcast : (2 : Int) ^ (8 * k) = ((2 ^ (8 * k) : Nat) : Int) := by simp
    rw [if_neg hk, Int.bmod_eq_emod, Int.emod_eq_of_lt (Int.natCast_nonneg u) (Int.ofNat_lt.mpr h), hcast, hpow]
    generalize 2 ^ (8 * k - 1) = P at *
    split <;> split <;> omega

/-- `((u << s) as iN) >> s` with `N = s + w`: the `w`-bit two's-complement reading of `u` -/
theorem bmod_shiftRight (s w u : Nat) (hw : 1 ≤ w) :
    Int.bmod ((2 ^ s * u : Nat) : Int) (2 ^ s * 2 ^ w) >>> s = Int.bmod u (2 ^ w) := by
  have hpos : (0 : Int) < ((2 ^ s : Nat) : Int) := Int.natCast_pos.mpr (Nat.two_pow_pos s)
  rw [Int.natCast_mul, Int.mod_bmod_mul_of_pos _ _ (Nat.two_pow_pos s) ⟨2 ^ (w - 1), by rw [← Nat.pow_succ']; congr 1; omega⟩,
    Int.shiftRight_eq_div_pow, Int.natCast_pow, Int.mul_ediv_cancel_left _ (Int.ne_of_gt (by simpa using hpos))]

theorem le_roundtrip (k : Nat) (hk : 1 ≤ k) (v : Int) (hv : fitsBytes k v) :
    leToInt (Rfc.toLeBytes k v) = v := by
  have hsum := leSum_toLeBytes k v k (Nat.le_refl k)
  have hpos : (0 : Int) < 2 ^ (8 * k) := Int.pow_pos (by decide)
  have hpow : (2 : Int) ^ (8 * k) = 2 ^ (8 * k - 1) * 2 := by rw [← Int.pow_succ]; congr 1; omega
  have hcast : ((2 ^ (8 * k) : Nat) : Int) = (2 : Int) ^ (8 * k) := by simp
  -- the bytes read back `v mod 2^(8k)`, whose balanced residue is `v` itself
  rw [leToInt_eq_bmod _ (by rw [C03.toLeBytes_length, hsum]; exact Nat.mod_lt _ (Nat.two_pow_pos _)), C03.toLeBytes_length, hsum,
    Int.natCast_emod, Int.emod_bmod, Int.toNat_of_nonneg (Int.emod_nonneg _ (Int.ne_of_gt hpos)), ← hcast, Int.emod_bmod]
  exact Int.bmod_eq_of_le_mul_two (by rw [hcast, hpow]; have := hv.1; omega) (by rw [hcast, hpow]; have := hv.2; omega)

theorem i32sToLeBytes_cons (k : Nat) (x : Int) (xs : List Int) :
    i32sToLeBytes k (x :: xs) = Rfc.toLeBytes k x ++ i32sToLeBytes k xs := by
  simp [i32sToLeBytes]

theorem i32sToLeBytes_length (k : Nat) (xs : List Int) : (i32sToLeBytes k xs).length = k * xs.length := by
  induction xs with
  | nil => simp [i32sToLeBytes]
  | cons x xs ih =>
    rw [i32sToLeBytes_cons, List.length_append, C03.toLeBytes_length, ih, List.length_cons, Nat.mul_add, Nat.mul_one,
      Nat.add_comm]

theorem leBytesToInts_roundtrip (k : Nat) (hk : 1 ≤ k) (xs : List Int) (hx : ∀ x ∈ xs, fitsBytes k x)
    (fuel : Nat) (hf : xs.length ≤ fuel) : leBytesToInts k fuel (i32sToLeBytes k xs) = xs := by
  induction xs generalizing fuel with
  | nil =>
    cases fuel with
    | zero => rfl
    | succ f =>
      simp [leBytesToInts, i32sToLeBytes]
  | cons x xs ih =>
    cases fuel with
    | zero => simp at hf
    | succ f =>
      have hl := C03.toLeBytes_length k x
      have h1 : ¬ ((i32sToLeBytes k (x :: xs)).length < k ∨ k = 0) := by
        rw [i32sToLeBytes_length, List.length_cons, Nat.mul_add]; omega
      rw [leBytesToInts, if_neg h1, i32sToLeBytes_cons, List.take_left' hl, List.drop_left' hl,
        le_roundtrip k hk x (hx x (by simp)), ih (fun y hy => hx y (by simp [hy])) f (by simpa using hf)]

theorem leBytesToI32s_roundtrip (k : Nat) (hk : 1 ≤ k) (xs : List Int) (hx : ∀ x ∈ xs, fitsBytes k x) :
    leBytesToI32s k (i32sToLeBytes k xs) = xs := by
  apply leBytesToInts_roundtrip k hk xs hx
  rw [i32sToLeBytes_length]
  exact Nat.le_mul_of_pos_left _ hk

theorem leBytesToInts_eq_map (k : Nat) (hk : 0 < k) : ∀ (m fuel : Nat) (bytes : List Nat), bytes.length = k * m → m ≤ fuel →
    leBytesToInts k fuel bytes = (List.range m).map (fun j => leToInt ((bytes.drop (k * j)).take k)) := by
  intro m
  induction m with
  | zero =>
    intro fuel bytes hl _
    have : bytes = [] := List.eq_nil_of_length_eq_zero (by simpa using hl)
    subst this
    cases fuel <;> simp [leBytesToInts]
  | succ m ih =>
    intro fuel bytes hl hf
    cases fuel with
    | zero => omega
    | succ fuel =>
      have h1 : ¬ (bytes.length < k ∨ k = 0) := by rw [hl, Nat.mul_succ]; omega
      rw [leBytesToInts, if_neg h1, ih fuel (bytes.drop k) (by rw [List.length_drop, hl, Nat.mul_succ]; omega) (by omega)]
      rw [List.range_succ_eq_map, List.map_cons, List.map_map]
      simp only [Nat.mul_zero, List.drop_zero, List.cons.injEq, true_and]
      apply List.map_congr_left
      intro j _
      simp only [Function.comp, List.drop_drop, Nat.succ_eq_add_one, Nat.mul_add, Nat.mul_one]
      rw [Nat.add_comm]

theorem leBytesToI32s_eq_map (k : Nat) (hk : 0 < k) (m : Nat) (bytes : List Nat) (hl : bytes.length = k * m) :
    leBytesToI32s k bytes = (List.range m).map (fun j => leToInt ((bytes.drop (k * j)).take k)) := by
  unfold leBytesToI32s
  exact leBytesToInts_eq_map k hk m bytes.length bytes hl (by rw [hl]; exact Nat.le_mul_of_pos_left m hk)

theorem i32sToLeBytes_lt (k : Nat) (xs : List Int) : ∀ b ∈ i32sToLeBytes k xs, b < 256 := by
  intro b hb
  simp only [i32sToLeBytes, List.mem_flatMap, Rfc.toLeBytes, List.mem_map, List.mem_range] at hb
  obtain ⟨v, _, i, _, rfl⟩ := hb
  exact Nat.mod_lt _ (by decide)

theorem deinterleave_length (src : List Int) (ch stride : Nat) (dest : List Int) :
    (deinterleave src ch stride dest).length = dest.length := by
  unfold deinterleave
  split
  · simp only [List.length_append, List.length_take, List.length_drop]; omega
  · simp

theorem deinterleave_mono_take (src dest : List Int) (stride : Nat) (h : src.length ≤ dest.length) :
    (deinterleave src 1 stride dest).take src.length = src := by
  simp only [deinterleave, ↓reduceIte, Nat.min_eq_right h, List.take_length]
  exact List.take_left' rfl

theorem deinterleave_slice (src dest : List Int) (ch stride : Nat) (hne : ch ≠ 1)
    (hdest : dest.length = stride * ch) (hsrc : src.length ≤ dest.length) (c : Nat) (hc : c < ch) :
    ((deinterleave src ch stride dest).drop (c * stride)).take (src.length / ch)
      = (List.range (src.length / ch)).map (fun t => src.getD (ch * t + c) 0) := by
  have hq : src.length / ch ≤ stride := by
    apply Nat.div_le_of_le_mul; rw [Nat.mul_comm]; omega
  have hcs : c * stride + stride ≤ stride * ch := by
    have : (c + 1) * stride ≤ ch * stride := Nat.mul_le_mul_right _ hc
    rw [Nat.add_mul, Nat.one_mul, Nat.mul_comm ch] at this; exact this
  have hds : dest.length / ch = stride := by rw [hdest]; exact Nat.mul_div_cancel _ (Nat.zero_lt_of_lt hc)
  apply List.ext_getElem
  · simp only [List.length_take, List.length_drop, deinterleave_length, List.length_map, List.length_range]
    omega
  · intro t h1 h2
    simp only [List.length_map, List.length_range] at h2
    have hts : t < stride := by omega
    have hsp : 0 < stride := by omega
    have hdiv : (c * stride + t) / stride = c := by
      rw [Nat.add_comm, Nat.add_mul_div_right _ _ hsp, Nat.div_eq_of_lt hts, Nat.zero_add]
    have hmod : (c * stride + t) % stride = t := by
      rw [Nat.add_comm, Nat.add_mul_mod_self_right, Nat.mod_eq_of_lt hts]
    simp only [deinterleave, if_neg hne, List.getElem_take, List.getElem_drop, List.getElem_map, List.getElem_range,
      hdiv, hmod, hds, hc, hts, h2, and_self, ↓reduceIte]

theorem fillInterleaved_ok (fb fb' : FrameBuf) (xs : List Int) (h : fb.fillInterleaved xs = .ok fb') :
    xs.length ≤ fb.samples.length ∧ xs.length % fb.channels = 0 ∧
      fb' = { fb with samples := deinterleave xs fb.channels fb.size fb.samples, filled := xs.length / fb.channels } := by
  unfold FrameBuf.fillInterleaved at h
  split at h
  · cases h
  · rename_i hno
    simp only [Except.ok.injEq] at h
    exact ⟨by omega, by omega, h.symm⟩

/-- After an accepted fill, channel `c` is the `c`-th phase of the interleaved input, whatever the buffer held before. -/
theorem channelSlice_fill (fb : FrameBuf) (hlen : fb.samples.length = fb.size * fb.channels)
    (xs : List Int) (fb' : FrameBuf) (h : fb.fillInterleaved xs = .ok fb') (c : Nat) (hc : c < fb.channels) :
    fb'.channelSlice c = (List.range (xs.length / fb.channels)).map (fun t => xs.getD (fb.channels * t + c) 0) := by
  obtain ⟨hle, _, rfl⟩ := fillInterleaved_ok fb fb' xs h
  simp only [FrameBuf.channelSlice]
  by_cases h1 : fb.channels = 1
  · have hc0 : c = 0 := by omega
    subst hc0
    simp only [h1, Nat.zero_mul, List.drop_zero, Nat.div_one, Nat.one_mul, Nat.add_zero]
    rw [deinterleave_mono_take _ _ _ hle, range_map_getD]
  · exact deinterleave_slice xs fb.samples fb.channels fb.size h1 hlen hle c hc

end SourceLemmas
end FlacVerif
