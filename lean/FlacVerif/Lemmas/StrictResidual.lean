/-
Strict round trip (C01/C02), the residual. `Residual.bits` is accepted by the RFC 9639 residual reader
`Rfc.readResidual`, which returns the decoded residual values after the warm-up (`readResidual_bits`, along the
layout of `Lemmas/Layout`: coded sample, run of samples, partition, partitions); in particular the residual the encoder
builds from a list of prediction errors (`Residual.ofErrors`) is accepted and decodes to the errors after the warm-up.
-/
import FlacVerif.Lemmas.StrictPrim
import FlacVerif.Lemmas.OfErrors
import FlacVerif.Lemmas.Predict
import FlacVerif.Lemmas.ListFacts
import FlacVerif.Lemmas.WeakWF
import FlacVerif.Lemmas.Layout
namespace FlacVerif
namespace Strict
open Rfc

theorem readRice_sample (p q rem : Nat) (k : Bits) (hr : rem < 2 ^ p) (hf : q * 2 ^ p + rem < 2 ^ 32)
    (hv : unfold (q * 2 ^ p + rem) ≠ -(2 ^ 31 : Int)) :
    readRice p (Residual.sampleBits p q rem ++ k) = .ok (unfold (q * 2 ^ p + rem), k) := by
  unfold readRice
  rw [Layout.sampleBits_eq, List.append_assoc, List.cons_append, readUnary_unary]
  simp only []
  rw [readNat_natToBits_lt p rem k _ hr]
  simp only [ok_bind]
  have h1 : ¬ q * 2 ^ p + rem ≥ 2 ^ 32 := by omega
  rw [if_neg h1, if_neg hv]
  rfl

theorem readRiceN_samples (p : Nat) (qs rs : List Nat) (cnt s : Nat) (k : Bits)
    (hr : ∀ t, s ≤ t → t < s + cnt → rs.getD t 0 < 2 ^ p)
    (hf : ∀ t, s ≤ t → t < s + cnt → qs.getD t 0 * 2 ^ p + rs.getD t 0 < 2 ^ 32)
    (hv : ∀ t, s ≤ t → t < s + cnt → unfold (qs.getD t 0 * 2 ^ p + rs.getD t 0) ≠ -(2 ^ 31 : Int)) :
    readRiceN p cnt (((List.range' s cnt).flatMap fun t =>
        Residual.sampleBits p (qs.getD t 0) (rs.getD t 0)) ++ k) =
      .ok ((List.range' s cnt).map (fun t => unfold (qs.getD t 0 * 2 ^ p + rs.getD t 0)), k) := by
  induction cnt generalizing s with
  | zero => rfl
  | succ c ih =>
    rw [List.range'_succ, List.flatMap_cons, List.append_assoc, readRiceN,
      readRice_sample p _ _ _ (hr s (Nat.le_refl s) (by omega)) (hf s (Nat.le_refl s) (by omega))
        (hv s (Nat.le_refl s) (by omega))]
    simp only [ok_bind]
    rw [ih (s + 1) (fun t h1 h2 => hr t (by omega) (by omega)) (fun t h1 h2 => hf t (by omega) (by omega))
      (fun t h1 h2 => hv t (by omega) (by omega))]
    rfl

/-- The extra conditions of the strict decoder: `(block size >> partition order)` is LARGER than the
predictor order (RFC 9639 section 9.2.7; `Residual.WF`, like the repository's own parser, allows equality),
and on the coded values: the folded value fits 32 bits and the decoded value is not `-2^31` (RFC 9639
section 9.2.7.3). -/
def Residual.Strict (r : Residual) : Prop :=
  r.warmup < r.blockSize >>> r.order ∧
  ∀ t, r.warmup ≤ t → t < r.blockSize →
    r.quotients.getD t 0 * 2 ^ (r.params.getD (t / r.partLen) 0) + r.remainders.getD t 0 < 2 ^ 32 ∧
    Residual.val r t ≠ -(2 ^ 31 : Int)

/-- `Residual.WF ∧ Residual.Strict` in the form the partition loop uses it (`getD`, all positions). -/
structure ResOk (r : Residual) : Prop where
  order : r.order ≤ 15
  params : ∀ j, j < 2 ^ r.order → r.params.getD j 0 ≤ 14
  warm : r.warmup ≤ r.partLen
  full : 2 ^ r.order * r.partLen = r.blockSize
  rems : ∀ t, t < r.blockSize → r.remainders.getD t 0 < 2 ^ (r.params.getD (t / r.partLen) 0)
  fits : ∀ t, r.warmup ≤ t → t < r.blockSize →
    r.quotients.getD t 0 * 2 ^ (r.params.getD (t / r.partLen) 0) + r.remainders.getD t 0 < 2 ^ 32
  notMin : ∀ t, r.warmup ≤ t → t < r.blockSize → Residual.val r t ≠ -(2 ^ 31 : Int)

/-- The number of residuals `readPartitions` expects in partition `part` of length `L` after a warm-up of `w`. -/
theorem part_count (L w part : Nat) (hw : w ≤ L) :
    (if part = 0 then L - w else L) = (part + 1) * L - max w (part * L) := by
  rw [Nat.succ_mul]
  by_cases hp : part = 0
  · subst hp
    rw [if_pos rfl, Nat.zero_mul, Nat.zero_add, Nat.max_eq_left (Nat.zero_le w)]
  · have : L ≤ part * L := Nat.le_mul_of_pos_left _ (Nat.pos_of_ne_zero hp)
    rw [if_neg hp, Nat.max_eq_right (Nat.le_trans hw this), Nat.add_sub_cancel_left]

theorem part_index (L w part t : Nat) (h1 : max w (part * L) ≤ t) (h2 : t < (part + 1) * L) :
    t / L = part ∧ w ≤ t :=
  ⟨Nat.div_eq_of_lt_le (Nat.le_trans (Nat.le_max_right _ _) h1) h2, Nat.le_trans (Nat.le_max_left _ _) h1⟩

theorem readPartitions_parts (r : Residual) (h : ResOk r) (left part : Nat) (hn : part + left ≤ 2 ^ r.order) (k : Bits) :
    readPartitions r.partLen r.warmup left part ((List.range' part left).flatMap r.partBits ++ k) =
      .ok ((List.range' part left).map (fun j => r.params.getD j 0),
           (List.range' (max r.warmup (part * r.partLen)) ((part + left) * r.partLen - max r.warmup (part * r.partLen))).map
             (Residual.val r), k) := by
  induction left generalizing part with
  | zero =>
    rw [Nat.add_zero, Nat.sub_eq_zero_of_le (Nat.le_max_right _ _)]
    rfl
  | succ n ih =>
    have hp14 := h.params part (by omega)
    have hle : r.partLen ≤ (part + 1) * r.partLen := Nat.le_mul_of_pos_left _ (Nat.succ_pos _)
    have hle1 : max r.warmup (part * r.partLen) ≤ (part + 1) * r.partLen :=
      Nat.max_le.2 ⟨Nat.le_trans h.warm hle, Nat.mul_le_mul_right _ (Nat.le_succ _)⟩
    have hin : ∀ t, max r.warmup (part * r.partLen) ≤ t →
        t < max r.warmup (part * r.partLen) + ((part + 1) * r.partLen - max r.warmup (part * r.partLen)) →
        t / r.partLen = part ∧ t < r.blockSize ∧ r.warmup ≤ t := by
      intro t h1 h2
      have h2' : t < (part + 1) * r.partLen := by omega
      obtain ⟨g1, g3⟩ := part_index r.partLen r.warmup part t h1 h2'
      have : (part + 1) * r.partLen ≤ 2 ^ r.order * r.partLen := Nat.mul_le_mul_right _ (by omega)
      exact ⟨g1, Nat.lt_of_lt_of_le h2' (h.full ▸ this), g3⟩
    rw [List.range'_succ, List.flatMap_cons, List.map_cons, List.append_assoc, readPartitions, Layout.partBits_eq r part,
      List.append_assoc,
      readNat_natToBits_lt 4 _ _ _ (by omega)]
    simp only [ok_bind]
    rw [if_neg (by omega : ¬ r.params.getD part 0 = 15), part_count r.partLen r.warmup part h.warm]
    simp only [pure_eq]
    rw [readRiceN_samples (r.params.getD part 0) r.quotients r.remainders _ (max r.warmup (part * r.partLen)) _
      (fun t h1 h2 => by
        obtain ⟨g1, g2, _⟩ := hin t h1 h2
        have := h.rems _ g2
        rwa [g1] at this)
      (fun t h1 h2 => by
        obtain ⟨g1, g2, g3⟩ := hin t h1 h2
        have := h.fits _ g3 g2
        rwa [g1] at this)
      (fun t h1 h2 => by
        obtain ⟨g1, g2, g3⟩ := hin t h1 h2
        have := h.notMin _ g3 g2
        rwa [Residual.val_of_part r g1] at this)]
    simp only [ok_bind]
    rw [ih (part + 1) (by omega)]
    simp only [ok_bind]
    -- reassemble: the values of this partition, then those from `(part + 1) * partLen` on
    have hvals : (List.range' (max r.warmup (part * r.partLen)) ((part + 1) * r.partLen - max r.warmup (part * r.partLen))).map
          (fun t => unfold (r.quotients.getD t 0 * 2 ^ r.params.getD part 0 + r.remainders.getD t 0)) =
        (List.range' (max r.warmup (part * r.partLen)) ((part + 1) * r.partLen - max r.warmup (part * r.partLen))).map
          (Residual.val r) := by
      apply List.map_congr_left
      intro t ht
      rw [List.mem_range'_1] at ht
      rw [Residual.val_of_part r (hin t ht.1 ht.2).1]
    have hle2 : (part + 1) * r.partLen ≤ (part + 1 + n) * r.partLen := Nat.mul_le_mul_right _ (Nat.le_add_right _ _)
    rw [hvals, Nat.max_eq_right (Nat.le_trans h.warm hle), show part + (n + 1) = part + 1 + n by omega,
      range'_split _ _ _ hle1 hle2, List.map_append]

theorem resOk_of_WF (r : Residual) (hwf : r.WF) (hs : Residual.Strict r) : ResOk r :=
  ⟨hwf.order_le, fun j _ => hwf.param_getD_le j, hwf.warmup_le, Layout.nparts_mul_partLen r hwf.dvd, hwf.rem_lt,
    fun t h1 h2 => (hs.2 t h1 h2).1, fun t h1 h2 => (hs.2 t h1 h2).2⟩

theorem signal_drop (r : Residual) :
    r.signal.drop r.warmup = (List.range' r.warmup (r.blockSize - r.warmup)).map (Residual.val r) :=
  map_ite_drop (Residual.val r) r.blockSize r.warmup

theorem readResidual_bits (r : Residual) (hwf : r.WF) (hs : Residual.Strict r) (k : Bits) :
    readResidual r.blockSize r.warmup (r.bits ++ k) = .ok (⟨r.order, r.params, r.signal.drop r.warmup⟩, k) := by
  have hok := resOk_of_WF r hwf hs
  have ho := hwf.order_le
  unfold readResidual
  rw [Layout.residual_bits r ho, List.append_assoc, List.append_assoc]
  rw [readNat_natToBits_lt 2 0 _ _ (by decide)]
  simp only [ok_bind]
  rw [if_neg (by decide : ¬ (0 ≥ 2)), if_neg (by decide : ¬ (0 = 1))]
  simp only [pure_eq]
  rw [readNat_natToBits_lt 4 r.order _ _ (by omega)]
  simp only [ok_bind]
  have hmod : ¬ (r.blockSize % 2 ^ r.order ≠ 0) := by
    have := Nat.mod_eq_zero_of_dvd hwf.dvd
    omega
  rw [if_neg hmod]
  rw [← partLen_eq]
  have hlt : ¬ r.partLen ≤ r.warmup := by
    have := hs.1
    unfold Residual.partLen
    omega
  rw [if_neg hlt]
  rw [readPartitions_parts r hok (2 ^ r.order) 0 (by omega) k]
  simp only [ok_bind]
  have e1 : (List.range' 0 (2 ^ r.order)).map (fun j => r.params.getD j 0) = r.params := by
    rw [← List.range_eq_range', ← hwf.params_length]
    exact (map_getD_eq_map r.params 0 id).trans (List.map_id _)
  have e2 : max r.warmup (0 * r.partLen) = r.warmup := by omega
  have e3 : (0 + 2 ^ r.order) * r.partLen = r.blockSize := by rw [Nat.zero_add]; exact hok.full
  rw [e1, e2, e3, signal_drop]

theorem readResidual_ofErrors (errors : List Int) (w o : Nat) (ps : List Nat)
    (ho : o ≤ 15) (hps : ps.length = 2 ^ o) (hdvd : 2 ^ o ∣ errors.length)
    (hw : w < errors.length >>> o) (hp : ∀ p ∈ ps, p ≤ 14)
    (herr : ∀ e ∈ errors, -(2 ^ 31 : Int) < e ∧ e < (2 ^ 31 : Int)) (k : Bits) :
    readResidual errors.length w ((Residual.ofErrors errors w o ps).bits ++ k) = .ok (⟨o, ps, errors.drop w⟩, k) := by
  have hwl : w ≤ errors.length := Nat.le_trans (Nat.le_of_lt hw) (Nat.shiftRight_le _ _)
  have hpos : 0 < errors.length := by
    have := Nat.shiftRight_le errors.length o
    omega
  have hwf : (Residual.ofErrors errors w o ps).WF := ofErrors_wf errors w o ps hpos ho hps hdvd (by omega) hp
  have hpar : ps.take (2 ^ o) = ps := List.take_of_length_le (by omega)
  have hstrict : Residual.Strict (Residual.ofErrors errors w o ps) := by
    refine ⟨by rw [ofErrors_warmup, ofErrors_blockSize, ofErrors_order]; exact hw, ?_⟩
    intro t h1 h2
    rw [ofErrors_warmup] at h1
    rw [ofErrors_blockSize] at h2
    have he := herr _ (getD_mem errors t 0 h2)
    constructor
    · rw [ofErrors_params, hpar, ofErrors_partLen, ofErrors_val _ _ _ _ t h2 he, if_neg (by omega)]
      exact fold_lt _ he.1 he.2
    · rw [Residual.val_ofErrors errors w o ps hps t h2 he, if_neg (by omega)]
      omega
  have hrd := readResidual_bits _ hwf hstrict k
  rw [ofErrors_blockSize, ofErrors_warmup] at hrd
  rw [hrd, ofErrors_order, ofErrors_params, hpar]
  congr 3
  have hsd := signal_drop (Residual.ofErrors errors w o ps)
  rw [ofErrors_warmup, ofErrors_blockSize] at hsd
  rw [hsd]
  rw [← map_getD_eq_drop errors w (errors.length - w) 0 (by omega)]
  apply List.map_congr_left
  intro t ht
  rw [List.mem_range'_1] at ht
  have h2 : t < errors.length := by omega
  rw [Residual.val_ofErrors errors w o ps hps t h2 (herr _ (getD_mem errors t 0 h2)), if_neg (by omega)]

end Strict
end FlacVerif
