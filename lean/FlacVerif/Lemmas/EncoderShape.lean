/-
What the functional encoder returns, read off its decision logic alone (no decoder, no bit strings, no hypothesis
on the block or the log).  Each lemma here unfolds one model function and keeps all it says about a returned value
(that it does return is `Total*`): `fixedCandidate_spec`, `fixedStage_shape`, `lpcCandidate_spec`, `lpcStage_shape` and
over them `encodeSubframe_emits` (the four outcomes and, for a predicted one, that it passed `keepBelow` against at most
the verbatim size); `encodeChannels_spec` and over it `encodeFrame_emits` (the per-channel sub-frames or, with two
channels, all four candidates and the selection `chooseStereo` makes among their sizes); `encodeStream_shape`.
`encodeFrame_shape`, the `_sub` lemmas and the size bounds of C09 are projections of these.  The file also holds the two
hypotheses on the log that the layers above put in: `OEvent.Ok` (on the parameter sets) and `Total.SubLogOk` (on its
shape), and two facts about `addFrameCast`, the STREAMINFO book-keeping of Model/Encoder.lean (`addFrameCast_total`,
`addFrameCast_fold_format`).
-/
import FlacVerif.Model.EncodeStream
import FlacVerif.Lemmas.ListFacts
namespace FlacVerif

/-- The invariants the integer tail of `quantize_parameters` enforces on a quantised LPC parameter
set, whatever the floating-point computation before it produced (at most `qlpc::MAX_ORDER = 24` coefficients:
`lpc_order ≤ 24` in a verified configuration, and the quantiser returns at most `lpc_order` coefficients; with
more, `estimated_qlpc` panics at the capacity of the warm-up vector). Entropy estimates are arbitrary. -/
def OEvent.Ok : OEvent → Prop
  | .qlpc coefs shift precision =>
      1 ≤ coefs.length ∧ coefs.length ≤ maxLpcOrder ∧ 1 ≤ precision ∧ precision ≤ 15 ∧ 0 ≤ shift ∧ shift ≤ 15 ∧
      ∀ c ∈ coefs, SubFrame.inRange precision c = true
  | .est _ _ => True

instance (e : OEvent) : Decidable e.Ok := by
  cases e <;> (unfold OEvent.Ok; infer_instance)

theorem C09.baselineAfter_le (b : Nat) (fixed : Option SubFrame) : baselineAfter b fixed ≤ b := by
  unfold baselineAfter
  split
  · exact Nat.min_le_left _ _
  · exact Nat.le_refl _

theorem addFrameCast_total (s : StreamInfo) (b c : Nat) : (s.addFrameCast b c).total ≤ s.total + 65535 := by
  have : b % 2 ^ 16 < 2 ^ 16 := Nat.mod_lt _ (by decide)
  simp only [StreamInfo.addFrameCast]
  omega

/-- The book-keeping of the frame loop touches the block and frame bounds and the total only. -/
theorem addFrameCast_fold_format (frames : List (Nat × Nat)) (s0 : StreamInfo) :
    (frames.foldl (fun s f => s.addFrameCast f.1 f.2) s0).rate = s0.rate ∧
    (frames.foldl (fun s f => s.addFrameCast f.1 f.2) s0).channels = s0.channels ∧
    (frames.foldl (fun s f => s.addFrameCast f.1 f.2) s0).bps = s0.bps ∧
    (frames.foldl (fun s f => s.addFrameCast f.1 f.2) s0).md5 = s0.md5 := by
  induction frames generalizing s0 with
  | nil => exact ⟨rfl, rfl, rfl, rfl⟩
  | cons f fs ih => exact ih (s0.addFrameCast f.1 f.2)

namespace Total

/-- Number of `est` events the fixed stage takes. -/
def estTake (cfg : SubCfg) : Nat :=
  if cfg.useFixed && !cfg.bitCount then min (cfg.fixedMaxOrder + 1) 5 else 0

/-- The log starts with the events `encode_subframe` asks for on the block `xs` (shape only: nothing is
asked of the quantised LPC parameter set). -/
def SubLogOk (cfg : SubCfg) (xs : List Int) (log : List OEvent) : Prop :=
  (cfg.useConstant && isConstant xs) = true ∨ xs.length < minBlockForPrediction ∨
  (estTake cfg ≤ log.length ∧ (∀ e ∈ log.take (estTake cfg), ∃ o b, e = OEvent.est o b) ∧
    (cfg.useLpc = true → ∃ c s p, (log.drop (estTake cfg)).head? = some (.qlpc c s p)))

end Total

namespace Strict

theorem isConstant_replicate (xs : List Int) (h : isConstant xs = true) :
    xs = List.replicate xs.length (xs.headD 0) := by
  cases xs with
  | nil => rfl
  | cons x rest =>
    simp only [isConstant, List.all_eq_true, beq_iff_eq] at h
    simp only [List.headD_cons, List.length_cons, List.replicate_succ, List.cons.injEq, true_and]
    exact List.eq_replicate_iff.2 ⟨rfl, h⟩

theorem headD_mem (xs : List Int) (h : 1 ≤ xs.length) : xs.headD 0 ∈ xs := by
  cases xs with
  | nil => simp at h
  | cons x rest => simp

theorem firstMinBy_mem {α : Type} (key : α → Nat) (l : List α) (x : α) (h : firstMinBy key l = some x) : x ∈ l := by
  cases l with
  | nil => simp [firstMinBy] at h
  | cons a as =>
    simp only [firstMinBy, Option.some.injEq] at h
    rw [← h]; exact List.mem_cons.2 (foldl_select_mem _ (fun m y => by split <;> simp) as a)

theorem firstMinBy_range {β : Type} (key : β → Nat) (f : Nat → β) (n : Nat) (c : β)
    (h : firstMinBy key ((List.range n).map f) = some c) : ∃ k, k < n ∧ c = f k := by
  obtain ⟨k, hk, rfl⟩ := List.mem_map.mp (firstMinBy_mem _ _ _ h)
  exact ⟨k, List.mem_range.mp hk, rfl⟩

theorem foldl_min_map {α β : Type} (key : β → Nat) (G : α → β) (l : List α) (a : α) :
    (l.map G).foldl (fun best y => if key y < key best then y else best) (G a) =
      G (l.foldl (fun best y => if key (G y) < key (G best) then y else best) a) := by
  induction l generalizing a with
  | nil => rfl
  | cons x xs ih =>
    simp only [List.map_cons, List.foldl_cons]
    split
    · exact ih x
    · exact ih a

theorem firstMinBy_map {α β : Type} (key : β → Nat) (G : α → β) (l : List α) :
    firstMinBy key (l.map G) = (firstMinBy (fun x => key (G x)) l).map G := by
  cases l with
  | nil => rfl
  | cons a as => simp only [List.map_cons, firstMinBy, foldl_min_map, Option.map_some]

theorem takeEsts_inv : ∀ (k : Nat) (log : List OEvent) (bs : List Nat) (l : List OEvent),
    takeEsts k log = some (bs, l) →
    k ≤ log.length ∧ (∀ e ∈ log.take k, ∃ o b, e = OEvent.est o b) ∧ l = log.drop k := by
  intro k
  induction k with
  | zero =>
    intro log bs l h
    simp only [takeEsts, Option.some.injEq, Prod.mk.injEq] at h
    exact ⟨Nat.zero_le _, fun e he => absurd he List.not_mem_nil, h.2.symm⟩
  | succ k ih =>
    intro log bs l h
    match log, h with
    | .est o b :: log', h =>
      simp only [takeEsts, Option.map_eq_some_iff, Prod.mk.injEq] at h
      obtain ⟨⟨bs', l'⟩, h1, _, rfl⟩ := h
      obtain ⟨i1, i2, i3⟩ := ih log' bs' l' h1
      refine ⟨Nat.succ_le_succ i1, fun e he => ?_, i3⟩
      rcases List.mem_cons.1 he with rfl | he
      · exact ⟨o, b, rfl⟩
      · exact i2 e he
    | .qlpc _ _ _ :: _, h => simp [takeEsts] at h
    | [], h => simp [takeEsts] at h

theorem encodeResidual_some {maxP warm : Nat} {errors : List Int} {res : Residual}
    (h : encodeResidual maxP errors warm = some res) :
    ∃ prc, search errors warm maxP = some prc ∧ Residual.ofErrors errors warm prc.order prc.ps = res := by
  unfold encodeResidual at h
  simpa only [Option.bind_eq_bind, Option.bind_eq_some_iff, Option.some.injEq] using h

/-- A fixed candidate: the first `k ≤ 4` samples and the residual of a successful search on the `k`-th differences. -/
def FixedShape (cfg : SubCfg) (xs : List Int) (bps : Nat) (f : SubFrame) : Prop :=
  ∃ k prc, k ≤ 4 ∧ search (diffs k xs) k cfg.maxP = some prc ∧
    f = .fixed (xs.take k) (Residual.ofErrors (diffs k xs) k prc.order prc.ps) bps

/-- An LPC candidate: parameters from the log, residual from `compute_error` (which returned the flag
`true`: the candidate is dropped otherwise) and a successful search. -/
def LpcShape (cfg : SubCfg) (xs : List Int) (bps : Nat) (log : List OEvent) (f : SubFrame) : Prop :=
  ∃ coefs shift precision errors prc, OEvent.qlpc coefs shift precision ∈ log ∧
    computeError coefs shift.toNat xs = some (errors, true) ∧ search errors coefs.length cfg.maxP = some prc ∧
    f = .lpc (xs.take coefs.length) coefs shift precision
      (Residual.ofErrors errors coefs.length prc.order prc.ps) bps

/-- The guard of both prediction stages (`MIN_BLOCK_SIZE_FOR_PREDICTION = 64`), as the number the lemmas below use. -/
theorem long_iff (n : Nat) : (!decide (n < minBlockForPrediction)) = true ↔ 64 ≤ n := by
  rw [Bool.not_eq_true', decide_eq_false_iff_not]
  unfold minBlockForPrediction
  omega

theorem short_eq_false {n : Nat} (h : 64 ≤ n) : decide (n < minBlockForPrediction) = false :=
  Bool.not_eq_true' _ ▸ (long_iff n).2 h

theorem LpcShape.mono {cfg : SubCfg} {xs : List Int} {bps : Nat} {l1 log : List OEvent} {f : SubFrame}
    (hsub : ∀ e ∈ l1, e ∈ log) : LpcShape cfg xs bps l1 f → LpcShape cfg xs bps log f :=
  fun ⟨coefs, shift, precision, errors, prc, hm, h⟩ => ⟨coefs, shift, precision, errors, prc, hsub _ hm, h⟩

/-- What `fixed_lpc` does with the log (nothing with bit counting; else it takes one estimate per order) and what
it can return. -/
theorem fixedCandidate_spec (cfg : SubCfg) (xs : List Int) (bps baseline : Nat) (log log1 : List OEvent)
    (c : Option SubFrame) (h : fixedCandidate cfg xs bps baseline log = some (c, log1)) :
    ((cfg.bitCount = true ∧ log1 = log) ∨
      (cfg.bitCount = false ∧ ∃ ests, takeEsts (min (cfg.fixedMaxOrder + 1) 5) log = some (ests, log1))) ∧
    ∀ f, c = some f → FixedShape cfg xs bps f := by
  unfold fixedCandidate at h
  simp only [] at h
  by_cases hbc : cfg.bitCount = true
  · rw [if_pos hbc] at h
    simp only [Option.bind_eq_bind, Option.bind_eq_some_iff] at h
    obtain ⟨cands, hc, h⟩ := h
    split at h
    · simp only [Option.some.injEq, Prod.mk.injEq] at h
      obtain ⟨rfl, rfl⟩ := h
      exact ⟨Or.inl ⟨hbc, rfl⟩, fun f hf => by cases hf⟩
    · rename_i k prc bits hmin
      have hmem := firstMinBy_mem _ _ _ hmin
      obtain ⟨k0, hk0, hF⟩ := mapM_mem _ _ _ hc _ hmem
      simp only [Option.bind_eq_some_iff, Option.some.injEq, Prod.mk.injEq] at hF
      obtain ⟨prc0, hs, rfl, rfl, _⟩ := hF
      rw [List.mem_range] at hk0
      split at h
      · simp only [Option.some.injEq, Prod.mk.injEq] at h
        obtain ⟨rfl, rfl⟩ := h
        refine ⟨Or.inl ⟨hbc, rfl⟩, fun f hf => ?_⟩
        simp only [Option.some.injEq] at hf
        exact ⟨k0, prc0, by omega, hs, hf.symm⟩
      · simp only [Option.some.injEq, Prod.mk.injEq] at h
        obtain ⟨rfl, rfl⟩ := h
        exact ⟨Or.inl ⟨hbc, rfl⟩, fun f hf => by cases hf⟩
  · rw [if_neg hbc] at h
    simp only [Option.bind_eq_bind, Option.bind_eq_some_iff] at h
    obtain ⟨⟨ests, log2⟩, hte, h⟩ := h
    have hsub : (cfg.bitCount = true ∧ log2 = log) ∨
        (cfg.bitCount = false ∧ ∃ ests, takeEsts (min (cfg.fixedMaxOrder + 1) 5) log = some (ests, log2)) :=
      Or.inr ⟨Bool.eq_false_iff.2 hbc, ests, hte⟩
    simp only [] at h
    split at h
    · simp only [Option.some.injEq, Prod.mk.injEq] at h
      obtain ⟨rfl, rfl⟩ := h
      exact ⟨hsub, fun f hf => by cases hf⟩
    · rename_i k bits hmin
      obtain ⟨k0, hk0, hkb⟩ := firstMinBy_range _ _ _ _ hmin
      obtain rfl : k = k0 := (Prod.mk.inj hkb).1
      split at h
      · simp only [Option.bind_eq_some_iff, Option.some.injEq, Prod.mk.injEq] at h
        obtain ⟨res, hres, rfl, rfl⟩ := h
        refine ⟨hsub, fun f hf => ?_⟩
        simp only [Option.some.injEq] at hf
        obtain ⟨prc, hs, rfl⟩ := encodeResidual_some hres
        exact ⟨k, prc, by omega, hs, hf.symm⟩
      · simp only [Option.some.injEq, Prod.mk.injEq] at h
        obtain ⟨rfl, rfl⟩ := h
        exact ⟨hsub, fun f hf => by cases hf⟩

/-- A candidate leaves a prediction stage only through `keepBelow`: its reported size exists and is below the limit. -/
theorem keepBelow_some (limit : Nat) (c : Option SubFrame) (f : SubFrame) (h : keepBelow limit c = some f) :
    c = some f ∧ ∃ n, f.count = some n ∧ n < limit := by
  unfold keepBelow at h
  rw [Option.filter_eq_some_iff] at h
  obtain ⟨hc, hp⟩ := h
  refine ⟨hc, ?_⟩
  cases hn : f.count with
  | none => simp [hn] at hp
  | some n => exact ⟨n, rfl, by simpa [hn] using hp⟩

theorem fixedStage_shape (cfg : SubCfg) (xs : List Int) (bps baseline : Nat) (log log1 : List OEvent)
    (c : Option SubFrame) (h : fixedStage cfg xs bps baseline log = some (c, log1)) :
    (∀ e ∈ log1, e ∈ log) ∧
    (∀ f, c = some f → 64 ≤ xs.length ∧ FixedShape cfg xs bps f ∧ ∃ n, f.count = some n ∧ n < baseline) ∧
    (64 ≤ xs.length → Total.estTake cfg ≤ log.length ∧
      (∀ e ∈ log.take (Total.estTake cfg), ∃ o b, e = OEvent.est o b) ∧ log1 = log.drop (Total.estTake cfg)) := by
  have hzero := takeEsts_inv 0 log [] log rfl
  unfold fixedStage at h
  split at h
  · rename_i hcond
    simp only [Bool.and_eq_true] at hcond
    simp only [Option.map_eq_some_iff, Prod.mk.injEq] at h
    obtain ⟨⟨c0, l0⟩, hfc, hkb, rfl⟩ := h
    obtain ⟨hlog, h2⟩ := fixedCandidate_spec cfg xs bps baseline log l0 c0 hfc
    refine ⟨?_, fun f hf => ?_, fun _ => ?_⟩
    · rcases hlog with ⟨_, rfl⟩ | ⟨_, ests, hte⟩
      · exact fun e he => he
      · exact (takeEsts_inv _ _ _ _ hte).2.2 ▸ fun e he => List.mem_of_mem_drop he
    · rw [hf] at hkb
      obtain ⟨hc0, hcnt⟩ := keepBelow_some _ _ _ hkb
      exact ⟨(long_iff _).1 hcond.1, h2 f hc0, hcnt⟩
    · unfold Total.estTake
      rw [hcond.2, Bool.true_and]
      rcases hlog with ⟨hbc, rfl⟩ | ⟨hbc, ests, hte⟩
      · rw [hbc]; exact hzero
      · rw [hbc]; exact takeEsts_inv _ _ _ _ hte
  · rename_i hcond
    simp only [Option.some.injEq, Prod.mk.injEq] at h
    obtain ⟨rfl, rfl⟩ := h
    refine ⟨fun e he => he, fun f hf => (nomatch hf), fun hlen => ?_⟩
    have hu : cfg.useFixed = false := by
      cases hfx : cfg.useFixed with
      | false => rfl
      | true =>
        exact absurd (by rw [hfx, Bool.and_true]; exact (long_iff _).2 hlen) hcond
    unfold Total.estTake
    rw [hu]
    exact hzero

/-- What `estimated_qlpc` does with the log (it takes the parameter set at its head) and what it can return. -/
theorem lpcCandidate_spec (cfg : SubCfg) (xs : List Int) (bps : Nat) (log log1 : List OEvent) (c : Option SubFrame)
    (h : lpcCandidate cfg xs bps log = some (c, log1)) :
    (∃ cs s p, log = .qlpc cs s p :: log1) ∧ ∀ f, c = some f → LpcShape cfg xs bps log f := by
  unfold lpcCandidate at h
  split at h
  · rename_i coefs shift precision log'
    simp only [Option.bind_eq_some_iff] at h
    obtain ⟨⟨errors, fits⟩, he, h⟩ := h
    cases fits with
    | false =>
      simp only [Bool.false_eq_true, if_false, Option.some.injEq, Prod.mk.injEq] at h
      obtain ⟨rfl, rfl⟩ := h
      exact ⟨⟨_, _, _, rfl⟩, fun f hf => by cases hf⟩
    | true =>
      simp only [if_true, Option.bind_eq_some_iff] at h
      obtain ⟨res, hres, h⟩ := h
      split at h
      case isFalse => cases h
      simp only [Option.some.injEq, Prod.mk.injEq] at h
      obtain ⟨rfl, rfl⟩ := h
      obtain ⟨prc, hs, rfl⟩ := encodeResidual_some hres
      exact ⟨⟨_, _, _, rfl⟩, fun f hf => ⟨coefs, shift, precision, errors, prc, List.mem_cons_self, he, hs, (Option.some.inj hf).symm⟩⟩
  · cases h

theorem lpcStage_shape (cfg : SubCfg) (xs : List Int) (bps limit : Nat) (log log1 : List OEvent)
    (c : Option SubFrame) (h : lpcStage cfg xs bps limit log = some (c, log1)) :
    (∀ e ∈ log1, e ∈ log) ∧
    (∀ f, c = some f → 64 ≤ xs.length ∧ LpcShape cfg xs bps log f ∧ ∃ n, f.count = some n ∧ n < limit) ∧
    (64 ≤ xs.length → cfg.useLpc = true → ∃ c s p, log.head? = some (.qlpc c s p)) := by
  unfold lpcStage at h
  split at h
  · rename_i hcond
    simp only [Option.map_eq_some_iff, Prod.mk.injEq] at h
    obtain ⟨⟨c0, l0⟩, hlc, hkb, rfl⟩ := h
    obtain ⟨⟨cs, s, p, rfl⟩, hshape⟩ := lpcCandidate_spec cfg xs bps log l0 c0 hlc
    refine ⟨fun e he => List.mem_cons_of_mem _ he, fun f hf => ?_, fun _ _ => ⟨cs, s, p, rfl⟩⟩
    obtain ⟨hc0, hn⟩ := keepBelow_some _ _ _ (hf ▸ hkb)
    exact ⟨(long_iff _).1 (Bool.and_eq_true _ _ ▸ hcond).1, hshape f hc0, hn⟩
  · rename_i hcond
    simp only [Option.some.injEq, Prod.mk.injEq] at h
    obtain ⟨rfl, rfl⟩ := h
    refine ⟨fun e he => he, (fun f hf => by cases hf), fun h64 hl => ?_⟩
    exact absurd (by rw [hl, Bool.and_true]; exact (long_iff _).2 h64) hcond

/-- `encode_subframe`, whatever the log: the events left over come from the log, the log began with the
events the function asks for, and the result is the constant sub-frame of a constant block, or verbatim, or a
fixed resp. LPC candidate of a block of at least 64 samples whose reported size is below the verbatim size. -/
theorem encodeSubframe_emits (cfg : SubCfg) (xs : List Int) (bps : Nat) (log log' : List OEvent) (s : SubFrame)
    (h : encodeSubframe cfg xs bps log = some (s, log')) :
    (∀ e ∈ log', e ∈ log) ∧ Total.SubLogOk cfg xs log ∧
    ((isConstant xs = true ∧ s = .constant xs.length (xs.headD 0) bps) ∨ s = .verbatim xs bps ∨
     (64 ≤ xs.length ∧ (∃ c, s.count = some c ∧ c < verbatimBits xs.length bps) ∧
        (FixedShape cfg xs bps s ∨ LpcShape cfg xs bps log s))) := by
  unfold encodeSubframe at h
  split at h
  · rename_i hc
    have hc' := hc
    simp only [Option.some.injEq, Prod.mk.injEq, Bool.and_eq_true] at h hc'
    exact ⟨fun e he => h.2 ▸ he, .inl hc, Or.inl ⟨hc'.2, h.1.symm⟩⟩
  · simp only [Option.bind_eq_some_iff, Option.some.injEq, Prod.mk.injEq] at h
    obtain ⟨⟨fixed, log1⟩, hf, ⟨lpc, log2⟩, hl, rfl, rfl⟩ := h
    obtain ⟨hsub1, hfx, hests⟩ := fixedStage_shape cfg xs bps _ log log1 fixed hf
    obtain ⟨hsub2, hlp, hq⟩ := lpcStage_shape cfg xs bps _ log1 log2 lpc hl
    refine ⟨fun e he => hsub1 e (hsub2 e he), ?_, ?_⟩
    · by_cases hshort : xs.length < minBlockForPrediction
      · exact .inr (.inl hshort)
      · have h64 : 64 ≤ xs.length := Nat.le_of_not_lt hshort
        obtain ⟨i1, i2, i3⟩ := hests h64
        exact .inr (.inr ⟨i1, i2, fun hu => i3 ▸ hq h64 hu⟩)
    cases lpc with
    | some f =>
      obtain ⟨h64, hs, n, h1, h2⟩ := hlp f rfl
      exact .inr (.inr ⟨h64, ⟨n, h1, Nat.lt_of_lt_of_le h2 (C09.baselineAfter_le _ _)⟩, .inr (hs.mono hsub1)⟩)
    | none =>
      cases fixed with
      | some f =>
        obtain ⟨h64, hs, hcnt⟩ := hfx f rfl
        exact .inr (.inr ⟨h64, hcnt, .inl hs⟩)
      | none => exact .inr (.inl rfl)

theorem encodeSubframe_sub (cfg : SubCfg) (xs : List Int) (bps : Nat) (log log' : List OEvent) (s : SubFrame)
    (h : encodeSubframe cfg xs bps log = some (s, log')) : ∀ e ∈ log', e ∈ log :=
  (encodeSubframe_emits cfg xs bps log log' s h).1

/-- The mid channel `(l + r) >> 1` of a stereo pair, as `encode_frame` computes it (first component of `midSide`). -/
abbrev midOf (l r : List Int) : List Int := (List.zipWith midSide l r).map (·.1)
/-- The side channel `l - r` (second component of `midSide`). -/
abbrev sideOf (l r : List Int) : List Int := (List.zipWith midSide l r).map (·.2)

theorem midOf_eq (l r : List Int) : midOf l r = List.zipWith (fun (a b : Int) => (a + b) >>> (1 : Nat)) l r := by
  rw [midOf, List.map_zipWith]; rfl

theorem sideOf_eq (l r : List Int) : sideOf l r = List.zipWith (fun a b => a - b) l r := by
  rw [sideOf, List.map_zipWith]; rfl

theorem headerFor_some {asg : ChannelAssignment} {n bps rate number : Nat} {hdr : FrameHeader}
    (h : headerFor asg n bps rate number = some hdr) :
    ∃ bss, BlockSizeSpec.fromSize n = some bss ∧
      hdr = ⟨false, bss, asg, sampleSizeTag bps, (SampleRateSpec.fromFreq rate).getD .unspecified, number, 0⟩ := by
  unfold headerFor at h
  simp only [Option.bind_eq_bind, Option.bind_eq_some_iff, Option.some.injEq] at h
  obtain ⟨bss, hbss, rfl⟩ := h
  exact ⟨bss, hbss, rfl⟩

theorem headerFor_fields {asg : ChannelAssignment} {n bps rate number : Nat} {hdr : FrameHeader}
    (h : headerFor asg n bps rate number = some hdr) : hdr.number = number ∧ hdr.assignment = asg := by
  obtain ⟨_, _, rfl⟩ := headerFor_some h
  exact ⟨rfl, rfl⟩

/-- The selection loop of `try_stereo_coding` (`chooseStereo`) starts from left+right and moves to a recombination only where
that is strictly cheaper than the best so far: what holds of left+right and is kept by every such move holds of the choice. -/
theorem chooseStereo_induct (st : StereoCfg) (cl cr cm cs : Nat) (P : ChannelAssignment → Prop)
    (h0 : P (.independent 2))
    (hs : ∀ a best, a = .leftSide ∨ a = .rightSide ∨ a = .midSide → P best →
      stereoCost cl cr cm cs a < stereoCost cl cr cm cs best → P a) :
    P (chooseStereo st cl cr cm cs) := by
  unfold chooseStereo
  simp only [List.foldl_cons, List.foldl_nil]
  have step : ∀ (best : ChannelAssignment) (b : Bool) (a : ChannelAssignment),
      a = .leftSide ∨ a = .rightSide ∨ a = .midSide → P best →
      P (match (if b = true then some a else none) with
        | some a => if stereoCost cl cr cm cs a < stereoCost cl cr cm cs best then a else best
        | none => best) := by
    intro best b a ha hb
    cases b
    · exact hb
    · simp only [if_true]
      split
      · exact hs a best ha hb ‹_›
      · exact hb
  exact step _ _ _ (.inr (.inr rfl)) (step _ _ _ (.inr (.inl rfl)) (step _ _ _ (.inl rfl) h0))

theorem chooseStereo_cases (st : StereoCfg) (cl cr cm cs : Nat) :
    chooseStereo st cl cr cm cs = .independent 2 ∨ chooseStereo st cl cr cm cs = .leftSide ∨
    chooseStereo st cl cr cm cs = .rightSide ∨ chooseStereo st cl cr cm cs = .midSide :=
  chooseStereo_induct st cl cr cm cs (fun a => a = .independent 2 ∨ a = .leftSide ∨ a = .rightSide ∨ a = .midSide)
    (.inl rfl) fun _ _ ha _ _ => .inr ha

/-- `s` is what `encode_subframe` returns for the block `xs` at width `w`, on a log whose events all come
from `log`. -/
def EncodedFrom (cfg : SubCfg) (log : List OEvent) (xs : List Int) (w : Nat) (s : SubFrame) : Prop :=
  ∃ li li', (∀ e ∈ li, e ∈ log) ∧ encodeSubframe cfg xs w li = some (s, li')

theorem EncodedFrom.mono {cfg : SubCfg} {l1 log : List OEvent} {xs : List Int} {w : Nat} {s : SubFrame}
    (hsub : ∀ e ∈ l1, e ∈ log) : EncodedFrom cfg l1 xs w s → EncodedFrom cfg log xs w s :=
  fun ⟨li, li', hli, he⟩ => ⟨li, li', fun e hm => hsub e (hli e hm), he⟩

theorem encodeChannels_spec (cfg : SubCfg) (asg : ChannelAssignment) (bps : Nat) :
    ∀ (chans : List (List Int)) (ch : Nat) (log log' : List OEvent) (subs : List SubFrame),
      encodeChannels cfg asg bps chans ch log = some (subs, log') →
      subs.length = chans.length ∧ (∀ e ∈ log', e ∈ log) ∧
      ∀ i (h1 : i < subs.length) (h2 : i < chans.length),
        EncodedFrom cfg log chans[i] (bps + asg.bpsOffset (ch + i)) subs[i] := by
  intro chans
  induction chans with
  | nil =>
    intro ch log log' subs h
    simp only [encodeChannels, Option.some.injEq, Prod.mk.injEq] at h
    obtain ⟨rfl, rfl⟩ := h
    exact ⟨rfl, fun e he => he, fun i h1 => absurd h1 (by simp)⟩
  | cons c cs ih =>
    intro ch log log' subs h
    simp only [encodeChannels, Option.bind_eq_bind, Option.bind_eq_some_iff, Option.some.injEq, Prod.mk.injEq] at h
    obtain ⟨⟨s, l1⟩, hs, ⟨ss, l2⟩, hss, rfl, rfl⟩ := h
    have hsub1 := encodeSubframe_sub cfg c _ log l1 s hs
    obtain ⟨hl, hsub2, hrest⟩ := ih (ch + 1) l1 l2 ss hss
    refine ⟨by simp [hl], fun e he => hsub1 e (hsub2 e he), ?_⟩
    intro i h1 h2
    cases i with
    | zero => exact ⟨log, l1, fun e he => he, hs⟩
    | succ j =>
      have := (hrest j (by simpa using h1) (by simpa using h2)).mono hsub1
      rw [show ch + 1 + j = ch + (j + 1) by omega] at this
      exact this

theorem encodeChannels_sub (cfg : SubCfg) (asg : ChannelAssignment) (bps : Nat) :
    ∀ (chans : List (List Int)) (ch : Nat) (log log' : List OEvent) (subs : List SubFrame),
      encodeChannels cfg asg bps chans ch log = some (subs, log') → ∀ e ∈ log', e ∈ log :=
  fun chans ch log log' subs h => (encodeChannels_spec cfg asg bps chans ch log log' subs h).2.1

/-- The channel assignments `encode_frame` can choose for the input `chans`, each with the signals its
sub-frames code. -/
inductive FrameForm (chans : List (List Int)) : ChannelAssignment → List (List Int) → Prop
  | indep : FrameForm chans (.independent chans.length) chans
  | left (l r : List Int) : chans = [l, r] → FrameForm chans .leftSide [l, sideOf l r]
  | right (l r : List Int) : chans = [l, r] → FrameForm chans .rightSide [sideOf l r, r]
  | mid (l r : List Int) : chans = [l, r] → FrameForm chans .midSide [midOf l r, sideOf l r]

/-- `encode_frame`: either the per-channel sub-frames under `independent`, or (two channels) the four
candidates, left and right at `bps`, mid at `bps`, side at `bps + 1`, with the assignment `chooseStereo` selects from
their reported sizes and the two sub-frames `selectChannels` takes for it. -/
theorem encodeFrame_emits (cfg : SubCfg) (st : StereoCfg) (chans : List (List Int)) (bps rate number : Nat)
    (log log' : List OEvent) (f : Frame) (h : encodeFrame cfg st chans bps rate number log = some (f, log')) :
    (∀ e ∈ log', e ∈ log) ∧
    ((chans.length ≠ 2 ∧ headerFor (.independent chans.length) (chans.headD []).length bps rate number = some f.header ∧
        f.subframes.length = chans.length ∧
        ∀ i (h1 : i < f.subframes.length) (h2 : i < chans.length), EncodedFrom cfg log chans[i] bps f.subframes[i]) ∨
     (∃ l r sl sr sm ss, chans = [l, r] ∧ EncodedFrom cfg log l bps sl ∧ EncodedFrom cfg log r bps sr ∧
        EncodedFrom cfg log (midOf l r) bps sm ∧ EncodedFrom cfg log (sideOf l r) (bps + 1) ss ∧
        headerFor (chooseStereo st (cnt sl) (cnt sr) (cnt sm) (cnt ss)) l.length bps rate number = some f.header ∧
        f.subframes = [(selectChannels sl sr sm ss (chooseStereo st (cnt sl) (cnt sr) (cnt sm) (cnt ss))).1,
                       (selectChannels sl sr sm ss (chooseStereo st (cnt sl) (cnt sr) (cnt sm) (cnt ss))).2])) := by
  unfold encodeFrame at h
  simp only [Option.bind_eq_some_iff] at h
  obtain ⟨⟨indep, l1⟩, hi, h⟩ := h
  obtain ⟨hil, hisub, hispec⟩ := encodeChannels_spec cfg _ bps chans 0 log l1 indep hi
  split at h
  · rename_i l r sl sr heq
    simp only at heq
    subst heq
    simp only [Option.bind_eq_some_iff] at h
    obtain ⟨⟨msSubs, l2⟩, hm, h⟩ := h
    obtain ⟨_, hmsub, hmspec⟩ := encodeChannels_spec cfg .midSide bps _ 0 l1 l2 msSubs hm
    split at h
    · rename_i sm ss heq2
      simp only at heq2
      subst heq2
      simp only [Option.map_eq_some_iff, Prod.mk.injEq] at h
      obtain ⟨hdr, hhdr, rfl, rfl⟩ := h
      exact ⟨fun e he => hisub e (hmsub e he), .inr ⟨l, r, sl, sr, sm, ss, rfl, hispec 0 (by simp) (by simp),
        hispec 1 (by simp) (by simp), (hmspec 0 (by simp) (by simp)).mono hisub,
        (hmspec 1 (by simp) (by simp)).mono hisub, hhdr, rfl⟩⟩
    · exact absurd h (by simp)
  · split at h
    · exact absurd h (by simp)
    · rename_i hne
      simp only [Option.map_eq_some_iff, Prod.mk.injEq] at h
      obtain ⟨hdr, hhdr, rfl, rfl⟩ := h
      exact ⟨hisub, .inl ⟨hne, hhdr, hil, fun i h1 h2 => by simpa [ChannelAssignment.bpsOffset] using hispec i h1 h2⟩⟩

theorem forall_pair {α β : Type} (Q : Nat → α → β → Prop) (a b : α) (c d : β) (h0 : Q 0 a c) (h1 : Q 1 b d) :
    ∀ i (_ : i < [a, b].length) (_ : i < [c, d].length), Q i [a, b][i] [c, d][i] := by
  intro i hi _
  match i, hi with
  | 0, _ => exact h0
  | 1, _ => exact h1

theorem encodeFrame_shape (cfg : SubCfg) (st : StereoCfg) (chans : List (List Int)) (bps rate number : Nat)
    (log log' : List OEvent) (f : Frame) (h : encodeFrame cfg st chans bps rate number log = some (f, log')) :
    (∀ e ∈ log', e ∈ log) ∧ ∃ asg raws, FrameForm chans asg raws ∧
      headerFor asg (chans.headD []).length bps rate number = some f.header ∧
      f.subframes.length = raws.length ∧
      ∀ i (h1 : i < f.subframes.length) (h2 : i < raws.length),
        EncodedFrom cfg log raws[i] (bps + asg.bpsOffset i) f.subframes[i] := by
  obtain ⟨hsub, ⟨_, hhdr, hl, hs⟩ | ⟨l, r, sl, sr, sm, ss, rfl, hsl, hsr, hsm, hss, hhdr, hf⟩⟩ :=
    encodeFrame_emits cfg st chans bps rate number log log' f h
  · exact ⟨hsub, _, _, .indep, hhdr, hl, hs⟩
  · refine ⟨hsub, ?_⟩
    have pair := fun (asg : ChannelAssignment) =>
      forall_pair (fun i s c => EncodedFrom cfg log c (bps + asg.bpsOffset i) s)
    rw [hf]
    rcases chooseStereo_cases st (cnt sl) (cnt sr) (cnt sm) (cnt ss) with ha | ha | ha | ha <;> rw [ha] at hhdr ⊢
    · exact ⟨_, _, .indep, hhdr, rfl, pair (.independent 2) sl sr l r hsl hsr⟩
    · exact ⟨_, _, .left l r rfl, hhdr, rfl, pair .leftSide sl ss _ _ hsl hss⟩
    · exact ⟨_, _, .right l r rfl, hhdr, rfl, pair .rightSide ss sr _ _ hss hsr⟩
    · exact ⟨_, _, .mid l r rfl, hhdr, rfl, pair .midSide sm ss _ _ hsm hss⟩

theorem encodeFrame_sub (cfg : SubCfg) (st : StereoCfg) (chans : List (List Int)) (bps rate number : Nat)
    (log log' : List OEvent) (f : Frame) (h : encodeFrame cfg st chans bps rate number log = some (f, log')) :
    ∀ e ∈ log', e ∈ log :=
  (encodeFrame_shape cfg st chans bps rate number log log' f h).1

theorem encodeFrames_cons {cfg : SubCfg} {st : StereoCfg} {bps rate : Nat} {b : List (List Int)} {rest : List (List (List Int))}
    {n : Nat} {log logf : List OEvent} {fs : List Frame} (h : encodeFrames cfg st bps rate (b :: rest) n log = some (fs, logf)) :
    ∃ f l1 fs', encodeFrame cfg st b bps rate n log = some (f, l1) ∧ encodeFrames cfg st bps rate rest (n + 1) l1 = some (fs', logf) ∧
      fs = f :: fs' := by
  simp only [encodeFrames, Option.bind_eq_bind, Option.bind_eq_some_iff] at h
  obtain ⟨⟨f, l1⟩, hef, ⟨fs', l2⟩, hefs, heq⟩ := h
  simp only [Option.some.injEq, Prod.mk.injEq] at heq
  exact ⟨f, l1, fs', hef, heq.2 ▸ hefs, heq.1.symm⟩

theorem encodeStream_shape {md5 : List Nat → List Nat} {cfg : SubCfg} {st : StereoCfg} {bs : Nat}
    {chans : List (List Int)} {bps rate : Nat} {log log' : List OEvent} {s : Stream}
    (h : encodeStream md5 cfg st bs chans bps rate log = some (s, log')) :
    ∃ frames counts, encodeFrames cfg st bps rate (blocksOf bs chans) 0 log = some (frames, log') ∧
      frames.mapM Frame.count = some counts ∧
      s = ⟨assembleInfo rate chans.length bps bs (((blocksOf bs chans).map fun b => (b.headD []).length).zip counts)
        (chans.headD []).length (md5 (md5Input bps (Rfc.interleave chans))), [], frames⟩ := by
  unfold encodeStream at h
  simp only [Option.bind_eq_bind, Option.bind_eq_some_iff, Option.some.injEq, Prod.mk.injEq] at h
  obtain ⟨⟨frames, l1⟩, hfr, counts, hcounts, rfl, rfl⟩ := h
  exact ⟨frames, counts, hfr, hcounts, rfl⟩

end Strict
end FlacVerif
