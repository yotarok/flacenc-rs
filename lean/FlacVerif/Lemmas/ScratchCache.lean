/-
Helper lemmas for C10, site 6: the window cache of `lpc.rs` (`Scratch.Cache`).
-/
import FlacVerif.Model.Scratch
namespace FlacVerif.Scratch

theorem fingerprint_injective (w1 w2 : Win) (h1 : w1.Valid) (h2 : w2.Valid)
    (h : fingerprint w1 = fingerprint w2) : w1 = w2 := by
  cases w1 with
  | rectangle =>
    cases w2 with
    | rectangle => rfl
    | tukey b =>
      simp only [Win.Valid] at h2
      simp only [fingerprint] at h
      omega
  | tukey a =>
    cases w2 with
    | rectangle =>
      simp only [Win.Valid] at h1
      simp only [fingerprint] at h
      omega
    | tukey b =>
      simp only [Win.Valid] at h1 h2
      simp only [fingerprint] at h
      have : a = b := by omega
      rw [this]

/-- Lookup-or-insert on a memo table (`get_window` of the model and of the generated code): `get` / `ins` are any pair of
functions that are `find?` / cons-after-`filter` on an association list.  `Good` says what an entry may be.  If `(k, v)` is
good and every good entry under `k` holds `v` - the key determines the value - the lookup after the optional insert
finds `v`, and every entry is still good. -/
theorem memo_lookup {κ ν : Type} [DecidableEq κ] (get : List (κ × ν) → κ → Option ν) (ins : List (κ × ν) → κ → ν → List (κ × ν))
    (hget : ∀ m k, get m k = (m.find? fun e => decide (e.1 = k)).map (·.2))
    (hins : ∀ m k v, ins m k v = (k, v) :: m.filter fun e => !decide (e.1 = k))
    (Good : κ × ν → Prop) (m : List (κ × ν)) (hm : ∀ e ∈ m, Good e)
    (k : κ) (v : ν) (hnew : Good (k, v)) (hhit : ∀ v', Good (k, v') → v' = v) :
    get (if (get m k).isNone then ins m k v else m) k = some v ∧
      ∀ e ∈ (if (get m k).isNone then ins m k v else m), Good e := by
  cases hf : m.find? fun e => decide (e.1 = k) with
  | none =>
    rw [hget m k, hf, if_pos (by rfl), hget, hins]
    refine ⟨by simp, fun e he => ?_⟩
    rcases List.mem_cons.mp he with rfl | he
    · exact hnew
    · exact hm e (List.mem_filter.mp he).1
  | some e =>
    have hk : e.1 = k := of_decide_eq_true (List.find?_some (p := fun e : κ × ν => decide (e.1 = k)) hf)
    rw [hget m k, hf, if_neg (by simp), hget, hf, Option.map_some,
      ← hhit e.2 (hk ▸ hm e (List.mem_of_find?_eq_some hf))]
    exact ⟨rfl, hm⟩

namespace Cache

/-- Every stored entry was computed for the `(size, window)` its key stands for. -/
def Inv (c : Cache) : Prop := ∀ e ∈ c, e.1 = Key.mk e.2.1 (fingerprint e.2.2) ∧ e.2.2.Valid

theorem inv_empty : Cache.empty.Inv := by
  intro e he; cases he

theorem get_insert_self (c : Cache) (k : Key) (v : Prov) : (c.insert k v).get k = some v := by
  simp [get, insert]

end Cache
end FlacVerif.Scratch
