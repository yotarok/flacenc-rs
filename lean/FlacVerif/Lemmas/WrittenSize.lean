/-
C09 at frame and stream level in BITS WRITTEN: `C09_frame` bounds the sizes the sub-frames report; every emitted
frame is serialisable and writes what it reports (`FrameOutcome.bits`), so the bounds hold of the bits
written — for the frame against the all-verbatim frame with the same header (`verbatimFrame`, size
`verbatimFrameBits` of the header's `frameHeaderBits`), and for the stream against the sum of those
(`framesBound`).
-/
import FlacVerif.Lemmas.Blocks
import FlacVerif.Lemmas.Layout
import FlacVerif.Lemmas.EncodeFrameShape
import FlacVerif.Theorems.C08
import FlacVerif.Theorems.C09
namespace FlacVerif

/-- `FrameHeader::count_bits` of the header `encode_fixed_size_frame` builds for a block of `n` samples,
sample rate `rate` and frame number `number`: 40 fixed bits (sync, codes, CRC-8), the UTF-8-like
number, the block-size immediate (0, 8 or 16 bits) and the sample-rate immediate (0, 8 or 16 bits). -/
def frameHeaderBits (n rate number : Nat) : Nat :=
  40 + 8 * utf8likeBytesize number + ((BlockSizeSpec.fromSize n).map (·.extraBits.length)).getD 0 +
    ((SampleRateSpec.fromFreq rate).getD .unspecified).extraBits.length

/-- `Frame::count_bits` of a frame with a header of `hdr` bits and `nch` verbatim sub-frames of `n`
samples of `bps` bits: header + sub-frames, padded to a whole byte, + CRC-16. -/
def verbatimFrameBits (hdr nch n bps : Nat) : Nat := (hdr + nch * verbatimBits n bps + 7) / 8 * 8 + 16

/-- The frame `encode_frame` would return if every channel were stored verbatim: same block-size,
sample-rate, sample-size codes and frame number, independent channels, verbatim sub-frames. -/
def verbatimFrame (f : Frame) (chans : List (List Int)) (bps : Nat) : Frame :=
  { header := { f.header with assignment := .independent chans.length },
    subframes := chans.map fun c => .verbatim c bps }

namespace Extras
open Count Strict

theorem headerFor_count (asg : ChannelAssignment) (n bps rate number : Nat) (hdr : FrameHeader)
    (h : headerFor asg n bps rate number = some hdr) :
    hdr.count = frameHeaderBits n rate number := by
  obtain ⟨bss, hbss, rfl⟩ := Strict.headerFor_some h
  simp only [FrameHeader.count, frameHeaderBits, FrameHeader.number, hbss, Option.map_some, Option.getD_some,
    Bool.false_eq_true, if_false]

/-- No header is longer than 16 bytes (7-byte number, two 16-bit immediates). -/
theorem frameHeaderBits_le (n rate number : Nat) (hv : number < 2 ^ 36) : frameHeaderBits n rate number ≤ 128 := by
  unfold frameHeaderBits
  have h1 := utf8likeBytesize_le number hv
  have h2 : ((BlockSizeSpec.fromSize n).map (·.extraBits.length)).getD 0 ≤ 16 := by
    cases BlockSizeSpec.fromSize n with
    | none => simp
    | some s => simpa using Repo.bsExtra_le s
  have h3 := Repo.srExtra_le ((SampleRateSpec.fromFreq rate).getD .unspecified)
  omega

/-- Padding to a whole byte and the CRC-16 keep the order: whatever is at most a header and `nch` verbatim sub-frames
is, once padded, at most `verbatimFrameBits`. -/
theorem le_verbatimFrameBits (hdr nch n bps x : Nat) (h : x ≤ hdr + nch * verbatimBits n bps) :
    (x + 7) / 8 * 8 + 16 ≤ verbatimFrameBits hdr nch n bps := by
  unfold verbatimFrameBits
  have : (x + 7) / 8 ≤ (hdr + nch * verbatimBits n bps + 7) / 8 := Nat.div_le_div_right (by omega)
  omega

theorem _root_.FlacVerif.Strict.FrameOutcome.written {cfg : SubCfg} {chans : List (List Int)} {bps rate number n : Nat}
    {f : Frame} {asg : ChannelAssignment} {raws : List (List Int)}
    (fo : FrameOutcome cfg chans bps rate number n f asg raws) (hnum : number < 2 ^ 36) :
    ∃ fb, f.bits rfcCrc8 rfcCrc16 = some fb ∧ f.count = some fb.length ∧ 8 ∣ fb.length ∧
      f.header.count = frameHeaderBits n rate number ∧
      fb.length ≤ verbatimFrameBits (frameHeaderBits n rate number) chans.length n bps := by
  have hcnt := headerFor_count asg n bps rate number f.header fo.header
  obtain ⟨fb, hfb, hfc, h8⟩ := fo.bits hnum
  have htot := fo.total
  refine ⟨fb, hfb, hfc, h8, hcnt, ?_⟩
  rw [(Count.frame_count_some hfc).2, hcnt]
  unfold C09.subTotal at htot
  exact le_verbatimFrameBits _ _ _ _ _ (by omega)

theorem verbatimFrame_size (f : Frame) (chans : List (List Int)) (bps n : Nat)
    (hch : chans.length ≤ 16) (hlen : ∀ c ∈ chans, c.length = n) (hn : 1 ≤ n)
    (hb : 1 ≤ bps ∧ bps ≤ 32) (hx : ∀ c ∈ chans, ∀ x ∈ c, SubFrame.inRange bps x = true)
    (hnum : f.header.number < 2 ^ 36) :
    ∃ vb, (verbatimFrame f chans bps).bits rfcCrc8 rfcCrc16 = some vb ∧
      vb.length = verbatimFrameBits f.header.count chans.length n bps := by
  have hwf : ∀ s ∈ (verbatimFrame f chans bps).subframes, s.WF := by
    intro s hs
    simp only [verbatimFrame, List.mem_map] at hs
    obtain ⟨c, hc, rfl⟩ := hs
    exact ⟨by rw [hlen c hc]; exact hn, hb.1, hb.2, hx c hc⟩
  obtain ⟨vb, hvb, hvc, _⟩ := C08_frame rfcCrc8 rfcCrc16 (verbatimFrame f chans bps)
    hnum
    (by simp only [verbatimFrame, ChannelAssignment.tag]; omega) hwf
  refine ⟨vb, hvb, ?_⟩
  rw [(Count.frame_count_some hvc).2]
  unfold verbatimFrameBits
  have hsum : ((verbatimFrame f chans bps).subframes.map cnt).foldl (· + ·) 0 = chans.length * verbatimBits n bps := by
    rw [← List.sum_eq_foldl]
    simp only [verbatimFrame, List.map_map]
    have : ∀ c ∈ chans, (cnt ∘ fun c => SubFrame.verbatim c bps) c = verbatimBits n bps := by
      intro c hc
      simp [cnt, SubFrame.count, verbatimBits, hlen c hc]
    exact sum_map_eq_mul chans _ _ this
  have hh : (verbatimFrame f chans bps).header.count = f.header.count := rfl
  rw [hsum, hh]

/-- The bound of the whole frame loop: block `i` of the list is frame `number + i`. -/
def framesBound (nch bps rate : Nat) (blocks : List (List (List Int))) (number : Nat) : Nat :=
  ((blocks.zipIdx number).map fun p =>
    verbatimFrameBits (frameHeaderBits (p.1.headD []).length rate p.2) nch (p.1.headD []).length bps).sum

theorem framesBound_cons (nch bps rate : Nat) (b : List (List Int)) (bs : List (List (List Int))) (number : Nat) :
    framesBound nch bps rate (b :: bs) number =
      verbatimFrameBits (frameHeaderBits (b.headD []).length rate number) nch (b.headD []).length bps +
        framesBound nch bps rate bs (number + 1) := by
  simp only [framesBound, List.zipIdx_cons, List.map_cons, List.sum_cons]

/-- What the frame loop writes: the frames `encodeFrames` returns serialise, report the lengths they write, each
a whole number of bytes, at least two and fewer than `2^24` bits (the width of STREAMINFO's frame-size fields), and
together at most `framesBound`. -/
theorem encodeFrames_size {cfg : SubCfg} {bps rate nch : Nat} {blocks : List (List (List Int))} {number : Nat}
    {frames : List Frame} (ho : FramesOutcome cfg bps rate nch number blocks frames)
    (hnum : number + blocks.length ≤ 2 ^ 36) :
    ∃ fbs : List Bits,
      frames.mapM (Frame.bits rfcCrc8 rfcCrc16) = some fbs ∧
      frames.mapM Frame.count = some (fbs.map List.length) ∧
      (∀ fb ∈ fbs, 8 ∣ fb.length ∧ 16 ≤ fb.length ∧ fb.length < 2 ^ 24) ∧
      fbs.flatten.length ≤ framesBound nch bps rate blocks number := by
  induction ho with
  | nil _ => exact ⟨[], rfl, rfl, (fun _ h => nomatch h), by simp [framesBound]⟩
  | @cons number b blocks f frames _ _ hbn fo _ ih =>
    simp only [List.length_cons] at hnum
    obtain ⟨fb, hfb, hfc, h8, _, hle⟩ := fo.written (by omega)
    obtain ⟨fbs, hm1, hm2, hall, hle2⟩ := ih (by omega)
    rw [hbn] at hle
    refine ⟨fb :: fbs, by simp [List.mapM_cons, hfb, hm1], by simp [List.mapM_cons, hfc, hm2],
      List.forall_mem_cons.2 ⟨⟨h8, Layout.frame_bits_ge16 f fb hfb, ?_⟩, hall⟩, ?_⟩
    · -- header ≤ 128 bits, at most 8 sub-frames of at most `8 + 65535 · 24` bits
      have hn := fo.size
      have hb := fo.width
      have hnch := fo.chanCount
      have h1 := frameHeaderBits_le (b.headD []).length rate number (by omega)
      have h2 : (b.headD []).length * bps ≤ 65535 * 24 := Nat.mul_le_mul (by omega) hb.2
      have h3 : nch * verbatimBits (b.headD []).length bps ≤ 8 * (8 + 65535 * 24) :=
        Nat.mul_le_mul (hbn ▸ hnch.2) (by unfold verbatimBits; omega)
      unfold verbatimFrameBits at hle
      omega
    · rw [List.flatten_cons, List.length_append, framesBound_cons]
      omega

theorem verbatimFrameBits_eq (hdr nch n bps : Nat) :
    verbatimFrameBits hdr nch n bps = 8 * ((hdr + nch * (8 + n * bps) + 7) / 8 + 2) := by
  unfold verbatimFrameBits verbatimBits
  omega

theorem framesBound_le (nch bps rate H : Nat) :
    ∀ (blocks : List (List (List Int))) (number : Nat), number + blocks.length ≤ 2 ^ 36 → 128 ≤ H →
      framesBound nch bps rate blocks number ≤
        (blocks.map fun b => verbatimFrameBits H nch (b.headD []).length bps).sum := by
  intro blocks
  induction blocks with
  | nil => intro number _ _; simp [framesBound]
  | cons b bs ih =>
    intro number hnum hH
    simp only [List.length_cons] at hnum
    rw [framesBound_cons, List.map_cons, List.sum_cons]
    have h1 := frameHeaderBits_le (b.headD []).length rate number (by omega)
    have h2 : verbatimFrameBits (frameHeaderBits (b.headD []).length rate number) nch (b.headD []).length bps ≤ _ :=
      le_verbatimFrameBits H nch (b.headD []).length bps _ (Nat.add_le_add_right (Nat.le_trans h1 hH) _)
    have h3 := ih (number + 1) (by omega) hH
    omega

theorem stream_count_nometa (info : StreamInfo) (frames : List Frame) (fbs : List Bits)
    (h : frames.mapM Frame.count = some (fbs.map List.length)) :
    (Stream.mk info [] frames).count = some (32 + (32 + 272) + fbs.flatten.length) := by
  unfold Stream.count
  simp [h, ← List.sum_eq_foldl, List.length_flatten]

theorem stream_size (md5 : List Nat → List Nat) (cfg : SubCfg) (st : StereoCfg) (bs : Nat)
    (chans : List (List Int)) (bps rate : Nat) (log log' : List OEvent) (s : Stream) (total : Nat)
    (hmd5 : ∀ x, (md5 x).length = 16)
    (hch : 1 ≤ chans.length ∧ chans.length ≤ 8) (hlen : ∀ c ∈ chans, c.length = total) (htot : total < 2 ^ 36)
    (hbs : 1 ≤ bs ∧ bs < 2 ^ 16) (hb : 1 ≤ bps ∧ bps ≤ 24)
    (hx : ∀ c ∈ chans, ∀ x ∈ c, SubFrame.inRange bps x = true) (hmax : cfg.maxP ≤ 14)
    (hlog : ∀ e ∈ log, e.Ok)
    (h : encodeStream md5 cfg st bs chans bps rate log = some (s, log')) :
    ∃ sb, s.bits rfcCrc8 rfcCrc16 = some sb ∧ s.count = some sb.length ∧
      sb.length ≤ 8 * 42 + framesBound chans.length bps rate (blocksOf bs chans) 0 ∧
      (blocksOf bs chans).length ≤ 2 ^ 36 := by
  obtain ⟨frames, counts, ho, hcounts, rfl⟩ := encodeStream_outcome total hch hlen hbs hb hx hmax hlog h
  have hbl : (blocksOf bs chans).length ≤ 2 ^ 36 := by
    rw [blocksOf_length bs chans total hch.1 hlen]
    apply Nat.div_le_of_le_mul
    omega
  obtain ⟨fbs, hm1, hm2, _, hle⟩ := encodeFrames_size ho (by omega)
  have hinfo : (assembleInfo rate chans.length bps bs
      (((blocksOf bs chans).map fun b => (b.headD []).length).zip counts) total
      (md5 (md5Input bps (Rfc.interleave chans)))).bits.length = 272 :=
    C08_streaminfo _ (by simp only [assembleInfo]; exact hmd5 _)
  refine ⟨_, Layout.stream_bits_nometa _ frames fbs hm1, ?_, ?_, hbl⟩
  · rw [stream_count_nometa _ frames fbs hm2]
    simp only [List.length_append, hinfo, Stream.blockHeader, natToBits_length, bytesToBits_length, List.length_cons,
      List.length_nil]
  · simp only [List.length_append, hinfo, Stream.blockHeader, natToBits_length, bytesToBits_length, List.length_cons,
      List.length_nil]
    omega

end Extras
end FlacVerif
