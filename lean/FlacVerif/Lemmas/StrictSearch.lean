/-
Whatever `search` returns lies in the search space (C13), so the residual built from it is well-formed (that the strict
reader accepts it: `readResidual_of_search`, Lemmas/StrictFrame).
-/
import FlacVerif.Lemmas.OfErrors
import FlacVerif.Lemmas.RiceSearchOpt
namespace FlacVerif
namespace Strict
open RiceSearch

theorem fits_of_range (l : List Int) (h : ∀ e ∈ l, -(2 ^ 31 : Int) < e ∧ e < (2 ^ 31 : Int)) :
    ∀ e ∈ l, fitsI32 e = true := by
  intro e he
  have := h e he
  rw [fitsI32_iff]; omega

/-- A successful `search` has met no `i32::MIN`: `encode_signbit` fails on it. -/
theorem search_range (errors : List Int) (warm maxP : Nat) (prc : PrcParameter)
    (hfit : ∀ e ∈ errors, fitsI32 e = true) (h : search errors warm maxP = some prc) :
    ∀ e ∈ errors, -(2 ^ 31 : Int) < e ∧ e < (2 ^ 31 : Int) := by
  intro e he
  have hf := (fitsI32_iff e).1 (hfit e he)
  unfold search at h
  simp only [Option.bind_eq_bind, Option.bind_eq_some_iff] at h
  obtain ⟨es, hes, _⟩ := h
  obtain ⟨u, hu⟩ := mapM_some_forall hes e he
  refine ⟨?_, hf.2⟩
  rcases Int.lt_or_eq_of_le hf.1 with hlt | heq
  · exact hlt
  · rw [← heq, encodeSignbit_min] at hu; cases hu

theorem search_space (errors : List Int) (warm maxP : Nat) (prc : PrcParameter)
    (hfit : ∀ e ∈ errors, fitsI32 e = true) (hlen : errors.length < 2 ^ 16)
    (hmax : maxP ≤ 14) (h : search errors warm maxP = some prc) :
    prc.order ≤ 15 ∧ prc.ps.length = 2 ^ prc.order ∧ 2 ^ prc.order ∣ errors.length ∧
    max 64 warm ≤ errors.length >>> prc.order ∧ ∀ p ∈ prc.ps, p ≤ 14 := by
  obtain ⟨hok, hpl, hp, _⟩ := search_optimal errors warm maxP hmax (search_range errors warm maxP prc hfit h) hlen prc h
  rw [List.length_map, orderOk_iff] at hok
  obtain ⟨h15, hmod, hmul⟩ := hok
  refine ⟨h15, hpl, Nat.dvd_of_mod_eq_zero hmod, ?_, fun p hm => Nat.le_trans (hp p hm) hmax⟩
  rw [Nat.shiftRight_eq_div_pow, Nat.le_div_iff_mul_le (Nat.two_pow_pos _)]
  exact hmul

theorem residual_wf_of_search (errors : List Int) (warm maxP : Nat) (prc : PrcParameter)
    (hfit : ∀ e ∈ errors, fitsI32 e = true) (hlen : errors.length < 2 ^ 16)
    (hmax : maxP ≤ 14) (h : search errors warm maxP = some prc) :
    (Residual.ofErrors errors warm prc.order prc.ps).WF := by
  obtain ⟨h15, hpl, hdvd, hw, hp⟩ := search_space errors warm maxP prc hfit hlen hmax h
  have := Nat.shiftRight_le errors.length prc.order
  exact ofErrors_wf errors warm prc.order prc.ps (by omega) h15 hpl hdvd (Nat.le_trans (Nat.le_max_right _ _) hw) hp

end Strict
end FlacVerif
