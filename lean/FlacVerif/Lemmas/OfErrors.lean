/-
`Residual.ofErrors`, the residual the encoder builds from a list of prediction errors and a choice of Rice parameters
(`encode_residual_with_prc_parameter`): its fields, its coded values (quotient and remainder of the folded error) and
its well-formedness.
-/
import FlacVerif.Lemmas.Predict
import FlacVerif.Lemmas.ListFacts
namespace FlacVerif
namespace Strict

section
variable (errors : List Int) (w o : Nat) (ps : List Nat)

theorem ofErrors_order : (Residual.ofErrors errors w o ps).order = o := rfl
theorem ofErrors_blockSize : (Residual.ofErrors errors w o ps).blockSize = errors.length := rfl
theorem ofErrors_warmup : (Residual.ofErrors errors w o ps).warmup = w := rfl
theorem ofErrors_params : (Residual.ofErrors errors w o ps).params = ps.take (2 ^ o) := rfl
theorem ofErrors_partLen : (Residual.ofErrors errors w o ps).partLen = errors.length >>> o := rfl
theorem ofErrors_quotients_length : (Residual.ofErrors errors w o ps).quotients.length = errors.length := by
  simp only [Residual.ofErrors, List.length_map, List.length_range]
theorem ofErrors_remainders_length : (Residual.ofErrors errors w o ps).remainders.length = errors.length := by
  simp only [Residual.ofErrors, List.length_map, List.length_range]

theorem ofErrors_quot (t : Nat) (ht : t < errors.length) :
    (Residual.ofErrors errors w o ps).quotients.getD t 0 =
      if t < w then 0 else
        ((encodeSignbit (errors.getD t 0)).getD 0) >>> (ps.getD (t / (errors.length >>> o)) 0) := by
  unfold Residual.ofErrors
  simp only [List.map_map]
  rw [getD_map_range _ _ _ _ ht]
  simp only [Function.comp]
  split <;> rfl

theorem ofErrors_quot_lt :
    ∀ q ∈ (Residual.ofErrors errors w o ps).quotients, q < 2 ^ 32 := by
  intro q hq
  unfold Residual.ofErrors at hq
  simp only [List.map_map, List.mem_map, List.mem_range, Function.comp] at hq
  obtain ⟨t, _, rfl⟩ := hq
  split
  · decide
  · exact Nat.lt_of_le_of_lt (Nat.shiftRight_le _ _) (encodeSignbit_getD_lt _)

theorem ofErrors_rem (t : Nat) (ht : t < errors.length) :
    (Residual.ofErrors errors w o ps).remainders.getD t 0 =
      if t < w then 0 else
        ((encodeSignbit (errors.getD t 0)).getD 0) % 2 ^ (ps.getD (t / (errors.length >>> o)) 0) := by
  unfold Residual.ofErrors
  simp only [List.map_map]
  rw [getD_map_range _ _ _ _ ht]
  simp only [Function.comp]
  split <;> rfl

theorem ofErrors_val (t : Nat) (ht : t < errors.length)
    (he : -(2 ^ 31 : Int) < errors.getD t 0 ∧ errors.getD t 0 < (2 ^ 31 : Int)) :
    (Residual.ofErrors errors w o ps).quotients.getD t 0 * 2 ^ ps.getD (t / (errors.length >>> o)) 0 +
        (Residual.ofErrors errors w o ps).remainders.getD t 0 =
      if t < w then 0 else fold (errors.getD t 0) := by
  rw [ofErrors_quot _ _ _ _ _ ht, ofErrors_rem _ _ _ _ _ ht]
  split
  · simp
  · -- quotient and remainder of the folded error give it back
    rw [encodeSignbit_eq_fold _ he.1 he.2, Option.getD_some, Nat.shiftRight_eq_div_pow, Nat.mul_comm]
    exact Nat.div_add_mod _ _

end

/-- The decoded value of coded sample `t` of a residual. (`Strict.Residual.val`, not a field of the model's `Residual`:
written `Residual.val r t`; likewise `Residual.Strict r` in Lemmas/StrictResidual.) -/
def Residual.val (r : Residual) (t : Nat) : Int :=
  unfold (r.quotients.getD t 0 * 2 ^ (r.params.getD (t / r.partLen) 0) + r.remainders.getD t 0)

theorem Residual.val_of_part (r : Residual) {t part : Nat} (h : t / r.partLen = part) :
    Residual.val r t = unfold (r.quotients.getD t 0 * 2 ^ r.params.getD part 0 + r.remainders.getD t 0) := by
  rw [← h]; rfl

theorem Residual.val_ofErrors (errors : List Int) (w o : Nat) (ps : List Nat) (hps : ps.length = 2 ^ o) (t : Nat)
    (ht : t < errors.length) (he : -(2 ^ 31 : Int) < errors.getD t 0 ∧ errors.getD t 0 < (2 ^ 31 : Int)) :
    Residual.val (Residual.ofErrors errors w o ps) t = if t < w then 0 else errors.getD t 0 := by
  unfold Residual.val
  rw [ofErrors_params, List.take_of_length_le (Nat.le_of_eq hps), ofErrors_partLen, ofErrors_val _ _ _ _ t ht he]
  split
  · rfl
  · exact unfold_fold _

theorem ofErrors_wf (errors : List Int) (w o : Nat) (ps : List Nat)
    (hpos : 0 < errors.length) (ho : o ≤ 15) (hps : ps.length = 2 ^ o) (hdvd : 2 ^ o ∣ errors.length)
    (hw : w ≤ errors.length >>> o) (hp : ∀ p ∈ ps, p ≤ 14) :
    (Residual.ofErrors errors w o ps).WF := by
  have hpar : ps.take (2 ^ o) = ps := List.take_of_length_le (by omega)
  refine ⟨ho, ?_, hdvd, hw, hpos, ?_, ?_, ?_, ?_, ?_⟩
  · rw [ofErrors_params, hpar, ofErrors_order]; exact hps
  · simp [Residual.ofErrors]
  · simp [Residual.ofErrors]
  · rw [ofErrors_params, hpar]; exact hp
  · intro t ht
    have htl : t < errors.length := by
      have h1 : errors.length >>> o ≤ errors.length := by
        rw [Nat.shiftRight_eq_div_pow]; exact Nat.div_le_self _ _
      rw [ofErrors_warmup] at ht
      omega
    rw [ofErrors_warmup] at ht
    rw [ofErrors_quot _ _ _ _ _ htl, ofErrors_rem _ _ _ _ _ htl, if_pos ht, if_pos ht]
    exact ⟨rfl, rfl⟩
  · intro t ht
    rw [ofErrors_blockSize] at ht
    rw [ofErrors_rem _ _ _ _ _ ht, ofErrors_params, hpar, ofErrors_partLen]
    split
    · exact Nat.two_pow_pos _
    · exact Nat.mod_lt _ (Nat.two_pow_pos _)

end Strict
end FlacVerif
