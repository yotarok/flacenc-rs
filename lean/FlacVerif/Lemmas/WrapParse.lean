/-
Every frame `encode_frame` returns — for every oracle log
satisfying `OEvent.Ok` — is well-formed, serialisable, and within the limits of the repository's own
parser (`Repo.FrameOk`; its LPC order limit `MAX_LPC_ORDER = 24` is the bound `OEvent.Ok` puts on the
oracle's parameter sets), so that C15 (`parser::frame` inverts `Frame::write`) applies to it
(`C01_frame_wrap_roundtrip`).
-/
import FlacVerif.Lemmas.EncodeFrameShape
import FlacVerif.Lemmas.RepoRoundTripFrame
import FlacVerif.Theorems.C02
namespace FlacVerif
namespace Wrap
open Repo

/-- What every emitted sub-frame satisfies: the conditions `Repo.FrameOk` puts on a sub-frame of a frame of
`n` samples at width `b`. -/
def SubGood (n b : Nat) (s : SubFrame) : Prop := s.WF ∧ SubOk s ∧ s.blockSize = n ∧ s.bps = b

theorem subGood_of_outcome {cfg : SubCfg} {xs : List Int} {bps : Nat} {s : SubFrame} (o : Strict.SubOutcome cfg xs bps s)
    (hn : 1 ≤ xs.length) : SubGood xs.length bps s := by
  have hb := o.width
  refine ⟨o.wf hn, ?_⟩
  cases o.case with
  | constant _ => exact ⟨hb.2, rfl, rfl⟩
  | verbatim => exact ⟨hb.2, rfl, rfl⟩
  | fixed k prc hk4 p _ =>
    have hbs : (Residual.ofErrors (diffs k xs) k prc.order prc.ps).blockSize = xs.length := p.len
    exact ⟨⟨hb.2, Strict.ofErrors_quot_lt _ _ _ _, by rw [hbs]; have := p.small; omega⟩, hbs, rfl⟩
  | lpc coefs shift precision errors prc hok p _ =>
    have hbs : (Residual.ofErrors errors coefs.length prc.order prc.ps).blockSize = xs.length := p.len
    exact ⟨⟨hb.2, hok.2.1, Strict.ofErrors_quot_lt _ _ _ _, by rw [hbs]; have := p.small; omega⟩, hbs, rfl⟩

/-- The parser reads the sample size of the tag, or STREAMINFO's where the tag says so: the encoder's `bps` either way. -/
theorem sampleSizeBits_tag (bps : Nat) : (sampleSizeBits (sampleSizeTag bps)).getD bps = bps := by
  rcases sampleSizeTag_cases bps with rfl | rfl | rfl | rfl | rfl | rfl | h
  iterate 6 decide
  rw [h]
  rfl

theorem frame_good_assemble (asg : ChannelAssignment) (hasg : ChOk asg) (subs : List SubFrame)
    (n bps rate number : Nat) (hdr : FrameHeader) (hn : 1 ≤ n ∧ n < 2 ^ 16) (hb : bps ≤ 24) (hnum : number < 2 ^ 32)
    (hh : headerFor asg n bps rate number = some hdr) (hsl : subs.length = asg.channels)
    (hsub : ∀ i (h1 : i < subs.length), SubGood n (bps + asg.bpsOffset i) subs[i])
    (info : StreamInfo) (hinfo : info.channels = asg.channels ∧ info.bps = bps) :
    FrameOk info ⟨hdr, subs⟩ := by
  obtain ⟨bss, hbss, rfl⟩ := Strict.headerFor_some hh
  obtain ⟨hok, hbs⟩ := BlockSizeSpec.fromSize_ok n hn.1 hn.2 bss hbss
  -- `HdrOk`: block-size spec, rate spec, assignment, size tag, number; then channels, count, size bits, bps, sub-frames
  refine ⟨⟨hok, srOk_getD_fromFreq rate, hasg, sampleSizeTag_lt bps, ?_⟩, hinfo.1.symm, hsl, ?_, by rw [hinfo.2]; exact hb, ?_⟩
  · simp only [Bool.false_eq_true, if_false]
    exact ⟨trivial, hnum⟩
  · simp only []
    rw [hinfo.2]; exact sampleSizeBits_tag bps
  · intro j hj
    obtain ⟨g1, g2, g3, g4⟩ := hsub j hj
    refine ⟨g1, g2, ?_, ?_⟩
    · simp only []
      rw [g3, hbs]
    · simp only []
      rw [g4, hinfo.2]

/-- Every frame `encode_frame` returns is within the limits of the repository's own parser (frame numbers below
`2^32`: the parser reads the number into a `u32`). -/
theorem _root_.FlacVerif.Strict.FrameOutcome.good {cfg : SubCfg} {chans : List (List Int)} {bps rate number n : Nat}
    {f : Frame} {asg : ChannelAssignment} {raws : List (List Int)}
    (fo : Strict.FrameOutcome cfg chans bps rate number n f asg raws) (hnum : number < 2 ^ 32)
    (info : StreamInfo) (hinfo : info.channels = chans.length ∧ info.bps = bps) :
    FrameOk info f := by
  have hn := fo.size
  have hb := fo.width
  refine frame_good_assemble asg fo.asgOk f.subframes n bps rate number f.header hn hb.2 hnum fo.header fo.count
    (fun i h1 => ?_) info ⟨hinfo.1.trans fo.channels.symm, hinfo.2⟩
  obtain ⟨hl, o⟩ := fo.sub i h1 (fo.len ▸ h1)
  exact hl ▸ subGood_of_outcome o (by omega)

end Wrap
end FlacVerif
