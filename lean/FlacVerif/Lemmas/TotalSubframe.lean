/-
No panic site of the functional encoder is reachable (C07): `encode_subframe` hits no panic site
whenever the oracle log has the SHAPE the function consumes (`SubLogOk`) — the `est` events of the
`ApproxEnt` fixed stage, then the `qlpc` event of the LPC stage.  Nothing is asked of the quantised
parameter set beyond `OEvent.Ok`: `compute_error` never panics, and the LPC candidate is dropped exactly
when the exact residual is not encodable (`lpcCandidate_total`).  The bound `maxLpcOrder = 24` of `OEvent.Ok` on the
number of coefficients is needed: beyond it the warm-up vector overflows its capacity (`C07_lpcCandidate_over_capacity`).
That every `search` returns is `C13_total`.
-/
import FlacVerif.Lemmas.TotalLpc
import FlacVerif.Lemmas.EncoderShape
import FlacVerif.Theorems.C13
namespace FlacVerif
namespace Total
open Strict

/-- Number of oracle events `encode_subframe` consumes for the block `xs`. -/
def subTake (cfg : SubCfg) (xs : List Int) : Nat :=
  if (cfg.useConstant && isConstant xs) || decide (xs.length < minBlockForPrediction) then 0
  else estTake cfg + (if cfg.useLpc then 1 else 0)

instance (e : OEvent) : Decidable (∃ o b, e = OEvent.est o b) :=
  match e with
  | .est o b => isTrue ⟨o, b, rfl⟩
  | .qlpc _ _ _ => isFalse fun ⟨_, _, h⟩ => nomatch h

instance (x : Option OEvent) : Decidable (∃ c s p, x = some (OEvent.qlpc c s p)) :=
  match x with
  | some (.qlpc c s p) => isTrue ⟨c, s, p, rfl⟩
  | some (.est _ _) => isFalse fun ⟨_, _, _, h⟩ => nomatch h
  | none => isFalse fun ⟨_, _, _, h⟩ => nomatch h

instance (cfg : SubCfg) (xs : List Int) (log : List OEvent) : Decidable (SubLogOk cfg xs log) := by
  unfold SubLogOk
  infer_instance

theorem takeEsts_ok : ∀ (k : Nat) (log : List OEvent), k ≤ log.length →
    (∀ e ∈ log.take k, ∃ o b, e = OEvent.est o b) → ∃ bs, takeEsts k log = some (bs, log.drop k) := by
  intro k
  induction k with
  | zero => intro log _ _; exact ⟨[], rfl⟩
  | succ k ih =>
    intro log hl h
    match log, hl with
    | e :: log', hl =>
      obtain ⟨o, b, rfl⟩ := h e (by simp)
      obtain ⟨bs, hbs⟩ := ih log' (by simpa using hl) (fun e he => h e (by simp [he]))
      exact ⟨b :: bs, by simp [takeEsts, hbs]⟩

theorem search_some (signal : List Int) (warm maxP : Nat)
    (hsig : ∀ v ∈ signal, -(2 ^ 31 : Int) < v ∧ v < (2 ^ 31 : Int))
    (hn : max 64 warm ≤ signal.length) (hlen : signal.length < 2 ^ 16) :
    ∃ prc, search signal warm maxP = some prc := by
  have := C13_total signal warm maxP hsig hn hlen
  cases h : search signal warm maxP with
  | none => rw [h] at this; cases this
  | some prc => exact ⟨prc, rfl⟩

theorem fixed_search_some (cfg : SubCfg) (xs : List Int) (bps : Nat)
    (hn : 64 ≤ xs.length) (hlen : xs.length < 2 ^ 16) (hb : 1 ≤ bps ∧ bps ≤ 25)
    (hx : ∀ x ∈ xs, SubFrame.inRange bps x = true) (k : Nat) (hk : k ≤ 4) :
    ∃ prc, search (diffs k xs) k cfg.maxP = some prc := by
  obtain ⟨hdl, hdr, _⟩ := diffs_fixed bps hb xs hx k hk (by omega)
  exact search_some _ _ _ hdr (by rw [hdl]; omega) (by rw [hdl]; exact hlen)

/-- `fixed_lpc` returns whenever the log supplies the `est` events it asks for (none with `bitCount`): every `search`
on a fixed-predictor residual succeeds (`fixed_search_some`), so the `mapM` over the orders, resp. the
`encode_residual` of the order chosen from the estimates, returns. -/
theorem fixedCandidate_total (cfg : SubCfg) (xs : List Int) (bps baseline : Nat) (log : List OEvent)
    (hs : ∀ k, k ≤ 4 → ∃ prc, search (diffs k xs) k cfg.maxP = some prc)
    (hl : (if cfg.bitCount then 0 else min (cfg.fixedMaxOrder + 1) 5) ≤ log.length)
    (hest : ∀ e ∈ log.take (if cfg.bitCount then 0 else min (cfg.fixedMaxOrder + 1) 5), ∃ o b, e = OEvent.est o b) :
    ∃ c, fixedCandidate cfg xs bps baseline log =
      some (c, log.drop (if cfg.bitCount then 0 else min (cfg.fixedMaxOrder + 1) 5)) := by
  unfold fixedCandidate
  simp only []
  by_cases hbc : cfg.bitCount = true
  · simp only [hbc, if_true, List.drop_zero]
    obtain ⟨cands, hc⟩ := mapM_isSome (fun k => do
        let prc ← search (diffs k xs) k cfg.maxP
        some (k, prc, bps * k + prc.codeBits)) (List.range (min (cfg.fixedMaxOrder + 1) 5)) (by
      intro k hk
      rw [List.mem_range] at hk
      obtain ⟨prc, hp⟩ := hs k (by omega)
      exact ⟨(k, prc, bps * k + prc.codeBits), by simp [hp]⟩)
    rw [hc]
    simp only [Option.bind_eq_bind, Option.bind_some]
    split
    · exact ⟨_, rfl⟩
    · split <;> exact ⟨_, rfl⟩
  · simp only [hbc, Bool.false_eq_true, if_false] at hl hest ⊢
    obtain ⟨ests, he⟩ := takeEsts_ok _ log hl hest
    rw [he]
    simp only [Option.bind_eq_bind, Option.bind_some]
    split
    · exact ⟨_, rfl⟩
    · rename_i k bits hmin
      obtain ⟨k0, hk0, hkb⟩ := firstMinBy_range _ _ _ _ hmin
      obtain rfl : k = k0 := (Prod.mk.inj hkb).1
      split
      · obtain ⟨prc, hp⟩ := hs k (by omega)
        simp only [encodeResidual, hp, Option.bind_eq_bind, Option.bind_some]
        exact ⟨_, rfl⟩
      · exact ⟨_, rfl⟩

theorem fixedStage_total (cfg : SubCfg) (xs : List Int) (bps baseline : Nat) (log : List OEvent)
    (hn : 64 ≤ xs.length) (hs : ∀ k, k ≤ 4 → ∃ prc, search (diffs k xs) k cfg.maxP = some prc)
    (hl : estTake cfg ≤ log.length) (hest : ∀ e ∈ log.take (estTake cfg), ∃ o b, e = OEvent.est o b) :
    ∃ c, fixedStage cfg xs bps baseline log = some (c, log.drop (estTake cfg)) := by
  unfold fixedStage
  have hnb := short_eq_false hn
  rw [hnb]
  by_cases hf : cfg.useFixed = true
  · simp only [hf, Bool.not_false, Bool.and_self, if_true]
    have e : estTake cfg = (if cfg.bitCount then 0 else min (cfg.fixedMaxOrder + 1) 5) := by
      unfold estTake
      cases cfg.bitCount <;> simp [hf]
    rw [e] at hl hest ⊢
    obtain ⟨c, hc⟩ := fixedCandidate_total cfg xs bps baseline log hs hl hest
    rw [hc]
    exact ⟨_, rfl⟩
  · have e : estTake cfg = 0 := by unfold estTake; simp [hf]
    simp only [hf, Bool.and_false, Bool.false_eq_true, if_false, e, List.drop_zero]
    exact ⟨_, rfl⟩

/-- **The LPC stage never panics**, for ANY quantised parameter set of at most `maxLpcOrder = 24` coefficients
(`qlpc::MAX_ORDER`, the capacity of the warm-up vector; with more, `C07_lpcCandidate_over_capacity` shows the panic): it
consumes the `qlpc` event and returns a candidate exactly when every value of the exact LPC residual lies in
`-(2^31-1) ..= 2^31-1` (the range of FLAC residuals), an `Lpc` sub-frame with these parameters; otherwise the
candidate is dropped. -/
theorem lpcCandidate_total (cfg : SubCfg) (xs : List Int) (bps : Nat) (c : List Int) (s : Int) (p : Nat)
    (rest : List OEvent) (hn : 64 ≤ xs.length) (hlen : xs.length < 2 ^ 16) (hc : c.length ≤ maxLpcOrder) :
    ∃ f, lpcCandidate cfg xs bps (.qlpc c s p :: rest) = some (f, rest) ∧
      (f.isSome = true ↔ ∀ e ∈ lpcResidual c s.toNat xs, e.natAbs ≤ 2 ^ 31 - 1) ∧
      ∀ sf, f = some sf → ∃ res, sf = .lpc (xs.take c.length) c s p res bps := by
  obtain ⟨errors, fits, he, hel, her⟩ := computeError_total c s.toNat xs
  have hflag := computeError_flag_iff c s.toNat xs errors fits he
  unfold lpcCandidate
  simp only [he, Option.bind_some]
  cases fits with
  | false =>
    refine ⟨none, by simp, ?_, fun sf h => nomatch h⟩
    rw [← hflag]
    simp
  | true =>
    have hc64 : c.length ≤ 64 := by unfold maxLpcOrder at hc; omega
    obtain ⟨prc, hp⟩ := search_some errors c.length cfg.maxP (her rfl).1 (by rw [hel]; omega) (by rw [hel]; exact hlen)
    simp only [encodeResidual, hp, Option.bind_eq_bind, Option.bind_some, if_true, if_pos hc]
    refine ⟨_, rfl, ?_, fun sf h => ⟨_, (Option.some.inj h).symm⟩⟩
    rw [← hflag]
    simp

theorem lpcStage_total (cfg : SubCfg) (xs : List Int) (bps limit : Nat) (log : List OEvent)
    (hn : 64 ≤ xs.length) (hlen : xs.length < 2 ^ 16) (hok : ∀ e ∈ log, e.Ok)
    (hq : cfg.useLpc = true → ∃ c s p, log.head? = some (.qlpc c s p)) :
    ∃ c, lpcStage cfg xs bps limit log = some (c, log.drop (if cfg.useLpc then 1 else 0)) := by
  unfold lpcStage
  have hnb := short_eq_false hn
  rw [hnb]
  by_cases hl : cfg.useLpc = true
  · obtain ⟨c, s, p, hh⟩ := hq hl
    match log, hh with
    | e :: rest, hh =>
      simp only [List.head?_cons, Option.some.injEq] at hh
      subst hh
      have hcl : c.length ≤ maxLpcOrder := (hok _ (List.mem_cons_self)).2.1
      obtain ⟨f, hf, _⟩ := lpcCandidate_total cfg xs bps c s p rest hn hlen hcl
      simp only [hl, Bool.not_false, Bool.and_self, if_true, hf, Option.map_some, List.drop_succ_cons, List.drop_zero]
      exact ⟨_, rfl⟩
  · simp only [hl, Bool.and_false, Bool.false_eq_true, if_false, List.drop_zero]
    exact ⟨_, rfl⟩

/-- **`encode_subframe` hits no panic site** on a log that starts with the events it asks for, and consumes exactly
`subTake cfg xs` of them: constant and short blocks return at once; otherwise the fixed stage returns
(`fixedStage_total`) and then the LPC stage (`lpcStage_total`). -/
theorem encodeSubframe_total (cfg : SubCfg) (xs : List Int) (bps : Nat) (log : List OEvent)
    (hlen : xs.length < 2 ^ 16) (hb : 1 ≤ bps ∧ bps ≤ 25)
    (hx : ∀ x ∈ xs, SubFrame.inRange bps x = true) (hok : ∀ e ∈ log, e.Ok)
    (hshape : SubLogOk cfg xs log) :
    ∃ s, encodeSubframe cfg xs bps log = some (s, log.drop (subTake cfg xs)) := by
  unfold encodeSubframe subTake
  by_cases hc : (cfg.useConstant && isConstant xs) = true
  · rw [if_pos hc]
    simp only [hc, Bool.true_or, if_true, List.drop_zero]
    exact ⟨_, rfl⟩
  · rw [if_neg hc]
    simp only [Bool.not_eq_true] at hc
    simp only [hc, Bool.false_or]
    by_cases hshort : xs.length < minBlockForPrediction
    · have hd : decide (xs.length < minBlockForPrediction) = true := decide_eq_true hshort
      simp only [fixedStage, lpcStage, hd, Bool.not_true, Bool.false_and, Bool.false_eq_true, if_false, if_true,
        Option.bind_some, List.drop_zero]
      exact ⟨_, rfl⟩
    · have hd : decide (xs.length < minBlockForPrediction) = false := decide_eq_false hshort
      simp only [hd, Bool.false_eq_true, if_false]
      have hn : 64 ≤ xs.length := Nat.le_of_not_lt hshort
      rcases hshape with h | h | ⟨hl, hest, hq⟩
      · rw [hc] at h; cases h
      · exact absurd h hshort
      · obtain ⟨fixed, hf⟩ := fixedStage_total cfg xs bps (verbatimBits xs.length bps) log hn
          (fixed_search_some cfg xs bps hn hlen hb hx) hl hest
        obtain ⟨lpc, hlp⟩ := lpcStage_total cfg xs bps (baselineAfter (verbatimBits xs.length bps) fixed)
          (log.drop (estTake cfg)) hn hlen (fun e he => hok e (List.mem_of_mem_drop he)) hq
        rw [hf]
        simp only [Option.bind_some, hlp, List.drop_drop]
        exact ⟨_, by rw [Nat.add_comm]⟩

/-- A panic of the LPC stage is a panic of `encode_subframe`: the fixed stage before it always returns. -/
theorem encodeSubframe_none_of_lpcCandidate (cfg : SubCfg) (xs : List Int) (bps : Nat) (log : List OEvent)
    (hn : 64 ≤ xs.length) (hlen : xs.length < 2 ^ 16) (hb : 1 ≤ bps ∧ bps ≤ 25)
    (hx : ∀ x ∈ xs, SubFrame.inRange bps x = true)
    (hc : (cfg.useConstant && isConstant xs) = false) (hl : cfg.useLpc = true)
    (hk : estTake cfg ≤ log.length) (hest : ∀ e ∈ log.take (estTake cfg), ∃ o b, e = OEvent.est o b)
    (h : lpcCandidate cfg xs bps (log.drop (estTake cfg)) = none) :
    encodeSubframe cfg xs bps log = none := by
  obtain ⟨fixed, hf⟩ := fixedStage_total cfg xs bps (verbatimBits xs.length bps) log hn
    (fixed_search_some cfg xs bps hn hlen hb hx) hk hest
  have hnb := short_eq_false hn
  unfold encodeSubframe
  rw [if_neg (by rw [hc]; exact Bool.false_ne_true)]
  simp only [hf, Option.bind_some, lpcStage, hnb, hl, Bool.not_false, Bool.and_self, if_true, h, Option.map_none,
    Option.bind_none]

end Total
end FlacVerif
