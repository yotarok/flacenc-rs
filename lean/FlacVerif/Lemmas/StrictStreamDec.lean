/-
Strict round trip (C01/C02), stream level, reader side. `Rfc.analyzeRec` is cut into pieces (each a verbatim copy of
the corresponding part; `analyzeRec_eq` is proved by unfolding and `rfl`): the end of `analyze` (consistency loop,
sample count, reassembled audio, MD5 check) and STREAMINFO; then `analyzeRec` on the bytes of a written stream whose
frames the frame loop reads back (`analyzeRec_stream`). Only streams whose STREAMINFO block carries the last-flag
are covered: nothing is proved about `skipMetadata` on further metadata blocks (the encoder writes none).
-/
import FlacVerif.Lemmas.StrictPrim
import FlacVerif.Lemmas.Bytes
import FlacVerif.Lemmas.Blocks
import FlacVerif.Model.RfcRec
import FlacVerif.Lemmas.Layout
namespace FlacVerif
namespace Strict
open Rfc
open Repo (bytesToBits_cons)
open Layout (writtenFrameSizes)

/-- Body of the stream-level consistency loop of `analyze`. -/
def checkFrame (minBlock maxBlock minFrame maxFrame nfr : Nat) (x : FrameRep × Nat) (_ : PUnit.{1}) :
    R (ForInStep PUnit.{1}) :=
  match x with
  | (f, i) => do
    if i + 1 < nfr then
      if f.blockSize ≠ maxBlock then throw s!"stream: non-final frame {i} does not hold the fixed block size"
      if f.blockSize < minBlock then throw s!"stream: non-final frame {i} is shorter than the minimum block size"
    else
      if f.blockSize > maxBlock then throw "stream: final frame larger than the maximum block size"
    if maxFrame ≠ 0 ∧ (f.byteLen < minFrame ∨ f.byteLen > maxFrame) then
      throw s!"stream: frame {i} has {f.byteLen} bytes, outside STREAMINFO's frame size bounds"
    pure (ForInStep.yield PUnit.unit)

def consistency (minBlock maxBlock minFrame maxFrame : Nat) (framesR : List FrameRep) : R PUnit.{1} :=
  forIn framesR.zipIdx PUnit.unit (checkFrame minBlock maxBlock minFrame maxFrame framesR.length)

/-- `analyze` after the frame loop. -/
def analyzeTail (md5 : List Nat → List Nat) (info : Info) (minBlock maxBlock minFrame maxFrame totalSamples : Nat)
    (md5v : List Nat) (nblocks : Nat) (frames : List FrameRep) : R Report := do
  let framesR := frames.reverse
  consistency minBlock maxBlock minFrame maxFrame framesR
  let sumN := (framesR.map (·.blockSize)).foldl (· + ·) 0
  if totalSamples ≠ 0 ∧ sumN ≠ totalSamples then throw "stream: total sample count differs from the frames"
  let audio : List (List Int) := (List.range info.channels).map fun c => framesR.flatMap fun f => f.channels.getD c []
  if md5v.any (· ≠ 0) then
    let k := (info.bps + 7) / 8
    let pcm := (interleave audio).flatMap (toLeBytes k)
    if md5 pcm ≠ md5v then throw "stream: MD5 signature differs from the decoded audio"
  pure ⟨info, nblocks, framesR, audio⟩

/-- `analyze` from the checks of the STREAMINFO fields on. -/
def analyzeChecks (md5 : List Nat → List Nat) (bytes rest : List Nat) (h0 : Nat)
    (minBlock maxBlock minFrame maxFrame rate ch1 bps1 totalSamples : Nat) (sb : Bits) : R Report := do
  let md5v := (List.range 16).map fun i => bitsToNat ((sb.drop (8 * i)).take 8)
  let info : Info := ⟨minBlock, maxBlock, minFrame, maxFrame, rate, ch1 + 1, bps1 + 1, totalSamples, md5v⟩
  if minBlock < 16 then throw "STREAMINFO: minimum block size below 16"
  if maxBlock < 16 then throw "STREAMINFO: maximum block size below 16"
  if minBlock > maxBlock then throw "STREAMINFO: minimum block size above maximum"
  if rate = 0 then throw "STREAMINFO: sample rate 0"
  if info.bps < 4 then throw "STREAMINFO: bits per sample below 4"
  if maxFrame ≠ 0 ∧ minFrame > maxFrame then throw "STREAMINFO: minimum frame size above maximum"
  let (rest, last, nblocks) ← skipMetadata bytes.length (rest.drop 38) (decide (h0 ≥ 128)) 0
  if !last then throw "stream: no metadata block is flagged last"
  let frames ← readFrames info bytes.length rest (bytesToBits rest) 0 []
  analyzeTail md5 info minBlock maxBlock minFrame maxFrame totalSamples md5v nblocks frames

/-- `analyze` from the STREAMINFO fields on. -/
def analyzeInfo (md5 : List Nat → List Nat) (bytes rest : List Nat) (h0 : Nat) (sb : Bits) : R Report := do
  let (minBlock, sb) ← readNat 16 sb "min block size"
  let (maxBlock, sb) ← readNat 16 sb "max block size"
  let (minFrame, sb) ← readNat 24 sb "min frame size"
  let (maxFrame, sb) ← readNat 24 sb "max frame size"
  let (rate, sb) ← readNat 20 sb "sample rate"
  let (ch1, sb) ← readNat 3 sb "channels"
  let (bps1, sb) ← readNat 5 sb "bits per sample"
  let (totalSamples, sb) ← readNat 36 sb "total samples"
  analyzeChecks md5 bytes rest h0 minBlock maxBlock minFrame maxFrame rate ch1 bps1 totalSamples sb

theorem analyzeRec_eq (md5 : List Nat → List Nat) (bytes : List Nat) :
    analyzeRec md5 bytes = (do
      if bytes.take 4 ≠ [0x66, 0x4C, 0x61, 0x43] then throw "stream: missing fLaC marker"
      let rest := bytes.drop 4
      if rest.length < 4 then throw "stream: truncated metadata header"
      let h0 := rest.getD 0 0
      if h0 % 128 ≠ 0 then throw "stream: first metadata block is not STREAMINFO"
      let len0 := rest.getD 1 0 * 65536 + rest.getD 2 0 * 256 + rest.getD 3 0
      if len0 ≠ 34 then throw "stream: STREAMINFO length is not 34"
      if rest.length < 38 then throw "stream: truncated STREAMINFO"
      analyzeInfo md5 bytes rest h0 (bytesToBits ((rest.drop 4).take 34))) := by
  unfold analyzeRec analyzeInfo analyzeChecks analyzeTail consistency checkFrame
  rfl

theorem checkFrame_ok (minBlock maxBlock minFrame maxFrame nfr : Nat) (f : FrameRep) (i : Nat)
    (h1 : i + 1 < nfr → f.blockSize = maxBlock ∧ minBlock ≤ f.blockSize)
    (h2 : ¬ i + 1 < nfr → f.blockSize ≤ maxBlock)
    (h3 : maxFrame ≠ 0 → minFrame ≤ f.byteLen ∧ f.byteLen ≤ maxFrame) :
    checkFrame minBlock maxBlock minFrame maxFrame nfr (f, i) PUnit.unit = .ok (ForInStep.yield PUnit.unit) := by
  have h3' : ¬ (maxFrame ≠ 0 ∧ (f.byteLen < minFrame ∨ f.byteLen > maxFrame)) := by
    intro h
    have := h3 h.1
    omega
  unfold checkFrame
  simp only []
  by_cases hi : i + 1 < nfr
  · obtain ⟨e1, e2⟩ := h1 hi
    rw [if_pos hi, if_neg (by simp [e1]), if_neg (by omega), if_neg h3']
    rfl
  · have e := h2 hi
    rw [if_neg hi, if_neg (by omega), if_neg h3']
    rfl

theorem consistency_list (minBlock maxBlock minFrame maxFrame nfr : Nat) :
    ∀ (l : List FrameRep) (k : Nat),
      (∀ j (hj : j < l.length), (k + j + 1 < nfr → l[j].blockSize = maxBlock ∧ minBlock ≤ l[j].blockSize) ∧
        (¬ k + j + 1 < nfr → l[j].blockSize ≤ maxBlock) ∧
        (maxFrame ≠ 0 → minFrame ≤ l[j].byteLen ∧ l[j].byteLen ≤ maxFrame)) →
      forIn (l.zipIdx k) PUnit.unit (checkFrame minBlock maxBlock minFrame maxFrame nfr) = .ok PUnit.unit := by
  intro l
  induction l with
  | nil => intro k _; rfl
  | cons f l ih =>
    intro k h
    have h0 := h 0 (by simp)
    simp only [Nat.add_zero, List.getElem_cons_zero] at h0
    rw [List.zipIdx_cons, List.forIn_cons, checkFrame_ok minBlock maxBlock minFrame maxFrame nfr f k h0.1 h0.2.1 h0.2.2]
    simp only [ok_bind]
    apply ih (k + 1)
    intro j hj
    have := h (j + 1) (by simp; omega)
    simp only [List.getElem_cons_succ] at this
    rw [show k + (j + 1) = k + 1 + j by omega] at this
    exact this

theorem analyzeTail_ok (md5 : List Nat → List Nat) (info : Info) (minBlock maxBlock minFrame maxFrame total : Nat)
    (md5v : List Nat) (nblocks : Nat) (reps : List FrameRep) (chans : List (List Int)) (bps : Nat)
    (hcons : consistency minBlock maxBlock minFrame maxFrame reps = .ok PUnit.unit)
    (hsum : (reps.map (·.blockSize)).sum = total)
    (haudio : (List.range info.channels).map (fun c => reps.flatMap fun f => f.channels.getD c []) = chans)
    (hbps : info.bps = bps) (hmd5 : md5v = md5 (md5Input bps (interleave chans))) :
    analyzeTail md5 info minBlock maxBlock minFrame maxFrame total md5v nblocks reps.reverse =
      .ok ⟨info, nblocks, reps, chans⟩ := by
  unfold analyzeTail
  simp only [List.reverse_reverse]
  rw [hcons]
  simp only [ok_bind]
  rw [foldl_add_sum, Nat.zero_add, hsum]
  rw [if_neg (by simp)]
  rw [haudio]
  have hpcm : List.flatMap (toLeBytes ((info.bps + 7) / 8)) (interleave chans) = md5Input bps (interleave chans) := by
    rw [hbps]; rfl
  by_cases hany : (md5v.any fun x => decide (x ≠ 0)) = true
  · rw [if_pos hany]
    rw [hpcm, if_neg (by rw [hmd5]; simp)]
    rfl
  · rw [if_neg hany]
    rfl

/-- The 16 signature bytes as `analyze` extracts them. -/
theorem md5_read (md5b : List Nat) (hl : md5b.length = 16) (hb : ∀ b ∈ md5b, b < 256) :
    ((List.range 16).map fun i => bitsToNat (((bytesToBits md5b).drop (8 * i)).take 8)) = md5b := by
  apply List.ext_getElem
  · simp [hl]
  · intro i h1 h2
    simp only [List.length_map, List.length_range] at h1
    rw [List.getElem_map, List.getElem_range, drop_bytesToBits, List.drop_eq_getElem_cons h2, bytesToBits_cons,
      List.take_left' (natToBits_length 8 _), bitsToNat_natToBits,
      Nat.mod_eq_of_lt (hb _ (List.getElem_mem h2))]

theorem skipMetadata_last (fuel : Nat) (rest : List Nat) (n : Nat) :
    skipMetadata fuel rest true n = .ok (rest, true, n) := by
  cases fuel <;> rfl

theorem analyzeInfo_ok (md5 : List Nat → List Nat) (bytes rest : List Nat) (h0 : Nat)
    (minBlock maxBlock mn mx rate ch1 bps1 total : Nat) (md5b : List Nat) (frames : List FrameRep)
    (b1 : minBlock < 2 ^ 16) (b2 : maxBlock < 2 ^ 16) (b3 : mn < 2 ^ 24) (b4 : mx < 2 ^ 24) (b5 : rate < 2 ^ 20)
    (b6 : ch1 < 2 ^ 3) (b7 : bps1 < 2 ^ 5) (b8 : total < 2 ^ 36)
    (c1 : 16 ≤ minBlock) (c2 : minBlock ≤ maxBlock) (c3 : rate ≠ 0) (c4 : 4 ≤ bps1 + 1)
    (c5 : ¬ (mx ≠ 0 ∧ mn > mx)) (hlast : decide (h0 ≥ 128) = true)
    (hl : md5b.length = 16) (hb : ∀ b ∈ md5b, b < 256)
    (hframes : readFrames ⟨minBlock, maxBlock, mn, mx, rate, ch1 + 1, bps1 + 1, total, md5b⟩ bytes.length
      (rest.drop 38) (bytesToBits (rest.drop 38)) 0 [] = .ok frames) :
    analyzeInfo md5 bytes rest h0
        (natToBits 16 minBlock ++ (natToBits 16 maxBlock ++ (natToBits 24 mn ++ (natToBits 24 mx ++
          (natToBits 20 rate ++ (natToBits 3 ch1 ++ (natToBits 5 bps1 ++ (natToBits 36 total ++
            bytesToBits md5b)))))))) =
      analyzeTail md5 ⟨minBlock, maxBlock, mn, mx, rate, ch1 + 1, bps1 + 1, total, md5b⟩ minBlock maxBlock mn mx
        total md5b 0 frames := by
  unfold analyzeInfo
  simp only [readNat_natToBits_lt, ok_bind, b1, b2, b3, b4, b5, b6, b7, b8]
  unfold analyzeChecks
  simp only []
  rw [md5_read md5b hl hb]
  rw [if_neg (by omega : ¬ minBlock < 16), if_neg (by omega : ¬ maxBlock < 16), if_neg (by omega : ¬ minBlock > maxBlock),
    if_neg c3, if_neg (by show ¬ bps1 + 1 < 4; omega), if_neg c5, hlast, skipMetadata_last]
  simp only [ok_bind, Bool.not_true, Bool.false_eq_true, if_false]
  rw [hframes]
  simp only [ok_bind]

theorem frames_bytes_length (fbs : List Bits) (h : ∀ fb ∈ fbs, 8 ∣ fb.length ∧ 16 ≤ fb.length) :
    fbs.length ≤ (packBytes fbs.flatten).length := by
  induction fbs with
  | nil => simp
  | cons fb fbs ih =>
    obtain ⟨h8, h16⟩ := h fb (by simp)
    have := ih (fun x hx => h x (by simp [hx]))
    rw [List.flatten_cons, packBytes_append (fb.length / 8) fb _ (by omega), List.length_append,
      (bits_as_bytes fb (Nat.mod_eq_zero_of_dvd h8)).2, List.length_cons]
    omega

theorem marker_bits : bytesToBits [0x66, 0x4C, 0x61, 0x43] ++ Stream.blockHeader true 0 34 =
    bytesToBits [0x66, 0x4C, 0x61, 0x43, 0x80, 0, 0, 34] := by decide

def readInfo (si : StreamInfo) : Info :=
  ⟨si.minBlock, si.maxBlock, (writtenFrameSizes si).1, (writtenFrameSizes si).2, si.rate, si.channels - 1 + 1,
    si.bps - 1 + 1, si.total, si.md5⟩

theorem consistency_fixed (bs total mn mx : Nat) (hbs : 1 ≤ bs) (reps : List FrameRep)
    (hblocks : reps.map (·.blockSize) = (List.range ((total + bs - 1) / bs)).map fun j => min bs (total - j * bs))
    (hbytes : ∀ r ∈ reps, mn ≤ r.byteLen ∧ r.byteLen ≤ mx) :
    consistency bs bs mn mx reps = .ok PUnit.unit := by
  have hrl : reps.length = (total + bs - 1) / bs := by
    have := congrArg List.length hblocks
    rw [List.length_map, List.length_map, List.length_range] at this
    exact this
  unfold consistency
  apply consistency_list _ _ _ _ _ reps 0
  intro j hj
  rw [Nat.zero_add]
  have hbsz : reps[j].blockSize = min bs (total - j * bs) := by
    have := List.getElem_of_eq hblocks (by rw [List.length_map]; exact hj)
    rw [List.getElem_map, List.getElem_map, List.getElem_range] at this
    exact this
  rw [hbsz]
  refine ⟨fun hj1 => ?_, fun _ => Nat.min_le_left _ _, fun _ => hbytes _ (List.getElem_mem hj)⟩
  have := nonfinal_full total bs j hbs (hrl ▸ hj1)
  rw [Nat.succ_mul] at this
  rw [Nat.min_eq_left (by omega)]
  exact ⟨rfl, Nat.le_refl _⟩

/-- The head of `analyze`: the marker `mk`, then a metadata block header `h0 l1 l2 l3` of type STREAMINFO and
length 34, then the 34 bytes `PI`. The marker and the header bytes are variables with their values as hypotheses:
`take`, `drop` and `getD` then compute on `h0 :: l1 :: …` without elaborating eight numerals at every mention. -/
theorem analyzeRec_head (md5 : List Nat → List Nat) (mk PI PF : List Nat) (h0 l1 l2 l3 : Nat)
    (hmk : mk = [0x66, 0x4C, 0x61, 0x43]) (hty : h0 % 128 = 0) (hl : l1 * 65536 + l2 * 256 + l3 = 34)
    (hpl : PI.length = 34) :
    analyzeRec md5 (mk ++ (h0 :: l1 :: l2 :: l3 :: (PI ++ PF))) =
      analyzeInfo md5 (mk ++ (h0 :: l1 :: l2 :: l3 :: (PI ++ PF))) (h0 :: l1 :: l2 :: l3 :: (PI ++ PF)) h0
        (bytesToBits PI) := by
  have hm4 : mk.length = 4 := by rw [hmk]; rfl
  have hlen : (h0 :: l1 :: l2 :: l3 :: (PI ++ PF)).length = 38 + PF.length := by
    simp only [List.length_cons, List.length_append, hpl]; omega
  rw [analyzeRec_eq, List.take_left' hm4, List.drop_left' hm4]
  simp only [hlen, List.getD_cons_zero, List.getD_cons_succ, List.drop_succ_cons, List.drop_zero]
  rw [if_neg (fun h => h hmk), if_neg (by omega : ¬ 38 + PF.length < 4), if_neg (fun h => h hty),
    if_neg (fun h => h hl), if_neg (by omega : ¬ 38 + PF.length < 38), List.take_left' hpl]

theorem analyzeRec_stream (md5 : List Nat → List Nat) (si : StreamInfo) (bs rate nch bps total : Nat)
    (fbs : List Bits) (reps : List FrameRep) (chans : List (List Int))
    (hsi : si.minBlock = bs ∧ si.maxBlock = bs ∧ si.rate = rate ∧ si.channels = nch ∧ si.bps = bps ∧
      si.total = total ∧ si.md5 = md5 (md5Input bps (interleave chans)))
    (hmd5 : ∀ x, (md5 x).length = 16 ∧ ∀ b ∈ md5 x, b < 256)
    (hbs : 16 ≤ bs ∧ bs < 2 ^ 16) (hrate : 1 ≤ rate ∧ rate < 2 ^ 20) (hnch : 1 ≤ nch ∧ nch ≤ 8)
    (hb : 4 ≤ bps ∧ bps ≤ 24) (htot : total < 2 ^ 36)
    (hw : (writtenFrameSizes si).1 < 2 ^ 24 ∧ (writtenFrameSizes si).2 < 2 ^ 24)
    (hfbs : ∀ fb ∈ fbs, 8 ∣ fb.length ∧ 16 ≤ fb.length)
    (hfr : ∀ fuel acc, fbs.length ≤ fuel →
      readFrames (readInfo si) fuel (packBytes fbs.flatten) (bytesToBits (packBytes fbs.flatten)) 0 acc =
        .ok (reps.reverse ++ acc))
    (hblocks : reps.map (·.blockSize) = (List.range ((total + bs - 1) / bs)).map fun j => min bs (total - j * bs))
    (hbytes : ∀ r ∈ reps, (writtenFrameSizes si).1 ≤ r.byteLen ∧ r.byteLen ≤ (writtenFrameSizes si).2)
    (haudio : (List.range nch).map (fun c => reps.flatMap fun f => f.channels.getD c []) = chans) :
    analyzeRec md5 (packBytes (bytesToBits [0x66, 0x4C, 0x61, 0x43] ++ Stream.blockHeader true 0 34 ++ si.bits ++
        fbs.flatten)) = .ok ⟨readInfo si, 0, reps, chans⟩ := by
  obtain ⟨f1, f2, f3, f4, f5, f6, f7⟩ := hsi
  have hl : si.md5.length = 16 := by rw [f7]; exact (hmd5 _).1
  have hsl : si.bits.length = 272 := Layout.streaminfo_length si hl
  have hbytes' : packBytes (bytesToBits [0x66, 0x4C, 0x61, 0x43] ++ Stream.blockHeader true 0 34 ++ si.bits ++
        fbs.flatten) =
      [0x66, 0x4C, 0x61, 0x43] ++ (0x80 :: 0 :: 0 :: 34 :: (packBytes si.bits ++ packBytes fbs.flatten)) := by
    rw [marker_bits, List.append_assoc,
      packBytes_append 8 _ _ (by decide), packBytes_bytesToBits _ (by decide),
      packBytes_append 34 _ _ (by rw [hsl])]
    rfl
  have hpl : (packBytes si.bits).length = 34 := by
    rw [(bits_as_bytes si.bits (by rw [hsl])).2, hsl]
  have hwc : ¬ ((writtenFrameSizes si).2 ≠ 0 ∧ (writtenFrameSizes si).1 > (writtenFrameSizes si).2) := by
    unfold writtenFrameSizes
    split <;> simp <;> omega
  have hsb : bytesToBits (packBytes si.bits) = si.bits := (bits_as_bytes si.bits (by rw [hsl])).1
  have hfl := frames_bytes_length fbs hfbs
  have hfr' := hfr
  rw [hbytes']
  generalize packBytes si.bits = PI at hpl hsb
  generalize packBytes fbs.flatten = PF at hfl hfr'
  have hd38 : ∀ a b c d : Nat, (a :: b :: c :: d :: (PI ++ PF)).drop 38 = PF := fun _ _ _ _ => List.drop_left' hpl
  rw [analyzeRec_head md5 _ _ _ _ _ _ _ rfl (by decide) (by decide) hpl, hsb, Layout.info_bits si]
  rw [analyzeInfo_ok md5 _ _ 0x80 si.minBlock si.maxBlock (writtenFrameSizes si).1 (writtenFrameSizes si).2 si.rate
    (si.channels - 1) (si.bps - 1) si.total si.md5 reps.reverse (by rw [f1]; exact hbs.2) (by rw [f2]; exact hbs.2)
    hw.1 hw.2 (by rw [f3]; exact hrate.2) (by rw [f4]; omega) (by rw [f5]; omega) (by rw [f6]; exact htot)
    (by rw [f1]; exact hbs.1) (by rw [f1, f2]; exact Nat.le_refl _) (by rw [f3]; omega) (by rw [f5]; omega) hwc
    (by decide) hl (by rw [f7]; exact (hmd5 _).2)
    (by
      rw [hd38]
      refine (hfr' _ [] ?_).trans (by rw [List.append_nil])
      simp only [List.length_append, List.length_cons]
      omega)]
  have hbs1 : 1 ≤ bs := Nat.le_trans (by decide) hbs.1
  exact analyzeTail_ok md5 (readInfo si) si.minBlock si.maxBlock _ _ si.total si.md5 0 reps chans bps
    (by rw [f1, f2]; exact consistency_fixed bs total _ _ hbs1 reps hblocks hbytes)
    (by rw [hblocks, sizes_sum bs total hbs1, f6])
    (by rw [show (readInfo si).channels = nch by show si.channels - 1 + 1 = nch; omega]; exact haudio)
    (by show si.bps - 1 + 1 = bps; omega) f7

end Strict
end FlacVerif
