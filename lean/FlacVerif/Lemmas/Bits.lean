/-
Bit-level arithmetic with no layout in it, which readers and writers share. `natToBits`: congruence, reduction, splitting,
indexing, dropping, zero, a bit string followed by zeros cut off inside the zeros, the number of a prefix. Bit tests: the
top bit, divisibility by a power of two. `|||` and `<<<` as sums. Powers of two in `Int`: casts, order, residues, and the
reduction to `w` bits in two's complement as `Int.bmod` (with the shifts `1 << k` that the generated code casts). `twoc` as
the low bits of a residue and its length (`Count.twoc_length`); the partition length of a residual as a quotient. The
length and inverse laws of `natToBits` / `bitsToNat` themselves (`natToBits_length`, `bitsToNat_natToBits`,
`natToBits_bitsToNat`, `bitsToNat_lt`) stand with the definitions in `Model/Bits.lean`.
-/
import FlacVerif.Model.Rice
namespace FlacVerif

/-- Powers of two in `Int` as casts, the form `omega` relates to facts about `Nat`. -/
theorem two_pow_cast (w : Nat) : (2 : Int) ^ w = ((2 ^ w : Nat) : Int) := (Int.natCast_pow 2 w).symm

theorem natToBits_congr (w a b : Nat) (h : ∀ j, j < w → a.testBit j = b.testBit j) :
    natToBits w a = natToBits w b := by
  induction w with
  | zero => rfl
  | succ w ih =>
    rw [natToBits, natToBits, h w (by omega), ih (fun j hj => h j (by omega))]

theorem natToBits_mod (w k n : Nat) (h : w ≤ k) : natToBits w (n % 2 ^ k) = natToBits w n := by
  apply natToBits_congr
  intro i hi
  rw [Nat.testBit_mod_two_pow]
  simp [show i < k by omega]

theorem natToBits_split (a b n : Nat) : natToBits (a + b) n = natToBits a (n / 2 ^ b) ++ natToBits b n := by
  induction a with
  | zero => simp [natToBits]
  | succ a ih =>
    have : a + 1 + b = (a + b) + 1 := by omega
    rw [this, natToBits, natToBits, ih, Nat.testBit_div_two_pow]
    rfl

theorem natToBits_concat (a b x y : Nat) (hy : y < 2 ^ b) :
    natToBits (a + b) (2 ^ b * x + y) = natToBits a x ++ natToBits b y := by
  rw [natToBits_split, Nat.mul_add_div (Nat.two_pow_pos b), Nat.div_eq_of_lt hy, Nat.add_zero]
  congr 1
  exact natToBits_congr b _ _ fun j hj => by rw [Nat.testBit_two_pow_mul_add x hy, if_pos hj]

/-- The stop bit of a Rice code in front of the `p` remainder bits. -/
theorem natToBits_stop (p rem : Nat) :
    natToBits (p + 1) (rem ||| (1 <<< p)) = true :: natToBits p rem := by
  rw [natToBits]
  congr 1
  · rw [Nat.testBit_or, Nat.testBit_shiftLeft]; simp
  · apply natToBits_congr
    intro j hj
    rw [Nat.testBit_or, Nat.testBit_shiftLeft]
    have : ¬ j ≥ p := by omega
    simp [this]

theorem getElem_natToBits (w n j : Nat) (h : j < (natToBits w n).length) :
    (natToBits w n)[j] = n.testBit (w - 1 - j) := by
  induction w generalizing j with
  | zero => simp [natToBits] at h
  | succ w ih =>
    cases j with
    | zero => simp [natToBits]
    | succ j =>
      simp only [natToBits, List.getElem_cons_succ]
      rw [ih]; congr 1; omega

theorem natToBits_drop (w n x : Nat) (h : n ≤ w) : (natToBits w x).drop (w - n) = natToBits n x := by
  induction w with
  | zero => rw [Nat.le_zero.mp h]; rfl
  | succ w ih =>
    by_cases hn : n = w + 1
    · rw [hn, Nat.sub_self, List.drop_zero]
    · rw [natToBits, show w + 1 - n = (w - n) + 1 by omega, List.drop_succ_cons, ih (by omega)]

theorem natToBits_zero (w : Nat) : natToBits w 0 = List.replicate w false := by
  induction w with
  | zero => rfl
  | succ w ih => simp [natToBits, ih, List.replicate_succ]

theorem take_append_zeros (p : Bits) (z a : Nat) (h1 : p.length ≤ a) (h2 : a ≤ p.length + z) :
    (p ++ List.replicate z false).take a = p ++ List.replicate (a - p.length) false := by
  rw [List.take_append, List.take_of_length_le h1, List.take_replicate, Nat.min_eq_left (by omega)]

theorem bitsToNat_take_lt (c : Nat) (i : Bits) : bitsToNat (i.take c) < 2 ^ c :=
  Nat.lt_of_lt_of_le (bitsToNat_lt _) (Nat.pow_le_pow_right (by decide) (List.length_take_le c i))

theorem testBit_top (w m : Nat) (h : m < 2 ^ (w + 1)) : m.testBit w = decide (2 ^ w ≤ m) := by
  rw [Nat.testBit_eq_decide_div_mod_eq]
  have hp := Nat.two_pow_pos w
  by_cases hm : 2 ^ w ≤ m
  · have : m / 2 ^ w = 1 := by
      apply Nat.div_eq_of_lt_le
      · omega
      · rw [Nat.pow_succ] at h; omega
    simp [this, hm]
  · have : m / 2 ^ w = 0 := Nat.div_eq_of_lt (by omega)
    simp [this, hm]

theorem mod_two_pow_eq_zero_iff (n o : Nat) :
    n % 2 ^ o = 0 ↔ ∀ j, j < o → n.testBit j = false := by
  constructor
  · intro h j hj
    have := Nat.testBit_mod_two_pow n o j
    rwa [h, Nat.zero_testBit, decide_eq_true hj, Bool.true_and, eq_comm] at this
  · intro h
    refine Nat.eq_of_testBit_eq fun i => ?_
    rw [Nat.testBit_mod_two_pow, Nat.zero_testBit, Bool.and_eq_false_iff, decide_eq_false_iff_not]
    exact (Nat.lt_or_ge i o).elim (fun hi => Or.inr (h i hi)) (fun hi => Or.inl (Nat.not_lt.mpr hi))

theorem or_add (i a b : Nat) (hb : b < 2 ^ i) : (2 ^ i * a) ||| b = 2 ^ i * a + b :=
  (Nat.two_pow_add_eq_or_of_lt hb a).symm

/-- The type bit of a sub-frame header or-ed with the order field shifted by one. -/
theorem or_shl1 (i x : Nat) (hx : 2 * x < 2 ^ i) : 2 ^ i ||| (x <<< 1) = 2 ^ i + 2 * x := by
  rw [show x <<< 1 = 2 * x by rw [Nat.shiftLeft_eq]; omega]
  have := or_add i 1 (2 * x) hx
  rwa [Nat.mul_one] at this

theorem or_mod_256 (a y : Nat) (ha : a < 256) : a ||| y % 256 = (a ||| y) % 256 := by
  rw [show (256 : Nat) = 2 ^ 8 from rfl, Nat.or_mod_two_pow, Nat.mod_eq_of_lt ha]

/-- `1 << k` on an unsigned integer of `m` bits, `k < m`. -/
theorem one_shiftLeft_mod (k m : Nat) (h : k < m) : 1 <<< k % 2 ^ m = 2 ^ k := by
  rw [Nat.one_shiftLeft]
  exact Nat.mod_eq_of_lt (Nat.pow_lt_pow_right (by decide) h)

theorem two_pow_le_two_pow {a b : Nat} (h : a ≤ b) : (2 : Int) ^ a ≤ 2 ^ b := by
  rw [two_pow_cast, two_pow_cast]
  exact Int.ofNat_le.mpr (Nat.pow_le_pow_right (by decide) h)

theorem two_pow_lt_two_pow {a b : Nat} (h : a < b) : (2 : Int) ^ a < 2 ^ b := by
  rw [two_pow_cast, two_pow_cast]
  exact Int.ofNat_lt.mpr (Nat.pow_lt_pow_right (by decide) h)

/-- The field value `twoc b v` writes fits the field. -/
theorem emod_toNat_lt (b : Nat) (v : Int) : (v % (2 ^ b : Int)).toNat < 2 ^ b := by
  have h := Int.emod_lt_of_pos v (show (0 : Int) < 2 ^ b from Int.pow_pos (by decide))
  rw [two_pow_cast] at *
  omega

/-- `as iW`: the library's `Int.bmod _ (2 ^ w)` is the reduction to `w` bits in two's complement; `Repo.asSigned`, the
generated preludes' `wrapS` and `wrap32` are spellings of it (`Wrap.asSigned_eq_bmod`, `Gen.Decode.wrapS_eq_bmod`,
`wrap32_eq_bmod`), so that their algebra is `Int.bmod_add_bmod`, `Int.bmod_bmod`, .. of the library. -/
theorem bmod_two_pow_def (w : Nat) (hw : 0 < w) (v : Int) :
    Int.bmod v (2 ^ w) = if v % 2 ^ w < 2 ^ (w - 1) then v % 2 ^ w else v % 2 ^ w - 2 ^ w := by
  have hp : (2 : Int) ^ w = 2 * 2 ^ (w - 1) := by rw [← Int.pow_succ', Nat.sub_add_cancel hw]
  rw [Int.bmod_def, ← two_pow_cast, show ((2 : Int) ^ w + 1) / 2 = 2 ^ (w - 1) by omega]

theorem bmod_of_fits (w : Nat) (hw : 0 < w) {v : Int} (h : -(2 ^ (w - 1) : Int) ≤ v ∧ v < (2 ^ (w - 1) : Int)) :
    Int.bmod v (2 ^ w) = v := by
  have hp : (2 : Int) ^ w = 2 * 2 ^ (w - 1) := by rw [← Int.pow_succ', Nat.sub_add_cancel hw]
  refine Int.bmod_eq_of_le_mul_two ?_ ?_ <;> rw [← two_pow_cast] <;> omega

/-- `1 << k` on a signed integer of `n + 1` bits does not wrap for `k < n`. -/
theorem bmod_two_pow (k n : Nat) (h : k < n) : Int.bmod ((2 : Int) ^ k) (2 ^ (n + 1)) = 2 ^ k :=
  bmod_of_fits (n + 1) (Nat.succ_pos n)
    ⟨Int.le_trans (Int.neg_nonpos_of_nonneg (Int.le_of_lt (Int.pow_pos (by decide)))) (Int.le_of_lt (Int.pow_pos (by decide))),
      two_pow_lt_two_pow h⟩

/-- `1i32 << k` does not wrap for `k < 31`. -/
theorem one_shl_bmod_i32 (k : Nat) (h : k < 31) : Int.bmod ((1 : Int) * 2 ^ k) 4294967296 = 2 ^ k := by
  rw [Int.one_mul]
  exact bmod_two_pow k 31 h

/-- `(1usize << k) as i32` for `k < 31`. -/
theorem shl_bmod (k : Nat) (h : k < 31) :
    Int.bmod ((((1 <<< k) % 18446744073709551616 : Nat)) : Int) 4294967296 = (2 : Int) ^ k := by
  rw [(one_shiftLeft_mod k 64 (by omega) : _ % 18446744073709551616 = _), Int.natCast_pow]
  exact bmod_two_pow k 31 h

/-- `(1usize << k) as i32` is 0 once the bit has left the low 32. -/
theorem shl_bmod_high (k : Nat) (h1 : 32 ≤ k) (h2 : k < 64) :
    Int.bmod ((((1 <<< k) % 18446744073709551616 : Nat)) : Int) 4294967296 = 0 := by
  rw [(one_shiftLeft_mod k 64 h2 : _ % 18446744073709551616 = _)]
  have hd : ((4294967296 : Nat) : Int) ∣ ((2 ^ k : Nat) : Int) :=
    Int.natCast_dvd_natCast.mpr (Nat.pow_dvd_pow 2 h1)
  rw [Int.bmod_eq_emod_of_lt (by rw [Int.emod_eq_zero_of_dvd hd]; decide), Int.emod_eq_zero_of_dvd hd]

theorem natToBits_emod_eq_twoc (v : Int) (n m : Nat) (h : n ≤ m) : natToBits n (v % (2 ^ m : Int)).toNat = twoc n v := by
  have hdvd : ((2 : Int) ^ n) ∣ (2 : Int) ^ m := by
    rw [show m = n + (m - n) by omega, Int.pow_add]; exact Int.dvd_mul_right _ _
  have hnn : 0 ≤ v % (2 ^ m : Int) := Int.emod_nonneg _ (Int.pow_ne_zero (by decide))
  have hp : (0 : Int) ≤ 2 ^ n := Int.le_of_lt (Int.pow_pos (by decide))
  rw [twoc, ← Int.emod_emod_of_dvd v hdvd, Int.toNat_emod hnn hp, two_pow_cast n, Int.toNat_natCast,
    natToBits_mod n n _ (Nat.le_refl n)]

theorem partLen_eq (r : Residual) : r.partLen = r.blockSize / 2 ^ r.order := by
  unfold Residual.partLen
  rw [Nat.shiftRight_eq_div_pow]

end FlacVerif

namespace FlacVerif.Count

@[simp] theorem twoc_length (w : Nat) (v : Int) : (twoc w v).length = w := natToBits_length w _

end FlacVerif.Count
