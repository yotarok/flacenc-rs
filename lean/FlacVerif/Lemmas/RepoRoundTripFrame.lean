/-
Round trip of frame headers and frames: `FrameHeader.bits` / `Frame.bits` against `Repo.frameHeader` /
`Repo.frame` (C15).
-/
import FlacVerif.Lemmas.RepoRoundTrip
import FlacVerif.Lemmas.Utf8Code
import FlacVerif.Lemmas.Crc
import FlacVerif.Lemmas.Bytes
import FlacVerif.Lemmas.HeaderCodes
import FlacVerif.Lemmas.Layout
namespace FlacVerif.Repo
open PResult

/-- As long as the accumulator stays inside 64 bits, the shift-and-or step of `utf8_code` appends six bits. -/
theorem utf8_foldl (tail : List Nat) (a : Nat) (h : (a + 1) * 64 ^ tail.length ≤ 2 ^ 64) :
    tail.foldl (fun a b => ((a * 64) % 2 ^ 64) ||| (b % 64)) a = tail.foldl (fun a b => a * 64 + b % 64) a := by
  induction tail generalizing a with
  | nil => rfl
  | cons b tail ih =>
    rw [List.length_cons, Nat.pow_succ, Nat.mul_comm (64 ^ _), ← Nat.mul_assoc] at h
    have ha : (a + 1) * 64 ≤ 2 ^ 64 := Nat.le_trans (Nat.le_mul_of_pos_right _ (Nat.pow_pos (by decide))) h
    have hstep : ((a * 64) % 2 ^ 64) ||| (b % 64) = a * 64 + b % 64 := by
      rw [Nat.mod_eq_of_lt (by omega), Nat.mul_comm a]
      exact or_add 6 a _ (Nat.mod_lt _ (by decide))
    rw [List.foldl_cons, List.foldl_cons, hstep]
    exact ih _ (Nat.le_trans (Nat.mul_le_mul_right _ (by omega)) h)

/-- The head-byte table of `utf8_code`: number of tail bytes and the payload bits of the head. -/
def utf8Sel (head : Nat) : Option (Nat × Nat) :=
    if head < 128 then some (0, head % 128)
    else if head < 0xE0 then some (1, head % 32)
    else if head < 0xF0 then some (2, head % 16)
    else if head < 0xF8 then some (3, head % 8)
    else if head < 0xFC then some (4, head % 4)
    else if head < 0xFE then some (5, head % 2)
    else if head = 0xFE then some (6, 0)
    else none

theorem utf8Code_bytes (head : Nat) (tail : List Nat) (k : Bits) (acc : Nat)
    (ht : ∀ b ∈ tail, b < 256) (hsel : utf8Sel head = some (tail.length, acc)) :
    utf8Code (bytesToBits (head :: tail) ++ k)
      = .ok (tail.foldl (fun a b => ((a * 64) % 2 ^ 64) ||| (b % 64)) acc, k) := by
  have hh : head < 256 := by
    apply Decidable.by_contra
    intro h
    simp (disch := omega) only [utf8Sel, if_neg] at hsel
    cases hsel
  unfold utf8Code
  have h1 := byteTake_bytesToBits [head] (bytesToBits tail ++ k) (by simpa using hh)
  have e : bytesToBits (head :: tail) ++ k = bytesToBits [head] ++ (bytesToBits tail ++ k) := by
    rw [← List.append_assoc, ← bytesToBits_append]; rfl
  rw [e]
  simp only [List.length_singleton] at h1
  rw [h1]
  simp only [ok_bind]
  unfold utf8Sel at hsel
  rw [hsel]
  simp only
  rw [byteTake_bytesToBits tail k ht]
  rfl

/-- A head byte of `t + 1` ones, a zero and the bits `x` announces `t` tail bytes and carries `x`. -/
theorem utf8Sel_head (t x : Nat) (ht1 : 1 ≤ t) (ht6 : t ≤ 6) (hx : x < 2 ^ (6 - t)) :
    utf8Sel (256 - 2 ^ (7 - t) + x) = some (t, x) := by
  obtain rfl | rfl | rfl | rfl | rfl | rfl : t = 1 ∨ t = 2 ∨ t = 3 ∨ t = 4 ∨ t = 5 ∨ t = 6 := by omega
  all_goals
    simp only [Nat.reduceSub, Nat.reducePow] at hx ⊢
    simp (disch := omega) only [utf8Sel, if_neg, if_pos]
    congr 2
    omega

/-- `utf8_code` reads back what `encode_to_utf8like` wrote (values below `2^36`). -/
theorem utf8_read (v : Nat) (k : Bits) (bs : List Nat) (he : encodeUtf8like v = some bs) :
    utf8Code (bytesToBits bs ++ k) = .ok (v, k) := by
  have h36 : v < 2 ^ 36 := by
    refine (bitLen_le_iff v 36).1 (Nat.le_of_not_lt fun h => ?_)
    rw [encodeUtf8like_big h] at he
    cases he
  by_cases h7 : v < 2 ^ 7
  · rw [encodeUtf8like_small h7, Option.some.injEq] at he
    subst he
    exact utf8Code_bytes v [] k v (fun b hb => nomatch hb)
      (by simp (disch := omega) only [utf8Sel, if_pos, List.length_nil, Nat.mod_eq_of_lt])
  · obtain ⟨t, ht1, ht6, hx, -, henc⟩ := encodeUtf8like_multi h7 h36
    rw [henc, Option.some.injEq] at he
    subst he
    rw [utf8Code_bytes _ _ k _ (fun b hb => by have := utf8Tail_continuation hb; omega)
        (by rw [length_utf8Tail]; exact utf8Sel_head t _ ht1 ht6 hx),
      utf8_foldl, foldl_utf8Tail, Nat.div_add_mod']
    -- the accumulator never leaves 64 bits: it stays below `v + 64 ^ t < 2 ^ 37`
    have h1 := Nat.div_mul_le_self v (64 ^ t)
    have h2 : 64 ^ t ≤ 64 ^ 6 := Nat.pow_le_pow_right (by decide) ht6
    rw [length_utf8Tail, Nat.add_mul, Nat.one_mul]
    omega

theorem blockSizeCode_read (spec : BlockSizeSpec) (hs : SpecOk spec) (k : Bits) :
    blockSizeCode spec.tag (spec.extraBits ++ k) = .ok (spec, k) := by
  cases spec with
  | reserved => exact hs.elim
  | s192 => rfl
  | pow2Mul576 x =>
    have hx : x ≤ 3 := hs
    show blockSizeCode (2 + x) k = _
    unfold blockSizeCode
    rw [if_neg (by omega), if_pos (by omega), usub_ok _ _ _ (by omega), Nat.add_sub_cancel_left]
    rfl
  | extraByte x =>
    have hx : x < 256 := hs
    exact bind_ok (beUint_natToBits 1 x k hx) rfl
  | extraTwoBytes x =>
    have hx : x < 65536 := hs
    exact bind_ok (beUint_natToBits 2 x k hx) rfl
  | pow2Mul256 x =>
    have hx : x ≤ 7 := hs
    show blockSizeCode (8 + x) k = _
    unfold blockSizeCode
    rw [if_neg (by omega), if_neg (by omega), if_neg (by omega), if_neg (by omega), if_pos (by omega),
      usub_ok _ _ _ (by omega), Nat.add_sub_cancel_left]
    rfl

theorem sampleRateCode_read (spec : SampleRateSpec) (hs : SrOk spec) (k : Bits) :
    sampleRateCode spec.tag (spec.extraBits ++ k) = .ok (spec, k) := by
  cases spec with
  | unspecified => rfl
  | fixed t =>
    obtain ⟨h1, h2⟩ := hs
    show sampleRateCode t k = _
    unfold sampleRateCode
    rw [if_neg (by omega), if_neg (by omega), if_neg (by omega), if_neg (by omega), if_neg (by omega)]
  | kHz v =>
    have hv : v < 256 := hs
    refine bind_ok (beUint_natToBits 1 v k hv) ?_
    dsimp only
    rw [pure_eq, Nat.mod_eq_of_lt hv]
  | hz v =>
    have hv : v < 65536 := hs
    refine bind_ok (beUint_natToBits 2 v k hv) ?_
    dsimp only
    rw [pure_eq, Nat.mod_eq_of_lt hv]
  | daHz v =>
    have hv : v < 65536 := hs
    refine bind_ok (beUint_natToBits 2 v k hv) ?_
    dsimp only
    rw [pure_eq, Nat.mod_eq_of_lt hv]

theorem channelFromTag_read (a : ChannelAssignment) (ha : ChOk a) : channelFromTag a.tag = .ok (some a) := by
  cases a with
  | independent n =>
    obtain ⟨h1, h2⟩ := ha
    show channelFromTag (n - 1) = _
    unfold channelFromTag
    rw [if_pos (by omega), uadd_ok 8 _ _ _ (by omega), Nat.sub_add_cancel h1]
    rfl
  | leftSide => rfl
  | rightSide => rfl
  | midSide => rfl

/-- Headers that `frame_header` can produce (and therefore read back). -/
def HdrOk (h : FrameHeader) : Prop :=
  SpecOk h.blockSizeSpec ∧ SrOk h.sampleRateSpec ∧ ChOk h.assignment ∧ h.sampleSizeTag < 8 ∧
  (if h.isVariable then h.frameNumber = 0 else h.startSample = 0 ∧ h.frameNumber < 2 ^ 32)

instance (h : FrameHeader) : Decidable (HdrOk h) := by
  unfold HdrOk; infer_instance

theorem frameHeader_read (h : FrameHeader) (cc : Bool) (hb k : Bits) (hbits : h.bits rfcCrc8 = some hb)
    (hok : HdrOk h) (hk : k.length % 8 = 0) : frameHeader cc (hb ++ k) = .ok (h, k) := by
  obtain ⟨hspec, hsr, hch, hss, hnum⟩ := hok
  obtain ⟨num, body, hu, htag, hbody, -, rfl⟩ := Layout.header_bits_some h hb hbits
  have hbody := hbody (Nat.lt_of_le_of_lt (srTag_le _ hsr) (by decide))
  generalize hcrc : crcBits rfcCrc8 body = crc
  have hcrc8 : crc < 2 ^ (8 * 1) := hcrc ▸ Crc.crc8_lt body
  -- the whole input, once as `body ++ rest` (for the CRC) and once field by field (for the reads)
  rw [List.append_assoc]
  generalize hstart : body ++ (natToBits 8 crc ++ k) = start
  have hfields := hstart
  rw [hbody] at hfields
  simp only [List.append_assoc] at hfields
  unfold frameHeader
  refine bind_ok (hfields ▸ tagBits_natToBits 16 0x7FFC 15 _ (by decide) (by decide)) ?_
  refine bind_ok (takeBits_natToBits_lt 8 1 _ _ (by decide) (by split <;> omega)) ?_
  refine bind_ok (takeBits_natToBits_lt 8 4 _ _ (by decide) (Nat.lt_succ_of_le (specTag_range _ hspec).2)) ?_
  refine bind_ok (takeBits_natToBits_lt 8 4 _ _ (by decide) (Nat.lt_of_le_of_lt (srTag_le _ hsr) (by decide))) ?_
  refine bind_ok (takeBits_natToBits_lt 8 4 _ _ (by decide) (Nat.lt_of_le_of_lt (chTag_le _ hch) (by decide))) ?_
  refine bind_ok (takeBits_natToBits_lt 8 3 _ _ (by decide) hss) ?_
  refine bind_ok (tagBits_natToBits 32 0 1 _ (by decide) (by decide)) ((if_neg (by omega)).trans ?_)
  refine bind_ok (channelFromTag_read _ hch) ?_
  rw [alignByte_aligned _ (by
    have := bsExtra_len h.blockSizeSpec
    have := srExtra_len h.sampleRateSpec
    simp only [List.length_append, bytesToBits_length, natToBits_length]
    omega)]
  refine bind_ok (utf8_read h.number _ num hu) ?_
  refine bind_ok (blockSizeCode_read _ hspec _) ?_
  refine bind_ok (sampleRateCode_read _ hsr _) ?_
  refine bind_ok (beUint_natToBits 1 crc k hcrc8) ?_
  dsimp only
  rw [← hstart, consumed_append, hcrc, bne_self_eq_false, Bool.and_false, if_neg Bool.false_ne_true]
  -- the number is the frame number or the start sample, the other one is zero
  obtain ⟨var, bss, asg, sst, srs, fnum, ss⟩ := h
  cases var with
  | true => obtain rfl : fnum = 0 := hnum; rfl
  | false =>
    obtain ⟨rfl, h2⟩ : ss = 0 ∧ fnum < 2 ^ 32 := hnum
    simp only [pure_eq, FrameHeader.number, Bool.false_eq_true, if_false, Nat.mod_eq_of_lt h2]
    rfl

theorem subframes_read (bs bps : Nat) (a : ChannelAssignment) (hbps : bps + 1 < 2 ^ 64) (sfs : List SubFrame) (ch : Nat)
    (k : Bits)
    (h : ∀ j (hj : j < sfs.length), (sfs[j]).WF ∧ SubOk (sfs[j]) ∧ (sfs[j]).blockSize = bs ∧
      (sfs[j]).bps = bps + a.bpsOffset (ch + j)) :
    subframes bs bps a sfs.length ch (sfs.flatMap SubFrame.bits ++ k) = .ok (sfs, k) := by
  induction sfs generalizing ch with
  | nil => rfl
  | cons s sfs ih =>
    obtain ⟨hwf, hok, hbs, hb⟩ : s.WF ∧ SubOk s ∧ s.blockSize = bs ∧ s.bps = bps + a.bpsOffset ch :=
      h 0 (Nat.zero_lt_succ _)
    have ho := bpsOffset_le a ch
    rw [List.length_cons, subframes, List.flatMap_cons, List.append_assoc]
    refine bind_ok (uadd_ok 64 _ _ _ (by omega)) ?_
    have hrd := subframe_read s hwf hok (sfs.flatMap SubFrame.bits ++ k)
    rw [hbs, hb] at hrd
    rw [hrd]
    have hpos := Layout.subframe_bits_pos s
    refine (if_neg (by simp only [List.length_append]; omega)).trans ?_
    exact bind_ok (ih (ch + 1) fun j hj => by
      have := h (j + 1) (Nat.succ_lt_succ hj)
      rwa [show ch + (j + 1) = ch + 1 + j by omega] at this) rfl

/-- What `frame(info, ..)` needs to read back a frame written by `Frame::write`. -/
structure FrameOk (info : StreamInfo) (f : Frame) : Prop where
  hdr : HdrOk f.header
  channels : f.header.assignment.channels = info.channels
  count : f.subframes.length = f.header.assignment.channels
  bps : (sampleSizeBits f.header.sampleSizeTag).getD info.bps = info.bps
  bpsRange : info.bps ≤ 24
  subs : ∀ j (hj : j < f.subframes.length), (f.subframes[j]).WF ∧ SubOk (f.subframes[j]) ∧
    some (f.subframes[j]).blockSize = f.header.blockSizeSpec.blockSize ∧
    (f.subframes[j]).bps = info.bps + f.header.assignment.bpsOffset j

theorem frame_read (f : Frame) (info : StreamInfo) (cc : Bool) (fb k : Bits)
    (hbits : f.bits rfcCrc8 rfcCrc16 = some fb) (hok : FrameOk info f) (hk : k.length % 8 = 0) :
    frame info cc (fb ++ k) = .ok (f, k) := by
  obtain ⟨hb, pad, body, hh, hpad, hbody, hb8, rfl⟩ := Layout.frame_bits_some f fb hbits
  have hhb8 := Layout.header_bits_len8 f.header hb hh
  obtain ⟨n, hn1, hn2, -⟩ := headerBlockSize_ok f.header hok.hdr.1
  generalize hcrc : crcBits rfcCrc16 body = crc
  have hcrc16 : crc < 2 ^ (8 * 2) := hcrc ▸ Crc.crc16_lt body
  rw [List.append_assoc]
  generalize hstart : body ++ (natToBits 16 crc ++ k) = start
  have hparts := hstart
  rw [hbody, List.append_assoc, List.append_assoc] at hparts
  replace hpad := congrArg List.length hpad
  rw [List.length_replicate] at hpad
  simp only [List.length_append] at hpad
  unfold frame
  refine bind_ok (hparts ▸ frameHeader_read f.header true hb _ hh hok.hdr (by
    simp only [List.length_append, natToBits_length]
    omega)) ((if_neg (Decidable.not_not.mpr hok.channels)).trans ?_)
  refine bind_ok hn1 ((if_neg (Decidable.not_not.mpr hok.bps)).trans ?_)
  rw [hok.bps, ← hok.count]
  refine bind_ok (subframes_read n info.bps f.header.assignment (by have := hok.bpsRange; omega)
    f.subframes 0 _ fun j hj => by
      obtain ⟨h1, h2, h3, h4⟩ := hok.subs j hj
      exact ⟨h1, h2, Option.some.inj (h3.trans hn2), by rw [Nat.zero_add]; exact h4⟩) ?_
  have halign : alignByte (pad ++ (natToBits 16 crc ++ k)) = natToBits 16 crc ++ k := by
    unfold alignByte
    rw [show (pad ++ (natToBits 16 crc ++ k)).length % 8 = pad.length by
      simp only [List.length_append, natToBits_length]; omega, List.drop_left]
  refine bind_ok (halign ▸ beUint_natToBits 2 crc k hcrc16) ?_
  dsimp only
  rw [halign, ← hstart, consumed_append, hcrc, bne_self_eq_false, Bool.and_false, if_neg Bool.false_ne_true]
  rfl

theorem parseFrame_read (f : Frame) (info : StreamInfo) (cc : Bool) (fb : Bits) (more : List Nat)
    (hbits : f.bits rfcCrc8 rfcCrc16 = some fb) (hok : FrameOk info f) :
    parseFrame info cc (packBytes fb ++ more) = .ok (f, more) := by
  have h8 := Layout.frame_bits_len8 f fb hbits
  obtain ⟨hbb, hl⟩ := Strict.bits_as_bytes fb h8
  unfold parseFrame
  rw [bytesToBits_append, hbb,
    frame_read f info cc fb (bytesToBits more) hbits hok (by rw [bytesToBits_length]; omega)]
  show PResult.ok (f, restBytes _ _) = _
  unfold restBytes
  rw [bytesToBits_length, List.length_append, Nat.mul_div_cancel_left _ (by decide : 0 < 8), Nat.add_sub_cancel,
    List.drop_left]

end FlacVerif.Repo
