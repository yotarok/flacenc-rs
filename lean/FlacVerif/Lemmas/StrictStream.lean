/-
Strict round trip (C01/C02), stream level: the frame loop of the stream encoder against the frame loop of the stream
decoder, the STREAMINFO the encoder assembles (`assembleInfo_fields`, `written_sizes`: encoder-side facts about
`assembleInfo`, beside `C04`), and the stream theorem.
-/
import FlacVerif.Lemmas.StrictFrame
import FlacVerif.Lemmas.StrictStreamDec
import FlacVerif.Lemmas.Layout
import FlacVerif.Lemmas.WrittenSize
import FlacVerif.Theorems.C04
namespace FlacVerif
namespace Strict
open Rfc

/-- The two frame loops: the decoder's frame loop, started on the serialised frames of `encodeFrames` with the
same first frame number, reads all of them back (`acc` = the frames read before, most recent first). -/
theorem readFrames_encodeFrames {cfg : SubCfg} {bps rate nch : Nat} (info : Info)
    (hinfo : info.rate = rate ∧ info.channels = nch ∧ info.bps = bps)
    {blocks : List (List (List Int))} {number : Nat} {frames : List Frame}
    (ho : FramesOutcome cfg bps rate nch number blocks frames) (hnum : number + blocks.length ≤ 2 ^ 31)
    (fbs : List Bits) (hm : frames.mapM (Frame.bits rfcCrc8 rfcCrc16) = some fbs) :
    ∃ reps : List FrameRep,
      (∀ fuel acc, blocks.length ≤ fuel →
        readFrames info fuel (packBytes fbs.flatten) (bytesToBits (packBytes fbs.flatten)) number acc =
          .ok (reps.reverse ++ acc)) ∧
      reps.map (·.channels) = blocks ∧
      reps.map (·.blockSize) = blocks.map (fun b => (b.headD []).length) ∧
      reps.map (·.byteLen) = fbs.map (fun fb => fb.length / 8) := by
  induction ho generalizing fbs with
  | nil number =>
    obtain rfl : [] = fbs := Option.some.inj hm
    refine ⟨[], ?_, rfl, rfl, rfl⟩
    intro fuel acc _
    have hp : packBytes ([] : List Bits).flatten = [] := by simp [packBytes_nil]
    rw [hp]
    cases fuel <;> rfl
  | @cons number b blocks f frames _ _ hbn fo _ ih =>
    rw [List.length_cons] at hnum
    rw [List.mapM_cons] at hm
    simp only [Option.bind_eq_bind, Option.bind_eq_some_iff, Option.pure_def, Option.some.injEq] at hm
    obtain ⟨fb, hfb, fbs, hfbs, rfl⟩ := hm
    obtain ⟨fb', hfb', _, hread⟩ := fo.strict (by omega) info
      ⟨hinfo.1, hinfo.2.1.trans hbn.symm, hinfo.2.2⟩
    obtain rfl : fb' = fb := Option.some.inj (hfb'.symm.trans hfb)
    obtain ⟨reps, hrd, hc1, hc2, hc3⟩ := ih (by omega) fbs hfbs
    obtain ⟨rep, hr1, hr2, hr3, _, hr4⟩ := hread.read (packBytes fbs.flatten)
    have hfb8 : fb'.length % 8 = 0 := by rw [← hr4]; exact Nat.mul_mod_left _ _
    have hpk : packBytes (fb' :: fbs).flatten = packBytes fb' ++ packBytes fbs.flatten := by
      rw [List.flatten_cons, packBytes_append rep.byteLen fb' _ (by rw [← hr4, Nat.mul_comm])]
    refine ⟨rep :: reps, ?_, by rw [List.map_cons, hr2, hc1], by rw [List.map_cons, List.map_cons, hr3, hc2], ?_⟩
    · intro fuel acc hfuel
      obtain ⟨fuel', rfl⟩ : ∃ k, fuel = k + 1 := ⟨fuel - 1, by rw [List.length_cons] at hfuel; omega⟩
      -- a frame has at least two bytes, so the decoder's loop does not stop here
      have hne : (packBytes fb' ++ packBytes fbs.flatten).isEmpty = false := by
        have hlen := (bits_as_bytes fb' hfb8).2
        have h16 := Layout.frame_bits_ge16 f fb' hfb'
        exact List.isEmpty_eq_false_iff.2 (List.ne_nil_of_length_pos (by rw [List.length_append]; omega))
      rw [hpk, readFrames, hne]
      simp only [Bool.not_false, if_true]
      rw [Repo.bytesToBits_append, (bits_as_bytes fb' hfb8).1, hr1]
      simp only [ok_bind]
      rw [hrd fuel' (rep :: acc) (by rw [List.length_cons] at hfuel; omega), List.reverse_cons, List.append_assoc]
      rfl
    · rw [List.map_cons, List.map_cons, hc3, ← hr4, Nat.mul_div_cancel _ (by decide)]

theorem assembleInfo_fields (rate channels bps bs : Nat) (frames : List (Nat × Nat)) (total : Nat) (md5 : List Nat) :
    let si := assembleInfo rate channels bps bs frames total md5
    si.minBlock = bs ∧ si.maxBlock = bs ∧ si.rate = rate ∧ si.channels = channels ∧ si.bps = bps ∧
    si.total = total ∧ si.md5 = md5 := by
  intro si
  obtain ⟨h1, h2, h3, _⟩ := addFrameCast_fold_format frames { StreamInfo.empty rate channels bps with minBlock := bs, maxBlock := bs }
  exact ⟨rfl, rfl, h1, h2, h3, rfl, rfl⟩

theorem written_sizes (rate channels bps bs total : Nat) (md5 : List Nat) (sizes counts : List Nat)
    (hlen : counts.length = sizes.length) (hc : ∀ c ∈ counts, c < 2 ^ 24) :
    let si := assembleInfo rate channels bps bs (sizes.zip counts) total md5
    (Layout.writtenFrameSizes si).1 < 2 ^ 24 ∧ (Layout.writtenFrameSizes si).2 < 2 ^ 24 ∧
    ∀ c ∈ counts, (Layout.writtenFrameSizes si).1 ≤ c / 8 ∧ c / 8 ≤ (Layout.writtenFrameSizes si).2 := by
  intro si
  cases hcs : counts with
  | nil =>
    -- no frame: the assembled bounds are crossed (`C04_empty`), so (0, 0) is written
    subst hcs
    have hz : sizes.zip ([] : List Nat) = [] := by simp
    have he := C04.C04_empty rate channels bps bs total md5
    simp only [] at he
    have hsi : si = assembleInfo rate channels bps bs [] total md5 := by simp only [si, hz]
    have hw : Layout.writtenFrameSizes si = (0, 0) := by
      unfold Layout.writtenFrameSizes; rw [hsi, if_pos he.1]
    rw [hw]
    exact ⟨by decide, by decide, fun c hc' => by simp at hc'⟩
  | cons c0 cs =>
    rw [← hcs]
    have hne : sizes.zip counts ≠ [] := by
      rw [hcs]
      cases sizes with
      | nil => rw [hcs] at hlen; simp at hlen
      | cons _ _ => simp
    have hb : ∀ f ∈ sizes.zip counts, f.2 / 8 < 2 ^ 32 := by
      intro f hf
      have := hc f.2 (List.of_mem_zip hf).2
      omega
    -- `C04_bounds`: the assembled fields are the minimum and the maximum of the frames' byte lengths, both attained
    obtain ⟨_, _, hall, hmin, hmax⟩ := C04.C04_bounds rate channels bps bs total md5 (sizes.zip counts) hne hb
    have hlens : C04.lens (sizes.zip counts) = counts.map (· / 8) := by
      rw [show C04.lens (sizes.zip counts) = ((sizes.zip counts).map Prod.snd).map (· / 8) by
        rw [List.map_map]; rfl, List.map_snd_zip (by omega)]
    rw [hlens] at hall hmin hmax
    have hc0 : c0 / 8 ∈ counts.map (· / 8) := by rw [hcs]; simp
    have h0 := hall _ hc0
    have hle : ¬ si.minFrame > si.maxFrame := by
      have : si.minFrame ≤ si.maxFrame := Nat.le_trans h0.1 h0.2
      omega
    have hw : Layout.writtenFrameSizes si = (si.minFrame, si.maxFrame) := by
      unfold Layout.writtenFrameSizes; rw [if_neg hle]
    rw [hw]
    obtain ⟨cm, hcm, hcme⟩ := List.mem_map.1 hmax
    have hmx : si.maxFrame < 2 ^ 24 := by
      have := hc cm hcm
      have hcme' : cm / 8 = si.maxFrame := hcme
      omega
    refine ⟨by simp only []; omega, hmx, ?_⟩
    intro c hc'
    exact hall _ (List.mem_map.2 ⟨c, hc', rfl⟩)

/-- Stated with its reading as `C01_stream_strict`. -/
theorem stream_strict (md5 : List Nat → List Nat) (cfg : SubCfg) (st : StereoCfg) (bs : Nat)
    (chans : List (List Int)) (bps rate : Nat) (log log' : List OEvent) (s : Stream) (total : Nat)
    (hmd5 : ∀ x, (md5 x).length = 16 ∧ ∀ b ∈ md5 x, b < 256)
    (hch : 1 ≤ chans.length ∧ chans.length ≤ 8) (hlen : ∀ c ∈ chans, c.length = total) (htot : total < 2 ^ 36)
    (hbs : 16 ≤ bs ∧ bs < 2 ^ 16) (hb : 4 ≤ bps ∧ bps ≤ 24) (hrate : 1 ≤ rate ∧ rate < 2 ^ 20)
    (hx : ∀ c ∈ chans, ∀ x ∈ c, SubFrame.inRange bps x = true) (hmax : cfg.maxP ≤ 14)
    (hnb : (total + bs - 1) / bs ≤ 2 ^ 31)
    (hlog : ∀ e ∈ log, e.Ok)
    (h : encodeStream md5 cfg st bs chans bps rate log = some (s, log')) :
    ∃ sb rep, s.bits rfcCrc8 rfcCrc16 = some sb ∧ analyzeRec md5 (packBytes sb) = .ok rep ∧
      rep.audio = chans ∧ rep.info.rate = rate ∧ rep.info.channels = chans.length ∧ rep.info.bps = bps ∧
      rep.info.total = total ∧ rep.info.md5 = md5 (md5Input bps (interleave chans)) ∧
      rep.info.minBlock = bs ∧ rep.info.maxBlock = bs ∧ rep.metadataBlocks = 0 ∧
      rep.frames.length = (total + bs - 1) / bs := by
  have hbs1 : 1 ≤ bs := Nat.le_trans (by decide) hbs.1
  have hnbl := blocksOf_length bs chans total hch.1 hlen
  -- `encodeStream`: the frames of the blocks, their reported sizes, and the STREAMINFO `si` assembled from both
  obtain ⟨frames, counts, ho, hcounts, rfl⟩ := encodeStream_outcome total hch hlen ⟨hbs1, hbs.2⟩ ⟨by omega, hb.2⟩ hx hmax
    hlog h
  generalize hsizes : (blocksOf bs chans).map (fun b => (b.headD []).length) = sizes
  have hsi := assembleInfo_fields rate chans.length bps bs (sizes.zip counts) total (md5 (md5Input bps (interleave chans)))
  have hw := fun hl hc => written_sizes rate chans.length bps bs total (md5 (md5Input bps (interleave chans))) sizes
    counts hl hc
  generalize assembleInfo rate chans.length bps bs (sizes.zip counts) total
    (md5 (md5Input bps (interleave chans))) = si at hsi hw ⊢
  obtain ⟨f1, f2, f3, f4, f5, f6, f7⟩ := hsi
  have hri : (readInfo si).rate = rate ∧ (readInfo si).channels = chans.length ∧ (readInfo si).bps = bps :=
    ⟨f3, by show si.channels - 1 + 1 = chans.length; omega, by show si.bps - 1 + 1 = bps; omega⟩
  -- the frames serialise to `fbs`, and the decoder's frame loop reads them back as `reps`
  obtain ⟨fbs, hm1, hm2, hfbs, _⟩ := Extras.encodeFrames_size ho (by rw [hnbl]; omega)
  obtain ⟨reps, hrd, hc1, hc2, hc3⟩ := readFrames_encodeFrames (readInfo si) hri ho (by rw [hnbl]; omega) fbs hm1
  have hcnt : counts = fbs.map List.length := by
    rw [hm2] at hcounts
    exact (Option.some.inj hcounts).symm
  have hrl : reps.length = (total + bs - 1) / bs := by
    rw [← hnbl, ← hc1, List.length_map]
  have hfbl : fbs.length = reps.length := by
    have := congrArg List.length hc3
    rw [List.length_map, List.length_map] at this
    exact this.symm
  -- the frame-size fields written into STREAMINFO fit 24 bits and bound every frame
  obtain ⟨w1, w2, wall⟩ := hw
    (by rw [hcnt, List.length_map, hfbl, hrl, ← hsizes, List.length_map, hnbl])
    (by
      intro c hc
      rw [hcnt] at hc
      obtain ⟨fb, hfb, rfl⟩ := List.mem_map.1 hc
      exact (hfbs fb hfb).2.2)
  refine ⟨_, ⟨readInfo si, 0, reps, chans⟩, Layout.stream_bits_nometa si frames fbs hm1, ?_, rfl, hri.1, hri.2.1, hri.2.2, f6, f7, f1, f2, rfl, hrl⟩
  -- the decoder on these bytes: the frame loop, the block sizes, the frame sizes, the reassembled audio
  apply analyzeRec_stream md5 si bs rate chans.length bps total fbs reps chans ⟨f1, f2, f3, f4, f5, f6, f7⟩ hmd5 hbs
    hrate hch hb htot ⟨w1, w2⟩ (fun fb hfb => ⟨(hfbs fb hfb).1, (hfbs fb hfb).2.1⟩)
  · intro fuel acc hfuel
    exact hrd fuel acc (by rw [hnbl, ← hrl, ← hfbl]; exact hfuel)
  · rw [hc2, blocksOf_sizes bs chans total hch.1 hlen]
  · intro r hr
    have hmem : r.byteLen ∈ fbs.map (fun fb => fb.length / 8) := hc3 ▸ List.mem_map_of_mem hr
    obtain ⟨fb, hfb, e⟩ := List.mem_map.1 hmem
    rw [← e]
    exact wall _ (hcnt ▸ List.mem_map_of_mem hfb)
  · have : ∀ c, (reps.flatMap fun f => f.channels.getD c []) = (blocksOf bs chans).flatMap fun b => b.getD c [] := by
      intro c
      rw [← hc1, List.flatMap_map]
    simp only [this]
    exact blocksOf_audio bs chans total hbs1 hch.1 hlen

end Strict
end FlacVerif
