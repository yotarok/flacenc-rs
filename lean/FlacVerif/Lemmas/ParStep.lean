/-
Relational presentation of `Par.step` (one constructor per enabled case) and its equivalence with
the executable function. All invariants are proved by case analysis on `Step`. The reachable states
(`Reaches`) are those some event list runs to (`Reaches_iff_run`; `replay_ok_iff` for the checked
`replay`, `Reaches_of_outcome` for a complete trace).
-/
import FlacVerif.Model.Par
namespace FlacVerif.Par

theorem enc_some {n : Nat} {b : Block} {f : OutFrame} (h : enc n b = some f) :
    b.valid = true ∧ f = ⟨n, b.bytes⟩ := by
  unfold enc at h; split at h
  · exact ⟨‹_›, by cases h; rfl⟩
  · cases h

theorem enc_none {n : Nat} {b : Block} (h : enc n b = none) : b.valid = false := by
  unfold enc at h; split at h
  · cases h
  · simpa using ‹¬ b.valid = true›

inductive Step (p : Params) (s : State) : Ev → State → Prop
  | refill_recv (id : Nat) (rest : List Nat) (hm : s.main = .recv) (hq : s.refillQ = id :: rest) :
      Step p s (.refill_recv id) { s with main := .locked id, refillQ := rest }
  | md5_data (id : Nat) (b : Block) (x : Buf) (hm : s.main = .locked id)
      (hnf : p.readFailAt ≠ some s.k) (hcap : s.md5Q.length < md5Cap)
      (hb : p.blocks[s.k]? = some b) (hx : s.bufs[id]? = some x) :
      Step p s (.md5_send b.bytes.length)
        { s with main := .filledMd5 id, md5Q := s.md5Q ++ [b.bytes],
                 bufs := s.bufs.set id { x with blk := b } }
  | md5_eof (id : Nat) (hm : s.main = .locked id)
      (hnf : p.readFailAt ≠ some s.k) (hcap : s.md5Q.length < md5Cap)
      (hb : p.blocks[s.k]? = none) (he : p.eofSendsEmpty = true) :
      Step p s (.md5_send 0) { s with main := .eofEmpty id, md5Q := s.md5Q ++ [[]] }
  | md5_stop (hm : s.main = .reqStop) (hcap : s.md5Q.length < md5Cap) :
      Step p s (.md5_send 0) { s with main := .joinH, md5Q := s.md5Q ++ [[]] }
  | f_filled (id : Nat) (x : Buf) (hm : s.main = .filledMd5 id) (hx : s.bufs[id]? = some x) :
      Step p s (.f_filled id s.k)
        { s with main := .enq id, bufs := s.bufs.set id { x with num := some s.k } }
  | f_eof_plain (id : Nat) (hm : s.main = .locked id) (hnf : p.readFailAt ≠ some s.k)
      (hk : p.blocks.length ≤ s.k) (he : p.eofSendsEmpty = false) :
      Step p s (.f_eof id) { s with main := afterStop p.W }
  | f_eof_empty (id : Nat) (hm : s.main = .eofEmpty id) :
      Step p s (.f_eof id) { s with main := afterStop p.W }
  | f_read_err (id : Nat) (hm : s.main = .locked id) (hf : p.readFailAt = some s.k) :
      Step p s (.f_read_err id) { s with main := afterStop p.W, readErr := true }
  | enc_send_some (id : Nat) (hm : s.main = .enq id) (hcap : s.encodeQ.length < p.encodeCap) :
      Step p s (.encode_send (some id))
        { s with main := .recv, k := s.k + 1, encodeQ := s.encodeQ ++ [some id] }
  | enc_send_none (r : Nat) (hm : s.main = .stop (r + 1))
      (hcap : s.encodeQ.length < p.encodeCap) :
      Step p s (.encode_send none) { s with main := afterStop r, encodeQ := s.encodeQ ++ [none] }
  | joined_hasher (hm : s.main = .joinH) (hh : s.hasher = .exited) :
      Step p s .m_joined_hasher { s with main := if p.W = 0 then .done else .joinW 0 }
  | joined_worker (j : Nat) (hm : s.main = .joinW j) (hj : j < s.exitedCount) :
      Step p s .m_joined_worker { s with main := if p.W ≤ j + 1 then .done else .joinW (j + 1) }
  | enc_recv_some (w id : Nat) (rest : List (Option Nat)) (hw : s.workers[w]? = some .idle)
      (hq : s.encodeQ = some id :: rest) :
      Step p s (.encode_recv w (some id))
        { s with encodeQ := rest, workers := s.workers.set w (.got id) }
  | enc_recv_none (w : Nat) (rest : List (Option Nat)) (hw : s.workers[w]? = some .idle)
      (hq : s.encodeQ = none :: rest) :
      Step p s (.encode_recv w none) { s with encodeQ := rest, workers := s.workers.set w .exited }
  | w_lock (w id n : Nat) (x : Buf) (hw : s.workers[w]? = some (.got id))
      (hx : s.bufs[id]? = some x) (hn : x.num = some n) (hl : s.main.lockedBuf ≠ some id) :
      Step p s (.w_lock w id n) { s with workers := s.workers.set w (.encoded id n (enc n x.blk)) }
  | refill_send (w id n : Nat) (res : Option OutFrame)
      (hw : s.workers[w]? = some (.encoded id n res)) (hcap : s.refillQ.length < p.refillCap) :
      Step p s (.refill_send w id)
        { s with refillQ := s.refillQ ++ [id], workers := s.workers.set w (.sent id n res) }
  | w_push (w id n : Nat) (f : OutFrame) (hw : s.workers[w]? = some (.sent id n (some f))) :
      Step p s (.w_push w id n)
        { s with sink := insertKey n f s.sink, workers := s.workers.set w .idle }
  | w_err (w id n : Nat) (hw : s.workers[w]? = some (.sent id n none)) :
      Step p s (.w_err w id n)
        { s with errors := insertKey n () s.errors, workers := s.workers.set w .idle }
  | md5_recv_stop (rest : List (List Nat)) (hh : s.hasher = .running) (hq : s.md5Q = [] :: rest) :
      Step p s (.md5_recv 0) { s with md5Q := rest, hasher := .exited }
  | md5_recv_data (b : List Nat) (rest : List (List Nat)) (hh : s.hasher = .running)
      (hq : s.md5Q = b :: rest) (hb : b ≠ []) :
      Step p s (.md5_recv b.length) { s with md5Q := rest, hashed := s.hashed ++ b }

theorem step_of_Step {p : Params} {s s' : State} {e : Ev} (h : Step p s e s') :
    step p s e = some s' := by
  cases h <;> simp only [step, *, ↓reduceIte, and_self, not_false_eq_true, ne_eq, List.length_nil]

theorem Step_of_step {p : Params} {s s' : State} {e : Ev} (h : step p s e = some s') :
    Step p s e s' := by
  cases e
  -- the result of a join contains an `if` of its own: split only down to it
  case m_joined_hasher =>
    simp only [step] at h
    split at h
    · cases h; exact Step.joined_hasher ‹_› ‹_›
    · cases h
  case m_joined_worker =>
    simp only [step] at h
    split at h
    · split at h
      · cases h; exact Step.joined_worker _ ‹_› ‹_›
      · cases h
    · cases h
  case encode_send x =>
    cases x <;> simp only [step] at h <;> (repeat' (split at h)) <;> (try (cases h; done)) <;> cases h
      <;> (repeat (cases ‹_ ∧ _›)) <;> (try subst_vars) <;> (constructor <;> assumption)
  all_goals simp only [step] at h
  all_goals repeat' (split at h)
  all_goals try (cases h; done)
  all_goals cases h
  all_goals repeat (cases ‹_ ∧ _›)
  all_goals try subst_vars
  -- `f_eof` has two constructors; `constructor` would pick `f_eof_plain` also at the pc `eofEmpty`
  all_goals first
    | exact Step.f_eof_empty _ ‹_›
    | (constructor <;> assumption)

theorem Step.isSome {p : Params} {s s' : State} {e : Ev} (h : Step p s e s') : (step p s e).isSome = true := by
  rw [step_of_Step h]; rfl

theorem step_iff {p : Params} {s s' : State} {e : Ev} : step p s e = some s' ↔ Step p s e s' :=
  ⟨Step_of_step, step_of_Step⟩

theorem afterStop_ne_done (r : Nat) : afterStop r ≠ .done := by
  cases r <;> exact MPc.noConfusion

inductive Reaches (p : Params) : State → Prop
  | init : Reaches p (init p)
  | step {s s' : State} {e : Ev} : Reaches p s → step p s e = some s' → Reaches p s'

theorem run_cons_iff {p : Params} {s s' : State} {e : Ev} {evs : List Ev} :
    run p s (e :: evs) = some s' ↔ ∃ s1, step p s e = some s1 ∧ run p s1 evs = some s' := by
  rw [run]
  cases step p s e with
  | none => exact ⟨nofun, fun ⟨_, h, _⟩ => nomatch h⟩
  | some s1 => exact ⟨fun h => ⟨s1, rfl, h⟩, fun ⟨_, h, h'⟩ => Option.some.inj h ▸ h'⟩

theorem run_append {p : Params} {s : State} {evs : List Ev} {e : Ev} :
    run p s (evs ++ [e]) = (run p s evs).bind (fun s' => step p s' e) := by
  induction evs generalizing s with
  | nil => simp only [List.nil_append, run, Option.bind]; cases step p s e <;> rfl
  | cons a evs ih =>
    simp only [List.cons_append, run]
    cases step p s a with
    | none => rfl
    | some s1 => exact ih

theorem Reaches_of_run {p : Params} {s s' : State} {evs : List Ev} (hs : Reaches p s)
    (h : run p s evs = some s') : Reaches p s' := by
  induction evs generalizing s with
  | nil => cases h; exact hs
  | cons e evs ih =>
    obtain ⟨s1, hstep, h⟩ := run_cons_iff.1 h
    exact ih (Reaches.step hs hstep) h

theorem Reaches_of_outcome {p : Params} {tr : List Ev} {r : Except ErrKind (List Nat)} {hd : List Nat}
    (h : outcome p tr = some (r, hd)) : ∃ s, Reaches p s ∧ s.final ∧ s.result = r ∧ s.hashed = hd := by
  unfold outcome at h
  split at h
  · rename_i s hr
    split at h
    · rename_i hf
      cases h
      exact ⟨s, Reaches_of_run Reaches.init hr, hf, rfl, rfl⟩
    · cases h
  · cases h

theorem Reaches_iff_run {p : Params} {s : State} :
    Reaches p s ↔ ∃ evs, run p (init p) evs = some s := by
  constructor
  · intro h
    induction h with
    | init => exact ⟨[], rfl⟩
    | step _ hstep ih =>
      obtain ⟨evs, hevs⟩ := ih
      exact ⟨evs ++ [_], by rw [run_append, hevs]; exact hstep⟩
  · rintro ⟨evs, h⟩
    exact Reaches_of_run Reaches.init h

theorem replayFrom_ok_iff {p : Params} {i : Nat} {s s' : State} {evs : List Ev} :
    replayFrom p i s evs = .ok s' ↔ run p s evs = some s' := by
  induction evs generalizing i s with
  | nil => simp [replayFrom, run]
  | cons e evs ih =>
    simp only [replayFrom, run]
    cases step p s e with
    | none => simp
    | some s1 => exact ih

theorem replay_ok_iff {p : Params} {s : State} {evs : List Ev} :
    replay p evs = .ok s ↔ run p (init p) evs = some s := replayFrom_ok_iff

end FlacVerif.Par
