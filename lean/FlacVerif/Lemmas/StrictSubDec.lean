/-
Strict round trip (C01/C02), sub-frame level, reader side: `SubFrame.bits` against `Rfc.readSubframe`, constructor
by constructor, the residual being read back as a hypothesis; each lemma concludes `SubReads`.  `readSubframe` is cut
into pieces, each definitionally the corresponding part (`readSubframe_eq`, by unfolding and `rfl`).
-/
import FlacVerif.Lemmas.StrictPrim
import FlacVerif.Lemmas.Predict
import FlacVerif.Lemmas.Layout
namespace FlacVerif
namespace Strict
open Rfc

/-- The strict reader, given `s.bits` followed by anything, consumes exactly `s.bits`, says so, and returns the
samples `raw` (`n` of them, of width `w`). A structure and not a definition: unification then compares `n w s raw` and
never unfolds `readSubframe` to match two ways of writing the width. -/
structure SubReads (n w : Nat) (s : SubFrame) (raw : List Int) : Prop where
  read : ∀ k, ∃ rep, readSubframe n w (s.bits ++ k) = .ok (rep, k) ∧ rep.samples = raw ∧ rep.bitLen = s.bits.length

def finishSub (n b start : Nat) (rep : SubRep) (rest : Bits) : R (SubRep × Bits) :=
  if rep.samples.length ≠ n then .error "subframe: wrong number of samples"
  else if rep.samples.any (fun x => !Rfc.inRange b x) then .error "subframe: reconstructed sample outside the sample width"
  else .ok ({ rep with bps := b, bitLen := start - rest.length }, rest)

def subConstant (n b start : Nat) (bs : Bits) : R (SubRep × Bits) := do
  let (v, bs) ← readInt b bs "constant value"
  finishSub n b start { kind := .constant, samples := List.replicate n v } bs

def subVerbatim (n b start : Nat) (bs : Bits) : R (SubRep × Bits) := do
  let (xs, bs) ← readInts n b bs "verbatim samples"
  finishSub n b start { kind := .verbatim, samples := xs } bs

def subFixed (n b start k : Nat) (bs : Bits) : R (SubRep × Bits) := do
  if k ≥ n then throw "subframe: fixed predictor order not below the block size"
  let (warm, bs) ← readInts k b bs "fixed warm-up"
  let (res, bs) ← readResidual n k bs
  finishSub n b start { kind := .fixed, order := k, partOrder := res.order, params := res.params,
                        residual := res.values, samples := fixedRestore k warm res.values } bs

def subLpc (n b start k : Nat) (bs : Bits) : R (SubRep × Bits) := do
  if k ≥ n then throw "subframe: LPC order not below the block size"
  let (warm, bs) ← readInts k b bs "LPC warm-up"
  let (prec1, bs) ← readNat 4 bs "LPC precision"
  if prec1 = 15 then throw "subframe: invalid coefficient precision code 1111"
  let (shift, bs) ← readInt 5 bs "LPC shift"
  if shift < 0 then throw "subframe: negative LPC shift"
  let (coefs, bs) ← readInts k (prec1 + 1) bs "LPC coefficients"
  let (res, bs) ← readResidual n k bs
  finishSub n b start { kind := .lpc, order := k, precision := prec1 + 1, shift := shift.toNat, coefs := coefs,
                        partOrder := res.order, params := res.params, residual := res.values,
                        samples := lpcRestore coefs shift.toNat warm res.values } bs

def subBody (n b start ty : Nat) (bs : Bits) : R (SubRep × Bits) :=
  if ty = 0 then subConstant n b start bs
  else if ty = 1 then subVerbatim n b start bs
  else if 8 ≤ ty ∧ ty ≤ 12 then subFixed n b start (ty - 8) bs
  else if ty ≥ 32 then subLpc n b start (ty - 31) bs
  else .error "subframe: reserved subframe type"

theorem readSubframe_eq (n b : Nat) (bs : Bits) :
    readSubframe n b bs = (do
      let (pad, bs1) ← readNat 1 bs "subframe padding bit"
      if pad ≠ 0 then throw "subframe: padding bit set"
      let (ty, bs2) ← readNat 6 bs1 "subframe type"
      let (wasted, bs3) ← readNat 1 bs2 "wasted-bits flag"
      if wasted ≠ 0 then throw "subframe: wasted bits (never emitted by this encoder)"
      subBody n b bs.length ty bs3) := by
  unfold readSubframe subBody subConstant subVerbatim subFixed subLpc finishSub
  rfl

/-- The 8 header bits of a subframe: padding bit, 6-bit type, wasted-bits flag. -/
theorem subframeHdr_split (ty : Nat) (hty : ty < 64) :
    natToBits 8 (2 * ty) = natToBits 1 0 ++ (natToBits 6 ty ++ natToBits 1 0) := by
  have h1 : natToBits 8 (2 * ty) = natToBits 7 ty ++ natToBits 1 0 := natToBits_concat 7 1 ty 0 (by decide)
  have h2 : natToBits 7 ty = natToBits 1 0 ++ natToBits 6 ty := by
    have := natToBits_concat 1 6 0 ty hty
    rwa [Nat.mul_zero, Nat.zero_add] at this
  rw [h1, h2, List.append_assoc]

theorem readSubframe_hdr (n b ty : Nat) (rest : Bits) (hty : ty < 64) :
    readSubframe n b (natToBits 8 (2 * ty) ++ rest) = subBody n b (8 + rest.length) ty rest := by
  rw [readSubframe_eq]
  have hlen : (natToBits 8 (2 * ty) ++ rest).length = 8 + rest.length := by simp
  rw [hlen, subframeHdr_split ty hty, List.append_assoc, List.append_assoc]
  simp only [readNat_natToBits_lt, ok_bind, show ty < 2 ^ 6 from hty, Nat.reducePow, Nat.reduceLT, ne_eq,
    not_true_eq_false, if_false]

theorem finishSub_ok (n b start : Nat) (rep : SubRep) (rest : Bits) (hl : rep.samples.length = n)
    (hr : ∀ x ∈ rep.samples, SubFrame.inRange b x = true) :
    finishSub n b start rep rest = .ok ({ rep with bps := b, bitLen := start - rest.length }, rest) := by
  unfold finishSub
  rw [if_neg (by simp [hl]), all_inRange b _ hr]
  simp

theorem subBody_fixed (n b start k : Nat) (bs : Bits) (hk : k ≤ 4) :
    subBody n b start (8 + k) bs = subFixed n b start k bs := by
  unfold subBody
  rw [if_neg (by omega : ¬ (8 + k = 0)), if_neg (by omega : ¬ (8 + k = 1)),
    if_pos (by omega : 8 ≤ 8 + k ∧ 8 + k ≤ 12), Nat.add_sub_cancel_left]

theorem subBody_lpc (n b start k : Nat) (bs : Bits) (hk : 1 ≤ k) :
    subBody n b start (31 + k) bs = subLpc n b start k bs := by
  unfold subBody
  rw [if_neg (by omega : ¬ (31 + k = 0)), if_neg (by omega : ¬ (31 + k = 1)),
    if_neg (by omega : ¬ (8 ≤ 31 + k ∧ 31 + k ≤ 12)), if_pos (by omega : 31 + k ≥ 32), Nat.add_sub_cancel_left]

theorem readSubframe_constant (n b : Nat) (dc : Int) (h1 : 1 ≤ b) (hdc : SubFrame.inRange b dc = true) :
    SubReads n b (.constant n dc b) (List.replicate n dc) := by
  refine ⟨fun k => ?_⟩
  rw [Layout.constant_bits, List.append_assoc, readSubframe_hdr n b 0 _ (by decide)]
  unfold subBody subConstant
  rw [if_pos rfl, readInt_twoc b dc k _ h1 hdc]
  simp only [ok_bind]
  rw [finishSub_ok _ _ _ _ _ (by simp) (by
    intro x hx
    rw [List.eq_of_mem_replicate hx]; exact hdc)]
  refine ⟨_, rfl, rfl, ?_⟩
  simp only [List.length_append, natToBits_length, Count.twoc_length]
  omega

theorem readSubframe_verbatim (xs : List Int) (b : Nat) (h1 : 1 ≤ b)
    (hx : ∀ x ∈ xs, SubFrame.inRange b x = true) : SubReads xs.length b (.verbatim xs b) xs := by
  refine ⟨fun k => ?_⟩
  rw [Layout.verbatim_bits, List.append_assoc, readSubframe_hdr _ b 1 _ (by decide)]
  unfold subBody subVerbatim
  rw [if_neg (by decide : ¬ (1 = 0)), if_pos rfl, readInts_twoc b xs k _ h1 hx]
  simp only [ok_bind]
  rw [finishSub_ok xs.length b _ _ _ rfl hx]
  refine ⟨_, rfl, rfl, ?_⟩
  simp only [List.length_append, natToBits_length]
  omega

theorem readSubframe_fixed (xs : List Int) (b kord : Nat) (res : Residual) (o : Nat) (ps : List Nat)
    (hwf : (SubFrame.fixed (xs.take kord) res b).WF) (hx : ∀ x ∈ xs, SubFrame.inRange b x = true)
    (hkn : kord < xs.length)
    (hres : ∀ k, readResidual xs.length kord (res.bits ++ k) = .ok (⟨o, ps, fixedResidual kord xs⟩, k)) :
    SubReads xs.length b (.fixed (xs.take kord) res b) xs := by
  refine ⟨fun k => ?_⟩
  replace hres := hres k
  have hwl : (xs.take kord).length = kord := by rw [List.length_take]; omega
  obtain ⟨hk, _, _, _, h1, _, _⟩ := hwf
  rw [hwl] at hk
  rw [Layout.fixed_bits _ _ _ (by omega), hwl, List.append_assoc, List.append_assoc, readSubframe_hdr _ b (8 + kord) _ (by omega),
    subBody_fixed _ _ _ _ _ hk]
  unfold subFixed
  rw [if_neg (Nat.not_le.2 hkn)]
  have hrd := readInts_twoc b (xs.take kord) (res.bits ++ k) "fixed warm-up" h1
    (fun x hxm => hx x (List.mem_of_mem_take hxm))
  rw [hwl] at hrd
  rw [hrd]
  simp only [ok_bind]
  rw [hres]
  simp only [ok_bind]
  have hrest : fixedRestore kord (xs.take kord) (fixedResidual kord xs) = xs := fixedRestore_fixedResidual kord xs hk
  rw [finishSub_ok _ _ _ _ _ (by simp only; rw [hrest]) (by simp only; rw [hrest]; exact hx)]
  refine ⟨_, rfl, hrest, ?_⟩
  simp only [List.length_append, natToBits_length]
  omega

theorem readSubframe_lpc (xs : List Int) (b : Nat) (coefs : List Int) (shift : Int) (precision : Nat)
    (res : Residual) (o : Nat) (ps : List Nat)
    (hwf : (SubFrame.lpc (xs.take coefs.length) coefs shift precision res b).WF)
    (hx : ∀ x ∈ xs, SubFrame.inRange b x = true) (hkn : coefs.length < xs.length)
    (hres : ∀ k, readResidual xs.length coefs.length (res.bits ++ k) =
      .ok (⟨o, ps, lpcResidual coefs shift.toNat xs⟩, k)) :
    SubReads xs.length b (.lpc (xs.take coefs.length) coefs shift precision res b) xs := by
  refine ⟨fun k => ?_⟩
  replace hres := hres k
  obtain ⟨hc1, hc32, _, _, _, _, hp1, hp15, hs0, hs15, hcr, h1, _, _⟩ := hwf
  have hwl : (xs.take coefs.length).length = coefs.length := by rw [List.length_take]; omega
  rw [Layout.lpc_bits _ _ _ _ _ _ hc1 hc32]
  simp only [List.append_assoc]
  rw [readSubframe_hdr _ b (31 + coefs.length) _ (by omega), subBody_lpc _ _ _ _ _ hc1]
  unfold subLpc
  rw [if_neg (Nat.not_le.2 hkn)]
  have hrd := readInts_twoc b (xs.take coefs.length)
    (natToBits 4 (precision - 1) ++ (twoc 5 shift ++ (coefs.flatMap (twoc precision) ++ (res.bits ++ k))))
    "LPC warm-up" h1 (fun x hxm => hx x (List.mem_of_mem_take hxm))
  rw [hwl] at hrd
  rw [hrd]
  simp only [ok_bind]
  rw [readNat_natToBits_lt 4 (precision - 1) _ _ (by omega)]
  simp only [ok_bind]
  rw [if_neg (by omega : ¬ (precision - 1 = 15))]
  rw [readInt_twoc 5 shift _ _ (by decide) (by rw [Layout.inRange_iff]; constructor <;> omega)]
  simp only [ok_bind]
  rw [if_neg (by omega : ¬ shift < 0)]
  rw [show precision - 1 + 1 = precision by omega, readInts_twoc precision coefs _ _ hp1 hcr]
  simp only [ok_bind]
  rw [hres]
  simp only [ok_bind]
  have hrest : lpcRestore coefs shift.toNat (xs.take coefs.length) (lpcResidual coefs shift.toNat xs) = xs :=
    lpcRestore_lpcResidual coefs shift.toNat xs
  rw [finishSub_ok _ _ _ _ _ (by simp only; rw [hrest]) (by simp only; rw [hrest]; exact hx)]
  refine ⟨_, rfl, hrest, ?_⟩
  simp only [List.length_append, natToBits_length, Count.twoc_length]
  omega

end Strict
end FlacVerif
