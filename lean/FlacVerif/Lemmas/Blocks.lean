/-
The blocks `encode_with_fixed_block_size` cuts the input into (`blocksOf`): what holds of each (`BlockOk`), their number
and sizes, and the channels as the concatenation of their blocks.
-/
import FlacVerif.Model.EncodeStream
import FlacVerif.Lemmas.ListFacts
namespace FlacVerif
namespace Strict

theorem headD_length {chans : List (List Int)} {n : Nat} (hne : 1 ≤ chans.length) (hlen : ∀ c ∈ chans, c.length = n) :
    (chans.headD []).length = n := by
  cases chans with
  | nil => exact absurd hne (by decide)
  | cons c cs => exact hlen c List.mem_cons_self

structure BlockOk (nch bps bs : Nat) (b : List (List Int)) : Prop where
  nch : b.length = nch
  len : ∀ c ∈ b, c.length = (b.headD []).length
  pos : 1 ≤ (b.headD []).length
  le : (b.headD []).length ≤ bs
  range : ∀ c ∈ b, ∀ x ∈ c, SubFrame.inRange bps x = true

/-- The channel count and block size of a block, in the form the frame-level theorems ask for. -/
theorem BlockOk.frameHyps {nch bps bs : Nat} {b : List (List Int)} (h : BlockOk nch bps bs b)
    (hnch : 1 ≤ nch ∧ nch ≤ 8) (hbs : bs < 2 ^ 16) :
    (1 ≤ b.length ∧ b.length ≤ 8) ∧ 1 ≤ (b.headD []).length ∧ (b.headD []).length < 2 ^ 16 :=
  ⟨h.nch ▸ hnch, h.pos, Nat.lt_of_le_of_lt h.le hbs⟩

theorem chunks_take {α : Type} (l : List α) (bs k : Nat) :
    (List.range k).flatMap (fun j => (l.drop (j * bs)).take bs) = l.take (k * bs) := by
  induction k with
  | zero => simp
  | succ k ih =>
    rw [List.range_succ, List.flatMap_append, ih, List.flatMap_singleton, Nat.succ_mul, List.take_add]

theorem chunk_range (total bs j : Nat) :
    ((List.range total).drop (j * bs)).take bs =
      (List.range (min bs (total - j * bs))).map fun t => j * bs + t := by
  apply List.ext_getElem
  · simp
  · intro i h1 h2
    simp

theorem ceil_mul_ge (total bs : Nat) (hbs : 1 ≤ bs) : total ≤ (total + bs - 1) / bs * bs := by
  have := le_ceil_mul 0 total bs hbs
  rwa [Nat.zero_add, Nat.sub_zero, ← Nat.add_sub_assoc hbs] at this

theorem lt_ceil (total bs j : Nat) (hbs : 1 ≤ bs) (hj : j < (total + bs - 1) / bs) : j * bs < total := by
  have := lt_of_lt_ceil 0 total bs j hbs (by rwa [Nat.sub_zero, ← Nat.add_sub_assoc hbs])
  rwa [Nat.zero_add] at this

theorem nonfinal_full (total bs j : Nat) (hbs : 1 ≤ bs) (hj : j + 1 < (total + bs - 1) / bs) :
    (j + 1) * bs ≤ total := by
  have := lt_ceil total bs (j + 1) hbs hj
  omega

theorem chunks_all {α : Type} (l : List α) (bs : Nat) (hbs : 1 ≤ bs) :
    (List.range ((l.length + bs - 1) / bs)).flatMap (fun j => (l.drop (j * bs)).take bs) = l := by
  rw [chunks_take, List.take_of_length_le (ceil_mul_ge l.length bs hbs)]

section
variable (bs : Nat) (chans : List (List Int)) (total : Nat)

theorem blocksOf_eq (hne : 1 ≤ chans.length) (hlen : ∀ c ∈ chans, c.length = total) :
    blocksOf bs chans = (List.range ((total + bs - 1) / bs)).map fun j => chans.map fun c => (c.drop (j * bs)).take bs := by
  unfold blocksOf
  rw [headD_length hne hlen]

theorem blocksOf_length (hne : 1 ≤ chans.length) (hlen : ∀ c ∈ chans, c.length = total) :
    (blocksOf bs chans).length = (total + bs - 1) / bs := by
  rw [blocksOf_eq bs chans total hne hlen]; simp

theorem block_lengths (hlen : ∀ c ∈ chans, c.length = total) (j : Nat) :
    ∀ c ∈ chans.map (fun c => (c.drop (j * bs)).take bs), c.length = min bs (total - j * bs) := by
  intro c hc
  obtain ⟨c0, hc0, rfl⟩ := List.mem_map.1 hc
  rw [List.length_take, List.length_drop, hlen c0 hc0]

theorem block_headD (hne : 1 ≤ chans.length) (hlen : ∀ c ∈ chans, c.length = total) (j : Nat) :
    ((chans.map fun c => (c.drop (j * bs)).take bs).headD []).length = min bs (total - j * bs) :=
  headD_length (by simpa using hne) (block_lengths bs chans total hlen j)

theorem block_range (bps j : Nat) (hx : ∀ c ∈ chans, ∀ x ∈ c, SubFrame.inRange bps x = true) :
    ∀ c ∈ chans.map (fun c => (c.drop (j * bs)).take bs), ∀ x ∈ c, SubFrame.inRange bps x = true := by
  intro c hc x hxm
  obtain ⟨c', hc', rfl⟩ := List.mem_map.1 hc
  exact hx c' hc' x (List.mem_of_mem_drop (List.mem_of_mem_take hxm))

theorem block_ok (nch bps : Nat) (hbs : 1 ≤ bs) (hne : 1 ≤ chans.length) (hnch : chans.length = nch)
    (hlen : ∀ c ∈ chans, c.length = total) (j : Nat) (hj : j < (total + bs - 1) / bs)
    (hx : ∀ c ∈ chans.map (fun c => (c.drop (j * bs)).take bs), ∀ x ∈ c, SubFrame.inRange bps x = true) :
    BlockOk nch bps bs (chans.map fun c => (c.drop (j * bs)).take bs) := by
  have hjt := lt_ceil total bs j hbs hj
  have hh := block_headD bs chans total hne hlen j
  exact ⟨by simp [hnch], fun c hc => hh ▸ block_lengths bs chans total hlen j c hc, by rw [hh]; omega, by rw [hh]; omega, hx⟩

theorem blocksOf_ok (nch bps : Nat) (hbs : 1 ≤ bs) (hne : 1 ≤ chans.length) (hnch : chans.length = nch)
    (hlen : ∀ c ∈ chans, c.length = total) (hx : ∀ c ∈ chans, ∀ x ∈ c, SubFrame.inRange bps x = true) :
    ∀ b ∈ blocksOf bs chans, BlockOk nch bps bs b := by
  intro b hb
  rw [blocksOf_eq bs chans total hne hlen] at hb
  simp only [List.mem_map, List.mem_range] at hb
  obtain ⟨j, hj, rfl⟩ := hb
  exact block_ok bs chans total nch bps hbs hne hnch hlen j hj (block_range bs chans bps j hx)

theorem blocksOf_sizes (hne : 1 ≤ chans.length) (hlen : ∀ c ∈ chans, c.length = total) :
    (blocksOf bs chans).map (fun b => (b.headD []).length) =
      (List.range ((total + bs - 1) / bs)).map fun j => min bs (total - j * bs) := by
  rw [blocksOf_eq bs chans total hne hlen, List.map_map]
  apply List.map_congr_left
  intro j _
  exact block_headD bs chans total hne hlen j

/-- The block sizes are the lengths of the chunks of a list of `total` zeros, and the chunks make up the list
(`chunks_all`). -/
theorem sizes_sum (hbs : 1 ≤ bs) :
    ((List.range ((total + bs - 1) / bs)).map fun j => min bs (total - j * bs)).sum = total := by
  have h := chunks_all (List.replicate total (0 : Nat)) bs hbs
  have hl := congrArg List.length h
  rw [List.length_flatMap, List.length_replicate] at hl
  have e : ((List.range ((total + bs - 1) / bs)).map fun j => min bs (total - j * bs)) =
      (List.range ((total + bs - 1) / bs)).map
        (fun a => (List.take bs (List.drop (a * bs) (List.replicate total (0 : Nat)))).length) := by
    apply List.map_congr_left
    intro j _
    simp
  rw [e, hl]

theorem blocksOf_audio (hbs : 1 ≤ bs) (hne : 1 ≤ chans.length) (hlen : ∀ c ∈ chans, c.length = total) :
    (List.range chans.length).map (fun c => (blocksOf bs chans).flatMap fun b => b.getD c []) = chans := by
  rw [blocksOf_eq bs chans total hne hlen]
  apply List.ext_getElem
  · simp
  · intro c h1 h2
    simp only [List.length_map, List.length_range] at h1
    rw [List.getElem_map, List.getElem_range, List.flatMap_map]
    have : ∀ j, ((chans.map fun c => (c.drop (j * bs)).take bs).getD c []) = (chans[c].drop (j * bs)).take bs := by
      intro j
      rw [List.getD_eq_getElem?_getD, List.getElem?_map, List.getElem?_eq_getElem h1]
      rfl
    simp only [this]
    have hc := hlen chans[c] (List.getElem_mem h1)
    have := chunks_all chans[c] bs hbs
    rw [hc] at this
    exact this

end

end Strict
end FlacVerif
