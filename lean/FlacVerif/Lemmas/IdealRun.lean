/-
What `idealRun` (`Model/Sink.lean`) does along `++`, and the expansion of `write_zeros` without its case split: the facts
about the ideal bit string that need no storage.
-/
import FlacVerif.Model.Sink
namespace FlacVerif

/-- The two `if n > 64` in the expansion of `write_zeros` select what their formulas give anyway. -/
theorem expand_writeZeros (n : Nat) :
    Op.expand (.writeZeros n) =
      List.replicate ((n - 1) / 64) (.write 64 0) ++ [.writeMsbs 64 0 (n - 64 * ((n - 1) / 64))] := by
  rw [Op.expand]
  by_cases h : n > 64
  · rw [if_pos h, if_pos h]
  · rw [if_neg h, if_neg h, Nat.div_eq_of_lt (by omega), Nat.mul_zero, Nat.sub_zero]

namespace C11

theorem idealRun_append (len : Nat) (a b : List Op) :
    idealRun len (a ++ b) = idealRun len a ++ idealRun (len + (idealRun len a).length) b := by
  induction a generalizing len with
  | nil => simp [idealRun]
  | cons op a ih =>
    simp only [List.cons_append, idealRun, ih, List.append_assoc, List.length_append]
    congr 3; omega

end C11

theorem OpsL.idealRun_take_prefix (len : Nat) (ops : List Op) (k : Nat) :
    idealRun len (ops.take k) <+: idealRun len ops := by
  have h : idealRun len ops = idealRun len (ops.take k ++ ops.drop k) := by rw [List.take_append_drop]
  rw [h, C11.idealRun_append]
  exact List.prefix_append _ _

end FlacVerif
