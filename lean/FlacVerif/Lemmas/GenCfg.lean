/-
The encoder model's configuration records (`SubCfg`, `StereoCfg`: what the integer decision logic reads) as functions of the
generated configuration model; the statements that relate generated code to the encoder model are made through them.
(Their names are `Total.subCfgOf`, `Total.stereoCfgOf`: `Total` is the namespace of the no-panic property C07, Lemmas/Total*.lean.)
-/
import FlacVerif.Gen.Config
import FlacVerif.Model.Encode
namespace FlacVerif
namespace Total

/-- The integer-relevant part of `config::SubFrameCoding`, from the generated configuration model. -/
def subCfgOf (c : Gen.SubFrameCoding) : SubCfg :=
  { useConstant := c.use_constant, useFixed := c.use_fixed, useLpc := c.use_lpc,
    fixedMaxOrder := c.fixed.max_order,
    bitCount := (match c.fixed.order_sel with | .BitCount => true | .ApproxEnt _ => false),
    maxP := c.prc.max_parameter }

def stereoCfgOf (c : Gen.StereoCoding) : StereoCfg :=
  { useLeftSide := c.use_leftside, useRightSide := c.use_rightside, useMidSide := c.use_midside }

end Total
end FlacVerif
