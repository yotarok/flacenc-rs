/-
The operation sequences of `Model/Ops.lean` write the component bit strings of `Model/Component.lean`, and every operation
is valid. Lists that write the same bits from every position compose by
`Writes`, those that do so from every byte-aligned position by `Aligned`.
-/
import FlacVerif.Model.Ops
import FlacVerif.Lemmas.IdealRun
import FlacVerif.Lemmas.Layout
import FlacVerif.Lemmas.Crc
import FlacVerif.Lemmas.Bits
import FlacVerif.Lemmas.Bytes
import FlacVerif.Lemmas.ListFacts
import FlacVerif.Lemmas.WeakWF
namespace FlacVerif.OpsL
open FlacVerif FlacVerif.C11

theorem natToBits_mod256 (w n : Nat) (h : w ≤ 8) : natToBits w (n % 256) = natToBits w n :=
  natToBits_mod w 8 n h

/-- `write_msbs(x << (W - n), n)` writes the `n` low bits of `x` (no bound on `x` needed). -/
theorem take_natToBits_shift (W n x : Nat) (h : n ≤ W) :
    (natToBits W ((x <<< (W - n)) % 2 ^ W)).take n = natToBits n x := by
  have hs := natToBits_split n (W - n) (x <<< (W - n))
  rw [Nat.add_sub_cancel' h, Nat.shiftLeft_eq, Nat.mul_div_cancel _ (Nat.two_pow_pos _)] at hs
  rw [natToBits_mod W W _ (Nat.le_refl W), Nat.shiftLeft_eq, hs, List.take_left' (natToBits_length n x)]

theorem or_shift_lt (rem p : Nat) (h : rem < 2 ^ p) : rem ||| (1 <<< p) < 2 ^ (p + 1) := by
  apply Nat.or_lt_two_pow
  · exact Nat.lt_of_lt_of_le h (Nat.pow_le_pow_right (by decide) (Nat.le_succ p))
  · rw [Nat.shiftLeft_eq, Nat.one_mul]; exact Nat.pow_lt_pow_right (by decide) (Nat.lt_succ_self p)

/-- Started at any byte-aligned position, `ops` writes `b`, a whole number of bytes. -/
def Aligned (ops : List Op) (b : Bits) : Prop :=
  8 ∣ b.length ∧ ∀ len, len % 8 = 0 → idealRun len ops = b

theorem Aligned.nil : Aligned [] [] := ⟨by simp, fun _ _ => rfl⟩

theorem Aligned.append {o1 o2 : List Op} {b1 b2 : Bits} (h1 : Aligned o1 b1) (h2 : Aligned o2 b2) :
    Aligned (o1 ++ o2) (b1 ++ b2) := by
  obtain ⟨d1, r1⟩ := h1
  obtain ⟨d2, r2⟩ := h2
  refine ⟨by rw [List.length_append]; omega, fun len hl => ?_⟩
  rw [idealRun_append, r1 len hl, r2 _ (by omega)]

theorem Aligned.flatMap_range (n : Nat) (f : Nat → List Op) (g : Nat → Bits)
    (h : ∀ i, i < n → Aligned (f i) (g i)) : Aligned ((List.range n).flatMap f) ((List.range n).flatMap g) := by
  induction n with
  | zero => exact Aligned.nil
  | succ n ih =>
    rw [List.range_succ, List.flatMap_append, List.flatMap_append]
    refine (ih (fun i hi => h i (by omega))).append ?_
    simpa using h n (Nat.lt_succ_self n)

theorem Aligned.bytes (bs : List Nat) : Aligned [.writeBytesAligned bs] (bytesToBits bs) := by
  refine ⟨by rw [Count.bytesToBits_length]; exact Nat.dvd_mul_right 8 _, fun len hl => ?_⟩
  simp [idealRun, Op.ideal, hl]

/-! ### one walk per operation list

`Writes ops b` is `Aligned ops b` without the alignment, together with the validity of the operations; it composes along
the shape of `X.ops`, so each list is walked once. -/

structure Writes (ops : List Op) (b : Bits) : Prop where
  valid : ∀ op ∈ ops, op.Valid
  idealRun : ∀ len, idealRun len ops = b

theorem Writes.nil : Writes [] [] := ⟨nofun, fun _ => rfl⟩

theorem Writes.one {op : Op} (hv : op.Valid) (hf : ∀ len, op.ideal len = op.ideal 0) : Writes [op] (op.ideal 0) :=
  ⟨fun _ ho => List.mem_singleton.mp ho ▸ hv, fun len => (List.append_nil _).trans (hf len)⟩

theorem Writes.append {o1 o2 : List Op} {b1 b2 : Bits} (h1 : Writes o1 b1) (h2 : Writes o2 b2) :
    Writes (o1 ++ o2) (b1 ++ b2) :=
  ⟨List.forall_mem_append.mpr ⟨h1.valid, h2.valid⟩, fun len => by rw [idealRun_append, h1.idealRun, h2.idealRun]⟩

theorem Writes.cons {op : Op} {ops : List Op} {b : Bits} (hv : op.Valid) (hf : ∀ len, op.ideal len = op.ideal 0)
    (h : Writes ops b) : Writes (op :: ops) (op.ideal 0 ++ b) := (Writes.one hv hf).append h

theorem Writes.flatMap {α : Type} (l : List α) (f : α → List Op) (g : α → Bits) (h : ∀ x ∈ l, Writes (f x) (g x)) :
    Writes (l.flatMap f) (l.flatMap g) := by
  induction l with
  | nil => exact Writes.nil
  | cons x l ih =>
    rw [List.flatMap_cons, List.flatMap_cons]
    exact (h x List.mem_cons_self).append (ih fun y hy => h y (List.mem_cons_of_mem _ hy))

theorem Writes.map {α : Type} (l : List α) (f : α → Op) (g : α → Bits) (h : ∀ x ∈ l, Writes [f x] (g x)) :
    Writes (l.map f) (l.flatMap g) := by
  rw [List.map_eq_flatMap]; exact Writes.flatMap l _ g h

theorem Writes.aligned {ops : List Op} {b : Bits} (h : Writes ops b) (h8 : 8 ∣ b.length) : Aligned ops b :=
  ⟨h8, fun len _ => h.idealRun len⟩

/-- A buffered body forwarded as bytes, then its checksum. -/
theorem Aligned.bytes_then_write (body : Bits) (h8 : 8 ∣ body.length) (w v : Nat) (hw : 8 ∣ w) :
    Aligned [.writeBytesAligned (packBytes body), .write w v] (body ++ natToBits w v) := by
  have h1 := Aligned.bytes (packBytes body)
  rw [bytesToBits_packBytes body h8] at h1
  exact h1.append ⟨by rw [natToBits_length]; exact hw, fun _ _ => List.append_nil _⟩

theorem twoc_valid (b : Nat) (v : Int) (h1 : 1 ≤ b) (h2 : b ≤ 32) (hr : SubFrame.inRange b v = true) :
    (Op.writeTwoc v b).Valid := by
  simp only [SubFrame.inRange, Bool.and_eq_true, decide_eq_true_eq] at hr
  have hpow : (2 : Int) ^ (b - 1) ≤ 2 ^ 31 := by
    have : (2 : Nat) ^ (b - 1) ≤ 2 ^ 31 := Nat.pow_le_pow_right (by decide) (by omega)
    exact_mod_cast this
  refine ⟨h1, by omega, ?_, ?_⟩ <;> omega

theorem Writes.twocs (xs : List Int) (b : Nat) (h1 : 1 ≤ b) (h2 : b ≤ 32) (hr : ∀ x ∈ xs, SubFrame.inRange b x = true) :
    Writes (xs.map fun x => .writeTwoc x b) (xs.flatMap (twoc b)) :=
  Writes.map xs _ _ fun x hx => Writes.one (twoc_valid b x h1 h2 (hr x hx)) (fun _ => rfl)

theorem write8_valid (v : Nat) : (Op.write 8 (v % 256)).Valid := ⟨rfl, Nat.mod_lt _ (by decide)⟩

/-- A header byte: the `u8` operand is the byte the bit string starts with. -/
theorem Writes.byte (v : Nat) : Writes [.write 8 (v % 256)] (natToBits 8 v) := by
  have := Writes.one (write8_valid v) (fun _ => rfl)
  rwa [show (Op.write 8 (v % 256)).ideal 0 = natToBits 8 (v % 256) from rfl, natToBits_mod256 8 v (Nat.le_refl 8)] at this

/-- A field narrowed to the operand type and written with `write_lsbs`: the cast keeps the `n ≤ W` bits written. -/
theorem Writes.lsbsMod (W n x : Nat) (hW : validWidth W = true) (hn : n ≤ W) :
    Writes [.writeLsbs W (x % 2 ^ W) n] (natToBits n x) := by
  have := Writes.one (op := .writeLsbs W (x % 2 ^ W) n) ⟨hW, Nat.mod_lt _ (Nat.two_pow_pos W), hn⟩ (fun _ => rfl)
  rwa [show (Op.writeLsbs W (x % 2 ^ W) n).ideal 0 = natToBits n (x % 2 ^ W) from rfl, natToBits_mod n W x hn] at this

theorem Writes.writeMod (W x : Nat) (hW : validWidth W = true) : Writes [.write W (x % 2 ^ W)] (natToBits W x) := by
  have := Writes.one (op := .write W (x % 2 ^ W)) ⟨hW, Nat.mod_lt _ (Nat.two_pow_pos W)⟩ (fun _ => rfl)
  rwa [show (Op.write W (x % 2 ^ W)).ideal 0 = natToBits W (x % 2 ^ W) from rfl, natToBits_mod W W x (Nat.le_refl W)] at this

theorem residual_writes (r : Residual) (h : r.WF) : Writes r.ops r.bits := by
  -- what the sink operations need of the Rice parameters: `p + 1 ≤ 32`, the width of the `write_msbs` operand
  have hp : ∀ p ∈ r.params, p ≤ 31 := fun p hp => Nat.le_trans (h.param_le p hp) (by decide)
  refine Writes.cons (op := .writeLsbs 32 r.order 6) ⟨rfl, Nat.lt_of_le_of_lt h.1 (by decide), by decide⟩ (fun _ => rfl)
    (Writes.flatMap _ _ _ fun k _ => ?_)
  have hk : r.params.getD k 0 ≤ 31 := getD_of_forall (· ≤ 31) _ k 0 hp (Nat.zero_le _)
  refine Writes.cons (op := .writeLsbs 8 (r.params.getD k 0) 4) ⟨rfl, by omega, by decide⟩ (fun _ => rfl)
    (Writes.flatMap _ _ _ fun i _ => ?_)
  -- one sample: the zeros, then the stop bit and the remainder as the top `p + 1` bits of a `u32`
  have := Writes.cons (op := .writeZeros (r.quotients.getD (max r.warmup (k * r.partLen) + i) 0)) trivial (fun _ => rfl)
    (Writes.one (op := .writeMsbs 32 (((r.remainders.getD (max r.warmup (k * r.partLen) + i) 0 ||| (1 <<< r.params.getD k 0))
      <<< (32 - (r.params.getD k 0 + 1))) % 2 ^ 32) (r.params.getD k 0 + 1)) ⟨rfl, Nat.mod_lt _ (by decide), by omega⟩ fun _ => rfl)
  rwa [show (Op.writeMsbs 32 _ _).ideal 0 = _ from take_natToBits_shift 32 _ _ (by omega)] at this

/-- A header byte assembled in `u8`: narrowing the shifted field and the result loses none of the eight bits written. -/
theorem head_mod (a c : Nat) : natToBits 8 ((a ||| ((c % 256) <<< 1)) % 256) = natToBits 8 (a ||| (c <<< 1)) := by
  rw [natToBits_mod256 _ _ (Nat.le_refl 8)]
  apply natToBits_congr
  intro i hi
  rw [Nat.testBit_or, Nat.testBit_or, Nat.testBit_shiftLeft, Nat.testBit_shiftLeft,
    show (256 : Nat) = 2 ^ 8 from rfl, Nat.testBit_mod_two_pow]
  by_cases h1 : i ≥ 1
  · simp [h1, show i - 1 < 8 by omega]
  · simp [h1]

/-- Of `s.WF'` only the bounds on the operands, the residual's well-formedness and (for LPC) `warm.length = coefs.length`
are used. -/
theorem subframe_writes (s : SubFrame) (h : s.WF') : Writes s.ops s.bits := by
  cases s with
  | constant n dc bps =>
    obtain ⟨_, h1, h2, hr⟩ := h
    exact (Writes.byte 0).append (Writes.one (twoc_valid bps dc h1 h2 hr) (fun _ => rfl))
  | verbatim xs bps =>
    obtain ⟨_, h1, h2, hr⟩ := h
    exact (Writes.byte 2).append (Writes.twocs xs bps h1 h2 hr)
  | fixed warm res bps =>
    obtain ⟨_, _, hres, _, h1, h2, hr⟩ := h
    exact ((Writes.byte _).append (Writes.twocs warm bps h1 h2 hr)).append (residual_writes res hres)
  | lpc warm coefs shift precision res bps =>
    obtain ⟨_, _, hwc, _, hres, _, hp1, hp2, hs1, hs2, hc, h1, h2, hr⟩ := h
    have e : warm.take coefs.length = warm := List.take_of_length_le (Nat.le_of_eq hwc)
    have hhead := Writes.one (write8_valid (0x40 ||| (((coefs.length - 1) % 256) <<< 1))) (fun _ => rfl)
    rw [show (Op.write 8 _).ideal 0 = _ from head_mod 0x40 (coefs.length - 1)] at hhead
    have := (((hhead.append (Writes.twocs warm bps h1 h2 hr)).append
      (Writes.cons (op := .writeLsbs 64 (precision - 1) 4) ⟨rfl, by omega, by decide⟩ (fun _ => rfl)
        (Writes.one (op := .writeTwoc shift 5) ⟨by decide, by decide, by omega, by omega⟩ (fun _ => rfl)))).append
      (Writes.twocs coefs precision hp1 (by omega) hc)).append (residual_writes res hres)
    simpa only [SubFrame.ops, SubFrame.bits, e, Op.ideal, List.append_assoc, List.cons_append, List.nil_append] using this

theorem subframe_ops' (s : SubFrame) (h : s.WF') (len : Nat) : idealRun len s.ops = s.bits := (subframe_writes s h).idealRun len

theorem subframe_valid' (s : SubFrame) (h : s.WF') : ∀ op ∈ s.ops, op.Valid := (subframe_writes s h).valid

theorem idealRun_subframes (l : List SubFrame) (hs : ∀ s ∈ l, s.WF') (len : Nat) :
    idealRun len (l.flatMap SubFrame.ops) = l.flatMap SubFrame.bits :=
  (Writes.flatMap l _ _ fun s h => subframe_writes s (hs s h)).idealRun len

theorem blockHeader_writes (isLast : Bool) (tag len : Nat) :
    Writes (blockHeaderOps isLast tag len) (Stream.blockHeader isLast tag len) :=
  (Writes.writeMod 8 _ rfl).append (Writes.lsbsMod 32 24 len rfl (by decide))

theorem blockHeader_aligned (isLast : Bool) (tag len : Nat) :
    Aligned (blockHeaderOps isLast tag len) (Stream.blockHeader isLast tag len) :=
  (blockHeader_writes isLast tag len).aligned (by rw [Layout.blockHeader_length]; decide)

/-- All of `StreamInfo::write` but the MD5 bytes. No fitting hypothesis is needed: `StreamInfo.bits` truncates each field
exactly as the narrowing casts in front of the sink calls do. -/
theorem streaminfo_writes (s : StreamInfo) :
    ∃ o b, s.ops = o ++ [.writeBytesAligned s.md5] ∧ s.bits = b ++ bytesToBits s.md5 ∧ b.length = 144 ∧ Writes o b := by
  unfold StreamInfo.ops StreamInfo.bits
  generalize (if s.minFrame > s.maxFrame then ((0 : Nat), (0 : Nat)) else (s.minFrame, s.maxFrame)) = mm
  obtain ⟨mn, mx⟩ := mm
  exact ⟨_, _, rfl, rfl, by simp only [List.length_append, natToBits_length],
    (((((((Writes.writeMod 16 s.minBlock rfl).append (Writes.writeMod 16 s.maxBlock rfl)).append
      (Writes.lsbsMod 32 24 mn rfl (by decide))).append (Writes.lsbsMod 32 24 mx rfl (by decide))).append
      (Writes.lsbsMod 32 20 s.rate rfl (by decide))).append (Writes.lsbsMod 8 3 (s.channels - 1) rfl (by decide))).append
      (Writes.lsbsMod 8 5 (s.bps - 1) rfl (by decide))).append (Writes.lsbsMod 64 36 s.total rfl (by decide))⟩

theorem streaminfo_aligned (s : StreamInfo) : Aligned s.ops s.bits := by
  obtain ⟨o, b, ho, hb, hl, hw⟩ := streaminfo_writes s
  rw [ho, hb]
  exact (hw.aligned (by rw [hl]; decide)).append (Aligned.bytes s.md5)

theorem streaminfo_valid (s : StreamInfo) (hm : ∀ b ∈ s.md5, b < 256) : ∀ op ∈ s.ops, op.Valid := by
  obtain ⟨o, b, ho, _, _, hw⟩ := streaminfo_writes s
  rw [ho]
  exact List.forall_mem_append.mpr ⟨hw.valid, fun _ h => List.mem_singleton.mp h ▸ hm⟩

theorem header_aligned (p8 : CrcParams) (h : FrameHeader) (ops : List Op) (ho : h.ops p8 = some ops) :
    ∃ b, h.bits p8 = some b ∧ Aligned ops b := by
  obtain ⟨body, hb, ho⟩ := Option.bind_eq_some_iff.mp ho
  cases ho
  have hbits : h.bits p8 = some (body ++ natToBits 8 (crcBits p8 body)) := by
    simp only [FrameHeader.bits, hb, Option.bind_eq_bind, Option.bind_some]
  -- the body is a whole number of bytes: the layout of the written header says so
  obtain ⟨_, body', _, _, _, h8, e⟩ := Layout.header_bits_some h _ hbits
  have hl := congrArg List.length e
  rw [List.length_append, List.length_append, natToBits_length, natToBits_length] at hl
  exact ⟨_, hbits, Aligned.bytes_then_write body (Nat.dvd_of_mod_eq_zero (by omega)) 8 _ (by decide)⟩

theorem padTo8_dvd (bs : Bits) : 8 ∣ (Frame.padTo8 bs).length := by
  rw [Layout.padTo8_length]; exact Nat.dvd_mul_left 8 _

theorem frame_aligned (p8 p16 : CrcParams) (f : Frame) (ops : List Op) (ho : Frame.ops p8 p16 f = some ops) :
    ∃ b, f.bits p8 p16 = some b ∧ Aligned ops b := by
  obtain ⟨hb, hh, ho⟩ := Option.bind_eq_some_iff.mp ho
  cases ho
  exact ⟨_, by simp only [Frame.bits, hh, Option.bind_eq_bind, Option.bind_some],
    Aligned.bytes_then_write _ (padTo8_dvd _) 16 _ (by decide)⟩

theorem frame_precomputed_aligned (p8 p16 : CrcParams) (f : Frame) (ops : List Op)
    (ho : Frame.opsPrecomputed p8 p16 f = some ops) : ∃ b, f.bits p8 p16 = some b ∧ Aligned ops b := by
  obtain ⟨b, hb, ho⟩ := Option.bind_eq_some_iff.mp ho
  cases ho
  refine ⟨b, hb, ?_⟩
  have h1 := Aligned.bytes (packBytes b)
  rwa [bytesToBits_packBytes b (Nat.dvd_of_mod_eq_zero (Layout.frame_bits_len8 f b hb))] at h1

/-- Lists of operations that come from a successful `mapM`, each aligned with the bits its element has. -/
theorem Aligned.mapM_flatten {α : Type} (f : α → Option (List Op)) (g : α → Option Bits) (l : List α)
    (h : ∀ x ∈ l, ∀ o, f x = some o → ∃ b, g x = some b ∧ Aligned o b) (os : List (List Op)) (ho : l.mapM f = some os) :
    ∃ bs, l.mapM g = some bs ∧ Aligned os.flatten bs.flatten := by
  induction l generalizing os with
  | nil =>
    cases ho
    exact ⟨[], rfl, Aligned.nil⟩
  | cons x l ih =>
    obtain ⟨o, os', hx, hl, rfl⟩ := mapM_cons_some ho
    obtain ⟨b, hb, hr⟩ := h x List.mem_cons_self o hx
    obtain ⟨bs, hbs, hrs⟩ := ih (fun y hy => h y (List.mem_cons_of_mem _ hy)) os' hl
    exact ⟨b :: bs, by rw [List.mapM_cons, hb, hbs]; rfl, hr.append hrs⟩

theorem stream_aligned (p8 p16 : CrcParams) (s : Stream) (ops : List Op) (ho : Stream.ops p8 p16 s = some ops) :
    ∃ b, s.bits p8 p16 = some b ∧ Aligned ops b := by
  obtain ⟨fops, hf, ho⟩ := Option.bind_eq_some_iff.mp ho
  cases ho
  obtain ⟨fbits, hfb, hfl⟩ := Aligned.mapM_flatten (Frame.ops p8 p16) (Frame.bits p8 p16) s.frames
    (fun f _ o hfo => frame_aligned p8 p16 f o hfo) fops hf
  have hmeta := Aligned.flatMap_range s.metadata.length _ _
    (fun i _ => (blockHeader_aligned (i + 1 = s.metadata.length) (s.metadata.getD i ⟨0, []⟩).tag
      (s.metadata.getD i ⟨0, []⟩).data.length).append (Aligned.bytes (s.metadata.getD i ⟨0, []⟩).data))
  exact ⟨_, by simp only [Stream.bits, hfb, Option.bind_eq_bind, Option.bind_some],
    ((((Aligned.bytes [0x66, 0x4C, 0x61, 0x43]).append (blockHeader_aligned _ _ _)).append
      (streaminfo_aligned s.info)).append hmeta).append hfl⟩

theorem bytes_then_crc_valid (p : CrcParams) (w : Nat) (hw : validWidth w = true)
    (hp : p.width = w ∧ p.poly < 2 ^ w ∧ p.init < 2 ^ w) (body : Bits) :
    ∀ op ∈ [Op.writeBytesAligned (packBytes body), .write w (crcBits p body)], op.Valid := by
  intro op hop
  simp only [List.mem_cons, List.not_mem_nil, or_false] at hop
  rcases hop with rfl | rfl
  · exact packBytes_lt _
  · have := Crc.crcBits_lt p (by rw [hp.1]; exact hp.2.1) (by rw [hp.1]; exact hp.2.2) body
    rw [hp.1] at this
    exact ⟨hw, this⟩

/-! ### `write` issues operations whenever the bit string exists (no `RangeError`) -/

theorem frame_ops_of_bits (p8 p16 : CrcParams) (f : Frame) (b : Bits) (hb : f.bits p8 p16 = some b) :
    ∃ ops, Frame.ops p8 p16 f = some ops := by
  obtain ⟨x, hh, _⟩ := Option.bind_eq_some_iff.mp hb
  simp only [Frame.ops, hh, Option.bind_eq_bind, Option.bind_some]
  exact ⟨_, rfl⟩

theorem stream_ops_of_bits (p8 p16 : CrcParams) (s : Stream) (b : Bits) (hb : s.bits p8 p16 = some b) :
    ∃ ops, Stream.ops p8 p16 s = some ops := by
  obtain ⟨fbits, hf, _⟩ := Option.bind_eq_some_iff.mp hb
  obtain ⟨fops, hfo⟩ := mapM_isSome (Frame.ops p8 p16) s.frames fun f hfm => by
    obtain ⟨fb, hfb⟩ := mapM_some_forall hf f hfm
    exact frame_ops_of_bits p8 p16 f fb hfb
  simp only [Stream.ops, hfo, Option.bind_eq_bind, Option.bind_some]
  exact ⟨_, rfl⟩

end FlacVerif.OpsL
