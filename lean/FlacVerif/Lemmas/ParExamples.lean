/-
Concrete complete traces of the protocol model (`Model/Par.lean`) for `W = 1`, two blocks:
fault-free, read failure at read 1, invalid block 0. Checked by kernel evaluation (`decide`). The empty-block
witnesses are in ParEmptyBlock.lean.
-/
import FlacVerif.Model.Par
namespace FlacVerif.Par.Examples
open FlacVerif.Par

def blk (n : Nat) (valid : Bool := true) : Block := ⟨[n, n + 1], valid⟩

def pOk : Params := { W := 1, blocks := [blk 1, blk 5] }
def pReadFail : Params := { W := 1, blocks := [blk 1, blk 5], readFailAt := some 1 }
/-- block 0 holds an out-of-range sample. -/
def pInvalid : Params := { W := 1, blocks := [blk 1 false, blk 5] }

def trOk : List Ev :=
  [.refill_recv 0, .md5_send 2, .md5_recv 2, .f_filled 0 0, .encode_send (some 0),
   .encode_recv 0 (some 0), .w_lock 0 0 0, .refill_send 0 0, .refill_recv 1, .md5_send 2,
   .w_push 0 0 0, .md5_recv 2, .f_filled 1 1, .encode_send (some 1), .encode_recv 0 (some 1),
   .w_lock 0 1 1, .refill_recv 0, .refill_send 0 1, .md5_send 0, .f_eof 0, .encode_send none,
   .w_push 0 1 1, .encode_recv 0 none, .md5_recv 0, .md5_send 0, .m_joined_hasher,
   .m_joined_worker]

def trReadFail : List Ev :=
  [.refill_recv 0, .md5_send 2, .md5_recv 2, .f_filled 0 0, .encode_send (some 0),
   .encode_recv 0 (some 0), .w_lock 0 0 0, .refill_send 0 0, .refill_recv 1, .f_read_err 1,
   .w_push 0 0 0, .encode_send none, .encode_recv 0 none, .md5_send 0, .md5_recv 0,
   .m_joined_hasher, .m_joined_worker]

def trInvalid : List Ev :=
  [.refill_recv 0, .md5_send 2, .md5_recv 2, .f_filled 0 0, .encode_send (some 0),
   .encode_recv 0 (some 0), .w_lock 0 0 0, .refill_send 0 0, .refill_recv 1, .md5_send 2,
   .w_err 0 0 0, .md5_recv 2, .f_filled 1 1, .encode_send (some 1), .encode_recv 0 (some 1),
   .w_lock 0 1 1, .refill_recv 0, .refill_send 0 1, .md5_send 0, .f_eof 0, .encode_send none,
   .w_push 0 1 1, .encode_recv 0 none, .md5_recv 0, .md5_send 0, .m_joined_hasher,
   .m_joined_worker]

example : outcome pOk trOk = some (.ok [0, 1], [1, 2, 5, 6]) := by decide
example : outcome pReadFail trReadFail = some (.error .source, [1, 2]) := by decide
example : outcome pInvalid trInvalid = some (.error .config, [1, 2, 5, 6]) := by decide
example : seqResult pOk = .ok [0, 1] ∧ seqResult pReadFail = .error .source ∧
    seqResult pInvalid = .error .config := by decide

/-- strictness: a wrong frame number, a wrong buffer id, a premature join, a wrong md5 length are rejected -/
example : run pOk (init pOk) [.refill_recv 0, .md5_send 2, .f_filled 0 1] = none := by decide
example : run pOk (init pOk) [.refill_recv 1] = none := by decide
example : run pOk (init pOk) [.m_joined_hasher] = none := by decide
example : run pOk (init pOk) [.refill_recv 0, .md5_send 3] = none := by decide

end FlacVerif.Par.Examples
