/-
Control invariant of the protocol model: list lengths, what each main-thread pc implies, the
accounting of stop tokens (sent = queued + consumed), the shape of the encode queue (stop tokens only
after all work items) and the channel capacities.
-/
import FlacVerif.Lemmas.ParStep
import FlacVerif.Lemmas.ParList
namespace FlacVerif.Par

/-- Stop tokens the main thread has put on the encode queue so far. -/
def MPc.nonesSent (W : Nat) : MPc → Nat
  | .stop r => W - r
  | .reqStop | .joinH | .joinW _ | .done => W
  | _ => 0

/-- How the feed loop ended: read `k` failed, or it was the end-of-input read. -/
def FeedEnd (p : Params) (s : State) : Prop :=
  (s.readErr = true → p.readFailAt = some s.k) ∧
  (s.readErr = false → s.k = p.blocks.length ∧ p.readFailAt ≠ some s.k)

/-- What the main pc says about `k`, `readErr`, the fault plan and the threads already joined. -/
def MainOk (p : Params) (s : State) : Prop :=
  match s.main with
  | .recv | .locked _ => s.readErr = false
  | .eofEmpty _ => s.readErr = false ∧ p.eofSendsEmpty = true ∧ s.k = p.blocks.length ∧
      p.readFailAt ≠ some s.k
  | .filledMd5 _ | .enq _ => s.readErr = false ∧ s.k < p.blocks.length ∧ p.readFailAt ≠ some s.k
  | .stop r => 0 < r ∧ r ≤ p.W ∧ FeedEnd p s
  | .reqStop | .joinH => FeedEnd p s
  | .joinW j => FeedEnd p s ∧ j < p.W ∧ s.hasher = .exited
  | .done => FeedEnd p s ∧ s.hasher = .exited ∧ s.exitedCount = p.W

structure InvC (p : Params) (s : State) : Prop where
  wlen : s.workers.length = p.W
  blen : s.bufs.length = 2 * p.W
  kle : s.k ≤ p.blocks.length
  nofail : ∀ j, j < s.k → p.readFailAt ≠ some j
  mainOk : MainOk p s
  nones : s.encodeQ.count none + s.exitedCount = s.main.nonesSent p.W
  shape : NSAN s.encodeQ
  /-- a worker exits only on a stop token at the head of the queue, and behind a stop token only stop tokens follow
  (`shape`): once a worker has exited no work is queued. This is what makes the queue empty of work in a final state. -/
  drained : 0 < s.exitedCount → ∀ x ∈ s.encodeQ, x = none
  capR : s.refillQ.length ≤ p.refillCap
  capE : s.encodeQ.length ≤ p.encodeCap
  capM : s.md5Q.length ≤ md5Cap

theorem InvC.init (p : Params) : InvC p (init p) := by
  constructor <;> simp [Par.init, MainOk, MPc.nonesSent, State.exitedCount, NSAN, Params.nbuf,
    Params.refillCap, Params.encodeCap]
  · rw [List.count_replicate]; simp

theorem exited_set {s : State} {w : Nat} {a b : WPc} (h : s.workers[w]? = some a) :
    (s.workers.set w b).count .exited + (if a = .exited then 1 else 0) =
      s.exitedCount + (if b = .exited then 1 else 0) :=
  count_set_add s.workers w a b .exited h

theorem afterStop_nonesSent (W r : Nat) : (afterStop r).nonesSent W = W - r := by
  cases r <;> rfl

theorem Step.wlen {p : Params} {s s' : State} {e : Ev} (hs : Step p s e s') :
    s'.workers.length = s.workers.length := by
  cases hs <;> simp

theorem Step.blen {p : Params} {s s' : State} {e : Ev} (hs : Step p s e s') :
    s'.bufs.length = s.bufs.length := by
  cases hs <;> simp

def Ev.isRecvNone : Ev → Bool
  | .encode_recv _ none => true
  | _ => false

/-- exited workers stay exited and the count changes only by `encode_recv none` -/
theorem Step.exited {p : Params} {s s' : State} {e : Ev} (hs : Step p s e s') :
    s'.exitedCount = s.exitedCount + (if e.isRecvNone then 1 else 0) := by
  cases hs
  case enc_recv_some hw _ => exact exited_set hw
  case enc_recv_none hw _ => exact exited_set hw
  case w_lock hw _ _ _ => exact exited_set hw
  case refill_send hw _ => exact exited_set hw
  case w_push hw => exact exited_set hw
  case w_err hw => exact exited_set hw
  all_goals rfl

theorem InvC.step_kle {p : Params} {s s' : State} {e : Ev} (h : InvC p s) (hs : Step p s e s') :
    s'.k ≤ p.blocks.length := by
  cases hs
  case enc_send_some id hm hcap =>
    have h2 := h.mainOk
    rw [MainOk, hm] at h2
    exact h2.2.1
  all_goals exact h.kle

theorem InvC.step_nofail {p : Params} {s s' : State} {e : Ev} (h : InvC p s) (hs : Step p s e s') :
    ∀ j, j < s'.k → p.readFailAt ≠ some j := by
  have h1 := h.nofail; have h2 := h.mainOk
  cases hs
  case enc_send_some id hm hcap =>
    intro j hj
    simp only [MainOk, hm] at h2
    by_cases hjk : j = s.k
    · subst hjk; exact h2.2.2
    · exact h1 j (by simp at hj; omega)
  all_goals exact h1

theorem MainOk.mono {p : Params} {s s' : State} (h : MainOk p s) (hm : s'.main = s.main)
    (hr : s'.readErr = s.readErr) (hk : s'.k = s.k) (hh : s.hasher = .exited → s'.hasher = .exited)
    (he : s.exitedCount = p.W → s'.exitedCount = p.W) : MainOk p s' := by
  unfold MainOk FeedEnd at *
  rw [hm, hr, hk]
  cases hmain : s.main <;> simp only [hmain] at h ⊢
  -- only these two pcs speak of the hasher and of the workers
  case joinW => exact ⟨h.1, h.2.1, hh h.2.2⟩
  case done => exact ⟨h.1, hh h.2.1, he h.2.2⟩
  all_goals exact h

theorem Step.hasher_mono {p : Params} {s s' : State} {e : Ev} (hs : Step p s e s')
    (h : s.hasher = .exited) : s'.hasher = .exited := by
  cases hs
  case md5_recv_stop => rfl
  all_goals exact h

theorem MainOk.afterStop {p : Params} {s : State} {r : Nat} (hm : s.main = afterStop r) (hr : r ≤ p.W)
    (h : FeedEnd p s) : MainOk p s := by
  rw [MainOk, hm]
  cases r with
  | zero => exact h
  | succ r => exact ⟨Nat.succ_pos r, hr, h⟩

theorem InvC.step_mainOk {p : Params} {s s' : State} {e : Ev} (h : InvC p s) (hs : Step p s e s') :
    MainOk p s' := by
  have h2 := h.mainOk
  have hcl : s.exitedCount ≤ p.W := h.wlen ▸ List.count_le_length
  have hmono : s.exitedCount = p.W → s'.exitedCount = p.W := by
    intro he
    have h1 := hs.exited
    have h2 : s'.exitedCount ≤ s'.workers.length := List.count_le_length
    have h3 := hs.wlen; have h4 := h.wlen
    split at h1 <;> omega
  have hhm := hs.hasher_mono
  rw [MainOk] at h2
  cases hs
  case refill_recv hm _ => rw [hm] at h2; exact h2
  case md5_data hm hnf _ hb _ => rw [hm] at h2; exact ⟨h2, getElem?_some_lt hb, hnf⟩
  case md5_eof hm hnf _ hb he =>
    rw [hm] at h2; exact ⟨h2, he, Nat.le_antisymm h.kle (List.getElem?_eq_none_iff.1 hb), hnf⟩
  case md5_stop hm _ => rw [hm] at h2; exact h2
  case f_filled hm _ => rw [hm] at h2; exact h2
  case f_eof_plain hm hnf hk he =>
    rw [hm] at h2
    exact .afterStop rfl (Nat.le_refl _) ⟨fun h => Bool.noConfusion (h2.symm.trans h), fun _ => ⟨Nat.le_antisymm h.kle hk, hnf⟩⟩
  case f_eof_empty hm =>
    rw [hm] at h2
    exact .afterStop rfl (Nat.le_refl _) ⟨fun h => Bool.noConfusion (h2.1.symm.trans h), fun _ => ⟨h2.2.2.1, h2.2.2.2⟩⟩
  case f_read_err hm hf => exact .afterStop rfl (Nat.le_refl _) ⟨fun _ => hf, fun h => Bool.noConfusion h⟩
  case enc_send_some hm _ => rw [hm] at h2; exact h2.1
  case enc_send_none r hm _ => rw [hm] at h2; exact .afterStop rfl (Nat.le_of_succ_le h2.2.1) h2.2.2
  case joined_hasher hm hh =>
    rw [hm] at h2
    split
    · rename_i hW; exact ⟨h2, hh, Nat.le_antisymm hcl (hW ▸ Nat.zero_le _)⟩
    · rename_i hW; exact ⟨h2, Nat.pos_of_ne_zero hW, hh⟩
  case joined_worker j hm hj =>
    rw [hm] at h2
    split
    · rename_i hW; exact ⟨h2.1, h2.2.2, Nat.le_antisymm hcl (Nat.le_trans hW hj)⟩
    · rename_i hW; exact ⟨h2.1, Nat.lt_of_not_le hW, h2.2.2⟩
  all_goals exact (h.mainOk).mono rfl rfl rfl hhm hmono

theorem InvC.step_nones {p : Params} {s s' : State} {e : Ev} (h : InvC p s) (hs : Step p s e s') :
    s'.encodeQ.count none + s'.exitedCount = s'.main.nonesSent p.W := by
  have h1 := h.nones
  have hex := hs.exited
  cases hs
  case f_eof_plain hm _ _ _ => rw [hm] at h1; rw [afterStop_nonesSent, Nat.sub_self]; exact h1
  case f_eof_empty hm => rw [hm] at h1; rw [afterStop_nonesSent, Nat.sub_self]; exact h1
  case f_read_err hm _ => rw [hm] at h1; rw [afterStop_nonesSent, Nat.sub_self]; exact h1
  case enc_send_none r hm hcap =>
    have h2 := h.mainOk
    rw [MainOk, hm] at h2
    rw [hm] at h1
    rw [afterStop_nonesSent, List.count_append, List.count_singleton_self]
    simp only [MPc.nonesSent, State.exitedCount] at h1 ⊢
    omega
  case enc_send_some hm _ => rw [hm] at h1; rw [List.count_append]; exact h1
  case enc_recv_some hq => rw [hq] at h1; rw [hex]; exact h1
  case enc_recv_none rest _ hq =>
    rw [hq, List.count_cons_self] at h1
    rw [hex, ← h1]
    exact (Nat.add_assoc _ _ _).symm.trans (Nat.add_right_comm _ _ _)
  case joined_hasher hm _ => rw [hm] at h1; split <;> exact h1
  case joined_worker hm _ => rw [hm] at h1; split <;> exact h1
  -- the other steps send or take no stop token; the main pcs they connect have sent the same number
  all_goals first | exact h1 | (rw [‹s.main = _›] at h1; exact h1) | (rw [hex]; exact h1)

theorem InvC.step_shape {p : Params} {s s' : State} {e : Ev} (h : InvC p s) (hs : Step p s e s') :
    NSAN s'.encodeQ := by
  have h1 := h.shape
  have h2 := h.nones
  cases hs
  case enc_send_some id hm hcap =>
    simp only [hm, MPc.nonesSent] at h2
    exact NSAN_append_some id (by omega)
  case enc_send_none r hm hcap => exact NSAN_append_none h1
  case enc_recv_some w id rest hw hq => rw [hq] at h1; exact NSAN_tail h1
  case enc_recv_none w rest hw hq => rw [hq] at h1; exact NSAN_tail h1
  all_goals exact h1

theorem InvC.step_drained {p : Params} {s s' : State} {e : Ev} (h : InvC p s)
    (hs : Step p s e s') : 0 < s'.exitedCount → ∀ x ∈ s'.encodeQ, x = none := by
  have h1 := h.shape
  have h2 := h.nones
  have h3 := h.drained
  have hex := hs.exited
  rw [hex]
  clear hex
  cases hs
  case enc_send_some id hm hcap =>
    simp only [hm, MPc.nonesSent] at h2
    simp only [Ev.isRecvNone]; intro h0; simp at h0; omega
  case enc_send_none r hm hcap =>
    simp only [Ev.isRecvNone]
    intro h0 x hx
    rcases List.mem_append.1 hx with hx | hx
    · exact h3 (by simpa using h0) x hx
    · simpa using hx
  case enc_recv_some w id rest hw hq =>
    simp only [Ev.isRecvNone]
    intro h0
    have := h3 (by simpa using h0) (some id) (by simp [hq])
    simp at this
  case enc_recv_none w rest hw hq =>
    intro _
    rw [hq] at h1
    exact h1
  all_goals exact h3

theorem InvC.step_caps {p : Params} {s s' : State} {e : Ev} (h : InvC p s) (hs : Step p s e s') :
    s'.refillQ.length ≤ p.refillCap ∧ s'.encodeQ.length ≤ p.encodeCap ∧ s'.md5Q.length ≤ md5Cap := by
  have h1 := h.capR; have h2 := h.capE; have h3 := h.capM
  cases hs
  -- a send is guarded by the capacity, a receive takes the head
  case refill_send hcap => exact ⟨length_snoc_le hcap, h2, h3⟩
  case enc_send_some hcap => exact ⟨h1, length_snoc_le hcap, h3⟩
  case enc_send_none hcap => exact ⟨h1, length_snoc_le hcap, h3⟩
  case md5_data hcap _ _ => exact ⟨h1, h2, length_snoc_le hcap⟩
  case md5_eof hcap _ _ => exact ⟨h1, h2, length_snoc_le hcap⟩
  case md5_stop hcap => exact ⟨h1, h2, length_snoc_le hcap⟩
  case refill_recv hq => exact ⟨length_tail_le hq h1, h2, h3⟩
  case enc_recv_some hq => exact ⟨h1, length_tail_le hq h2, h3⟩
  case enc_recv_none hq => exact ⟨h1, length_tail_le hq h2, h3⟩
  case md5_recv_stop hq => exact ⟨h1, h2, length_tail_le hq h3⟩
  case md5_recv_data hq _ => exact ⟨h1, h2, length_tail_le hq h3⟩
  all_goals exact ⟨h1, h2, h3⟩

theorem InvC.step {p : Params} {s s' : State} {e : Ev} (h : InvC p s) (hs : Step p s e s') :
    InvC p s' where
  wlen := hs.wlen.trans h.wlen
  blen := hs.blen.trans h.blen
  kle := h.step_kle hs
  nofail := h.step_nofail hs
  mainOk := h.step_mainOk hs
  nones := h.step_nones hs
  shape := h.step_shape hs
  drained := h.step_drained hs
  capR := (h.step_caps hs).1
  capE := (h.step_caps hs).2.1
  capM := (h.step_caps hs).2.2

end FlacVerif.Par
