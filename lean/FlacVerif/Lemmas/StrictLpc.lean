/-
The encoder's predictors against the exact residuals that a decoder inverts (writer side; no decoder occurs here).
Fixed: the encoder computes iterated wrapping `i32` differences at all positions (`diffs`); for samples of at most 25
bits and order at most 4 nothing wraps, and after dropping the first `k` entries they are the exact fixed-predictor
residual of RFC 9639 (`fixedResidual`). LPC: the exact error at a position (`errE`), the exact LPC residual
`lpcResidual` as the list of them (`lpcResidual_eq`), what decides between the two paths of `compute_error` (`lpcWide`)
and what the flag of its `i64` path reports (`fitsResidual64_iff_residual`); `compute_error` itself is characterised in
`TotalLpc`.
-/
import FlacVerif.Lemmas.Layout
import FlacVerif.Lemmas.Predict
namespace FlacVerif
namespace Strict

/-- Exact first difference continuing from `prev`. -/
def ego (prev : Int) : List Int → List Int
  | [] => []
  | x :: rest => (x - prev) :: ego x rest

/-- Exact iterated differences (all positions). -/
def ediffs : Nat → List Int → List Int
  | 0, xs => xs
  | k + 1, xs => ego 0 (ediffs k xs)

theorem go_exact (B : Int) (hB : 2 * B < 2 ^ 31) (ys : List Int) (prev : Int)
    (hp : -B ≤ prev ∧ prev ≤ B) (hy : ∀ y ∈ ys, -B ≤ y ∧ y ≤ B) :
    diff1.go prev ys = ego prev ys ∧ ∀ z ∈ ego prev ys, -(2 * B) ≤ z ∧ z ≤ 2 * B := by
  induction ys generalizing prev with
  | nil => exact ⟨rfl, fun z hz => by simp [ego] at hz⟩
  | cons y ys ih =>
    have hy0 := hy y (by simp)
    obtain ⟨e1, e2⟩ := ih y hy0 (fun z hz => hy z (by simp [hz]))
    refine ⟨?_, ?_⟩
    · rw [diff1.go, ego, e1, wrap32_id _ (by omega) (by omega)]
    · intro z hz
      simp only [ego, List.mem_cons] at hz
      rcases hz with rfl | hz
      · omega
      · exact e2 z hz

theorem diffs_exact (B : Int) (hB0 : 0 ≤ B) (xs : List Int) (hx : ∀ x ∈ xs, -B ≤ x ∧ x ≤ B) (k : Nat)
    (hk : 2 ^ k * B < 2 ^ 31) :
    diffs k xs = ediffs k xs ∧ ∀ z ∈ ediffs k xs, -(2 ^ k * B) ≤ z ∧ z ≤ 2 ^ k * B := by
  induction k with
  | zero =>
    refine ⟨rfl, ?_⟩
    intro z hz
    have := hx z hz
    simp only [Int.pow_zero, Int.one_mul]
    exact this
  | succ k ih =>
    have hpow : (2 : Int) ^ (k + 1) * B = 2 * (2 ^ k * B) := by rw [Int.pow_succ]; ac_rfl
    rw [hpow] at hk
    have hpos : (0 : Int) ≤ 2 ^ k * B := Int.mul_nonneg (Int.pow_nonneg (by decide)) hB0
    obtain ⟨e1, e2⟩ := ih (by omega)
    obtain ⟨g1, g2⟩ := go_exact (2 ^ k * B) hk (ediffs k xs) 0 (by omega) e2
    refine ⟨?_, ?_⟩
    · rw [diffs, e1, diff1, g1, ediffs]
    · rw [hpow]; exact g2

theorem pred1 (a : Int) (h : List Int) : predict [1] 0 (a :: h) = a := by
  simp [predict]
theorem pred2 (a b : Int) (h : List Int) : predict [2, -1] 0 (b :: a :: h) = 2 * b - a := by
  simp [predict]; omega
theorem pred3 (a b c : Int) (h : List Int) : predict [3, -3, 1] 0 (c :: b :: a :: h) = 3 * c - 3 * b + a := by
  simp [predict]; omega
theorem pred4 (a b c d : Int) (h : List Int) :
    predict [4, -6, 4, -1] 0 (d :: c :: b :: a :: h) = 4 * d - 6 * c + 4 * b - a := by
  simp [predict]; omega

theorem fix0 (ys h : List Int) : residualFrom [] 0 h ys = ys := by
  induction ys generalizing h with
  | nil => rfl
  | cons y ys ih => simp [residualFrom, ih, predict]

/-- `fix1` … `fix4`: `k` nested first differences over the samples after the warm-up are the order-`k` fixed predictor.
The `prev` argument of the `j`-th `ego` is the `(j-1)`-th difference at the last warm-up sample (`d`, `d - c`,
`d - 2c + b`, …), which is what `ediffs` has computed there. -/
theorem fix1 (ys : List Int) (a : Int) (h : List Int) : ego a ys = residualFrom [1] 0 (a :: h) ys := by
  induction ys generalizing a h with
  | nil => rfl
  | cons y ys ih => rw [ego, residualFrom, pred1, ih y (a :: h)]

theorem fix2 (ys : List Int) (a b : Int) (h : List Int) :
    ego (b - a) (ego b ys) = residualFrom [2, -1] 0 (b :: a :: h) ys := by
  induction ys generalizing a b h with
  | nil => rfl
  | cons y ys ih =>
    rw [ego, ego, residualFrom, pred2, ih b y (a :: h)]
    congr 1; omega

theorem fix3 (ys : List Int) (a b c : Int) (h : List Int) :
    ego (c - 2 * b + a) (ego (c - b) (ego c ys)) = residualFrom [3, -3, 1] 0 (c :: b :: a :: h) ys := by
  induction ys generalizing a b c h with
  | nil => rfl
  | cons y ys ih =>
    rw [ego, ego, ego, residualFrom, pred3, ← ih b c y (a :: h)]
    congr 1
    · omega
    · congr 1; omega

theorem fix4 (ys : List Int) (a b c d : Int) (h : List Int) :
    ego (d - 3 * c + 3 * b - a) (ego (d - 2 * c + b) (ego (d - c) (ego d ys))) =
      residualFrom [4, -6, 4, -1] 0 (d :: c :: b :: a :: h) ys := by
  induction ys generalizing a b c d h with
  | nil => rfl
  | cons y ys ih =>
    rw [ego, ego, ego, ego, residualFrom, pred4, ← ih b c d y (a :: h)]
    congr 1
    · omega
    · congr 1
      · omega
      · congr 1; omega

/-- One case per order: the first `k` samples are named, `ediffs` is evaluated on them, and what is left over the
rest is the left side of `fix k`. -/
theorem ediffs_drop (k : Nat) (hk : k ≤ 4) (xs : List Int) (hl : k ≤ xs.length) :
    (ediffs k xs).drop k = fixedResidual k xs := by
  unfold fixedResidual lpcResidual
  rcases k with _ | _ | _ | _ | _ | k
  · simp [ediffs, fixedCoefs, fix0]
  · match xs, hl with
    | a :: ys, _ =>
      simp only [ediffs, ego, fixedCoefs, List.length_cons, List.length_nil, Nat.zero_add, List.drop_succ_cons,
        List.drop_zero, List.take_succ_cons, List.take_zero, List.reverse_cons, List.reverse_nil, List.nil_append]
      rw [fix1 ys a []]
  · match xs, hl with
    | a :: b :: ys, _ =>
      simp only [ediffs, ego, fixedCoefs, List.length_cons, List.length_nil, Nat.zero_add, List.drop_succ_cons,
        List.drop_zero, List.take_succ_cons, List.take_zero, List.reverse_cons, List.reverse_nil, List.nil_append,
        List.cons_append]
      rw [← fix2 ys a b []]
  · match xs, hl with
    | a :: b :: c :: ys, _ =>
      simp only [ediffs, ego, fixedCoefs, List.length_cons, List.length_nil, Nat.zero_add, List.drop_succ_cons,
        List.drop_zero, List.take_succ_cons, List.take_zero, List.reverse_cons, List.reverse_nil, List.nil_append,
        List.cons_append]
      rw [← fix3 ys a b c []]
      congr 1
      omega
  · match xs, hl with
    | a :: b :: c :: d :: ys, _ =>
      simp only [ediffs, ego, fixedCoefs, List.length_cons, List.length_nil, Nat.zero_add, List.drop_succ_cons,
        List.drop_zero, List.take_succ_cons, List.take_zero, List.reverse_cons, List.reverse_nil, List.nil_append,
        List.cons_append]
      rw [← fix4 ys a b c d []]
      congr 1
      · omega
      · congr 1
        omega
  · omega

theorem diffs_fixed (bps : Nat) (hb : 1 ≤ bps ∧ bps ≤ 25) (xs : List Int)
    (hx : ∀ x ∈ xs, SubFrame.inRange bps x = true) (k : Nat) (hk : k ≤ 4) (hl : k ≤ xs.length) :
    (diffs k xs).length = xs.length ∧
    (∀ e ∈ diffs k xs, -(2 ^ 31 : Int) < e ∧ e < (2 ^ 31 : Int)) ∧
    (diffs k xs).drop k = fixedResidual k xs := by
  have hB : ∀ x ∈ xs, -(2 ^ 24 : Int) ≤ x ∧ x ≤ 2 ^ 24 := by
    intro x hxm
    have := (Layout.inRange_iff_nat bps x).1 (hx x hxm)
    have hle : (2 : Nat) ^ (bps - 1) ≤ 2 ^ 24 := Nat.pow_le_pow_right (by decide) (by omega)
    omega
  have hpow : (2 : Int) ^ k ≤ 2 ^ 4 := by
    have : (2 : Nat) ^ k ≤ 2 ^ 4 := Nat.pow_le_pow_right (by decide) hk
    rw [two_pow_cast k]; omega
  have hprod : (2 : Int) ^ k * 2 ^ 24 ≤ 2 ^ 28 := by
    have := Int.mul_le_mul_of_nonneg_right hpow (show (0 : Int) ≤ 2 ^ 24 by decide)
    omega
  obtain ⟨e1, e2⟩ := diffs_exact (2 ^ 24) (by decide) xs hB k (by omega)
  refine ⟨diffs_length k xs, ?_, by rw [e1, ediffs_drop k hk xs hl]⟩
  intro e he
  rw [e1] at he
  have := e2 e he
  omega

/-- The exact accumulator of `compute_error` at position `t`. -/
def accE (coefs xs : List Int) (t : Nat) : Int :=
  (List.range coefs.length).foldl (fun (a : Int) j =>
    if t ≥ j + 1 then a + coefs.getD j 0 * xs.getD (t - 1 - j) 0 else a) 0

def errE (coefs : List Int) (shift : Nat) (xs : List Int) (t : Nat) : Int :=
  xs.getD t 0 - (accE coefs xs t >>> shift)

theorem dot_eq (cs hs : List Int) (a0 : Int) (h : cs.length ≤ hs.length) :
    (List.range cs.length).foldl (fun (a : Int) j => a + cs.getD j 0 * hs.getD j 0) a0 =
      (List.zipWith (· * ·) cs hs).foldl (· + ·) a0 := by
  induction cs generalizing hs a0 with
  | nil => rfl
  | cons c cs ih =>
    match hs, h with
    | x :: hs, h =>
      rw [List.length_cons, List.range_succ_eq_map, List.foldl_cons, List.foldl_map, List.zipWith_cons_cons,
        List.foldl_cons]
      simp only [List.getD_cons_zero, List.getD_cons_succ]
      exact ih hs _ (by simpa using h)

theorem accE_eq (coefs pre suf : List Int) (h : coefs.length ≤ pre.length) :
    accE coefs (pre ++ suf) pre.length = (List.zipWith (· * ·) coefs pre.reverse).foldl (· + ·) 0 := by
  unfold accE
  rw [← dot_eq coefs pre.reverse 0 (by simpa using h)]
  apply foldl_congr_mem
  intro a j hj
  rw [List.mem_range] at hj
  have h1 : pre.length ≥ j + 1 := by omega
  rw [if_pos h1, getD_append_lt _ _ _ (by omega), getD_reverse_lt _ _ (by omega)]

theorem errE_eq (coefs : List Int) (shift : Nat) (pre : List Int) (y : Int) (ys : List Int)
    (h : coefs.length ≤ pre.length) :
    errE coefs shift (pre ++ y :: ys) pre.length = y - predict coefs shift pre.reverse := by
  unfold errE predict
  rw [accE_eq coefs pre (y :: ys) h]
  congr 1
  rw [List.getD_eq_getElem?_getD, List.getElem?_append_right (Nat.le_refl _)]
  simp

theorem residualFrom_eq (coefs : List Int) (shift : Nat) (xs ys pre : List Int)
    (h : coefs.length ≤ pre.length) (hx : xs = pre ++ ys) :
    residualFrom coefs shift pre.reverse ys = (List.range' pre.length ys.length).map (errE coefs shift xs) := by
  induction ys generalizing pre with
  | nil => rfl
  | cons y ys ih =>
    rw [residualFrom, List.length_cons, List.range'_succ, List.map_cons]
    congr 1
    · rw [hx, errE_eq coefs shift pre y ys h]
    · have := ih (pre ++ [y]) (by simp; omega) (by rw [hx]; simp)
      rw [List.reverse_append, List.reverse_singleton, List.singleton_append, List.length_append,
        List.length_singleton] at this
      exact this

theorem lpcResidual_eq (coefs : List Int) (shift : Nat) (xs : List Int) :
    lpcResidual coefs shift xs =
      (List.range' coefs.length (xs.length - coefs.length)).map (errE coefs shift xs) := by
  unfold lpcResidual
  simp only []
  by_cases h : coefs.length ≤ xs.length
  · have := residualFrom_eq coefs shift xs (xs.drop coefs.length) (xs.take coefs.length)
      (by rw [List.length_take]; omega) (List.take_append_drop _ _).symm
    rw [List.length_take, List.length_drop, Nat.min_eq_left h] at this
    exact this
  · have h1 : xs.drop coefs.length = [] := List.drop_of_length_le (by omega)
    have h2 : xs.length - coefs.length = 0 := by omega
    rw [h1, h2]; rfl

/-- `compute_error` takes the `i64` path (instead of the checked `i32` path):
`maxabs(signal) · (Σ|coef| + 1) ≥ i32::MAX`. -/
def lpcWide (coefs xs : List Int) : Prop :=
  ¬ (xs.foldl (fun m x => max m x.natAbs) 0) * ((coefs.foldl (fun s c => s + c.natAbs) 0) + 1) < 2 ^ 31 - 1

instance (coefs xs : List Int) : Decidable (lpcWide coefs xs) := by unfold lpcWide; infer_instance

theorem computeErrorExact64_eq (coefs : List Int) (shift : Nat) (xs : List Int) :
    computeErrorExact64 coefs shift xs =
      (List.range xs.length).map (fun t => if t < coefs.length then 0 else errE coefs shift xs t) := rfl

theorem computeError64_eq (coefs : List Int) (shift : Nat) (xs : List Int) :
    computeError64 coefs shift xs =
      (List.range xs.length).map (fun t => if t < coefs.length then 0 else wrap32 (errE coefs shift xs t)) := rfl

theorem fitsResidual64_iff (coefs : List Int) (shift : Nat) (xs : List Int) :
    fitsResidual64 coefs shift xs = true ↔
      ∀ t, coefs.length ≤ t → t < xs.length → (errE coefs shift xs t).natAbs ≤ 2 ^ 31 - 1 := by
  unfold fitsResidual64
  rw [computeErrorExact64_eq, List.all_eq_true]
  simp only [List.mem_map, List.mem_range, decide_eq_true_eq]
  constructor
  · intro h t h1 h2
    have := h _ ⟨t, h2, rfl⟩
    rwa [if_neg (by omega)] at this
  · rintro h e ⟨t, ht, rfl⟩
    split
    · decide
    · exact h t (by omega) ht

/-- The exact LPC residual lies in `-(2^31-1) ..= 2^31-1` (the range of FLAC residuals) — what the flag
of `compute_error` reports on the `i64` path. -/
theorem fitsResidual64_iff_residual (coefs : List Int) (shift : Nat) (xs : List Int) :
    fitsResidual64 coefs shift xs = true ↔ ∀ e ∈ lpcResidual coefs shift xs, e.natAbs ≤ 2 ^ 31 - 1 := by
  rw [fitsResidual64_iff, lpcResidual_eq]
  simp only [List.mem_map, List.mem_range'_1]
  constructor
  · rintro h e ⟨t, ⟨h1, h2⟩, rfl⟩
    exact h t h1 (by omega)
  · intro h t h1 h2
    exact h _ ⟨t, ⟨h1, by omega⟩, rfl⟩

end Strict
end FlacVerif
