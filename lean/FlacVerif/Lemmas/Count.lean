/-
Sums over ranges (`rsum`) and, with them, the reported size of a residual against the length of its written bits
(C08): the length of one partition, the partitions summed in a uniform form with the warm-up correction on the first,
regrouped with `rsum_blocks` into the sums over quotients and parameters that `Residual.count` adds up.
-/
import FlacVerif.Lemmas.ListFacts
import FlacVerif.Lemmas.Layout
import FlacVerif.Lemmas.WeakWF
namespace FlacVerif.Count

def rsum (m : Nat) (f : Nat → Nat) : Nat := ((List.range m).map f).sum

@[simp] theorem rsum_zero (f : Nat → Nat) : rsum 0 f = 0 := by simp [rsum]

theorem rsum_succ (m : Nat) (f : Nat → Nat) : rsum (m + 1) f = rsum m f + f m := by
  simp [rsum, List.range_succ, List.sum_append]

theorem rsum_congr {m : Nat} {f g : Nat → Nat} (h : ∀ i, i < m → f i = g i) : rsum m f = rsum m g := by
  induction m with
  | zero => simp
  | succ m ih =>
    rw [rsum_succ, rsum_succ, ih (fun i hi => h i (by omega)), h m (by omega)]

theorem rsum_add (a b : Nat) (f : Nat → Nat) :
    rsum (a + b) f = rsum a f + rsum b (fun i => f (a + i)) := by
  induction b with
  | zero => simp
  | succ b ih => rw [← Nat.add_assoc, rsum_succ, rsum_succ, ih]; omega

theorem rsum_add_fn (m : Nat) (f g : Nat → Nat) :
    rsum m (fun i => f i + g i) = rsum m f + rsum m g := by
  induction m with
  | zero => simp
  | succ m ih => rw [rsum_succ, rsum_succ, rsum_succ, ih]; omega

theorem rsum_const (m c : Nat) : rsum m (fun _ => c) = m * c := by
  induction m with
  | zero => simp
  | succ m ih => rw [rsum_succ, ih, Nat.succ_mul]

theorem rsum_eq_zero {m : Nat} {f : Nat → Nat} (h : ∀ i, i < m → f i = 0) : rsum m f = 0 := by
  rw [rsum_congr h, rsum_const]; simp

theorem rsum_ite_zero (K c : Nat) (hK : 0 < K) : rsum K (fun k => if k = 0 then c else 0) = c := by
  obtain ⟨K, rfl⟩ : ∃ K', K = 1 + K' := ⟨K - 1, by omega⟩
  rw [rsum_add, rsum_succ, rsum_zero]
  rw [rsum_eq_zero (fun i _ => by simp)]
  simp

theorem rsum_mul_left (m c : Nat) (f : Nat → Nat) : rsum m (fun i => c * f i) = c * rsum m f := by
  induction m with
  | zero => simp
  | succ m ih => rw [rsum_succ, rsum_succ, ih, Nat.mul_add]

theorem rsum_blocks (K L : Nat) (f : Nat → Nat) :
    rsum (K * L) f = rsum K (fun k => rsum L (fun i => f (k * L + i))) := by
  induction K with
  | zero => simp
  | succ K ih => rw [Nat.succ_mul, rsum_add, rsum_succ, ih]

theorem rsum_getD (l : List Nat) : rsum l.length (fun t => l.getD t 0) = l.sum := by
  have := map_getD_eq_map l 0 id
  simp only [id, List.map_id] at this
  rw [rsum, this]

theorem length_flatMap_range {β : Type} (m : Nat) (f : Nat → List β) :
    ((List.range m).flatMap f).length = rsum m (fun i => (f i).length) := by
  rw [List.length_flatMap, rsum]

theorem partBits_length (r : Residual) (k : Nat) :
    (r.partBits k).length =
      4 + (rsum ((k + 1) * r.partLen - max r.warmup (k * r.partLen))
            (fun i => r.quotients.getD (max r.warmup (k * r.partLen) + i) 0) +
          ((k + 1) * r.partLen - max r.warmup (k * r.partLen)) * (r.params.getD k 0 + 1)) := by
  simp only [Residual.partBits, List.length_append, natToBits_length, length_flatMap_range,
    Layout.sampleBits_length]
  rw [rsum_add_fn, rsum_const]

/-- Uniform form: every partition, with the warm-up correction on partition 0, which pays for the warm-up it does
not code. -/
theorem partBits_length_unif (r : Residual) (k : Nat) (hw : r.warmup ≤ r.partLen)
    (hq : ∀ t, t < r.warmup → r.quotients.getD t 0 = 0) :
    (r.partBits k).length + (if k = 0 then r.warmup * (r.params.getD 0 0 + 1) else 0) =
      4 + (rsum r.partLen (fun i => r.quotients.getD (k * r.partLen + i) 0) +
        r.partLen * (r.params.getD k 0 + 1)) := by
  rw [partBits_length]
  cases k with
  | zero =>
    simp only [Nat.zero_mul, Nat.zero_add, Nat.one_mul, Nat.max_zero, if_true]
    have hsplit : r.partLen = r.warmup + (r.partLen - r.warmup) := by omega
    have h1 : rsum r.partLen (fun i => r.quotients.getD i 0) =
        rsum (r.partLen - r.warmup) (fun i => r.quotients.getD (r.warmup + i) 0) := by
      conv => lhs; rw [hsplit]
      rw [rsum_add, rsum_eq_zero hq]; simp
    have h2 : (r.partLen - r.warmup) * (r.params.getD 0 0 + 1) + r.warmup * (r.params.getD 0 0 + 1) =
        r.partLen * (r.params.getD 0 0 + 1) := by
      rw [← Nat.add_mul, Nat.sub_add_cancel hw]
    rw [h1]; omega
  | succ k =>
    have hle : r.partLen ≤ (k + 1) * r.partLen := Nat.le_mul_of_pos_left _ (by omega)
    have hmax : max r.warmup ((k + 1) * r.partLen) = (k + 1) * r.partLen := by omega
    have hlen : (k + 1 + 1) * r.partLen - (k + 1) * r.partLen = r.partLen := by
      rw [Nat.succ_mul (k + 1)]; omega
    rw [hmax, hlen, if_neg (Nat.succ_ne_zero k), Nat.add_zero]

theorem bits_length_add (r : Residual) (hpl : r.params.length = 2 ^ r.order)
    (hdiv : 2 ^ r.order ∣ r.blockSize) (hw : r.warmup ≤ r.partLen)
    (hql : r.quotients.length = r.blockSize) (hq : ∀ t, t < r.warmup → r.quotients.getD t 0 = 0) :
    r.bits.length + r.warmup * (r.params.getD 0 0 + 1) =
      6 + 4 * 2 ^ r.order + r.quotients.sum + r.partLen * r.params.sum + r.blockSize := by
  have hn := Layout.nparts_mul_partLen r hdiv
  have hK : 0 < 2 ^ r.order := Nat.two_pow_pos _
  simp only [Residual.bits, Residual.nparts, List.length_append, natToBits_length, length_flatMap_range]
  have key : rsum (2 ^ r.order) (fun k => (r.partBits k).length) + r.warmup * (r.params.getD 0 0 + 1) =
      rsum (2 ^ r.order) (fun k => 4 + (rsum r.partLen (fun i => r.quotients.getD (k * r.partLen + i) 0) +
        r.partLen * (r.params.getD k 0 + 1))) := by
    rw [← rsum_congr (fun k _ => partBits_length_unif r k hw hq), rsum_add_fn, rsum_ite_zero _ _ hK]
  have hB : rsum (2 ^ r.order) (fun k => rsum r.partLen (fun i => r.quotients.getD (k * r.partLen + i) 0)) =
      rsum (2 ^ r.order * r.partLen) (fun t => r.quotients.getD t 0) :=
    (rsum_blocks _ _ (fun t => r.quotients.getD t 0)).symm
  rw [rsum_add_fn, rsum_add_fn, rsum_const, hB, hn, rsum_mul_left, rsum_add_fn, rsum_const] at key
  have hQ : rsum r.blockSize (fun t => r.quotients.getD t 0) = r.quotients.sum := by
    rw [← hql, rsum_getD]
  have hP : rsum (2 ^ r.order) (fun t => r.params.getD t 0) = r.params.sum := by
    rw [← hpl, rsum_getD]
  rw [hQ, hP, Nat.mul_one, Nat.mul_add r.partLen, Nat.mul_comm r.partLen (2 ^ r.order), hn] at key
  omega

/-- `Residual.count` returns past its three underflow guards. -/
theorem count_some {r : Residual} {c : Nat} (h : r.count = some c) :
    r.warmup ≤ r.quotients.foldl (· + ·) 0 + r.blockSize ∧ r.params.isEmpty = false ∧
      r.warmup * r.params.getD 0 0 ≤ r.params.foldl (· + ·) 0 * r.partLen ∧
      c = 2 + 4 + r.nparts * 4 + (r.quotients.foldl (· + ·) 0 + r.blockSize - r.warmup) +
        (r.params.foldl (· + ·) 0 * r.partLen - r.warmup * r.params.getD 0 0) := by
  unfold Residual.count at h
  dsimp only at h
  split at h
  · contradiction
  split at h
  · contradiction
  split at h
  · contradiction
  next h1 h2 h3 => exact ⟨Nat.not_lt.1 h1, by simpa using h2, Nat.not_lt.1 h3, (Option.some.inj h).symm⟩

/-- The five clauses of `Residual.WF` that `count = |bits|` really depends on (each is necessary:
see the counterexamples in `Theorems/C08.lean`). -/
theorem residual_count_min (r : Residual) (hpl : r.params.length = 2 ^ r.order)
    (hdiv : 2 ^ r.order ∣ r.blockSize) (hw : r.warmup ≤ r.partLen)
    (hql : r.quotients.length = r.blockSize) (hq : ∀ t, t < r.warmup → r.quotients.getD t 0 = 0) :
    r.count = some r.bits.length := by
  have hb := bits_length_add r hpl hdiv hw hql hq
  have hLn : r.partLen ≤ r.blockSize := by
    rw [← Layout.nparts_mul_partLen r hdiv]; exact Nat.le_mul_of_pos_left _ (Nat.two_pow_pos _)
  have hne : r.params.isEmpty = false :=
    List.isEmpty_eq_false_iff.2 (List.ne_nil_of_length_pos (hpl ▸ Nat.two_pow_pos _))
  have hX : r.warmup * r.params.getD 0 0 ≤ r.params.sum * r.partLen := by
    rw [Nat.mul_comm r.params.sum]
    exact Nat.mul_le_mul hw (getD_zero_le_sum _)
  simp only [Residual.count, ← List.sum_eq_foldl, Residual.nparts, hne]
  rw [if_neg (Nat.not_lt.2 (Nat.le_trans hw (Nat.le_trans hLn (Nat.le_add_left _ _)))), if_neg (by simp),
    if_neg (Nat.not_lt.2 hX)]
  rw [Nat.mul_add, Nat.mul_one, Nat.mul_comm r.partLen] at hb
  congr 1
  -- `omega` is slow to check in the full context
  clear hpl hdiv hql hq hne
  omega

theorem residual_count (r : Residual) (h : r.WF) : r.count = some r.bits.length :=
  residual_count_min r h.params_length h.dvd h.warmup_le h.quotients_length fun t ht => (h.warmup_zero t ht).1

end FlacVerif.Count
