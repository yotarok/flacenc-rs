/-
Helper lemmas for C10, site 3: `MSFRAMEBUF` (`Scratch.msFrameBuf`).
-/
import FlacVerif.Lemmas.ScratchVec
namespace FlacVerif.Scratch

namespace FrameBuf

/-- Invariant of the thread-local stereo buffer: two channels of `size > 0` cells. -/
def Inv (fb : FrameBuf) : Prop := 0 < fb.size ∧ fb.samples.length = 2 * fb.size

theorem channels_of_inv (fb : FrameBuf) (h : fb.Inv) : fb.channels = some 2 := by
  unfold channels
  rw [if_neg (by have := h.1; omega), h.2, Nat.mul_div_cancel _ h.1]

/-- `resize` keeps stale samples and the stale `filled_size`, but re-establishes the invariant. -/
theorem resize_spec (fb : FrameBuf) (h : fb.Inv) (n : Nat) (hn : 0 < n) :
    ∃ fb', fb.resize n = some fb' ∧ fb'.Inv ∧ fb'.size = n := by
  refine ⟨{ fb with size := n, samples := vecResize fb.samples (n * 2) 0 }, ?_, ?_, rfl⟩
  · simp [resize, channels_of_inv fb h]
  · exact ⟨hn, by simp only [vecResize_length]; omega⟩

theorem fill_spec (fb : FrameBuf) (h : fb.Inv) (it : List (Int × Int)) :
    ∃ fb', fb.fillStereoWithIter it = some fb' ∧ fb'.Inv ∧ fb'.size = fb.size ∧
      fb'.filled = (it.take fb.size).length ∧
      fb'.channelSlice 0 = some ((it.take fb.size).map (·.1)) ∧
      fb'.channelSlice 1 = some ((it.take fb.size).map (·.2)) := by
  obtain ⟨hpos, hlen⟩ := h
  generalize hJ : it.take fb.size = J
  have hJl : J.length ≤ fb.size := hJ ▸ List.length_take_le _ _
  generalize hm : fb.samples.take fb.size = m
  generalize hs : fb.samples.drop fb.size = s
  have hml : m.length = fb.size := by rw [← hm, List.length_take, hlen]; omega
  have hsl : s.length = fb.size := by rw [← hs, List.length_drop, hlen]; omega
  have hn : min J.length (min m.length s.length) = J.length := by rw [hml, hsl, Nat.min_self, Nat.min_eq_left hJl]
  have hM : zipOverwrite ((J.take J.length).map (·.1)) m = J.map (·.1) ++ m.drop J.length := by
    rw [List.take_length, zipOverwrite_short _ _ (by rw [List.length_map, hml]; exact hJl), List.length_map]
  have hS : zipOverwrite ((J.take J.length).map (·.2)) s = J.map (·.2) ++ s.drop J.length := by
    rw [List.take_length, zipOverwrite_short _ _ (by rw [List.length_map, hsl]; exact hJl), List.length_map]
  have hMl : (J.map (·.1) ++ m.drop J.length).length = fb.size := by
    rw [List.length_append, List.length_map, List.length_drop, hml, Nat.add_sub_cancel' hJl]
  have hSl : (J.map (·.2) ++ s.drop J.length).length = fb.size := by
    rw [List.length_append, List.length_map, List.length_drop, hsl, Nat.add_sub_cancel' hJl]
  refine ⟨{ fb with
      samples := (J.map (·.1) ++ m.drop J.length) ++ (J.map (·.2) ++ s.drop J.length),
      filled := J.length }, ?_, ?_, rfl, rfl, ?_, ?_⟩
  · unfold fillStereoWithIter
    rw [channels_of_inv fb ⟨hpos, hlen⟩]
    simp only [Option.bind_eq_bind, Option.bind_some, ne_eq, not_true_eq_false, ↓reduceIte, hJ, hm, hs, hn, hM, hS]
  · exact ⟨hpos, by rw [List.length_append, hMl, hSl, Nat.two_mul]⟩
  · unfold channelSlice
    dsimp only
    rw [if_pos (by rw [List.length_append, hMl, hSl]; omega), Nat.zero_mul, List.drop_zero, List.append_assoc,
      List.take_left' (List.length_map _)]
  · unfold channelSlice
    dsimp only
    rw [if_pos (by rw [List.length_append, hMl, hSl]; omega), Nat.one_mul, List.drop_left' hMl,
      List.take_left' (List.length_map _)]

end FrameBuf

end FlacVerif.Scratch
