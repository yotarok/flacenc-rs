/-
The simp set `par_step` (declared in a module of its own, as an attribute must be before it is used); Theorems/C06Gen fills it.
-/
import Lean.Meta.Tactic.Simp.RegisterCommand

/-- Equations of the interpreter of `Model/ParProg.lean` and the list and Boolean facts needed to run it on a
continuation whose first statements are known (`simp only [par_step, ..]`). -/
register_simp_attr par_step
