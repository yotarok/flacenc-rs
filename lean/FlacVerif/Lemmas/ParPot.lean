/-
Termination potential of the protocol model: a natural number that strictly decreases with every
step, from every state (no invariant needed). Hence every run is finite and bounded by the
potential of the initial state.
-/
import FlacVerif.Lemmas.ParStep
import FlacVerif.Lemmas.ParList
namespace FlacVerif.Par

/-- Events the main thread will still do or cause; every event lowers the potential by at least 1 (`f_read_err`, and
`f_eof` when the end-of-input read has sent no md5 block, by more: the events counted for them will not happen).
`N - k` blocks are left, 9 events each: `refill_recv`, `md5_send`, `f_filled`, `encode_send` by the main thread (the
offsets 4, 3, 10, 9 count down through them), `md5_recv` by the hasher (the block sits in `md5Q`), and `encode_recv`,
`w_lock`, `refill_send`, `w_push`/`w_err` by a worker (`qpot (some _) = 4`, then `WPc.pot` 3, 2, 1).
`2 * W + 3 + L` is the potential at the start of `request_stop`: 2 per stop token (send, receive), 3 for the md5 stop
token (send, receive, `m_joined_hasher`), 1 per join. The stop tokens are counted from `W = p.W` (`afterStop p.W`), the
joins from `L = s.workers.length`, the bound on `exitedCount`: no invariant ties the two together here. -/
def MPc.pot (W L N k : Nat) : MPc → Nat
  | .recv => 9 * (N - k) + 4 + (2 * W + 3 + L)
  | .locked _ => 9 * (N - k) + 3 + (2 * W + 3 + L)
  | .eofEmpty _ => 1 + (2 * W + 3 + L)
  | .filledMd5 _ => 9 * (N - (k + 1)) + 10 + (2 * W + 3 + L)
  | .enq _ => 9 * (N - (k + 1)) + 9 + (2 * W + 3 + L)
  | .stop r => 2 * r + 3 + L
  | .reqStop => 3 + L
  | .joinH => 1 + L
  | .joinW j => L - j
  | .done => 0

def WPc.pot : WPc → Nat
  | .idle => 0
  | .got _ => 3
  | .encoded _ _ _ => 2
  | .sent _ _ _ => 1
  | .exited => 0

def qpot : Option Nat → Nat
  | some _ => 4
  | none => 1

def potential (p : Params) (s : State) : Nat :=
  s.main.pot p.W s.workers.length p.blocks.length s.k + (s.workers.map WPc.pot).sum +
    (s.encodeQ.map qpot).sum + s.md5Q.length

theorem afterStop_pot (W L N k r : Nat) : (afterStop r).pot W L N k = 2 * r + 3 + L := by
  cases r <;> simp [afterStop, MPc.pot]

theorem potential_decreases {p : Params} {s s' : State} {e : Ev} (h : Step p s e s') :
    potential p s' < potential p s := by
  cases h
  case refill_recv id rest hm hq => simp [potential, hm, MPc.pot]
  case md5_data id b x hm hnf hcap hb hx =>
    have hk : s.k < p.blocks.length := getElem?_some_lt hb
    simp [potential, hm, MPc.pot]; omega
  case md5_eof id hm hnf hcap hb he => simp [potential, hm, MPc.pot]; omega
  case md5_stop hm hcap => simp [potential, hm, MPc.pot]; omega
  case f_filled id x hm hx => simp [potential, hm, MPc.pot]
  case f_eof_plain id hm hnf hk he =>
    simp only [potential, afterStop_pot, hm]; simp [MPc.pot] <;> omega
  case f_eof_empty id hm => simp only [potential, afterStop_pot, hm]; simp [MPc.pot]
  case f_read_err id hm hf => simp only [potential, afterStop_pot, hm]; simp [MPc.pot] <;> omega
  case enc_send_some id hm hcap => simp [potential, hm, MPc.pot, qpot]; omega
  case enc_send_none r hm hcap =>
    simp only [potential, afterStop_pot, hm]; simp [MPc.pot, qpot]; omega
  case joined_hasher hm hh =>
    simp only [potential, hm]
    split <;> simp [MPc.pot] <;> omega
  case joined_worker j hm hj =>
    have : s.exitedCount ≤ s.workers.length := List.count_le_length
    simp only [potential, hm]
    split <;> simp [MPc.pot] <;> omega
  case enc_recv_some w id rest hw hq =>
    have := sum_map_set WPc.pot s.workers w _ (.got id) hw
    simp only [potential, hq, qpot, WPc.pot, List.map_cons, List.sum_cons, List.length_set] at this ⊢; omega
  case enc_recv_none w rest hw hq =>
    have := sum_map_set WPc.pot s.workers w _ .exited hw
    simp only [potential, hq, qpot, WPc.pot, List.map_cons, List.sum_cons, List.length_set] at this ⊢; omega
  case w_lock w id n x hw hx hn hl =>
    have := sum_map_set WPc.pot s.workers w _ (.encoded id n (enc n x.blk)) hw
    simp only [potential, WPc.pot, List.length_set] at this ⊢; omega
  case refill_send w id n res hw hcap =>
    have := sum_map_set WPc.pot s.workers w _ (.sent id n res) hw
    simp only [potential, WPc.pot, List.length_set] at this ⊢; omega
  case w_push w id n f hw =>
    have := sum_map_set WPc.pot s.workers w _ .idle hw
    simp only [potential, WPc.pot, List.length_set] at this ⊢; omega
  case w_err w id n hw =>
    have := sum_map_set WPc.pot s.workers w _ .idle hw
    simp only [potential, WPc.pot, List.length_set] at this ⊢; omega
  case md5_recv_stop hq => simp only [potential, hq, List.length_cons]; omega
  case md5_recv_data hq _ => simp only [potential, hq, List.length_cons]; omega

theorem run_length_le {p : Params} {s s' : State} {evs : List Ev} (h : run p s evs = some s') :
    potential p s' + evs.length ≤ potential p s := by
  induction evs generalizing s with
  | nil => cases h; exact Nat.le_refl _
  | cons e evs ih =>
    obtain ⟨s1, hstep, h⟩ := run_cons_iff.1 h
    have h1 := ih h
    have h2 := potential_decreases (Step_of_step hstep)
    simp only [List.length_cons]; omega

theorem potential_init (p : Params) :
    potential p (init p) = 9 * p.blocks.length + 3 * p.W + 7 := by
  simp only [potential, init, MPc.pot, WPc.pot, List.map_replicate, List.sum_replicate_nat, List.length_replicate,
    List.map_nil, List.sum_nil, List.length_nil, Nat.mul_zero, Nat.sub_zero]
  omega

end FlacVerif.Par
