/-
A list of `W`-bit words read as one bit string, most significant bit of the first word first. In this reading an
in-memory sink (`W = 64` or `W = 8`) holds the bits written followed by fewer than `W` zeros (`Stores`), and every
sink operation is an equation between lists of bits: the lemmas on the sinks' operations never divide a bit index by
the word width (`stores_iff` is where that reading meets the sinks' own `bitAt`).
-/
import FlacVerif.Model.Sink
import FlacVerif.Lemmas.Bits
namespace FlacVerif

def msbBits {W : Nat} (v : BitVec W) : Bits := natToBits W v.toNat

@[simp] theorem length_msbBits {W : Nat} (v : BitVec W) : (msbBits v).length = W := natToBits_length W _

theorem getElem_msbBits {W : Nat} (v : BitVec W) (j : Nat) (h : j < (msbBits v).length) :
    (msbBits v)[j] = v.getMsbD j := by
  have hj : j < W := by simpa using h
  simp only [msbBits, getElem_natToBits, BitVec.getMsbD, BitVec.getLsbD, hj, decide_true, Bool.true_and]

theorem msbBits_eq {W : Nat} (v : BitVec W) (l : Bits) (hl : l.length = W)
    (h : ∀ j (hj : j < l.length), v.getMsbD j = l[j]) : msbBits v = l := by
  apply List.ext_getElem (by rw [length_msbBits, hl])
  intro j h1 h2
  rw [getElem_msbBits, h j h2]

theorem msbBits_inj {W : Nat} {x y : BitVec W} (h : msbBits x = msbBits y) : x = y :=
  BitVec.eq_of_getMsbD_eq fun i hi => by
    rw [← getElem_msbBits x i (by rwa [length_msbBits]), ← getElem_msbBits y i (by rwa [length_msbBits])]
    exact List.getElem_of_eq h _

theorem msbBits_zero {W : Nat} : msbBits (0 : BitVec W) = List.replicate W false :=
  msbBits_eq _ _ List.length_replicate fun j hj => by simp

theorem msbBits_ofNat (w n : Nat) : msbBits (BitVec.ofNat w n) = natToBits w n := by
  refine msbBits_eq _ _ (natToBits_length w n) fun j hj => ?_
  have hj' : j < w := by simpa using hj
  have h1 : w - 1 - j < w := by omega
  simp only [getElem_natToBits, BitVec.getMsbD, BitVec.getLsbD_ofNat, hj', h1, decide_true, Bool.true_and]

theorem msbBits_or_zipWith {W : Nat} (x y : BitVec W) :
    msbBits (x ||| y) = List.zipWith (· || ·) (msbBits x) (msbBits y) := by
  refine msbBits_eq _ _ (by rw [List.length_zipWith, length_msbBits, length_msbBits, Nat.min_self]) fun j hj => ?_
  rw [BitVec.getMsbD_or, List.getElem_zipWith, getElem_msbBits, getElem_msbBits]

theorem zipWith_or_zeros (l : Bits) : List.zipWith (· || ·) l (List.replicate l.length false) = l := by
  induction l with
  | nil => rfl
  | cons b l ih => rw [List.length_cons, List.replicate_succ, List.zipWith_cons_cons, ih, Bool.or_false]

theorem zipWith_zeros_or (l : Bits) : List.zipWith (· || ·) (List.replicate l.length false) l = l := by
  induction l with
  | nil => rfl
  | cons b l ih => rw [List.length_cons, List.replicate_succ, List.zipWith_cons_cons, ih, Bool.false_or]

theorem msbBits_or {W : Nat} (x y : BitVec W) (a b : Bits) (hx : msbBits x = a ++ List.replicate b.length false)
    (hy : msbBits y = List.replicate a.length false ++ b) : msbBits (x ||| y) = a ++ b := by
  rw [msbBits_or_zipWith, hx, hy, List.zipWith_append List.length_replicate.symm, zipWith_or_zeros, zipWith_zeros_or]

theorem msbBits_ushiftRight {W : Nat} (v : BitVec W) (k : Nat) (hk : k ≤ W) :
    msbBits (v >>> k) = List.replicate k false ++ (msbBits v).take (W - k) := by
  have hlen : (List.replicate k false ++ (msbBits v).take (W - k)).length = W := by
    rw [List.length_append, List.length_replicate, List.length_take, length_msbBits, Nat.min_eq_left (Nat.sub_le W k),
      Nat.add_sub_cancel' hk]
  refine msbBits_eq _ _ hlen fun j hj => ?_
  have hj' : j < W := hlen ▸ hj
  rw [BitVec.getMsbD_ushiftRight, List.getElem_append]
  by_cases h : j < k
  · simp [h, hj']
  · simp only [hj', h, List.length_replicate, decide_true, decide_false, Bool.not_false, Bool.true_and, dif_neg,
      not_false_eq_true, List.getElem_take, getElem_msbBits]

theorem msbBits_shiftLeft {W : Nat} (v : BitVec W) (k : Nat) (hk : k ≤ W) :
    msbBits (v <<< k) = (msbBits v).drop k ++ List.replicate k false := by
  refine msbBits_eq _ _ (by rw [List.length_append, List.length_replicate, List.length_drop, length_msbBits,
    Nat.sub_add_cancel hk]) fun j hj => ?_
  rw [BitVec.getMsbD_shiftLeft, List.getElem_append]
  by_cases h : j < W - k
  · have h' : j < ((msbBits v).drop k).length := by simpa using h
    rw [dif_pos h', List.getElem_drop, getElem_msbBits, Nat.add_comm]
  · have h' : ¬ j < ((msbBits v).drop k).length := by simpa using h
    rw [dif_neg h', List.getElem_replicate, BitVec.getMsbD_of_ge _ _ (by omega)]

theorem msbBits_setWidth {w m : Nat} (v : BitVec w) (h : m ≤ w) : msbBits (v.setWidth m) = (msbBits v).drop (w - m) := by
  refine msbBits_eq _ _ (by rw [List.length_drop, length_msbBits, Nat.sub_sub_self h]) fun j hj => ?_
  rw [BitVec.getMsbD_setWidth, List.getElem_drop, getElem_msbBits, Nat.sub_eq_zero_of_le h, Nat.add_sub_assoc h,
    Nat.add_comm j]
  rfl

/-- The byte OR-ed into a partly filled last byte: the `r` top bits of `v`, right aligned. -/
theorem msbBits_topBits {w : Nat} (v : BitVec w) (r : Nat) (h8 : 8 ≤ w) (hr : r ≤ 8) :
    msbBits ((v >>> (w - r)).setWidth 8) = List.replicate (8 - r) false ++ (msbBits v).take r := by
  rw [msbBits_setWidth _ h8, msbBits_ushiftRight v _ (Nat.sub_le w r),
    List.drop_append_of_le_length (by rw [List.length_replicate]; exact Nat.sub_le_sub_left hr w), List.drop_replicate,
    show w - r - (w - 8) = 8 - r by omega, Nat.sub_sub_self (Nat.le_trans hr h8)]

theorem msbBits_byteAt {w : Nat} (v : BitVec w) (i : Nat) (h : 8 * (i + 1) ≤ w) :
    msbBits ((v >>> (w - 8 * (i + 1))).setWidth 8) = ((msbBits v).drop (8 * i)).take 8 := by
  have h8 : 8 ≤ 8 * (i + 1) := Nat.le_mul_of_pos_right 8 (Nat.succ_pos i)
  rw [msbBits_setWidth _ (Nat.le_trans h8 h), msbBits_ushiftRight v _ (Nat.sub_le w _), List.drop_append,
    List.drop_of_length_le (by rw [List.length_replicate]; exact Nat.sub_le_sub_left h8 w), List.nil_append,
    List.length_replicate, List.drop_take, Nat.sub_sub_self h, show w - 8 - (w - 8 * (i + 1)) = 8 * i by omega,
    Nat.mul_succ, Nat.add_sub_cancel_left]

/-- The byte `write_msbs` of `MemSink<u8>` ends with: eight bits of `v` from position `a` on. -/
theorem msbBits_tailByte {w : Nat} (v : BitVec w) (a : Nat) (h : a + 8 ≤ w) :
    msbBits (((v <<< a) >>> (w - 8)).setWidth 8) = ((msbBits v).drop a).take 8 := by
  have := msbBits_byteAt (v <<< a) 0 (by omega)
  rwa [Nat.mul_zero, List.drop_zero, msbBits_shiftLeft v a (by omega),
    List.take_append_of_le_length (by rw [List.length_drop, length_msbBits]; omega)] at this

/-! ### the operands the sinks are called with -/

theorem validWidth_cases {w : Nat} (h : validWidth w = true) : w = 8 ∨ w = 16 ∨ w = 32 ∨ w = 64 := by
  simp [validWidth] at h; omega

theorem validWidth_facts {w : Nat} (hw : validWidth w = true) : w % 8 = 0 ∧ 8 ≤ w ∧ w ≤ 64 := by
  rcases validWidth_cases hw with rfl | rfl | rfl | rfl <;> decide

theorem toNat_one_shiftLeft {w k : Nat} (hk : k < w) : (1#w <<< k).toNat = 2 ^ k := by
  rw [BitVec.toNat_shiftLeft, BitVec.toNat_ofNat, Nat.shiftLeft_eq, Nat.mod_eq_of_lt (Nat.one_lt_two_pow (by omega)),
    Nat.one_mul, Nat.mod_eq_of_lt (Nat.pow_lt_pow_right (by omega) hk)]

theorem lowMask_eq (w k : Nat) (hk : k < w) : (1#w <<< k) - 1#w = BitVec.ofNat w (2 ^ k - 1) := by
  apply BitVec.eq_of_toNat_eq
  have h1 : 1 < 2 ^ w := Nat.one_lt_two_pow (by omega)
  have hpos : 0 < 2 ^ k := Nat.two_pow_pos k
  rw [BitVec.toNat_sub, toNat_one_shiftLeft hk, BitVec.toNat_ofNat, BitVec.toNat_ofNat, Nat.mod_eq_of_lt h1,
    show 2 ^ w - 1 + 2 ^ k = (2 ^ k - 1) + 2 ^ w by omega, Nat.add_mod_right]

theorem getMsbD_lowMask (w k j : Nat) (hk : k < w) :
    ((1#w <<< k) - 1#w).getMsbD j = (decide (j < w) && decide (w - k ≤ j)) := by
  rw [lowMask_eq w k hk]
  simp only [BitVec.getMsbD, BitVec.getLsbD_ofNat, Nat.testBit_two_pow_sub_one]
  by_cases hj : j < w
  · simp only [hj, decide_true, Bool.true_and]
    by_cases h2 : w - k ≤ j
    · simp [h2]; omega
    · simp [h2]; omega
  · simp [hj]

theorem maskMsbs_bits {w : Nat} (val : BitVec w) (n : Nat) (h1 : 1 ≤ n) (hn : n ≤ w) :
    ∃ m, maskMsbs val n = some m ∧ msbBits m = (msbBits val).take n ++ List.replicate (w - n) false := by
  have hk : w - n < w := Nat.sub_lt (Nat.lt_of_lt_of_le h1 hn) h1
  have htl : ((msbBits val).take n).length = n := by rw [List.length_take, length_msbBits, Nat.min_eq_left hn]
  have hlen : ((msbBits val).take n ++ List.replicate (w - n) false).length = w := by
    rw [List.length_append, htl, List.length_replicate, Nat.add_sub_cancel' hn]
  refine ⟨val &&& ~~~((1#w <<< (w - n)) - 1#w), ?_, ?_⟩
  · simp only [maskMsbs, chkSub, chkShl, hn, hk, if_true, bind, Option.bind]
  · refine msbBits_eq _ _ hlen fun j hj => ?_
    have hj' : j < w := hlen ▸ hj
    rw [BitVec.getMsbD_and, BitVec.getMsbD_not, getMsbD_lowMask w _ j hk, List.getElem_append, Nat.sub_sub_self hn]
    by_cases hjn : j < n
    · have h' : j < ((msbBits val).take n).length := htl.symm ▸ hjn
      simp only [hj', Nat.not_le_of_lt hjn, h', decide_true, decide_false, Bool.and_false, Bool.not_false,
        Bool.and_true, dif_pos, List.getElem_take, getElem_msbBits]
    · have h' : ¬ j < ((msbBits val).take n).length := htl.symm ▸ hjn
      simp only [hj', Nat.le_of_not_lt hjn, h', decide_true, Bool.and_true, Bool.not_true, Bool.and_false,
        dif_neg, not_false_eq_true, List.getElem_replicate]

theorem msbBits_widen {w : Nat} (hw : w ≤ 64) (v : BitVec w) :
    msbBits (WordSink.widen v) = msbBits v ++ List.replicate (64 - w) false := by
  refine msbBits_eq _ _ (by rw [List.length_append, length_msbBits, List.length_replicate, Nat.add_sub_cancel' hw])
    fun j hj => ?_
  rw [WordSink.widen, BitVec.getMsbD_shiftLeft, BitVec.getMsbD_setWidth, List.getElem_append]
  by_cases h : j < w
  · have h' : j < (msbBits v).length := by simpa using h
    simp only [Nat.le_add_left (64 - w) j, show j + (64 - w) + w - 64 = j by omega, h', decide_true,
      Bool.true_and, dif_pos, getElem_msbBits]
  · have h' : ¬ j < (msbBits v).length := by simpa using h
    rw [dif_neg h', List.getElem_replicate, BitVec.getMsbD_of_ge _ _ (by omega), Bool.and_false]

/-- The operand of `write_lsbs`, shifted to the top: the `n` low bits of `v`, then zeros. -/
theorem msbBits_lsbs (w v n : Nat) (hn : n ≤ w) :
    msbBits (BitVec.ofNat w v <<< (w - n)) = natToBits n v ++ List.replicate (w - n) false := by
  rw [msbBits_shiftLeft _ _ (Nat.sub_le w n), msbBits_ofNat, natToBits_drop w n v hn]

/-- `write_twoc` of either sink: the sample is shifted to the top and handed on; a panic outside `1 ≤ n ≤ 64`. -/
theorem twoc_shift {α : Type} (f : BitVec 64 → Option α) (v : Int) (n : Nat) :
    (do let k ← chkSub 64 n; let sh ← chkShl (BitVec.ofInt 64 v) k; f sh) =
      if 1 ≤ n ∧ n ≤ 64 then f (BitVec.ofInt 64 v <<< (64 - n)) else none := by
  by_cases hv : 1 ≤ n ∧ n ≤ 64
  · simp only [chkSub, chkShl, hv.2, show 64 - n < 64 by omega, hv, and_self, if_true, bind, Option.bind]
  · by_cases hn : n ≤ 64
    · simp [chkSub, chkShl, show n = 0 by omega, bind, Option.bind]
    · simp [chkSub, hn, bind, Option.bind]

/-- The operand of `write_twoc`, shifted to the top. -/
theorem msbBits_twoc (v : Int) (n : Nat) (hn : n ≤ 64) :
    msbBits (BitVec.ofInt 64 v <<< (64 - n)) = twoc n v ++ List.replicate (64 - n) false := by
  rw [msbBits_shiftLeft _ _ (Nat.sub_le 64 n), msbBits, BitVec.toNat_ofInt, natToBits_drop 64 n _ hn]
  exact congrArg (· ++ _) (natToBits_emod_eq_twoc v n 64 hn)

def storeBits {W : Nat} (st : List (BitVec W)) : Bits := st.flatMap msbBits

theorem storeBits_append {W : Nat} (a b : List (BitVec W)) : storeBits (a ++ b) = storeBits a ++ storeBits b :=
  List.flatMap_append

theorem storeBits_singleton {W : Nat} (v : BitVec W) : storeBits [v] = msbBits v := by
  simp only [storeBits, List.flatMap_cons, List.flatMap_nil, List.append_nil]

theorem length_storeBits {W : Nat} (st : List (BitVec W)) : (storeBits st).length = W * st.length := by
  induction st with
  | nil => rfl
  | cons v st ih =>
    rw [← List.singleton_append, storeBits_append, List.length_append, ih, storeBits_singleton, length_msbBits,
      List.length_append, List.length_singleton, Nat.mul_add, Nat.mul_one]

theorem storeBits_replicate_zero {W : Nat} (n : Nat) :
    storeBits (List.replicate n (0 : BitVec W)) = List.replicate (W * n) false := by
  induction n with
  | zero => rfl
  | succ n ih =>
    rw [List.replicate_succ, ← List.singleton_append, storeBits_append, ih, storeBits_singleton, msbBits_zero,
      List.replicate_append_replicate, Nat.mul_succ, Nat.add_comm]

/-- The first `k` bytes of `v` (`to_be_bytes` order) hold its first `8 k` bits. -/
theorem storeBits_bytes {w : Nat} (v : BitVec w) (k : Nat) (hk : 8 * k ≤ w) :
    storeBits ((List.range k).map fun i => (v >>> (w - 8 * (i + 1))).setWidth 8) = (msbBits v).take (8 * k) := by
  induction k with
  | zero => rfl
  | succ k ih =>
    rw [List.range_succ, List.map_append, storeBits_append, ih (by omega), List.map_singleton, storeBits_singleton,
      msbBits_byteAt v k hk, Nat.mul_succ, List.take_add]

theorem storeBits_ofNat8 (bs : List Nat) : storeBits (bs.map (BitVec.ofNat 8)) = bytesToBits bs := by
  induction bs with
  | nil => rfl
  | cons b bs ih =>
    rw [List.map_cons, ← List.singleton_append, storeBits_append, storeBits_singleton, msbBits_ofNat, ih]
    rfl

theorem map_toNat_ofNat8 (bs : List Nat) (h : ∀ b ∈ bs, b < 256) : (bs.map (BitVec.ofNat 8)).map BitVec.toNat = bs := by
  induction bs with
  | nil => rfl
  | cons b bs ih =>
    rw [List.map_cons, List.map_cons, ih (fun x hx => h x (List.mem_cons_of_mem _ hx)), BitVec.toNat_ofNat,
      Nat.mod_eq_of_lt (h b List.mem_cons_self)]

theorem bytesToBits_toNat (st : List (BitVec 8)) : bytesToBits (st.map BitVec.toNat) = storeBits st :=
  List.flatMap_map _ _ st

theorem getD_storeBits {W : Nat} (hW : 0 < W) (st : List (BitVec W)) (i : Nat) :
    (storeBits st).getD i false = (st[i / W]?.getD 0).getMsbD (i % W) := by
  induction st generalizing i with
  | nil => simp [storeBits]
  | cons v st ih =>
    rw [← List.singleton_append, storeBits_append, storeBits_singleton, List.getD_eq_getElem?_getD]
    by_cases h : i < W
    · rw [List.getElem?_append_left (by simpa using h), List.getElem?_eq_getElem (by simpa using h), getElem_msbBits,
        Nat.div_eq_of_lt h, Nat.mod_eq_of_lt h]
      rfl
    · obtain ⟨j, rfl⟩ : ∃ j, i = j + W := ⟨i - W, by omega⟩
      rw [List.getElem?_append_right (by simp), length_msbBits, Nat.add_sub_cancel, ← List.getD_eq_getElem?_getD, ih,
        Nat.add_div_right j hW, Nat.add_mod_right]
      rfl

theorem getElem?_bytesToBits (bs : List Nat) (i : Nat) (hi : i < 8 * bs.length) :
    (bytesToBits bs)[i]? = some ((bs.getD (i / 8) 0).testBit (7 - i % 8)) := by
  have hq : i / 8 < bs.length := by omega
  have hl : i < (bytesToBits bs).length := by rwa [← storeBits_ofNat8, length_storeBits, List.length_map]
  have h := getD_storeBits (W := 8) (by decide) (bs.map (BitVec.ofNat 8)) i
  rw [storeBits_ofNat8, List.getD_eq_getElem?_getD, List.getElem?_eq_getElem hl,
    List.getElem?_map, List.getElem?_eq_getElem hq] at h
  rw [List.getElem?_eq_getElem hl, List.getD_eq_getElem?_getD,
    List.getElem?_eq_getElem hq]
  simpa only [BitVec.getMsbD, BitVec.getLsbD_ofNat, show i % 8 < 8 by omega, show 8 - 1 - i % 8 < 8 by omega,
    decide_true, Bool.true_and, Option.map_some, Option.getD_some, Option.some.injEq] using h

/-- `st` holds the `len` bits `bits`: read as one bit string it is `bits` followed by fewer than `W` zeros. -/
structure Stores {W : Nat} (st : List (BitVec W)) (len : Nat) (bits : Bits) : Prop where
  len : len = bits.length
  pad : ∃ k, k < W ∧ storeBits st = bits ++ List.replicate k false

theorem length_of_storeBits_eq {W : Nat} {st : List (BitVec W)} {bits : Bits} {k : Nat}
    (h : storeBits st = bits ++ List.replicate k false) : W * st.length = bits.length + k := by
  rw [← length_storeBits, h, List.length_append, List.length_replicate]

theorem Stores.length_eq {W : Nat} {st : List (BitVec W)} {len : Nat} {bits : Bits} (hs : Stores st len bits) :
    ∃ k, k < W ∧ storeBits st = bits ++ List.replicate k false ∧ W * st.length = bits.length + k :=
  let ⟨k, hk, hst⟩ := hs.pad
  ⟨k, hk, hst, length_of_storeBits_eq hst⟩

/-- `Stores` in the terms the sinks' invariants and abstraction functions are written in: the right number of
words, zeros from bit `len` on, and `bits` below. -/
theorem stores_iff {W : Nat} (hW : 0 < W) (st : List (BitVec W)) (len : Nat) (bits : Bits) :
    Stores st len bits ↔
      (st.length = (len + (W - 1)) / W ∧ ∀ i, len ≤ i → (st[i / W]?.getD 0).getMsbD (i % W) = false) ∧
      (List.range len).map (fun i => (st[i / W]?.getD 0).getMsbD (i % W)) = bits := by
  constructor
  · intro hs
    have hl := hs.len
    obtain ⟨k, hk, hst, hlen⟩ := hs.length_eq
    rw [← hl] at hlen
    refine ⟨⟨?_, fun i hi => ?_⟩, ?_⟩
    · have e : len + (W - 1) = W * st.length + (W - 1 - k) := by omega
      rw [e, Nat.mul_add_div hW, Nat.div_eq_of_lt (by omega), Nat.add_zero]
    · rw [← getD_storeBits hW, hst, List.getD_eq_getElem?_getD, List.getElem?_append_right (by omega)]
      cases h : (List.replicate k false)[i - bits.length]? with
      | none => rfl
      | some b => rw [List.getElem?_eq_some_iff] at h; obtain ⟨_, rfl⟩ := h; simp
    · apply List.ext_getElem (by simp [hl])
      intro i h1 h2
      rw [List.getElem_map, List.getElem_range, ← getD_storeBits hW, hst, List.getD_eq_getElem?_getD,
        List.getElem?_append_left h2, List.getElem?_eq_getElem h2]
      rfl
  · rintro ⟨⟨hsz, htail⟩, habs⟩
    have hl : len = bits.length := by rw [← habs, List.length_map, List.length_range]
    have h1 : W * st.length ≤ len + (W - 1) := by rw [hsz]; exact Nat.mul_div_le _ _
    have h2 : len + (W - 1) < W * (st.length + 1) := by rw [hsz]; exact Nat.lt_mul_div_succ _ hW
    rw [Nat.mul_succ] at h2
    refine ⟨hl, W * st.length - len, by omega, ?_⟩
    apply List.ext_getElem (by rw [length_storeBits, List.length_append, List.length_replicate]; omega)
    intro i h3 h4
    have hb : (storeBits st)[i] = (st[i / W]?.getD 0).getMsbD (i % W) := by
      rw [← getD_storeBits hW, List.getD_eq_getElem?_getD, List.getElem?_eq_getElem h3]; rfl
    rw [hb, List.getElem_append]
    by_cases hi : i < bits.length
    · rw [dif_pos hi]
      simp only [← habs, List.getElem_map, List.getElem_range]
    · rw [dif_neg hi, List.getElem_replicate, htail i (by omega)]

theorem modify_last_concat {α : Type} (init : List α) (last : α) (f : α → α) :
    (init ++ [last]).modify ((init ++ [last]).length - 1) f = init ++ [f last] := by
  rw [List.length_append, List.length_singleton, Nat.add_sub_cancel, List.modify_eq_take_drop, List.take_left' rfl,
    List.drop_left' rfl]
  rfl

/-- OR-ing into a partly filled last word a word that holds zeros up to the `k` unused bits and `t` there. -/
theorem storeBits_orLast {W : Nat} (st : List (BitVec W)) (bits t : Bits) (k : Nat) (ht : t.length = k) (hk0 : 0 < k)
    (hst : storeBits st = bits ++ List.replicate k false) (b : BitVec W)
    (hb : msbBits b = List.replicate (W - k) false ++ t) :
    storeBits (st.modify (st.length - 1) (· ||| b)) = bits ++ t := by
  have hlen := length_of_storeBits_eq hst
  have hkW : k ≤ W := by
    have := congrArg List.length hb
    rw [length_msbBits, List.length_append, List.length_replicate, ht] at this; omega
  rcases List.eq_nil_or_concat st with rfl | ⟨init, last, rfl⟩
  · rw [List.length_nil] at hlen; omega
  · rw [List.concat_eq_append] at hst ⊢
    rw [storeBits_append, storeBits_singleton] at hst
    rw [modify_last_concat, storeBits_append, storeBits_singleton]
    -- the last word is the end of `bits` followed by the `k` zeros
    rw [← List.take_append_drop (W - k) (msbBits last), ← List.append_assoc] at hst
    obtain ⟨h1, h2⟩ := List.append_inj' hst (by rw [List.length_drop, length_msbBits, List.length_replicate]; omega)
    have hlast : msbBits last = (msbBits last).take (W - k) ++ List.replicate t.length false := by
      rw [ht, ← h2, List.take_append_drop]
    rw [msbBits_or last b _ t hlast (by rw [List.length_take, length_msbBits, Nat.min_eq_left (Nat.sub_le W k)]; exact hb),
      ← List.append_assoc, h1]

theorem foldlM_stores {W : Nat} {σ : Type} (step : σ → Op → Option σ) (storage : σ → List (BitVec W)) (len : σ → Nat)
    (hstep : ∀ s bits, Stores (storage s) (len s) bits → ∀ op, op.Valid →
      ∃ s', step s op = some s' ∧ Stores (storage s') (len s') (bits ++ op.ideal (len s)))
    (s : σ) (bits : Bits) (hs : Stores (storage s) (len s) bits) (ops : List Op) (hv : ∀ op ∈ ops, op.Valid) :
    ∃ s', ops.foldlM step s = some s' ∧ Stores (storage s') (len s') (bits ++ idealRun (len s) ops) := by
  induction ops generalizing s bits with
  | nil => exact ⟨s, rfl, by rwa [idealRun, List.append_nil]⟩
  | cons op ops ih =>
    obtain ⟨s1, h1, r1⟩ := hstep s bits hs op (hv op List.mem_cons_self)
    obtain ⟨s2, h2, r2⟩ := ih s1 _ r1 (fun o ho => hv o (List.mem_cons_of_mem _ ho))
    refine ⟨s2, by rw [List.foldlM_cons, h1]; exact h2, ?_⟩
    rwa [r1.len, List.length_append, ← hs.len, List.append_assoc] at r2

end FlacVerif
