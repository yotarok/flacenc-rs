/-
The prelude of the generated code (`Gen/Decode.lean`: checked `u`-arithmetic, signed wrapping and conversion, slices,
`setAt`, ranges (`rangeL`) and `enumFrom`, `loopM`) through the equations the proofs about generated functions use
instead of unfolding it.
-/
import FlacVerif.Gen.Decode
import FlacVerif.Lemmas.Loop
import FlacVerif.Lemmas.Bits
namespace FlacVerif.Gen.Decode

theorem addU_ok (dbg : Bool) (w a b : Nat) (h : a + b < 2 ^ w) : addU dbg w a b = some (a + b) := if_pos h

theorem subU_ok (dbg : Bool) (w a b : Nat) (h : b ≤ a) : subU dbg w a b = some (a - b) := if_pos h

theorem mulU_ok (dbg : Bool) (w a b : Nat) (h : a * b < 2 ^ w) : mulU dbg w a b = some (a * b) := if_pos h

theorem shAmt_ok (dbg : Bool) (w k : Nat) (h : k < w) : shAmt dbg w k = some k := if_pos h

theorem divU_ok (a b : Nat) (h : b ≠ 0) : divU a b = some (a / b) := if_neg h

theorem arithS_ok (dbg : Bool) (w : Nat) (v : Int) (h : -(2 ^ (w - 1) : Int) ≤ v ∧ v < (2 ^ (w - 1) : Int)) :
    arithS dbg w v = some v :=
  if_pos h

theorem req_ok (c : Bool) (h : c = true) : req c = some () := if_pos h

theorem req_false (c : Bool) (h : c = false) : req c = none :=
  if_neg (by simp [h])

theorem addU_lt (dbg : Bool) (w a b v : Nat) (h : addU dbg w a b = some v) : v < 2 ^ w := by
  unfold addU at h
  split at h
  · cases h; assumption
  · split at h
    · cases h
    · cases h
      exact Nat.mod_lt _ (Nat.pow_pos (by decide))

theorem subU_wrap (w a b : Nat) (h : a < b) (hb : b < 2 ^ w) : subU false w a b = some (2 ^ w + a - b) := by
  unfold subU
  rw [if_neg (by omega), Nat.mod_eq_of_lt (a := a) (by omega), Nat.mod_eq_of_lt hb, Nat.mod_eq_of_lt (by omega)]
  rfl

theorem shlU_one (w k : Nat) (h : k < w) : shlU w 1 k = 2 ^ k := by
  unfold shlU
  rw [Nat.one_mul, Nat.mod_eq_of_lt (Nat.pow_lt_pow_right (by decide) h)]

theorem shrS_one (x : Int) : shrS x 1 = x / 2 := by
  rw [shrS, Int.pow_one]

theorem wrapS_eq_bmod (w : Nat) (hw : 0 < w) (v : Int) : wrapS w v = Int.bmod v (2 ^ w) :=
  (bmod_two_pow_def w hw v).symm

theorem wrapS_of_inRange (w : Nat) (hw : 0 < w) {v : Int} (h : -(2 ^ (w - 1) : Int) ≤ v ∧ v < (2 ^ (w - 1) : Int)) :
    wrapS w v = v :=
  (wrapS_eq_bmod w hw v).trans (bmod_of_fits w hw h)

theorem wrapS_add_wrapS (w : Nat) (hw : 0 < w) (a b : Int) : wrapS w (a + wrapS w b) = wrapS w (a + b) := by
  simp only [wrapS_eq_bmod w hw]; exact Int.add_bmod_bmod

theorem arithS_release (w : Nat) (hw : 0 < w) (v : Int) : arithS false w v = some (wrapS w v) := by
  unfold arithS
  split
  · next h => rw [wrapS_of_inRange w hw h]
  · rfl

theorem castU_of_nonneg {w : Nat} {v : Int} (h0 : 0 ≤ v) (h : v < 2 ^ w) : castU w v = v.toNat := by
  unfold castU
  rw [Int.emod_eq_of_lt h0 h]

theorem castU_of_neg {w : Nat} {v : Int} (h0 : v < 0) (h : -(2 ^ w : Int) ≤ v) : castU w v = (v + 2 ^ w).toNat := by
  unfold castU
  rw [← Int.add_emod_right, Int.emod_eq_of_lt (by omega) (by omega)]

/-- `x as uN % m` for `m ∣ 2^N`: the masked shift amount of the release profile (`m = 64`) and `& 1` (`m = 2`). -/
theorem castU_mod (w : Nat) (m : Nat) (v : Int) (hm : (m : Int) ∣ 2 ^ w) : castU w v % m = (v % m).toNat := by
  unfold castU
  rw [← Int.emod_emod_of_dvd v hm, Int.toNat_emod (Int.emod_nonneg _ (Int.pow_ne_zero (by decide))) (Int.natCast_nonneg m)]
  rfl

theorem andS_one (s : Int) : andS 32 s 1 = s % 2 := by
  unfold andS
  rw [show castU 32 1 = 1 from rfl, Nat.and_one_is_mod, castU_mod 32 2 s (by decide),
    Int.toNat_of_nonneg (Int.emod_nonneg _ (by decide))]
  exact wrapS_of_inRange 32 (by decide) (by omega)

theorem sliceR_ok {α : Type} (xs : List α) (a b : Nat) (h : a ≤ b ∧ b ≤ xs.length) :
    sliceR xs a b = some ((xs.take b).drop a) :=
  if_pos h

theorem sliceR_prefix {α : Type} (l r : List α) : sliceR (l ++ r) 0 l.length = some l := by
  rw [sliceR_ok _ _ _ (by simp), List.take_left', List.drop_zero]
  rfl

theorem sliceFill_ok {α : Type} (xs : List α) (a b : Nat) (v : α) (h : a ≤ b ∧ b ≤ xs.length) :
    sliceFill xs a b v = some (xs.take a ++ List.replicate (b - a) v ++ xs.drop b) :=
  if_pos h

theorem sliceCopy_ok {α : Type} (xs : List α) (a b : Nat) (src : List α)
    (h : a ≤ b ∧ b ≤ xs.length ∧ src.length = b - a) : sliceCopy xs a b src = some (xs.take a ++ src ++ xs.drop b) :=
  if_pos h

theorem setAt_ok {α : Type} (xs : List α) (i : Nat) (v : α) (h : i < xs.length) : setAt xs i v = some (xs.set i v) :=
  if_pos h

theorem setAt_none {α : Type} (d : List α) (t : Nat) (x : α) (h : ¬ t < d.length) : setAt d t x = none :=
  if_neg h

theorem setAt_zero {α : Type} (a b : α) (l : List α) : setAt (a :: l) 0 b = some (b :: l) := rfl

theorem setAt_one {α : Type} (a a' b : α) (l : List α) : setAt (a :: a' :: l) 1 b = some (a :: b :: l) := rfl

theorem setAt_append {α : Type} (pre : List α) (r : α) (rest : List α) (v : α) :
    setAt (pre ++ r :: rest) pre.length v = some (pre ++ v :: rest) := by
  unfold setAt
  simp

/-- a write at the boundary between the part of a buffer already rewritten (`pre`) and the rest of its old content -/
theorem setAt_boundary {α : Type} (pre l : List α) (i : Nat) (v : α) (hp : pre.length = i) (hi : i < l.length) :
    setAt (pre ++ l.drop i) i v = some (pre ++ [v] ++ l.drop (i + 1)) := by
  subst hp
  rw [List.drop_eq_getElem_cons hi, setAt_append, List.append_assoc]
  rfl

theorem getElem?_boundary {α : Type} (pre l : List α) (i k : Nat) (hp : pre.length = i) (hk : i ≤ k) :
    (pre ++ l.drop i)[k]? = l[k]? := by
  rw [List.getElem?_append_right (by omega), List.getElem?_drop, hp]
  congr 1; omega

theorem rangeL_zero (n : Nat) : rangeL 0 n = List.range' 0 n := by
  unfold rangeL; rw [Nat.sub_zero]

theorem enumFrom_nil {α : Type} (i : Nat) : enumFrom i ([] : List α) = [] := by
  unfold enumFrom; rfl

theorem enumFrom_cons {α : Type} (i : Nat) (x : α) (xs : List α) : enumFrom i (x :: xs) = (i, x) :: enumFrom (i + 1) xs := rfl

theorem length_enumFrom {α : Type} (s : Nat) (l : List α) : (enumFrom s l).length = l.length := by
  induction l generalizing s with
  | nil => rfl
  | cons x xs ih => rw [enumFrom_cons, List.length_cons, ih, List.length_cons]

theorem getElem_enumFrom {α : Type} (s : Nat) (l : List α) (i : Nat) (h : i < (enumFrom s l).length) :
    (enumFrom s l)[i] = (s + i, l[i]'(length_enumFrom s l ▸ h)) := by
  induction l generalizing s i with
  | nil => exact absurd h (Nat.not_lt_zero _)
  | cons x xs ih =>
    cases i with
    | zero => rfl
    | succ i =>
      simp only [enumFrom_cons, List.getElem_cons_succ]
      rw [ih (s + 1) i]
      congr 1; omega

theorem loopM_nil {α σ : Type} (s : σ) (f : α → σ → Option σ) : loopM [] s f = some s := rfl

theorem loopM_cons {α σ : Type} (x : α) (xs : List α) (s : σ) (f : α → σ → Option σ) :
    loopM (x :: xs) s f = (f x s).bind fun s' => loopM xs s' f := rfl

theorem loopM_eq_loop {α σ : Type} (xs : List α) (s : σ) (f : α → σ → Option σ) : loopM xs s f = Prelude.loop xs s f :=
  Prelude.eq_loop loopM loopM_nil loopM_cons xs s f

end FlacVerif.Gen.Decode
