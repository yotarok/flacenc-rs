/-
No panic site of the functional encoder is reachable (C07): `encode_frame` (per-channel loop, the
stereo trial with its two extra sub-frames, the frame header), for a log of the shape it consumes (`FrameLogOk`: a
`SubLogOk` stretch per channel, `ChansLogOk`, then, with two channels, the same for mid and side; `frameTake` events
in all).
-/
import FlacVerif.Lemmas.TotalSubframe
import FlacVerif.Lemmas.EncodeFrameShape
namespace FlacVerif
namespace Total
open Strict

/-- The log supplies, in order, what the per-channel loop asks for. -/
def ChansLogOk (cfg : SubCfg) : List (List Int) → List OEvent → Prop
  | [], _ => True
  | c :: cs, log => SubLogOk cfg c log ∧ ChansLogOk cfg cs (log.drop (subTake cfg c))

/-- Number of oracle events the per-channel loop consumes. -/
def chansTake (cfg : SubCfg) : List (List Int) → Nat
  | [] => 0
  | c :: cs => subTake cfg c + chansTake cfg cs

/-- The two extra channels of the stereo trial (none unless there are exactly two channels). -/
def msOf : List (List Int) → List (List Int)
  | [l, r] => [midOf l r, sideOf l r]
  | _ => []

/-- Number of oracle events `encode_frame` consumes. -/
def frameTake (cfg : SubCfg) (chans : List (List Int)) : Nat :=
  chansTake cfg chans + chansTake cfg (msOf chans)

/-- The log supplies what `encode_frame` asks for: the channels, then (stereo) mid and side. -/
def FrameLogOk (cfg : SubCfg) (chans : List (List Int)) (log : List OEvent) : Prop :=
  ChansLogOk cfg chans log ∧ ChansLogOk cfg (msOf chans) (log.drop (chansTake cfg chans))

instance decChansLogOk (cfg : SubCfg) : (chans : List (List Int)) → (log : List OEvent) → Decidable (ChansLogOk cfg chans log)
  | [], _ => isTrue trivial
  | c :: cs, log => @instDecidableAnd _ _ _ (decChansLogOk cfg cs (log.drop (subTake cfg c)))

instance (cfg : SubCfg) (chans : List (List Int)) (log : List OEvent) : Decidable (FrameLogOk cfg chans log) := by
  unfold FrameLogOk
  infer_instance

theorem encodeChannels_total (cfg : SubCfg) (asg : ChannelAssignment) (bps n : Nat) (hn : n < 2 ^ 16) :
    ∀ (chans : List (List Int)) (ch : Nat) (log : List OEvent),
      (∀ c ∈ chans, c.length = n) →
      (∀ i (h : i < chans.length), 1 ≤ bps + asg.bpsOffset (ch + i) ∧ bps + asg.bpsOffset (ch + i) ≤ 25 ∧
        ∀ x ∈ chans[i], SubFrame.inRange (bps + asg.bpsOffset (ch + i)) x = true) →
      (∀ e ∈ log, e.Ok) → ChansLogOk cfg chans log →
      ∃ subs, encodeChannels cfg asg bps chans ch log = some (subs, log.drop (chansTake cfg chans)) ∧
        subs.length = chans.length := by
  intro chans
  induction chans with
  | nil => intro ch log _ _ _ _; exact ⟨[], rfl, rfl⟩
  | cons c cs ih =>
    intro ch log hlen hrng hok hshape
    obtain ⟨hs1, hs2⟩ := hshape
    obtain ⟨hb1, hb25, hx⟩ := hrng 0 (by simp)
    simp only [Nat.add_zero, List.getElem_cons_zero] at hb1 hb25 hx
    obtain ⟨s, hs⟩ := encodeSubframe_total cfg c _ log (by rw [hlen c (by simp)]; exact hn) ⟨hb1, hb25⟩ hx hok hs1
    obtain ⟨ss, hss, hl⟩ := ih (ch + 1) (log.drop (subTake cfg c)) (fun x hx => hlen x (by simp [hx]))
      (fun i hi => by
        have := hrng (i + 1) (by simp; omega)
        simp only [List.getElem_cons_succ] at this
        rw [show ch + (i + 1) = ch + 1 + i by omega] at this
        exact this)
      (fun e he => hok e (List.mem_of_mem_drop he)) hs2
    refine ⟨s :: ss, ?_, by simp [hl]⟩
    simp only [encodeChannels, hs, hss, Option.bind_eq_bind, Option.bind_some, List.drop_drop, chansTake]

theorem headerFor_isSome (asg : ChannelAssignment) (n bps rate number : Nat) (hn : 1 ≤ n) :
    ∃ h, headerFor asg n bps rate number = some h := by
  obtain ⟨bss, hb⟩ := BlockSizeSpec.fromSize_some n hn
  unfold headerFor
  simp only [hb, Option.bind_eq_bind, Option.bind_some]
  exact ⟨_, rfl⟩

/-- **`encode_frame` hits no panic site** on a log of the shape it consumes. Plan: the per-channel loop returns
(`encodeChannels_total`); with two channels the second loop runs on mid and side, whose widths come from
`FrameForm.facts`; the header exists because `n ≥ 1` (`headerFor_isSome`). `encodeFrame` matches on `chans` and the
loop's result together, so the case split takes along every hypothesis that mentions them. -/
theorem encodeFrame_total (cfg : SubCfg) (st : StereoCfg) (chans : List (List Int)) (bps rate number n : Nat)
    (log : List OEvent)
    (hch : 1 ≤ chans.length) (hlen : ∀ c ∈ chans, c.length = n) (hn : 1 ≤ n ∧ n < 2 ^ 16)
    (hb : 1 ≤ bps ∧ bps ≤ 24) (hx : ∀ c ∈ chans, ∀ x ∈ c, SubFrame.inRange bps x = true)
    (hok : ∀ e ∈ log, e.Ok) (hshape : FrameLogOk cfg chans log) :
    ∃ f, encodeFrame cfg st chans bps rate number log = some (f, log.drop (frameTake cfg chans)) := by
  have hhead := headD_length hch hlen
  obtain ⟨hs1, hs2⟩ := hshape
  obtain ⟨indep, hi, hil⟩ := encodeChannels_total cfg (.independent chans.length) bps n hn.2 chans 0 log hlen
    (fun i hi' => ⟨by simp [ChannelAssignment.bpsOffset]; omega, by simp [ChannelAssignment.bpsOffset]; omega,
      by simpa [ChannelAssignment.bpsOffset] using hx _ (List.getElem_mem hi')⟩) hok hs1
  unfold encodeFrame
  simp only [hi, Option.bind_some, hhead]
  match chans, indep, hil, hlen, hx, hs1, hs2, hi with
  | [l, r], [sl, sr], _, hlen, hx, _, hs2, _ =>
    obtain ⟨_, _, _, hms⟩ := (FrameForm.mid l r rfl).facts bps n ⟨by simp, by simp⟩ hlen hb hx
    obtain ⟨msSubs, hm, hml⟩ := encodeChannels_total cfg .midSide bps n hn.2
      [midOf l r, sideOf l r] 0 (log.drop (chansTake cfg [l, r]))
      (fun c hc => by
        obtain ⟨i, hi, rfl⟩ := List.getElem_of_mem hc
        exact (hms i hi).1)
      (fun i hi => by simpa [and_assoc] using (hms i hi).2)
      (fun e he => hok e (List.mem_of_mem_drop he)) hs2
    match msSubs, hml, hm with
    | [sm, ss], _, hm =>
      obtain ⟨h, hh⟩ := headerFor_isSome (chooseStereo st (cnt sl) (cnt sr) (cnt sm) (cnt ss)) n bps rate number hn.1
      simp only [hm, Option.bind_some, hh, Option.map_some, frameTake, msOf, List.drop_drop]
      exact ⟨_, rfl⟩
  | [], _, _, _, _, _, _, _ => simp at hch
  | [c], indep, _, _, _, _, _, _ =>
    obtain ⟨h, hh⟩ := headerFor_isSome (.independent 1) n bps rate number hn.1
    simp only [List.length_cons, List.length_nil, Nat.zero_add, Nat.reduceEqDiff, if_false, hh, Option.map_some,
      frameTake, msOf, chansTake, Nat.add_zero]
    exact ⟨_, rfl⟩
  | c0 :: c1 :: c2 :: cs, indep, _, _, _, _, _, _ =>
    obtain ⟨h, hh⟩ := headerFor_isSome (.independent (c0 :: c1 :: c2 :: cs).length) n bps rate number hn.1
    have hne : ¬ ((c0 :: c1 :: c2 :: cs).length = 2) := by simp
    simp only [hne, if_false, hh, Option.map_some, frameTake, msOf, chansTake, Nat.add_zero]
    exact ⟨_, rfl⟩

end Total
end FlacVerif
