/-
Round-trip lemmas writer → parser mirror, residual and sub-frame level: `Residual.bits`, `SubFrame.bits` of
`Model/Component.lean` along `Lemmas/Layout` against `Model/RepoParser.lean` (C15, and C18Parse for what the
constructors accept).
-/
import FlacVerif.Lemmas.RepoPrim
import FlacVerif.Lemmas.WeakWF
import FlacVerif.Lemmas.Layout
namespace FlacVerif.Repo
open PResult

theorem unaryCode_sampleBits (p q rem : Nat) (k : Bits) :
    unaryCode (Residual.sampleBits p q rem ++ k) = .ok (q, natToBits p rem ++ k) := by
  rw [Layout.sampleBits_eq, List.append_assoc, List.cons_append, unaryCode_unary]

theorem residualSamples_read (p w : Nat) (qs rs : List Nat) (hp : p ≤ 32) (n t : Nat) (k : Bits)
    (hz : ∀ u, t ≤ u → u < t + n → u < w → qs.getD u 0 = 0 ∧ rs.getD u 0 = 0)
    (hr : ∀ u, t ≤ u → u < t + n → ¬ u < w → rs.getD u 0 < 2 ^ p ∧ qs.getD u 0 < 2 ^ 32) :
    residualSamples p w n t ((List.range' (max w t) (t + n - max w t)).flatMap
      (fun u => Residual.sampleBits p (qs.getD u 0) (rs.getD u 0)) ++ k) =
      .ok ((sliceD qs n t, sliceD rs n t), k) := by
  induction n generalizing t with
  | zero => rw [show t + 0 - max w t = 0 by omega]; rfl
  | succ n ih =>
    have ih' := ih (t + 1) (fun u h1 h2 => hz u (by omega) (by omega)) (fun u h1 h2 => hr u (by omega) (by omega))
    rw [residualSamples]
    by_cases h : t < w
    · obtain ⟨h1, h2⟩ := hz t (Nat.le_refl t) (by omega) h
      rw [show max w (t + 1) = max w t by omega, show t + 1 + n = t + (n + 1) by omega] at ih'
      rw [if_pos h]
      refine bind_ok ih' ?_
      rw [sliceD, sliceD, h1, h2]
      rfl
    · obtain ⟨h1, h2⟩ := hr t (Nat.le_refl t) (by omega) h
      rw [show max w (t + 1) = t + 1 by omega, show t + 1 + n - (t + 1) = n by omega] at ih'
      rw [if_neg h, show max w t = t by omega, show t + (n + 1) - t = n + 1 by omega, List.range'_succ,
        List.flatMap_cons, List.append_assoc]
      refine bind_ok (unaryCode_sampleBits p _ _ _) ?_
      refine bind_ok (takeBits_natToBits_lt 32 p _ _ hp h1) ?_
      refine bind_ok ih' ?_
      rw [sliceD, sliceD, Nat.mod_eq_of_lt h2]
      rfl

/-- The hypotheses on a residual that the partition loop needs (a consequence of `Residual.WF` plus the
`u32` range of the quotients and of the block size). -/
structure ResOk (r : Residual) : Prop where
  order : r.order ≤ 15
  params : ∀ j, j < 2 ^ r.order → r.params.getD j 0 ≤ 14
  zeros : ∀ t, t < r.warmup → r.quotients.getD t 0 = 0 ∧ r.remainders.getD t 0 = 0
  rems : ∀ t, t < r.blockSize → r.remainders.getD t 0 < 2 ^ (r.params.getD (t / r.partLen) 0)
  quots : ∀ t, r.quotients.getD t 0 < 2 ^ 32
  fits : 2 ^ r.order * r.partLen ≤ r.blockSize
  small : r.blockSize < 2 ^ 32

theorem residualParts_read (r : Residual) (h : ResOk r) (n part : Nat) (hn : part + n ≤ 2 ^ r.order) (k : Bits) :
    residualParts 4 r.partLen r.warmup n part ((List.range' part n).flatMap r.partBits ++ k) =
      .ok ((sliceD r.params n part, sliceD r.quotients (n * r.partLen) (part * r.partLen),
            sliceD r.remainders (n * r.partLen) (part * r.partLen)), k) := by
  induction n generalizing part with
  | zero => rw [Nat.zero_mul]; rfl
  | succ n ih =>
    have hpow : (2 : Nat) ^ r.order ≤ 2 ^ 15 := Nat.pow_le_pow_right (by decide) h.order
    have hend : r.partLen * (part + 1) ≤ r.blockSize :=
      Nat.le_trans (Nat.mul_le_mul_left _ (by omega)) (Nat.mul_comm _ _ ▸ h.fits)
    have hsm := h.small
    rw [List.range'_succ, List.flatMap_cons, Layout.partBits_eq, List.append_assoc, List.append_assoc, residualParts]
    refine bind_ok (takeBits_natToBits_lt 8 4 _ _ (by decide) (by have := h.params part (by omega); omega)) ?_
    refine bind_ok (umul_ok 64 _ _ _ (by rw [Nat.mul_succ] at hend; omega)) ?_
    refine bind_ok (umul_ok 64 _ _ _ (by omega)) ?_
    rw [Nat.mul_succ, Nat.add_sub_cancel_left, Nat.succ_mul, Nat.mul_comm part r.partLen]
    refine bind_ok (residualSamples_read (r.params.getD part 0) r.warmup r.quotients r.remainders
      (by have := h.params part (by omega); omega) r.partLen (r.partLen * part) _
      (fun u _ _ hlt => h.zeros u hlt)
      (fun u h1 h2 _ => ?_)) ?_
    · have hdiv : u / r.partLen = part :=
        Nat.div_eq_of_lt_le (by rw [Nat.mul_comm]; exact h1) (by rw [Nat.mul_comm, Nat.mul_succ]; exact h2)
      exact ⟨hdiv ▸ h.rems u (by rw [Nat.mul_succ] at hend; omega), h.quots u⟩
    refine bind_ok (ih (part + 1) (by omega)) ?_
    rw [Nat.succ_mul n, Nat.add_comm (n * r.partLen), sliceD_add r.quotients, sliceD_add r.remainders,
      Nat.succ_mul part, Nat.mul_comm part]
    rfl

theorem resOk_of_WF (r : Residual) (hwf : r.WF) (hq : ∀ q ∈ r.quotients, q < 2 ^ 32) (hbs : r.blockSize < 2 ^ 32) :
    ResOk r := by
  refine ⟨hwf.order_le, fun j _ => hwf.param_getD_le j, hwf.warmup_zero, hwf.rem_lt, ?_, ?_, hbs⟩
  · intro t
    rcases getD_mem_or_default r.quotients t 0 with h | h
    · exact hq _ h
    · rw [h]; exact Nat.two_pow_pos 32
  · rw [partLen_eq]; exact Nat.mul_div_le _ _

/-- `Residual::write` followed by `parser::residual` is the identity on well-formed residuals whose
quotients and block size fit their Rust types (`u32`; block sizes are at most 65535). -/
theorem residual_read (r : Residual) (hwf : r.WF) (hq : ∀ q ∈ r.quotients, q < 2 ^ 32)
    (hbs : r.blockSize < 2 ^ 32) (k : Bits) :
    residual r.blockSize r.warmup (r.bits ++ k) = .ok (r, k) := by
  have hok := resOk_of_WF r hwf hq hbs
  have ho := hwf.order_le
  have hpl := hwf.params_length
  have hql := hwf.quotients_length
  have hrl := hwf.remainders_length
  have hpow : (2 : Nat) ^ r.order ≤ 2 ^ 15 := Nat.pow_le_pow_right (by decide) ho
  have hfull := Layout.nparts_mul_partLen r hwf.dvd
  unfold residual
  rw [Layout.residual_bits r ho, List.append_assoc, List.append_assoc]
  refine bind_ok (takeBits_natToBits_lt 8 2 0 _ (by decide) (by decide)) ?_
  refine bind_ok (if_pos rfl) ?_
  refine bind_ok (takeBits_natToBits_lt 8 4 r.order _ (by decide) (by omega)) ?_
  refine bind_ok (ushl_one_ok 64 _ r.order (by omega)) ?_
  rw [if_neg (Nat.ne_of_gt (Nat.two_pow_pos r.order)), ← partLen_eq]
  refine bind_ok (residualParts_read r hok (2 ^ r.order) 0 (by omega) k) ?_
  rw [Nat.zero_mul, sliceD_all _ _ _ (by omega), sliceD_all _ _ _ (by omega), sliceD_all _ _ _ (by omega),
    List.drop_zero, List.drop_zero, List.drop_zero]
  refine bind_ok (passert_ok _ _ (decide_eq_true hpl)) ?_
  obtain ⟨hmul, hsumq, hsump⟩ := fromParts_bounds r.params r.quotients r.blockSize hbs hq (by omega)
    (fun p hp => Nat.lt_of_le_of_lt (hwf.param_le p hp) (by decide)) (by omega)
  refine bind_ok (umul_ok 64 _ _ _ hmul) ?_
  rw [uadd_ok 64 _ _ _ hsumq, uadd_ok 64 _ _ _ hsump]
  -- both arms of `from_parts`' short-cut (`max * n < u32::MAX`: no sum of quotients) are `ok`
  split <;> rfl

theorem subframeHeader_read (v : Nat) (k : Bits) (hv : v < 256) (he : v % 2 = 0) :
    subframeHeader (natToBits 8 v ++ k) = .ok (v / 2, k) := by
  unfold subframeHeader
  have h8 : natToBits 8 v = natToBits 7 (v / 2) ++ natToBits 1 v := natToBits_split 7 1 v
  rw [h8, List.append_assoc]
  refine bind_ok (takeBits_natToBits_lt 8 7 (v / 2) _ (by decide) (by omega)) ?_
  refine bind_ok (takeBits_natToBits 8 1 v k (by decide)) ?_
  exact if_neg (Decidable.not_not.mpr he)

theorem map_asSigned_id (w p : Nat) (hp1 : 1 ≤ p) (hpw : p ≤ w) (cs : List Int)
    (h : ∀ c ∈ cs, SubFrame.inRange p c = true) : cs.map (asSigned w) = cs := by
  have hmono : (2 : Int) ^ (p - 1) ≤ 2 ^ (w - 1) := two_pow_le_two_pow (by omega)
  rw [List.map_congr_left (g := id), List.map_id]
  intro c hc
  have hr := (Layout.inRange_iff p c).1 (h c hc)
  exact asSigned_id w c (by omega) (by omega) (by omega)

theorem quantizedNew_ok (coefs : List Int) (order : Nat) (shift : Int) (precision : Nat)
    (ho : order ≤ 24) (hl : coefs.length = order) (hs0 : 0 ≤ shift) (hs1 : shift ≤ 15)
    (hp1 : 1 ≤ precision) (hp2 : precision ≤ 15) (hc : ∀ c ∈ coefs, SubFrame.inRange precision c = true) :
    quantizedNew coefs order shift precision = .ok (some ()) := by
  unfold quantizedNew
  have h1 : ¬ order > 24 := by omega
  have hpw : (2 : Nat) ^ (precision - 1) ≤ 2 ^ 14 := Nat.pow_le_pow_right (by decide) (by omega)
  rw [if_neg h1, if_neg (Decidable.not_not.mpr hl)]
  refine bind_ok (passert_ok _ _ (decide_eq_true hl)) ?_
  refine bind_ok (passert_ok _ _ (decide_eq_true (by omega))) ?_
  rw [if_neg h1, if_neg (by omega), if_neg (by omega)]
  refine bind_ok (usub_ok _ _ _ hp1) ?_
  refine bind_ok (ushl_one_ok 32 _ _ (by omega)) ?_
  rw [if_neg (by omega)]
  have hall : (coefs.all fun c => decide (-((2 ^ (precision - 1) : Nat) : Int) ≤ c) &&
      decide (c ≤ ((2 ^ (precision - 1) : Nat) : Int) - 1)) = true := by
    rw [List.all_eq_true]
    intro c hcm
    have := (Layout.inRange_iff precision c).1 (hc c hcm)
    rw [two_pow_cast] at this
    simp only [Bool.and_eq_true, decide_eq_true_eq]
    omega
  rw [if_pos hall]

/-- Extra conditions under which the repository's parser reads a subframe back: what its Rust types and
its own limits impose beyond `SubFrame.WF` (bits-per-sample at most 25; LPC order at most
`MAX_LPC_ORDER = 24`; `u32` quotients; block size below `2^32`). -/
def SubOk : SubFrame → Prop
  | .constant _ _ b => b ≤ 25
  | .verbatim _ b => b ≤ 25
  | .fixed _ res b => b ≤ 25 ∧ (∀ q ∈ res.quotients, q < 2 ^ 32) ∧ res.blockSize < 2 ^ 32
  | .lpc _ coefs _ _ res b => b ≤ 25 ∧ coefs.length ≤ 24 ∧ (∀ q ∈ res.quotients, q < 2 ^ 32) ∧ res.blockSize < 2 ^ 32

instance (s : SubFrame) : Decidable (SubOk s) := by
  cases s <;> (unfold SubOk; infer_instance)

theorem constant_header (n : Nat) (dc : Int) (b : Nat) (k : Bits) :
    subframeHeader ((SubFrame.constant n dc b).bits ++ k) = .ok (0, twoc b dc ++ k) := by
  rw [Layout.constant_bits, List.append_assoc]
  exact subframeHeader_read _ _ (by decide) (by decide)

theorem verbatim_header (xs : List Int) (b : Nat) (k : Bits) :
    subframeHeader ((SubFrame.verbatim xs b).bits ++ k) = .ok (1, xs.flatMap (twoc b) ++ k) := by
  rw [Layout.verbatim_bits, List.append_assoc]
  exact subframeHeader_read _ _ (by decide) (by decide)

theorem fixed_header (warm : List Int) (res : Residual) (b : Nat) (k : Bits) (h : warm.length ≤ 4) :
    subframeHeader ((SubFrame.fixed warm res b).bits ++ k) =
      .ok (8 + warm.length, warm.flatMap (twoc b) ++ (res.bits ++ k)) := by
  rw [Layout.fixed_bits _ _ _ h, List.append_assoc, List.append_assoc,
    subframeHeader_read _ _ (by omega) (by omega), Nat.mul_div_cancel_left _ (by decide)]

theorem lpc_header (warm coefs : List Int) (shift : Int) (precision : Nat) (res : Residual) (b : Nat) (k : Bits)
    (h1 : 1 ≤ coefs.length) (h : coefs.length ≤ 32) :
    subframeHeader ((SubFrame.lpc warm coefs shift precision res b).bits ++ k) =
      .ok (31 + coefs.length, warm.flatMap (twoc b) ++ (natToBits 4 (precision - 1) ++ (twoc 5 shift ++
        (coefs.flatMap (twoc precision) ++ (res.bits ++ k))))) := by
  rw [Layout.lpc_bits _ _ _ _ _ _ h1 h]
  simp only [List.append_assoc]
  rw [subframeHeader_read _ _ (by omega) (by omega), Nat.mul_div_cancel_left _ (by decide)]

theorem constant_read (n : Nat) (dc : Int) (b : Nat) (k : Bits) (h1 : 1 ≤ b) (h2 : b ≤ 25)
    (hdc : SubFrame.inRange b dc = true) :
    constant n b ((SubFrame.constant n dc b).bits ++ k) = .ok (.constant n dc b, k) := by
  unfold constant
  rw [Nat.mod_eq_of_lt (show b < 256 by omega)]
  refine bind_ok (constant_header n dc b k) ((if_neg (by decide)).trans ?_)
  refine bind_ok (takeBits_twoc 32 b dc k (by omega)) ?_
  exact bind_ok (uToI_twoc b dc h1 (by omega) hdc) rfl

theorem verbatim_read (xs : List Int) (b : Nat) (k : Bits) (h1 : 1 ≤ b) (h2 : b ≤ 25)
    (hx : ∀ x ∈ xs, SubFrame.inRange b x = true) :
    verbatim xs.length b ((SubFrame.verbatim xs b).bits ++ k) = .ok (.verbatim xs b, k) := by
  unfold verbatim
  rw [Nat.mod_eq_of_lt (show b < 256 by omega)]
  refine bind_ok (verbatim_header xs b k) ((if_neg (by decide)).trans ?_)
  exact bind_ok (rawSamples_read b h1 h2 xs k hx) rfl

/-- `FixedLpc::write` then `fixed_lpc`, from the weak well-formedness `SubFrame.WF'` (the warm-up may fill the
whole block). -/
theorem fixedLpc_read (warm : List Int) (res : Residual) (b : Nat) (k : Bits)
    (hwf : (SubFrame.fixed warm res b).WF') (hok : SubOk (.fixed warm res b)) :
    fixedLpc res.blockSize b ((SubFrame.fixed warm res b).bits ++ k) = .ok (.fixed warm res b, k) := by
  obtain ⟨hl4, hlw, hres, _, hb1, _, hwr⟩ := hwf
  obtain ⟨hb2, hq, hbs⟩ := hok
  unfold fixedLpc
  rw [Nat.mod_eq_of_lt (show b < 256 by omega)]
  refine bind_ok (fixed_header warm res b k hl4) ((if_neg (by omega)).trans ?_)
  refine bind_ok (usub_ok _ _ _ (by omega)) ?_
  rw [Nat.add_sub_cancel_left]
  refine bind_ok (rawSamples_read b hb1 hb2 warm _ hwr) ((if_neg (show ¬ warm.length > 4 by omega)).trans ?_)
  rw [hlw]
  exact bind_ok (residual_read res hres hq hbs k) rfl

theorem quantizedParameters_read (coefs : List Int) (shift : Int) (precision : Nat) (k : Bits)
    (ho : coefs.length ≤ 24) (hs0 : 0 ≤ shift) (hs1 : shift ≤ 15) (hp1 : 1 ≤ precision) (hp2 : precision ≤ 15)
    (hc : ∀ c ∈ coefs, SubFrame.inRange precision c = true) :
    quantizedParameters coefs.length
      (natToBits 4 (precision - 1) ++ (twoc 5 shift ++ (coefs.flatMap (twoc precision) ++ k))) =
      .ok ((coefs, shift, precision), k) := by
  unfold quantizedParameters
  refine bind_ok (takeBits_natToBits_lt 8 4 _ _ (by decide) (by omega)) ?_
  refine bind_ok (uadd_ok 64 _ _ _ (by omega)) ?_
  rw [Nat.sub_add_cancel hp1]
  refine bind_ok (takeBits_twoc 8 5 shift _ (by decide)) ?_
  refine bind_ok (uToI_twoc 5 shift (by decide) (by decide) ((Layout.inRange_iff 5 shift).mpr ⟨by omega, by omega⟩)) ?_
  refine bind_ok (rawSamples_read precision hp1 (by omega) coefs k hc) ?_
  dsimp only
  rw [map_asSigned_id 16 precision hp1 (by omega) coefs hc, asSigned_id 8 shift (by decide) (by omega) (by omega)]
  exact bind_ok (quantizedNew_ok coefs coefs.length shift precision ho rfl hs0 hs1 hp1 hp2 hc) rfl

theorem lpc_read (warm coefs : List Int) (shift : Int) (precision : Nat) (res : Residual) (b : Nat) (k : Bits)
    (hwf : (SubFrame.lpc warm coefs shift precision res b).WF')
    (hok : SubOk (.lpc warm coefs shift precision res b)) :
    lpc res.blockSize b ((SubFrame.lpc warm coefs shift precision res b).bits ++ k) =
      .ok (.lpc warm coefs shift precision res b, k) := by
  obtain ⟨hc1, _, hwc, hlw, hres, _, hp1, hp2, hs0, hs1, hcr, hb1, _, hwr⟩ := hwf
  obtain ⟨hb2, hc24, hq, hbs⟩ := hok
  unfold lpc
  rw [Nat.mod_eq_of_lt (show b < 256 by omega)]
  refine bind_ok (lpc_header warm coefs shift precision res b k hc1 (by omega)) ((if_neg (by omega)).trans ?_)
  refine bind_ok (usub_ok _ _ _ (by omega)) ?_
  refine bind_ok (uadd_ok 64 _ _ _ (by omega)) ?_
  rw [show 31 + coefs.length - 0x20 + 1 = warm.length by omega]
  refine bind_ok (rawSamples_read b hb1 hb2 warm _ hwr) ((if_neg (show ¬ warm.length > 24 by omega)).trans ?_)
  rw [hwc]
  refine bind_ok (quantizedParameters_read coefs shift precision _ hc24 hs0 hs1 hp1 hp2 hcr) ?_
  rw [show coefs.length = res.warmup by omega]
  refine bind_ok (residual_read res hres hq hbs k) ?_
  exact bind_ok (passert_ok _ _ (decide_eq_true rfl)) rfl

theorem constant_reject (n b : Nat) {i i' : Bits} {t : Nat} (hh : subframeHeader i = .ok (t, i')) (ht : t ≠ 0) :
    constant n b i = .error false :=
  bind_ok hh (if_pos ht)

theorem fixedLpc_reject (n b : Nat) {i i' : Bits} {t : Nat} (hh : subframeHeader i = .ok (t, i'))
    (ht : ¬ (8 ≤ t ∧ t ≤ 12)) : fixedLpc n b i = .error false :=
  bind_ok hh (if_pos ht)

theorem lpc_reject (n b : Nat) {i i' : Bits} {t : Nat} (hh : subframeHeader i = .ok (t, i'))
    (ht : ¬ (0x20 ≤ t ∧ t < 0x40)) : lpc n b i = .error false :=
  bind_ok hh (if_pos ht)

/-- `SubFrame::write` followed by `parser::subframe` is the identity on every subframe that is well formed in the
weak sense `SubFrame.WF'` (what the public constructors guarantee) and within the repository's own limits (`SubOk`). -/
theorem subframe_read' (s : SubFrame) (hwf : s.WF') (hok : SubOk s) (k : Bits) :
    subframe s.blockSize s.bps (s.bits ++ k) = .ok (s, k) := by
  cases s with
  | constant n dc b =>
    obtain ⟨_, hb1, _, hdc⟩ := hwf
    have hb2 : b ≤ 25 := hok
    exact (subframe_asserts _ _ hb2 _).trans (alt_ok _ _ _ _ (constant_read n dc b k hb1 hb2 hdc))
  | verbatim xs b =>
    obtain ⟨_, hb1, _, hx⟩ := hwf
    have hb2 : b ≤ 25 := hok
    have hh := verbatim_header xs b k
    refine (subframe_asserts _ _ hb2 _).trans ?_
    rw [alt_reject _ _ _ (constant_reject _ _ hh (by decide)), alt_reject _ _ _ (fixedLpc_reject _ _ hh (by decide)),
      alt_reject _ _ _ (lpc_reject _ _ hh (by decide))]
    exact verbatim_read xs b k hb1 hb2 hx
  | fixed warm res b =>
    have hh := fixed_header warm res b k hwf.1
    refine (subframe_asserts _ _ hok.1 _).trans ?_
    rw [alt_reject _ _ _ (constant_reject _ _ hh (by omega))]
    exact alt_ok _ _ _ _ (fixedLpc_read warm res b k hwf hok)
  | lpc warm coefs shift precision res b =>
    have hh := lpc_header warm coefs shift precision res b k hwf.1 hwf.2.1
    have hc24 : coefs.length ≤ 24 := hok.2.1
    refine (subframe_asserts _ _ hok.1 _).trans ?_
    rw [alt_reject _ _ _ (constant_reject _ _ hh (by omega)), alt_reject _ _ _ (fixedLpc_reject _ _ hh (by omega))]
    exact alt_ok _ _ _ _ (lpc_read warm coefs shift precision res b k hwf hok)

theorem subframe_read (s : SubFrame) (hwf : s.WF) (hok : SubOk s) (k : Bits) :
    subframe s.blockSize s.bps (s.bits ++ k) = .ok (s, k) :=
  subframe_read' s (VerifyL.wf'_of_wf s hwf) hok k

end FlacVerif.Repo
