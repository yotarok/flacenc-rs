/-
The simp set `cfg_parse` (declared in a module of its own, as an attribute must be before it is used); Lemmas/Config fills it.
-/
import Lean.Meta.Tactic.Simp.RegisterCommand

/-- What it takes to run a generated `X.fromT` on `X.toT c` with keys erased or a section rewritten: the parsers as
chains of `ConfigL.field` steps, lookups in erased / rewritten tables, the round trips of the field types, and the
core list facts that evaluate `List.lookup` on the literal key list of `X.toT`
(`simp only [X.toT, cfg_parse, String.reduceBEq, ↓reduceIte]`; `X.toT` is not in the set, so that a nested
`Y.toT c.y` stays folded for the round trip of `Y`). -/
register_simp_attr cfg_parse
