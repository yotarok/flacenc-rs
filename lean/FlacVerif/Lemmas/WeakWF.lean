/-
The well-formedness predicates of `Model/Rice.lean` and `Model/Component.lean` as a library: the clauses of
`Residual.WF` by name, and `SubFrame.WF'`: `SubFrame.WF` without "some residual sample is coded". `WF'` is what
`FixedLpc::new` / `Lpc::new` guarantee and all that the count, operation-list and validity lemmas about sub-frames need;
they are proved from it, and `WF` implies it. Also the `Decidable` instances of `WF` and `WF'`, on which the `decide`
examples of C08 and C18 rest.
-/
import FlacVerif.Model.Component
namespace FlacVerif

/-- `SubFrame.WF` with `warm.length ≤ res.blockSize` instead of `<` (a subframe that consists of
warm-up samples only: `verify` accepts it, and it serialises fine). -/
def SubFrame.WF' : SubFrame → Prop
  | .constant n dc b => 1 ≤ n ∧ 1 ≤ b ∧ b ≤ 32 ∧ SubFrame.inRange b dc = true
  | .verbatim xs b => 1 ≤ xs.length ∧ 1 ≤ b ∧ b ≤ 32 ∧ ∀ x ∈ xs, SubFrame.inRange b x = true
  | .fixed warm res b => warm.length ≤ 4 ∧ warm.length = res.warmup ∧ res.WF ∧ warm.length ≤ res.blockSize ∧
      1 ≤ b ∧ b ≤ 32 ∧ ∀ x ∈ warm, SubFrame.inRange b x = true
  | .lpc warm coefs shift precision res b =>
      1 ≤ coefs.length ∧ coefs.length ≤ 32 ∧ warm.length = coefs.length ∧ warm.length = res.warmup ∧ res.WF ∧
      warm.length ≤ res.blockSize ∧ 1 ≤ precision ∧ precision ≤ 15 ∧ 0 ≤ shift ∧ shift ≤ 15 ∧
      (∀ c ∈ coefs, SubFrame.inRange precision c = true) ∧ 1 ≤ b ∧ b ≤ 32 ∧
      ∀ x ∈ warm, SubFrame.inRange b x = true

def SubFrame.warmLen : SubFrame → Nat
  | .fixed warm _ _ => warm.length
  | .lpc warm _ _ _ _ _ => warm.length
  | _ => 0

namespace Residual.WF
variable {r : Residual} (h : r.WF)
include h

theorem order_le : r.order ≤ 15 := h.1
theorem params_length : r.params.length = 2 ^ r.order := h.2.1
theorem dvd : 2 ^ r.order ∣ r.blockSize := h.2.2.1
theorem warmup_le : r.warmup ≤ r.partLen := h.2.2.2.1
theorem blockSize_pos : 0 < r.blockSize := h.2.2.2.2.1
theorem quotients_length : r.quotients.length = r.blockSize := h.2.2.2.2.2.1
theorem remainders_length : r.remainders.length = r.blockSize := h.2.2.2.2.2.2.1
theorem param_le : ∀ p ∈ r.params, p ≤ 14 := h.2.2.2.2.2.2.2.1
theorem warmup_zero : ∀ t, t < r.warmup → r.quotients.getD t 0 = 0 ∧ r.remainders.getD t 0 = 0 :=
  h.2.2.2.2.2.2.2.2.1
theorem rem_lt : ∀ t, t < r.blockSize → r.remainders.getD t 0 < 2 ^ (r.params.getD (t / r.partLen) 0) :=
  h.2.2.2.2.2.2.2.2.2

/-- Also past the end of the list, where `getD` gives 0. -/
theorem param_getD_le (j : Nat) : r.params.getD j 0 ≤ 14 := by
  rw [List.getD_eq_getElem?_getD]
  cases hj : r.params[j]? with
  | none => exact Nat.zero_le _
  | some p => exact h.param_le p (List.mem_of_getElem? hj)

theorem warmup_le_blockSize : r.warmup ≤ r.blockSize :=
  Nat.le_trans h.warmup_le (Nat.shiftRight_le _ _)

/-- A residual that is all warm-up has a single partition. -/
theorem order_eq_zero (he : r.warmup = r.blockSize) : r.order = 0 := by
  have hw := h.warmup_le
  have hpos := h.blockSize_pos
  rw [Residual.partLen, Nat.shiftRight_eq_div_pow] at hw
  by_cases ho : r.order = 0
  · exact ho
  · exfalso
    have h2 : 2 ≤ 2 ^ r.order := by
      have : 2 ^ 1 ≤ 2 ^ r.order := Nat.pow_le_pow_right (by decide) (by omega)
      simpa using this
    have : r.blockSize / 2 ^ r.order < r.blockSize := Nat.div_lt_self hpos h2
    omega

end Residual.WF

namespace VerifyL

instance subFrameWF'Decidable (s : SubFrame) : Decidable s.WF' := by
  cases s <;> (unfold SubFrame.WF'; infer_instance)

instance subFrameWFDecidable (s : SubFrame) : Decidable s.WF := by
  cases s <;> (unfold SubFrame.WF; infer_instance)

theorem wf_iff_wf' (s : SubFrame) :
    s.WF ↔ (s.WF' ∧ (s.warmLen = 0 ∨ s.warmLen < s.blockSize)) := by
  cases s with
  | constant n dc b => simp [SubFrame.WF, SubFrame.WF', SubFrame.warmLen]
  | verbatim xs b => simp [SubFrame.WF, SubFrame.WF', SubFrame.warmLen]
  | fixed warm res b =>
    simp only [SubFrame.WF, SubFrame.WF', SubFrame.warmLen, SubFrame.blockSize]
    constructor
    · rintro ⟨a, b, c, d, e⟩
      exact ⟨⟨a, b, c, Nat.le_of_lt d, e⟩, Or.inr d⟩
    · rintro ⟨⟨a, b, c, d, e⟩, h⟩
      have := c.blockSize_pos
      exact ⟨a, b, c, by omega, e⟩
  | lpc warm coefs shift precision res b =>
    simp only [SubFrame.WF, SubFrame.WF', SubFrame.warmLen, SubFrame.blockSize]
    constructor
    · rintro ⟨a, b, c, d, e, f, g⟩
      exact ⟨⟨a, b, c, d, e, Nat.le_of_lt f, g⟩, Or.inr f⟩
    · rintro ⟨⟨a, b, c, d, e, f, g⟩, h⟩
      have := e.blockSize_pos
      exact ⟨a, b, c, d, e, by omega, g⟩

theorem wf'_of_wf (s : SubFrame) (h : s.WF) : s.WF' := ((wf_iff_wf' s).mp h).1

end VerifyL
end FlacVerif
