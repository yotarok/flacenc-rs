/-
Numbering invariant: frame numbers are handed out 0,1,2,… ; a buffer that is queued for encoding or
held by a worker is labelled `n < k` and holds block `n`; whatever a worker computed for `n` is
`enc n (blocks[n])`; the sink maps `n` to that value, the error map holds exactly invalid blocks;
every `n < k` is in flight, in the sink or in the error map.
-/
import FlacVerif.Lemmas.ParInvTok
namespace FlacVerif.Par

/-- buffer `id` is labelled `n` and holds block `n` -/
def Holds (p : Params) (s : State) (id n : Nat) : Prop :=
  ∃ x, s.bufs[id]? = some x ∧ x.num = some n ∧ n < s.k ∧ p.blocks[n]? = some x.blk

def WOk (p : Params) (s : State) : WPc → Prop
  | .got id => ∃ n, Holds p s id n
  | .encoded _ n res | .sent _ n res => n < s.k ∧ ∃ b, p.blocks[n]? = some b ∧ res = enc n b
  | _ => True

def MainBuf (p : Params) (s : State) : Prop :=
  match s.main with
  | .filledMd5 id => ∃ x, s.bufs[id]? = some x ∧ p.blocks[s.k]? = some x.blk
  | .enq id => ∃ x, s.bufs[id]? = some x ∧ x.num = some s.k ∧ p.blocks[s.k]? = some x.blk
  | _ => True

/-- frame number a worker is working on -/
def WPc.carries (s : State) (n : Nat) : WPc → Prop
  | .got id => ∃ x, s.bufs[id]? = some x ∧ x.num = some n
  | .encoded _ m _ | .sent _ m _ => m = n
  | _ => False

def InFlight (s : State) (n : Nat) : Prop :=
  (∃ id, some id ∈ s.encodeQ ∧ ∃ x, s.bufs[id]? = some x ∧ x.num = some n) ∨
  (∃ pc ∈ s.workers, pc.carries s n)

structure InvNum (p : Params) (s : State) : Prop where
  queue : ∀ id, some id ∈ s.encodeQ → ∃ n, Holds p s id n
  workers : ∀ pc ∈ s.workers, WOk p s pc
  mainBuf : MainBuf p s
  sink : ∀ n f, (n, f) ∈ s.sink → n < s.k ∧ ∃ b, p.blocks[n]? = some b ∧ enc n b = some f
  errs : ∀ n u, (n, u) ∈ s.errors → n < s.k ∧ ∃ b, p.blocks[n]? = some b ∧ enc n b = none
  sorted : (s.sink.map (·.1)).Pairwise (· < ·)
  esorted : (s.errors.map (·.1)).Pairwise (· < ·)
  cover : ∀ n, n < s.k → InFlight s n ∨ n ∈ s.sink.map (·.1) ∨ n ∈ s.errors.map (·.1)

theorem InvNum.init (p : Params) : InvNum p (init p) := by
  constructor <;> simp [Par.init, MainBuf, WOk]

theorem MainBuf.afterStop {p : Params} {s : State} {r : Nat} (h : s.main = afterStop r) : MainBuf p s := by
  rw [MainBuf, h]; cases r <;> trivial

/-! `Holds`, `carries` and `WOk` only look at the buffer in question and at a lower bound for `k` -/

theorem Holds.mono {p : Params} {s s' : State} {id n : Nat} (hb : s'.bufs[id]? = s.bufs[id]?) (hk : s.k ≤ s'.k) :
    Holds p s id n → Holds p s' id n :=
  fun ⟨x, h1, h2, h3, h4⟩ => ⟨x, hb ▸ h1, h2, Nat.lt_of_lt_of_le h3 hk, h4⟩

theorem WPc.carries.mono {s s' : State} {n : Nat} {pc : WPc} (hb : ∀ id ∈ pc.hand, s'.bufs[id]? = s.bufs[id]?) :
    pc.carries s n → pc.carries s' n := by
  cases pc <;> simp only [WPc.carries] <;> try exact id
  rw [hb _ (List.mem_singleton_self _)]; exact id

theorem WOk.mono {p : Params} {s s' : State} {pc : WPc} (hb : ∀ id ∈ pc.hand, s'.bufs[id]? = s.bufs[id]?)
    (hk : s.k ≤ s'.k) : WOk p s pc → WOk p s' pc := by
  cases pc <;> simp only [WOk] <;> try exact id
  · exact fun ⟨n, hn⟩ => ⟨n, hn.mono (hb _ (List.mem_singleton_self _)) hk⟩
  · exact fun h => ⟨Nat.lt_of_lt_of_le h.1 hk, h.2⟩
  · exact fun h => ⟨Nat.lt_of_lt_of_le h.1 hk, h.2⟩

/-- the shape of the steps of the main thread and of the hasher that leave `k` and the queued buffers as they are: all but
`enc_send_some` -/
theorem InvNum.main_step {p : Params} {s s' : State} (h : InvNum p s)
    (hbq : ∀ id, some id ∈ s.encodeQ → s'.bufs[id]? = s.bufs[id]?)
    (hbw : ∀ pc ∈ s.workers, ∀ id ∈ pc.hand, s'.bufs[id]? = s.bufs[id]?)
    (hq : ∀ id, some id ∈ s'.encodeQ ↔ some id ∈ s.encodeQ) (hw : s'.workers = s.workers) (hk : s'.k = s.k)
    (hs : s'.sink = s.sink) (he : s'.errors = s.errors) (hm : MainBuf p s') : InvNum p s' := by
  obtain ⟨h1, h2, h3, h4, h5, h6, h6e, h7⟩ := h
  have hk' : s.k ≤ s'.k := Nat.le_of_eq hk.symm
  refine ⟨?_, ?_, hm, ?_, ?_, ?_, by rw [he]; exact h6e, ?_⟩
  · intro id hid; rw [hq] at hid
    obtain ⟨n, hn⟩ := h1 id hid
    exact ⟨n, hn.mono (hbq id hid) hk'⟩
  · intro pc hpc; rw [hw] at hpc
    exact (h2 pc hpc).mono (hbw pc hpc) hk'
  · rw [hs, hk]; exact h4
  · rw [he, hk]; exact h5
  · rw [hs]; exact h6
  · intro n hn; rw [hk] at hn
    rcases h7 n hn with h | h
    · left
      rcases h with ⟨id, hid, x, hx⟩ | ⟨pc, hpc, hc⟩
      · exact Or.inl ⟨id, (hq id).2 hid, x, by rw [hbq id hid]; exact hx⟩
      · exact Or.inr ⟨pc, by rw [hw]; exact hpc, hc.mono (hbw pc hpc)⟩
    · right; rw [hs, he]; exact h

theorem InvNum.congr {p : Params} {s s' : State} (h : InvNum p s) (hb : s'.bufs = s.bufs)
    (hq : ∀ id, some id ∈ s'.encodeQ ↔ some id ∈ s.encodeQ) (hw : s'.workers = s.workers) (hk : s'.k = s.k)
    (hs : s'.sink = s.sink) (he : s'.errors = s.errors) (hm : MainBuf p s') : InvNum p s' :=
  h.main_step (fun _ _ => by rw [hb]) (fun _ _ _ _ => by rw [hb]) hq hw hk hs he hm

/-- the main thread writes the buffer it holds: nothing in flight is affected -/
theorem InvNum.set_buf {p : Params} {s s' : State} (h : InvNum p s) (id0 : Nat) (y : Buf)
    (hnq : some id0 ∉ s.encodeQ) (hnw : ∀ pc ∈ s.workers, id0 ∉ pc.hand)
    (hb : s'.bufs = s.bufs.set id0 y)
    (hq : s'.encodeQ = s.encodeQ) (hw : s'.workers = s.workers) (hk : s'.k = s.k)
    (hs : s'.sink = s.sink) (he : s'.errors = s.errors) (hm : MainBuf p s') : InvNum p s' := by
  have hget : ∀ id, id ≠ id0 → s'.bufs[id]? = s.bufs[id]? := fun id hne => by
    rw [hb, List.getElem?_set_ne (Ne.symm hne)]
  exact h.main_step (fun id hid => hget id fun heq => hnq (heq ▸ hid))
    (fun pc hpc id hid => hget id fun heq => hnw pc hpc (heq ▸ hid)) (fun _ => by rw [hq]) hw hk hs he hm

/-- the shape of every worker step: worker `w` moves from pc `a` to pc `b` -/
theorem InvNum.worker_step {p : Params} {s s' : State} (h : InvNum p s) {w : Nat} {a b : WPc}
    (hw : s.workers[w]? = some a)
    (hb : s'.bufs = s.bufs) (hk : s'.k = s.k) (hm : s'.main = s.main)
    (hws : s'.workers = s.workers.set w b)
    (hq : ∀ x ∈ s'.encodeQ, x ∈ s.encodeQ)
    (hqc : ∀ id, some id ∈ s.encodeQ → some id ∈ s'.encodeQ ∨ b = .got id)
    (hbok : WOk p s b)
    (hac : ∀ n, a.carries s n →
      b.carries s n ∨ n ∈ s'.sink.map (·.1) ∨ n ∈ s'.errors.map (·.1))
    (hsink : ∀ n f, (n, f) ∈ s'.sink → n < s.k ∧ ∃ b, p.blocks[n]? = some b ∧ enc n b = some f)
    (herrs : ∀ n u, (n, u) ∈ s'.errors → n < s.k ∧ ∃ b, p.blocks[n]? = some b ∧ enc n b = none)
    (hsorted : (s'.sink.map (·.1)).Pairwise (· < ·))
    (hesorted : (s'.errors.map (·.1)).Pairwise (· < ·))
    (hkeys : ∀ n, n ∈ s.sink.map (·.1) → n ∈ s'.sink.map (·.1))
    (hekeys : ∀ n, n ∈ s.errors.map (·.1) → n ∈ s'.errors.map (·.1)) : InvNum p s' := by
  obtain ⟨h1, h2, h3, h4, h5, h6, h6e, h7⟩ := h
  have hb' : ∀ id : Nat, s'.bufs[id]? = s.bufs[id]? := fun id => by rw [hb]
  have hk' : s.k ≤ s'.k := Nat.le_of_eq hk.symm
  refine ⟨?_, ?_, ?_, ?_, ?_, hsorted, hesorted, ?_⟩
  · intro id hid
    obtain ⟨n, hn⟩ := h1 id (hq _ hid); exact ⟨n, hn.mono (hb' id) hk'⟩
  · intro pc hpc; rw [hws] at hpc
    rcases List.mem_or_eq_of_mem_set hpc with hpc | rfl
    · exact (h2 pc hpc).mono (fun id _ => hb' id) hk'
    · exact hbok.mono (fun id _ => hb' id) hk'
  · unfold MainBuf at h3 ⊢; rw [hm, hb, hk]; exact h3
  · rw [hk]; exact hsink
  · rw [hk]; exact herrs
  · intro n hn; rw [hk] at hn
    have hbmem : b ∈ s'.workers := by rw [hws]; exact List.mem_set (getElem?_some_lt hw) b
    rcases h7 n hn with h | h | h
    · rcases h with ⟨id, hid, x, hx⟩ | ⟨pc, hpc, hc⟩
      · rcases hqc id hid with h' | h'
        · exact Or.inl (Or.inl ⟨id, h', x, by rw [hb]; exact hx⟩)
        · subst h'
          exact Or.inl (Or.inr ⟨_, hbmem, x, (hb' id).trans hx.1, hx.2⟩)
      · rcases mem_set_or_eq (b := b) hw hpc with rfl | hpc'
        · rcases hac n hc with h' | h' | h'
          · exact Or.inl (Or.inr ⟨_, hbmem, h'.mono fun id _ => hb' id⟩)
          · exact Or.inr (Or.inl h')
          · exact Or.inr (Or.inr h')
        · exact Or.inl (Or.inr ⟨pc, by rw [hws]; exact hpc', hc.mono fun id _ => hb' id⟩)
    · exact Or.inr (Or.inl (hkeys n h))
    · exact Or.inr (Or.inr (hekeys n h))

theorem InvNum.enc_send_some {p : Params} {s : State} (h : InvNum p s) {id0 : Nat}
    (hm : s.main = .enq id0) :
    InvNum p { s with main := .recv, k := s.k + 1, encodeQ := s.encodeQ ++ [some id0] } := by
  obtain ⟨h1, h2, h3, h4, h5, h6, h6e, h7⟩ := h
  simp only [MainBuf, hm] at h3
  obtain ⟨x0, hx0, hn0, hb0⟩ := h3
  refine ⟨?_, ?_, ?_, ?_, ?_, h6, h6e, ?_⟩
  · intro id hid
    rcases List.mem_append.1 hid with hid | hid
    · obtain ⟨n, hn⟩ := h1 id hid; exact ⟨n, Holds.mono (s := s) rfl (Nat.le_succ _) hn⟩
    · simp at hid; subst hid
      exact ⟨s.k, x0, hx0, hn0, Nat.lt_succ_self _, hb0⟩
  · exact fun pc hpc => WOk.mono (s := s) (fun _ _ => rfl) (Nat.le_succ _) (h2 pc hpc)
  · simp [MainBuf]
  · intro n f hnf; have := h4 n f hnf; exact ⟨Nat.lt_succ_of_lt this.1, this.2⟩
  · intro n u hnu; have := h5 n u hnu; exact ⟨Nat.lt_succ_of_lt this.1, this.2⟩
  · intro n hn
    by_cases hnk : n = s.k
    · subst hnk
      exact Or.inl (Or.inl ⟨id0, by simp, x0, hx0, hn0⟩)
    · have hn' : n < s.k := by simp at hn; omega
      rcases h7 n hn' with h | h
      · left
        rcases h with ⟨id, hid, x, hx⟩ | ⟨pc, hpc, hc⟩
        · exact Or.inl ⟨id, by simp [hid], x, hx⟩
        · refine Or.inr ⟨pc, hpc, ?_⟩
          cases pc <;> simp only [WPc.carries] at hc ⊢ <;> exact hc
      · exact Or.inr h

theorem InvNum.step {p : Params} {s s' : State} {e : Ev} (hT : InvTok p s)
    (h : InvNum p s) (hs : Step p s e s') : InvNum p s' := by
  cases hs
  -- the steps that touch no buffer and queue no work; `MainBuf` says nothing at the pc they enter
  case refill_recv | md5_eof | md5_stop => exact h.congr rfl (fun _ => Iff.rfl) rfl rfl rfl rfl trivial
  case f_eof_plain | f_eof_empty | f_read_err =>
    exact h.congr rfl (fun _ => Iff.rfl) rfl rfl rfl rfl (.afterStop rfl)
  case enc_send_none r _ _ => exact h.congr rfl (fun _ => by simp) rfl rfl rfl rfl (.afterStop rfl)
  case joined_hasher | joined_worker => exact h.congr rfl (fun _ => Iff.rfl) rfl rfl rfl rfl (by split <;> trivial)
  case md5_recv_stop | md5_recv_data => exact h.congr rfl (fun _ => Iff.rfl) rfl rfl rfl rfl h.mainBuf
  case md5_data id b x hm hnf hcap hb hx =>
    have hex := hT.excl_main (x := id) (by simp [hm, MPc.hand])
    refine h.set_buf id { x with blk := b } hex.2.1 hex.2.2.1 rfl rfl rfl rfl rfl rfl ?_
    have hlt := getElem?_some_lt hx
    simp [MainBuf, hb, hlt]
  case f_filled id x hm hx =>
    have hex := hT.excl_main (x := id) (by simp [hm, MPc.hand])
    refine h.set_buf id { x with num := some s.k } hex.2.1 hex.2.2.1 rfl rfl rfl rfl rfl rfl ?_
    have hlt := getElem?_some_lt hx
    have h3 := h.mainBuf
    simp only [MainBuf, hm, hx] at h3
    simpa [MainBuf, hlt] using h3
  case enc_send_some id hm hcap => exact h.enc_send_some hm
  case enc_recv_some w id rest hw hq =>
    have hq0 := h.queue id (by simp [hq])
    refine h.worker_step hw rfl rfl rfl rfl ?_ ?_ hq0 ?_ h.sink h.errs h.sorted h.esorted
      (fun _ h => h) (fun _ h => h)
    · intro x hx; simp [hq, hx]
    · intro id' hid'
      simp only [hq, List.mem_cons, Option.some.injEq] at hid'
      rcases hid' with rfl | hid'
      · exact Or.inr rfl
      · exact Or.inl hid'
    · intro n hc; simp [WPc.carries] at hc
  case enc_recv_none w rest hw hq =>
    refine h.worker_step hw rfl rfl rfl rfl ?_ ?_ (by simp [WOk]) ?_ h.sink h.errs h.sorted h.esorted
      (fun _ h => h) (fun _ h => h)
    · intro x hx; simp [hq, hx]
    · intro id' hid'
      simp only [hq, List.mem_cons] at hid'
      rcases hid' with hid' | hid'
      · simp at hid'
      · exact Or.inl hid'
    · intro n hc; simp [WPc.carries] at hc
  case w_lock w id n x hw hx hn hl =>
    have hwo := h.workers _ (List.mem_of_getElem? hw)
    simp only [WOk, Holds] at hwo
    obtain ⟨n', x', hx1, hx2, hx3, hx4⟩ := hwo
    rw [hx] at hx1
    cases hx1
    have hnn : n' = n := by rw [hn] at hx2; exact (Option.some.inj hx2).symm
    subst hnn
    refine h.worker_step hw rfl rfl rfl rfl (fun _ h => h) (fun _ h => Or.inl h) ?_ ?_
      h.sink h.errs h.sorted h.esorted (fun _ h => h) (fun _ h => h)
    · exact ⟨hx3, x.blk, hx4, rfl⟩
    · intro m hc
      simp only [WPc.carries] at hc
      obtain ⟨y, hy1, hy2⟩ := hc
      rw [hx] at hy1; cases hy1
      rw [hn] at hy2
      left; simpa [WPc.carries] using hy2
  case refill_send w id n res hw hcap =>
    have hwo := h.workers _ (List.mem_of_getElem? hw)
    refine h.worker_step hw rfl rfl rfl rfl (fun _ h => h) (fun _ h => Or.inl h) ?_ ?_
      h.sink h.errs h.sorted h.esorted (fun _ h => h) (fun _ h => h)
    · simpa [WOk] using hwo
    · intro m hc; left; simpa [WPc.carries] using hc
  -- the result goes where `enc` says; the sink and the error map are kept alike (`insertKey_keeps`)
  case w_push w id n f hw =>
    obtain ⟨h1, b, h2, h3⟩ := h.workers _ (List.mem_of_getElem? hw)
    obtain ⟨hP, hsort, hn, hkeys⟩ := insertKey_keeps
      (fun x : Nat × OutFrame => x.1 < s.k ∧ ∃ b, p.blocks[x.1]? = some b ∧ enc x.1 b = some x.2) n f
      (fun x hx => h.sink x.1 x.2 hx) ⟨h1, b, h2, h3.symm⟩ h.sorted
    exact h.worker_step hw rfl rfl rfl rfl (fun _ h => h) (fun _ h => Or.inl h) (by simp [WOk])
      (fun m hc => by simp only [WPc.carries] at hc; subst hc; exact Or.inr (Or.inl hn))
      (fun m g hm => hP (m, g) hm) h.errs hsort h.esorted hkeys (fun _ h => h)
  case w_err w id n hw =>
    obtain ⟨h1, b, h2, h3⟩ := h.workers _ (List.mem_of_getElem? hw)
    obtain ⟨hP, hsort, hn, hkeys⟩ := insertKey_keeps
      (fun x : Nat × Unit => x.1 < s.k ∧ ∃ b, p.blocks[x.1]? = some b ∧ enc x.1 b = none) n ()
      (fun x hx => h.errs x.1 x.2 hx) ⟨h1, b, h2, h3.symm⟩ h.esorted
    exact h.worker_step hw rfl rfl rfl rfl (fun _ h => h) (fun _ h => Or.inl h) (by simp [WOk])
      (fun m hc => by simp only [WPc.carries] at hc; subst hc; exact Or.inr (Or.inr hn))
      h.sink (fun m g hm => hP (m, g) hm) h.sorted hsort (fun _ h => h) hkeys

end FlacVerif.Par
