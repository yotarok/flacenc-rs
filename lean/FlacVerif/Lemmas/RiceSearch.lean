/-
The `u32` table arithmetic of the partitioned-Rice parameter search (`Table.fromErrors`, `Table.merge`,
`Table.minimizer`) computes saturated partition costs.
-/
import FlacVerif.Model.Rice
import FlacVerif.Lemmas.ListFacts
namespace FlacVerif
namespace RiceSearch

def sat (x : Nat) : Nat := min x maxPToBits

def qsum (p : Nat) : List Nat → Nat
  | [] => 0
  | e :: es => (e >>> p) + qsum p es

/-- The table the implementation is supposed to hold for the errors `es`. -/
def satTable (es : List Nat) : Table := (List.range 16).map fun p => sat (partCost p es)

theorem qsum_append (p : Nat) (x y : List Nat) : qsum p (x ++ y) = qsum p x + qsum p y := by
  induction x with
  | nil => simp [qsum]
  | cons e x ih => simp only [List.cons_append, qsum, ih]; omega

theorem partCost_eq (p : Nat) (es : List Nat) :
    partCost p es = 4 + qsum p es + es.length * (p + 1) := by
  unfold partCost
  rw [foldl_add_sum]
  induction es with
  | nil => simp [qsum]
  | cons e es ih =>
    simp only [List.map_cons, List.sum_cons, qsum, List.length_cons, Nat.add_mul] at ih ⊢
    omega

theorem partCost_ge (p : Nat) (es : List Nat) : 4 ≤ partCost p es := by
  rw [partCost_eq]; omega

theorem partCost_append (p : Nat) (x y : List Nat) :
    partCost p (x ++ y) + 4 = partCost p x + partCost p y := by
  simp only [partCost_eq, qsum_append, List.length_append, Nat.add_mul]; omega

theorem sat_le (x : Nat) : sat x ≤ x := Nat.min_le_left _ _
theorem sat_le_max (x : Nat) : sat x ≤ 2 ^ 28 - 1 := Nat.min_le_right _ _
theorem sat_of_le {x : Nat} (h : x ≤ 2 ^ 28 - 1) : sat x = x := Nat.min_eq_left h
theorem sat_of_ge {x : Nat} (h : 2 ^ 28 - 1 ≤ x) : sat x = 2 ^ 28 - 1 := Nat.min_eq_right h
theorem le_sat {c x : Nat} (h : c ≤ x) (hc : c ≤ 2 ^ 28 - 1) : c ≤ sat x := Nat.le_min.mpr ⟨h, hc⟩
theorem sat_eq_of_lt (x : Nat) (h : sat x < 2 ^ 28 - 1) : sat x = x := by
  rcases Nat.le_total x (2 ^ 28 - 1) with hx | hx
  · exact sat_of_le hx
  · rw [sat_of_ge hx] at h; exact absurd h (Nat.lt_irrefl _)
theorem sat_mono {x y : Nat} (h : x ≤ y) : sat x ≤ sat y := by unfold sat; omega

theorem sat_add_left (a b : Nat) : sat (sat a + b) = sat (a + b) := by
  rcases Nat.le_total a (2 ^ 28 - 1) with h | h
  · rw [sat_of_le h]
  · rw [sat_of_ge h, sat_of_ge (Nat.le_add_right _ _), sat_of_ge (Nat.le_trans h (Nat.le_add_right _ _))]

theorem sat_add_right (a b : Nat) : sat (a + sat b) = sat (a + b) := by
  rw [Nat.add_comm, sat_add_left, Nat.add_comm]

theorem sat_add_sub (a b c : Nat) (ha : c ≤ sat a) (hb : c ≤ sat b) : sat (sat a + sat b - c) = sat (a + b - c) := by
  have ha' := Nat.le_trans ha (sat_le a)
  have hb' := Nat.le_trans hb (sat_le b)
  rcases Nat.le_total a (2 ^ 28 - 1) with h1 | h1
  · rcases Nat.le_total b (2 ^ 28 - 1) with h2 | h2
    · rw [sat_of_le h1, sat_of_le h2]
    · rw [sat_of_ge h2] at hb ⊢
      rw [sat_of_ge (x := a + b - c) (by omega), sat_of_ge (by omega)]
  · rw [sat_of_ge h1] at ha ⊢
    rw [sat_of_ge (x := a + b - c) (by omega), sat_of_ge (by omega)]

theorem satTable_getD (es : List Nat) (p : Nat) (hp : p < 16) :
    (satTable es).getD p 0 = sat (partCost p es) := getD_map_range _ _ _ _ hp

theorem satTable_length (es : List Nat) : (satTable es).length = 16 := by simp [satTable]

/-- Slow path of `from_errors`: element-wise saturating accumulation is the saturated sum. -/
theorem accSlow_fold (p : Nat) (es : List Nat) (a : Nat) (ha : a ≤ 2 ^ 28 - 1) :
    es.foldl (fun a e => min ((a + min (e >>> p) maxPToBits) % u32) maxPToBits) a
      = sat (a + qsum p es) := by
  induction es generalizing a with
  | nil => exact (sat_of_le ha).symm
  | cons e es ih =>
    have hlt : a + sat (e >>> p) < u32 := by
      have := sat_le_max (e >>> p)
      unfold u32; omega
    have hstep : min ((a + min (e >>> p) maxPToBits) % u32) maxPToBits = sat (a + (e >>> p)) := by
      rw [← sat_add_right, ← Nat.mod_eq_of_lt hlt]
      rfl
    rw [List.foldl_cons, hstep, ih _ (sat_le_max _), sat_add_left, qsum, Nat.add_assoc]

/-- One chunk of the fast path does not wrap. -/
theorem chunk_fold (p : Nat) (chunk : List Nat) (a : Nat)
    (hb : a + 2 ^ 27 * chunk.length < 2 ^ 32) (hc : ∀ e ∈ chunk, e < 2 ^ 27) :
    chunk.foldl (fun a e => (a + (e >>> p)) % u32) a = a + qsum p chunk := by
  induction chunk generalizing a with
  | nil => simp [qsum]
  | cons e chunk ih =>
    simp only [List.foldl_cons, qsum, List.length_cons] at hb ⊢
    have he : e >>> p < 2 ^ 27 := Nat.lt_of_le_of_lt (Nat.shiftRight_le e p) (hc e (by simp))
    have h1 : a + (e >>> p) < 2 ^ 32 := by omega
    unfold u32
    rw [Nat.mod_eq_of_lt h1]
    have := ih (a + (e >>> p)) (by omega) (fun x hx => hc x (by simp [hx]))
    unfold u32 at this
    rw [this]; omega

/-- Fast path: per-chunk clamping equals saturating the total. -/
theorem accFast_go (p : Nat) (fuel : Nat) (rest : List Nat) (acc : Nat)
    (hf : rest.length < fuel) (ha : acc ≤ 2 ^ 28 - 1) (hc : ∀ e ∈ rest, e < 2 ^ 27) :
    Table.accFast.go p acc rest fuel = sat (acc + qsum p rest) := by
  induction fuel generalizing rest acc with
  | zero => omega
  | succ fuel ih =>
    unfold Table.accFast.go
    cases rest with
    | nil => exact (sat_of_le ha).symm
    | cons e rest =>
      simp only [List.isEmpty_cons, Bool.false_eq_true, ↓reduceIte]
      have hlen : ((e :: rest).take 16).length ≤ 16 := by
        rw [List.length_take]; omega
      have hchunk := chunk_fold p ((e :: rest).take 16) acc (by omega)
        (fun x hx => hc x (List.mem_of_mem_take hx))
      rw [hchunk]
      have hq : qsum p (e :: rest) = qsum p ((e :: rest).take 16) + qsum p ((e :: rest).drop 16) := by
        rw [← qsum_append, List.take_append_drop]
      have hmin : min (acc + qsum p ((e :: rest).take 16)) maxPToBits
          = sat (acc + qsum p ((e :: rest).take 16)) := rfl
      rw [hmin, ih ((e :: rest).drop 16) _ (by rw [List.length_drop]; simp only [List.length_cons] at hf ⊢; omega)
        (sat_le_max _) (fun x hx => hc x (List.mem_of_mem_drop hx)), hq, sat_add_left, Nat.add_assoc]

theorem accSlow_getD (es : List Nat) (p : Nat) (hp : p < 16) :
    (Table.accSlow es).getD p 0 = sat (qsum p es) := by
  unfold Table.accSlow
  rw [getD_map_range _ _ _ _ hp, accSlow_fold p es 0 (by omega)]
  simp

theorem accFast_getD (es : List Nat) (p : Nat) (hp : p < 16) (hc : ∀ e ∈ es, e < 2 ^ 27) :
    (Table.accFast es).getD p 0 = sat (qsum p es) := by
  unfold Table.accFast
  rw [getD_map_range _ _ _ _ hp, accFast_go p _ es 0 (by omega) (by omega) hc]
  simp

/-- `from_errors(errors, 4)` is the saturated cost table, for fewer than `2^16` errors. -/
theorem fromErrors_eq (es : List Nat) (hlen : es.length < 2 ^ 16) :
    Table.fromErrors es 4 = satTable es := by
  unfold Table.fromErrors satTable
  apply List.map_congr_left
  intro p hp
  have hp : p < 16 := List.mem_range.mp hp
  have hacc : (if es.foldl max 0 ≥ 2 ^ 27 then Table.accSlow es else Table.accFast es).getD p 0
      = sat (qsum p es) := by
    split
    · exact accSlow_getD es p hp
    · rename_i h
      exact accFast_getD es p hp (fun e he => by
        have := mem_le_foldl_max es 0 e he
        omega)
  have hn : es.length % u32 = es.length := Nat.mod_eq_of_lt (by unfold u32; omega)
  simp only [] at hacc ⊢
  rw [hacc, partCost_eq, hn]
  have ht : es.length * (p + 1) ≤ 2 ^ 16 * 16 := Nat.mul_le_mul (by omega) (by omega)
  generalize es.length * (p + 1) = t at ht ⊢
  -- neither the offset nor its sum with a saturated entry wraps
  have hoff : (4 % u32 + t) % u32 = 4 + t := by unfold u32; omega
  have hlt : sat (qsum p es) + (4 + t) < u32 := by
    have := sat_le_max (qsum p es)
    unfold u32; omega
  rw [hoff, Nat.mod_eq_of_lt hlt]
  refine (sat_add_left _ _).trans (congrArg sat ?_)
  omega

theorem merge_eq (x y : List Nat) :
    Table.merge (satTable x) (satTable y) 4 = satTable (x ++ y) := by
  unfold Table.merge
  conv => rhs; unfold satTable
  apply List.map_congr_left
  intro p hp
  have hp : p < 16 := List.mem_range.mp hp
  rw [satTable_getD x p hp, satTable_getD y p hp]
  have h1 : 4 ≤ sat (partCost p x) := le_sat (partCost_ge p x) (by decide)
  have h2 : 4 ≤ sat (partCost p y) := le_sat (partCost_ge p y) (by decide)
  -- the wrapping subtraction of the second header is an ordinary one: the sum does not wrap and holds two headers
  have hsub : ((sat (partCost p x) + sat (partCost p y)) % u32 + (u32 - 4 % u32)) % u32
      = sat (partCost p x) + sat (partCost p y) - 4 := by
    have := sat_le_max (partCost p x)
    have := sat_le_max (partCost p y)
    unfold u32; omega
  rw [hsub]
  refine (sat_add_sub _ _ 4 h1 h2).trans (congrArg sat ?_)
  have := partCost_append p x y
  omega

theorem pack_val (b p : Nat) (hb : b < 2 ^ 28) (hp : p < 16) :
    ((b <<< 4) % u32) ||| p = b * 16 + p := by
  have h1 : b <<< 4 = b * 16 := by rw [Nat.shiftLeft_eq]
  have h2 : (b <<< 4) % u32 = b <<< 4 := Nat.mod_eq_of_lt (by rw [h1]; unfold u32; omega)
  rw [h2, ← Nat.shiftLeft_add_eq_or_of_lt (by omega : p < 2 ^ 4), h1]

theorem pack_max (p : Nat) (hp : p < 16) :
    (((u32 - 1) <<< 4) % u32) ||| p = (2 ^ 28 - 1) * 16 + p := by
  have : ((u32 - 1) <<< 4) % u32 = ((2 ^ 28 - 1) <<< 4) % u32 := by decide
  rw [this, pack_val _ p (by omega) hp]

theorem pack_le (a b p q : Nat) (hp : p < 16) (h : a * 16 + q ≤ b * 16 + p) : a ≤ b ∧ (a = b → q ≤ p) := by
  constructor
  · omega
  · intro hab; omega

theorem pack_unpack (b q : Nat) (hq : q < 16) : (b * 16 + q) % 16 = q ∧ (b * 16 + q) >>> 4 = b := by
  rw [Nat.shiftRight_eq_div_pow]; omega

/-- Entries below `2^28`: the packing `b << 4 | p` loses no bits. -/
theorem minimizer_spec (t : Table) (maxP : Nat) (ht : ∀ p, p < 16 → t.getD p 0 < 2 ^ 28) :
    (t.minimizer maxP).1 ≤ maxP ∧ (t.minimizer maxP).1 < 16 ∧
    (t.minimizer maxP).2 = t.getD (t.minimizer maxP).1 0 ∧
    ∀ p, p ≤ maxP → p < 16 → (t.minimizer maxP).2 ≤ t.getD p 0 := by
  -- uniform description of the packed words: bits `b' p` above the index `p`
  obtain ⟨b', hdef⟩ : ∃ b' : Nat → Nat, ∀ p, b' p = if p ≤ maxP then t.getD p 0 else 2 ^ 28 - 1 := ⟨_, fun _ => rfl⟩
  have hin : ∀ p, p ≤ maxP → b' p = t.getD p 0 := fun p hp => by rw [hdef, if_pos hp]
  have hout : ∀ p, ¬ p ≤ maxP → b' p = 2 ^ 28 - 1 := fun p hp => by rw [hdef, if_neg hp]
  have hb' : ∀ p, p < 16 → b' p < 2 ^ 28 := by
    intro p hp
    rw [hdef]
    split
    · exact ht p hp
    · decide
  have hpacked : (List.range 16).map (fun p =>
      ((((if p ≤ maxP then t.getD p 0 else u32 - 1)) <<< 4) % u32) ||| p)
      = (List.range 16).map (fun p => b' p * 16 + p) := by
    apply List.map_congr_left
    intro p hp
    have hp : p < 16 := List.mem_range.mp hp
    rw [hdef]
    split
    · exact pack_val _ p (ht p hp) hp
    · exact pack_max p hp
  unfold Table.minimizer
  simp only [hpacked]
  generalize hm : ((List.range 16).map (fun p => b' p * 16 + p)).foldl min (u32 - 1) = m
  have hle : ∀ p, p < 16 → m ≤ b' p * 16 + p := by
    intro p hp
    rw [← hm]
    exact foldl_min_le_mem _ _ _ (List.mem_map.mpr ⟨p, List.mem_range.mpr hp, rfl⟩)
  have hmem : m ∈ (List.range 16).map (fun p => b' p * 16 + p) := by
    rcases foldl_min_mem ((List.range 16).map (fun p => b' p * 16 + p)) (u32 - 1) with h | h
    · have := hle 0 (by decide)
      have := hb' 0 (by decide)
      rw [hm] at h; unfold u32 at h; omega
    · rw [hm] at h; exact h
  obtain ⟨q, hq, rfl⟩ := List.mem_map.mp hmem
  have hq : q < 16 := List.mem_range.mp hq
  rw [(pack_unpack (b' q) q hq).1, (pack_unpack (b' q) q hq).2]
  -- an index above `maxP` carries the largest bits, so it cannot beat index 0
  have hqle : q ≤ maxP := by
    by_cases h : q ≤ maxP
    · exact h
    · obtain ⟨h1, h2⟩ := pack_le _ _ 0 q (by decide) (hle 0 (by decide))
      have h0 := hb' 0 (by decide)
      rw [hout q h] at h1 h2
      exact Nat.le_trans (h2 (Nat.le_antisymm h1 (Nat.le_pred_of_lt h0))) (Nat.zero_le _)
  refine ⟨hqle, hq, hin q hqle, fun p hp hp16 => ?_⟩
  rw [← hin p hp]
  exact (pack_le _ _ p q hp16 (hle p hp16)).1

/-- The unpacking alone bounds what `minimizer` returns, whatever the table holds. -/
theorem minimizer_fst_lt (t : Table) (maxP : Nat) : (t.minimizer maxP).1 < 16 :=
  Nat.mod_lt _ (by decide)

theorem minimizer_snd_lt (t : Table) (maxP : Nat) : (t.minimizer maxP).2 < 2 ^ 28 := by
  have := foldl_min_le ((List.range 16).map fun p =>
    (((if p ≤ maxP then t.getD p 0 else u32 - 1) <<< 4) % u32) ||| p) (u32 - 1)
  unfold Table.minimizer
  simp only [Nat.shiftRight_eq_div_pow]
  unfold u32 at *
  omega

theorem satTable_lt (es : List Nat) (p : Nat) (hp : p < 16) : (satTable es).getD p 0 < 2 ^ 28 := by
  rw [satTable_getD es p hp]
  have := sat_le_max (partCost p es)
  omega

theorem minimizer_satTable (es : List Nat) (maxP : Nat) :
    ((satTable es).minimizer maxP).1 ≤ maxP ∧ ((satTable es).minimizer maxP).1 < 16 ∧
    ((satTable es).minimizer maxP).2 = sat (partCost ((satTable es).minimizer maxP).1 es) ∧
    ∀ p, p ≤ maxP → p < 16 → ((satTable es).minimizer maxP).2 ≤ sat (partCost p es) := by
  obtain ⟨h1, h2, h3, h4⟩ := minimizer_spec (satTable es) maxP (satTable_lt es)
  refine ⟨h1, h2, ?_, ?_⟩
  · rw [h3, satTable_getD es _ h2]
  · intro p hp hp16
    rw [← satTable_getD es p hp16]
    exact h4 p hp hp16

end RiceSearch
end FlacVerif
