/-
What `encode_subframe` can return for an admissible block, with what is known of each outcome (`Outcome`; with the
block's own facts, `SubOutcome`, `encodeSubframe_outcome`).
A predicted sub-frame, fixed or LPC, is the first `order` samples plus `Residual.ofErrors` of a successful
search on an error signal that is the exact residual, within `i32`, of a bounded coefficient set (`Predicted`);
the fixed predictor of order `k` is the coefficient set `fixedCoefs k` at shift 0.  The two decoders,
well-formedness, the parser's limits and optimality are case analyses of `Outcome`; the size bounds of C09 need no
admissibility and read `encodeSubframe_emits` directly.
-/
import FlacVerif.Lemmas.StrictSearch
import FlacVerif.Lemmas.TotalLpc
import FlacVerif.Lemmas.EncoderShape
namespace FlacVerif
namespace Strict

theorem fixedCoefs_bound (k : Nat) (hk : k ≤ 4) :
    (fixedCoefs k).length = k ∧ ∀ c ∈ fixedCoefs k, -(2 ^ 15 : Int) ≤ c ∧ c ≤ 2 ^ 15 := by
  have : k = 0 ∨ k = 1 ∨ k = 2 ∨ k = 3 ∨ k = 4 := by omega
  rcases this with rfl | rfl | rfl | rfl | rfl <;> decide

/-- `errors` is the exact residual of `xs` under `(coefs, shift)`, every value a FLAC residual, and `search`
returned `prc` on it.  `order` and `coef` are what both decoders ask of a coefficient set (5-bit order field; the
`i64` prediction sum of `Wrap.predict_ok` has room for `2^46` per coefficient): weaker than `OEvent.Ok` (24
coefficients of at most 15 bits) and than the table `fixedCoefs`, so that one statement covers both predictors. -/
structure Predicted (maxP : Nat) (xs coefs : List Int) (shift : Nat) (errors : List Int) (prc : PrcParameter) :
    Prop where
  n64 : 64 ≤ xs.length
  small : xs.length < 2 ^ 16
  maxP14 : maxP ≤ 14
  order : coefs.length ≤ 32
  coef : ∀ c ∈ coefs, -(2 ^ 15 : Int) ≤ c ∧ c ≤ 2 ^ 15
  len : errors.length = xs.length
  range : ∀ e ∈ errors, -(2 ^ 31 : Int) < e ∧ e < (2 ^ 31 : Int)
  exact : errors.drop coefs.length = lpcResidual coefs shift xs
  found : search errors coefs.length maxP = some prc

theorem FixedShape.predicted {cfg : SubCfg} {xs : List Int} {bps : Nat} {s : SubFrame} (hs : FixedShape cfg xs bps s)
    (hn : 64 ≤ xs.length) (hlen : xs.length < 2 ^ 16) (hb : 1 ≤ bps ∧ bps ≤ 25)
    (hx : ∀ x ∈ xs, SubFrame.inRange bps x = true) (hmax : cfg.maxP ≤ 14) :
    ∃ k prc, k ≤ 4 ∧ Predicted cfg.maxP xs (fixedCoefs k) 0 (diffs k xs) prc ∧
      s = .fixed (xs.take k) (Residual.ofErrors (diffs k xs) k prc.order prc.ps) bps := by
  obtain ⟨k, prc, hk4, hsearch, rfl⟩ := hs
  obtain ⟨hdl, hdr, hdd⟩ := diffs_fixed bps hb xs hx k hk4 (by omega)
  obtain ⟨hcl, hcb⟩ := fixedCoefs_bound k hk4
  exact ⟨k, prc, hk4, ⟨hn, hlen, hmax, by omega, hcb, hdl, hdr, by rw [hcl]; exact hdd, by rw [hcl]; exact hsearch⟩,
    rfl⟩

theorem LpcShape.predicted {cfg : SubCfg} {xs : List Int} {bps : Nat} {log : List OEvent} {s : SubFrame}
    (hs : LpcShape cfg xs bps log s) (hn : 64 ≤ xs.length) (hlen : xs.length < 2 ^ 16) (hmax : cfg.maxP ≤ 14)
    (hlog : ∀ e ∈ log, e.Ok) :
    ∃ coefs shift precision errors prc, (OEvent.qlpc coefs shift precision).Ok ∧
      Predicted cfg.maxP xs coefs shift.toNat errors prc ∧
      s = .lpc (xs.take coefs.length) coefs shift precision
        (Residual.ofErrors errors coefs.length prc.order prc.ps) bps := by
  obtain ⟨coefs, shift, precision, errors, prc, hmem, hce, hsearch, rfl⟩ := hs
  have hok := hlog _ hmem
  have ⟨_, hc24, _, hp15, _, _, hcr⟩ := hok
  unfold maxLpcOrder at hc24
  obtain ⟨hel, hef, hed⟩ := computeError_spec coefs shift.toNat xs errors hce
  refine ⟨coefs, shift, precision, errors, prc, hok, ⟨hn, hlen, hmax, by omega, ?_, hel, ?_, hed, hsearch⟩, rfl⟩
  · exact fun c hc => by have := inRange_bound precision 15 (by omega) c (hcr c hc); omega
  · exact search_range errors coefs.length cfg.maxP prc hef hsearch

theorem Predicted.space {maxP : Nat} {xs coefs : List Int} {shift : Nat} {errors : List Int} {prc : PrcParameter}
    (p : Predicted maxP xs coefs shift errors prc) :
    prc.order ≤ 15 ∧ prc.ps.length = 2 ^ prc.order ∧ 2 ^ prc.order ∣ errors.length ∧
    max 64 coefs.length ≤ errors.length >>> prc.order ∧ ∀ p ∈ prc.ps, p ≤ 14 :=
  search_space errors coefs.length maxP prc (fits_of_range _ p.range) (by rw [p.len]; exact p.small) p.maxP14 p.found

theorem Predicted.residual_wf {maxP : Nat} {xs coefs : List Int} {shift : Nat} {errors : List Int}
    {prc : PrcParameter} (p : Predicted maxP xs coefs shift errors prc) :
    (Residual.ofErrors errors coefs.length prc.order prc.ps).WF ∧ (xs.take coefs.length).length = coefs.length ∧
    coefs.length < (Residual.ofErrors errors coefs.length prc.order prc.ps).blockSize :=
  have := p.order
  have := p.n64
  ⟨residual_wf_of_search errors coefs.length maxP prc (fits_of_range _ p.range) (by rw [p.len]; exact p.small) p.maxP14
    p.found, by rw [List.length_take]; omega,
    by rw [ofErrors_blockSize, p.len]; omega⟩

/-- A predicted sub-frame is emitted only with a reported size below the verbatim size. -/
def Cheaper (xs : List Int) (bps : Nat) (s : SubFrame) : Prop := ∃ c, s.count = some c ∧ c < verbatimBits xs.length bps

inductive Outcome (cfg : SubCfg) (xs : List Int) (bps : Nat) : SubFrame → Prop
  | constant : isConstant xs = true → Outcome cfg xs bps (.constant xs.length (xs.headD 0) bps)
  | verbatim : Outcome cfg xs bps (.verbatim xs bps)
  | fixed (k : Nat) (prc : PrcParameter) : k ≤ 4 → Predicted cfg.maxP xs (fixedCoefs k) 0 (diffs k xs) prc →
      Cheaper xs bps (.fixed (xs.take k) (Residual.ofErrors (diffs k xs) k prc.order prc.ps) bps) →
      Outcome cfg xs bps (.fixed (xs.take k) (Residual.ofErrors (diffs k xs) k prc.order prc.ps) bps)
  | lpc (coefs : List Int) (shift : Int) (precision : Nat) (errors : List Int) (prc : PrcParameter) :
      (OEvent.qlpc coefs shift precision).Ok → Predicted cfg.maxP xs coefs shift.toNat errors prc →
      Cheaper xs bps (.lpc (xs.take coefs.length) coefs shift precision
        (Residual.ofErrors errors coefs.length prc.order prc.ps) bps) →
      Outcome cfg xs bps (.lpc (xs.take coefs.length) coefs shift precision
        (Residual.ofErrors errors coefs.length prc.order prc.ps) bps)

/-- `s` is what `encode_subframe` returns for an admissible block, fewer than `2^16` samples of `bps` bits; the
block's facts are kept, as in `FrameOutcome`. -/
structure SubOutcome (cfg : SubCfg) (xs : List Int) (bps : Nat) (s : SubFrame) : Prop where
  small : xs.length < 2 ^ 16
  width : 1 ≤ bps ∧ bps ≤ 25
  range : ∀ x ∈ xs, SubFrame.inRange bps x = true
  case : Outcome cfg xs bps s

theorem encodeSubframe_outcome (cfg : SubCfg) (xs : List Int) (bps : Nat) (log log' : List OEvent) (s : SubFrame)
    (hlen : xs.length < 2 ^ 16) (hb : 1 ≤ bps ∧ bps ≤ 25) (hx : ∀ x ∈ xs, SubFrame.inRange bps x = true)
    (hmax : cfg.maxP ≤ 14) (hlog : ∀ e ∈ log, e.Ok)
    (h : encodeSubframe cfg xs bps log = some (s, log')) : SubOutcome cfg xs bps s := by
  refine ⟨hlen, hb, hx, ?_⟩
  rcases (encodeSubframe_emits cfg xs bps log log' s h).2.2 with ⟨hc, rfl⟩ | rfl | ⟨h64, hcnt, hs | hs⟩
  · exact .constant hc
  · exact .verbatim
  · obtain ⟨k, prc, hk4, p, rfl⟩ := hs.predicted h64 hlen hb hx hmax
    exact .fixed k prc hk4 p hcnt
  · obtain ⟨coefs, shift, precision, errors, prc, hok, p, rfl⟩ := hs.predicted h64 hlen hmax hlog
    exact .lpc coefs shift precision errors prc hok p hcnt

theorem SubOutcome.wf {cfg : SubCfg} {xs : List Int} {bps : Nat} {s : SubFrame} (o : SubOutcome cfg xs bps s)
    (hn : 1 ≤ xs.length) : s.WF := by
  have hb := o.width
  have hx := o.range
  cases o.case with
  | constant _ => exact ⟨hn, hb.1, by omega, hx _ (headD_mem xs hn)⟩
  | verbatim => exact ⟨hn, hb.1, by omega, hx⟩
  | fixed k prc hk4 p _ =>
    obtain ⟨hwf, hwl, hbs⟩ := p.residual_wf
    rw [(fixedCoefs_bound k hk4).1] at hwf hwl hbs
    exact ⟨by omega, by rw [hwl]; rfl, hwf, by rw [hwl]; exact hbs, hb.1, by omega,
      fun x hxm => hx x (List.mem_of_mem_take hxm)⟩
  | lpc coefs shift precision errors prc hok p _ =>
    obtain ⟨hwf, hwl, hbs⟩ := p.residual_wf
    obtain ⟨hc1, _, hp1, hp15, hs0, hs15, hcr⟩ := hok
    exact ⟨hc1, p.order, hwl, by rw [hwl]; rfl, hwf, by rw [hwl]; exact hbs, hp1, hp15, hs0, hs15, hcr, hb.1,
      by omega, fun x hxm => hx x (List.mem_of_mem_take hxm)⟩

end Strict

end FlacVerif
