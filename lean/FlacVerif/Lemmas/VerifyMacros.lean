/-
The two range macros of `verify.rs` (`verify_block_size!`, `verify_bps!`, as `Model/Verify.lean` mirrors them) as
propositions.
-/
import FlacVerif.Model.Verify
namespace FlacVerif.VerifyL

theorem verifyBlockSize_iff (n : Nat) : verifyBlockSize n = true ↔ 1 ≤ n ∧ n ≤ 32767 := by
  unfold verifyBlockSize maxBlockSize
  simp only [Bool.and_eq_true, decide_eq_true_eq]

theorem verifyBps_iff (b : Nat) :
    verifyBps b = true ↔ (8 ≤ b ∧ b ≤ 25 ∧ (b % 4 = 0 ∨ b % 4 = 1)) := by
  unfold verifyBps
  simp only [Bool.and_eq_true, Bool.or_eq_true, decide_eq_true_eq, beq_iff_eq, and_assoc]

end FlacVerif.VerifyL
