/-
The laws of the log monad `M` of Gen/Coding.lean (`List OEvent → Option (α × List OEvent)`).  A step that does not read the
log is `liftO o`, one that cannot panic either is `pureM v`: facts about callees are stated as such equations between
`M`-values and composed with `bindM_pure`, `bindM_some`, `req_true`; `bindM_apply` and `liftO_apply` are for the steps
that do read the log.  The laws of the further steps stand with their first users, under names the properties cite:
`C09Gen.req_apply`, `C09Gen.pureM_apply`; `C03Gen.bindM_none`, `req_false`, `tryM_some/_none`, `tryRet_some/_none` for the
driver's `tryM` / `tryRet`.
-/
import FlacVerif.Gen.Coding
namespace FlacVerif
namespace CodingM
open Gen.Coding

theorem bindM_apply {α β : Type} (m : M α) (k : α → M β) (log : List OEvent) :
    bindM m k log = (m log).bind fun r => k r.1 r.2 := by
  unfold bindM
  cases m log with
  | none => rfl
  | some r => cases r; rfl

theorem liftO_apply {α : Type} (o : Option α) (log : List OEvent) : liftO o log = o.map (·, log) := by
  cases o <;> rfl

theorem bindM_pure {α β : Type} (a : α) (k : α → M β) : bindM (pureM a) k = k a := rfl

theorem bindM_some {α β : Type} (a : α) (k : α → M β) : bindM (liftO (some a)) k = k a := rfl

theorem req_true {α : Type} (rest : M α) : req true rest = rest := rfl

theorem mapMM_map {α β γ : Type} (f : β → M γ) (g : α → β) :
    ∀ l : List α, mapMM f (l.map g) = mapMM (fun x => f (g x)) l
  | [] => rfl
  | x :: xs => by simp only [List.map_cons, mapMM, mapMM_map f g xs]

theorem mapMM_liftO {α β : Type} (f : α → M β) (g : α → Option β) :
    ∀ l : List α, (∀ x ∈ l, f x = liftO (g x)) → mapMM f l = liftO (l.mapM g)
  | [], _ => rfl
  | x :: xs, h => by
    rw [mapMM, h x (by simp), mapMM_liftO f g xs fun z hz => h z (by simp [hz]), List.mapM_cons]
    cases g x with
    | none => rfl
    | some y => cases xs.mapM g <;> rfl

theorem mapMM_pure {α β : Type} (f : α → M β) (g : α → β) (l : List α) (hf : ∀ x ∈ l, f x = pureM (g x)) :
    mapMM f l = pureM (l.map g) :=
  (mapMM_liftO f (fun x => some (g x)) l hf).trans (congrArg liftO List.mapM_pure)

end CodingM
end FlacVerif
