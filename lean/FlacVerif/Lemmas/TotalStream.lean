/-
No panic site of the functional encoder is reachable (C07): the frame loop (`encodeFrames_total`), the logs that need no
oracle (`NoOracle`), and what `Encoder::verify` guarantees the integer pipeline (`verify_limits`).  The step from the frame
loop to `encode_with_fixed_block_size` is `C07_stream_total`.
-/
import FlacVerif.Lemmas.TotalFrame
import FlacVerif.Lemmas.Blocks
import FlacVerif.Lemmas.Config
import FlacVerif.Lemmas.GenCfg
namespace FlacVerif
namespace Total
open Strict

/-- The log supplies, frame after frame, what the frame loop asks for. -/
def FramesLogOk (cfg : SubCfg) : List (List (List Int)) → List OEvent → Prop
  | [], _ => True
  | b :: bs, log => FrameLogOk cfg b log ∧ FramesLogOk cfg bs (log.drop (frameTake cfg b))

/-- Number of oracle events the frame loop consumes. -/
def framesTake (cfg : SubCfg) : List (List (List Int)) → Nat
  | [] => 0
  | b :: bs => frameTake cfg b + framesTake cfg bs

/-- The frame loop hits no panic site.  The bound `2^32` on the frame numbers is more than the proof uses: only
`Frame::count_bits` (`FrameOutcome.bits`) asks anything of them, and `2^36` would do. -/
theorem encodeFrames_total (cfg : SubCfg) (st : StereoCfg) (bps rate nch bsz : Nat)
    (hnch : 1 ≤ nch ∧ nch ≤ 8) (hbs : bsz < 2 ^ 16) (hb : 1 ≤ bps ∧ bps ≤ 24) (hmax : cfg.maxP ≤ 14) :
    ∀ (blocks : List (List (List Int))) (number : Nat) (log : List OEvent),
      (∀ b ∈ blocks, BlockOk nch bps bsz b) → number + blocks.length ≤ 2 ^ 32 →
      (∀ e ∈ log, e.Ok) → FramesLogOk cfg blocks log →
      ∃ frames, encodeFrames cfg st bps rate blocks number log = some (frames, log.drop (framesTake cfg blocks)) ∧
        ∃ counts, frames.mapM Frame.count = some counts := by
  intro blocks
  induction blocks with
  | nil => intro number log _ _ _ _; exact ⟨[], rfl, [], rfl⟩
  | cons b bs ih =>
    intro number log hbk hnum hok hshape
    obtain ⟨hs1, hs2⟩ := hshape
    have hb0 := hbk b (by simp)
    simp only [List.length_cons] at hnum
    obtain ⟨hch, hn⟩ := hb0.frameHyps hnch hbs
    obtain ⟨f, hf⟩ := encodeFrame_total cfg st b bps rate number (b.headD []).length log hch.1 hb0.len hn hb hb0.range
      hok hs1
    obtain ⟨_, _, fo⟩ := encodeFrame_outcome cfg st b bps rate number (b.headD []).length log _ f hch hb0.len hn hb
      hb0.range hmax hok hf
    obtain ⟨fb, _, hcount, _⟩ := fo.bits (by omega)
    obtain ⟨fs, hfs, counts, hc⟩ := ih (number + 1) (log.drop (frameTake cfg b)) (fun x hx => hbk x (by simp [hx]))
      (by omega) (fun e he => hok e (List.mem_of_mem_drop he)) hs2
    refine ⟨f :: fs, ?_, fb.length :: counts, by simp [List.mapM_cons, hcount, hc]⟩
    simp only [encodeFrames, hf, hfs, Option.bind_eq_bind, Option.bind_some, List.drop_drop, framesTake]

/-- `encode_subframe` consults no oracle event for the block `xs`, whatever the log offers. -/
def NoOracle (cfg : SubCfg) (xs : List Int) : Prop := subTake cfg xs = 0 ∧ ∀ log, SubLogOk cfg xs log

theorem noOracle_of_cfg (cfg : SubCfg) (hl : cfg.useLpc = false) (hf : cfg.bitCount = true ∨ cfg.useFixed = false)
    (xs : List Int) : NoOracle cfg xs := by
  have he : estTake cfg = 0 := by
    unfold estTake
    rcases hf with h | h <;> simp [h]
  refine ⟨?_, fun log => Or.inr (Or.inr ⟨by omega, by simp [he], by simp [hl]⟩)⟩
  unfold subTake
  simp [he, hl]

/-- Blocks shorter than `MIN_BLOCK_SIZE_FOR_PREDICTION = 64`: only constant / verbatim sub-frames. -/
theorem noOracle_of_short (cfg : SubCfg) (xs : List Int) (h : xs.length < 64) : NoOracle cfg xs := by
  have hc : xs.length < minBlockForPrediction := h
  refine ⟨?_, fun _ => Or.inr (Or.inl hc)⟩
  unfold subTake
  simp [hc]

theorem chansLogOk_of_noOracle (cfg : SubCfg) :
    ∀ (chans : List (List Int)) (log : List OEvent), (∀ c ∈ chans, NoOracle cfg c) →
      ChansLogOk cfg chans log ∧ chansTake cfg chans = 0 := by
  intro chans
  induction chans with
  | nil => intro log _; exact ⟨trivial, rfl⟩
  | cons c cs ih =>
    intro log h
    obtain ⟨ht, hs⟩ := h c (by simp)
    obtain ⟨h3, h4⟩ := ih (log.drop (subTake cfg c)) (fun x hx => h x (by simp [hx]))
    exact ⟨⟨hs log, h3⟩, by simp [chansTake, ht, h4]⟩

theorem framesLogOk_of_noOracle (cfg : SubCfg) :
    ∀ (blocks : List (List (List Int))) (log : List OEvent),
      (∀ b ∈ blocks, (∀ c ∈ b, NoOracle cfg c) ∧ ∀ c ∈ msOf b, NoOracle cfg c) →
      FramesLogOk cfg blocks log ∧ framesTake cfg blocks = 0 := by
  intro blocks
  induction blocks with
  | nil => intro log _; exact ⟨trivial, rfl⟩
  | cons b bs ih =>
    intro log h
    obtain ⟨hb, hm⟩ := h b (by simp)
    obtain ⟨h1, h2⟩ := chansLogOk_of_noOracle cfg b log hb
    obtain ⟨h3, h4⟩ := chansLogOk_of_noOracle cfg (msOf b) (log.drop (chansTake cfg b)) hm
    obtain ⟨h5, h6⟩ := ih (log.drop (frameTake cfg b)) (fun x hx => h x (by simp [hx]))
    exact ⟨⟨⟨h1, h3⟩, h5⟩, by simp [framesTake, frameTake, h2, h4, h6]⟩

theorem framesLogOk_of_cfg (cfg : SubCfg) (hl : cfg.useLpc = false) (hf : cfg.bitCount = true ∨ cfg.useFixed = false)
    (blocks : List (List (List Int))) (log : List OEvent) :
    FramesLogOk cfg blocks log ∧ framesTake cfg blocks = 0 :=
  framesLogOk_of_noOracle cfg blocks log fun _ _ =>
    ⟨fun c _ => noOracle_of_cfg cfg hl hf c, fun c _ => noOracle_of_cfg cfg hl hf c⟩

theorem msOf_short (chans : List (List Int)) (h : ∀ c ∈ chans, c.length < 64) : ∀ c ∈ msOf chans, c.length < 64 := by
  match chans, h with
  | [l, r], h =>
    intro c hc
    have hl := h l (by simp)
    simp only [msOf, List.mem_cons, List.not_mem_nil, or_false] at hc
    rcases hc with rfl | rfl <;> simp only [List.length_map, List.length_zipWith] <;> omega
  | [], _ => intro c hc; simp [msOf] at hc
  | [_], _ => intro c hc; simp [msOf] at hc
  | _ :: _ :: _ :: _, _ => intro c hc; simp [msOf] at hc

theorem framesLogOk_short (cfg : SubCfg) (blocks : List (List (List Int))) (log : List OEvent)
    (h : ∀ b ∈ blocks, ∀ c ∈ b, c.length < 64) : FramesLogOk cfg blocks log ∧ framesTake cfg blocks = 0 :=
  framesLogOk_of_noOracle cfg blocks log fun b hb =>
    ⟨fun c hc => noOracle_of_short cfg c (h b hb c hc),
      fun c hc => noOracle_of_short cfg c (msOf_short b (h b hb) c hc)⟩

theorem blocksOf_short (bs : Nat) (chans : List (List Int)) (hbs : bs < 64) :
    ∀ b ∈ blocksOf bs chans, ∀ c ∈ b, c.length < 64 := by
  intro b hb c hc
  unfold blocksOf at hb
  simp only [List.mem_map, List.mem_range] at hb
  obtain ⟨j, _, rfl⟩ := hb
  simp only [List.mem_map] at hc
  obtain ⟨c0, _, rfl⟩ := hc
  rw [List.length_take]
  omega

theorem verify_limits (exp : Bool) (c : Gen.Encoder) (h : Gen.Encoder.verify exp c = true) :
    (subCfgOf c.subframe_coding).maxP ≤ 14 ∧ (subCfgOf c.subframe_coding).fixedMaxOrder ≤ 4 ∧
    32 ≤ c.block_size ∧ c.block_size ≤ 32767 ∧ c.subframe_coding.qlpc.lpc_order ≤ 24 ∧
    1 ≤ c.subframe_coding.qlpc.quant_precision ∧ c.subframe_coding.qlpc.quant_precision ≤ 15 := by
  rw [ConfigL.encoder_verify_iff, ConfigL.subframe_verify_iff, ConfigL.fixed_verify_iff, ConfigL.qlpc_verify_iff,
    ConfigL.prc_verify_iff] at h
  obtain ⟨h1, h2, ⟨h3, _⟩, ⟨_, h6, h7, h8, _⟩, h11⟩ := h
  exact ⟨h11, h3, h1, h2, h6, h7, h8⟩

end Total
end FlacVerif
