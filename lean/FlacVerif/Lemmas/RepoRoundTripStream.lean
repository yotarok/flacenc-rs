/-
Round trip of whole streams: `Stream.bits` against `Repo.stream` / `Repo.parseStream` (C15, stream level).
-/
import FlacVerif.Lemmas.RepoRoundTripFrame
import FlacVerif.Lemmas.Layout
namespace FlacVerif.Repo
open PResult

/-- STREAMINFO blocks that `stream_info` reads back IDENTICALLY from what `StreamInfo::write` writes.
* block sizes: either set (`1 ≤ min ≤ max ≤ 32767`) or the initial "unset" pair `(65535, 0)` of a
  `StreamInfo` that has not seen a frame (`total = 0`);
* frame sizes: either real (`min ≤ max < 2^24`, not both 0) or the initial "unset" pair `(2^32-1, 0)`,
  which `write` emits as `(0, 0)` ("unknown") and `stream_info` maps back to the initial pair.
The pair `(0, 0)` itself is NOT read back identically (it is written as `(0, 0)` and comes back as the
initial pair, see `streamInfo_read_zero`); no `StreamInfo` that saw a frame has it (a frame has ≥ 1 byte). -/
structure InfoOk (s : StreamInfo) : Prop where
  blocks : (1 ≤ s.minBlock ∧ s.minBlock ≤ s.maxBlock ∧ s.maxBlock ≤ 32767) ∨
    (s.total = 0 ∧ s.minBlock = 65535 ∧ s.maxBlock = 0)
  frames : (s.minFrame ≤ s.maxFrame ∧ s.maxFrame < 2 ^ 24 ∧ 0 < s.maxFrame) ∨
    (s.minFrame = 2 ^ 32 - 1 ∧ s.maxFrame = 0)
  rate : s.rate ≤ 96000
  channels : 1 ≤ s.channels ∧ s.channels ≤ 8
  bps : s.bps = 8 ∨ s.bps = 12 ∨ s.bps = 16 ∨ s.bps = 20 ∨ s.bps = 24
  total : s.total < 2 ^ 36
  md5len : s.md5.length = 16
  md5 : ∀ b ∈ s.md5, b < 256

theorem streamInfo_read (s : StreamInfo) (h : InfoOk s) (k : Bits) (hk : k.length % 8 = 0) :
    streamInfo (s.bits ++ k) = .ok (s, k) := by
  obtain ⟨hblocks, hframes, hrate, ⟨hch1, hch2⟩, hbps, htot, hml, hmd⟩ := h
  have hv : (verifyBps s.bps = true ∧ s.bps % 4 = 0) ∧ 1 ≤ s.bps ∧ s.bps ≤ 24 := by
    rcases hbps with h | h | h | h | h <;> rw [h] <;> decide
  clear hbps
  -- the frame sizes on the wire `(mn, mx)`, settled before the walk: the pair itself, or `(0, 0)`, which `stream_info`
  -- maps back to the initial pair
  obtain ⟨mn, mx, hw, hle, hmx, hback⟩ : ∃ mn mx, Layout.writtenFrameSizes s = (mn, mx) ∧ mn ≤ mx ∧
      mx < 2 ^ (8 * 3) ∧ (if mn = 0 ∧ mx = 0 then (2 ^ 32 - 1, 0) else (mn, mx)) = (s.minFrame, s.maxFrame) := by
    rcases hframes with ⟨h1, h2, h3⟩ | ⟨h1, h2⟩
    · exact ⟨_, _, Layout.writtenFrameSizes_known (by omega), h1, h2, by rw [if_neg (by omega)]⟩
    · exact ⟨0, 0, Layout.writtenFrameSizes_unknown (by omega), Nat.le_refl 0, by decide, by rw [h1, h2]; rfl⟩
  have hmb : s.minBlock < 2 ^ (8 * 2) ∧ s.maxBlock < 2 ^ (8 * 2) := by omega
  rw [Layout.info_bits, hw]
  simp only [List.append_assoc]
  unfold streamInfo
  refine bind_ok (beUint_natToBits 2 _ _ hmb.1) ?_
  refine bind_ok (beUint_natToBits 2 _ _ hmb.2) ?_
  refine bind_ok (beUint_natToBits 3 _ _ (by omega)) ?_
  refine bind_ok (beUint_natToBits 3 _ _ hmx) ?_
  refine bind_ok (takeBits_natToBits_lt 64 20 _ _ (by decide) (by omega)) ?_
  refine bind_ok (takeBits_natToBits_lt 64 3 _ _ (by decide) (by omega)) ?_
  refine bind_ok (takeBits_natToBits_lt 64 5 _ _ (by decide) (by omega)) ?_
  refine bind_ok (takeBits_natToBits_lt 64 36 _ _ (by decide) htot) ?_
  refine bind_ok (uadd_ok 64 _ _ _ (by omega)) ?_
  refine bind_ok (uadd_ok 64 _ _ _ (by omega)) ?_
  rw [Nat.sub_add_cancel hch1, Nat.sub_add_cancel hv.2.1,
    alignByte_aligned _ (by rw [List.length_append, bytesToBits_length]; omega)]
  refine bind_ok (hml ▸ byteTake_bytesToBits s.md5 k hmd) ?_
  refine (if_neg (by omega)).trans ((if_neg (by omega)).trans ((if_neg (by omega)).trans ?_))
  refine (if_neg (Decidable.not_not.mpr hv.1)).trans ?_
  refine bind_ok (passert_ok _ _ (decide_eq_true hml)) ?_
  -- the block sizes are unset, or they pass the three range checks
  have hset : ∀ {q : Prop}, ((1 ≤ s.minBlock ∧ s.minBlock ≤ s.maxBlock ∧ s.maxBlock ≤ 32767) → ¬ q) →
      ¬ (¬ (s.total = 0 ∧ s.minBlock = 65535 ∧ s.maxBlock = 0) ∧ q) :=
    fun hq h => hblocks.elim (fun hb => hq hb h.2) h.1
  refine (if_neg (hset fun hb hq => hq ⟨hb.1, by omega⟩)).trans ?_
  refine (if_neg (hset fun hb hq => hq ⟨by omega, hb.2.2⟩)).trans ?_
  refine (if_neg (hset fun hb hq => by omega)).trans ?_
  refine (if_neg (by omega)).trans ?_
  simp only [hback]
  rfl

/-- The corner excluded by `InfoOk`: frame sizes `(0, 0)` ("unknown" on the wire).  They are written as
`(0, 0)` and `stream_info` leaves the frame sizes of the new `StreamInfo` in their initial state
`(2^32-1, 0)`; everything else is read back. Likewise every other pair with `min > max`. -/
theorem streamInfo_read_zero (s : StreamInfo) (h : InfoOk { s with minFrame := 2 ^ 32 - 1, maxFrame := 0 })
    (hz : (s.minFrame = 0 ∧ s.maxFrame = 0) ∨ s.minFrame > s.maxFrame)
    (k : Bits) (hk : k.length % 8 = 0) :
    streamInfo (s.bits ++ k) = .ok ({ s with minFrame := 2 ^ 32 - 1, maxFrame := 0 }, k) := by
  have hbits : s.bits = ({ s with minFrame := 2 ^ 32 - 1, maxFrame := 0 } : StreamInfo).bits := by
    have hw : Layout.writtenFrameSizes s = (0, 0) := by
      rcases hz with ⟨h1, h2⟩ | h1
      · rw [Layout.writtenFrameSizes_known (by omega), h1, h2]
      · exact Layout.writtenFrameSizes_unknown h1
    rw [Layout.info_bits s, Layout.info_bits, hw,
      Layout.writtenFrameSizes_unknown (s := { s with minFrame := 2 ^ 32 - 1, maxFrame := 0 })
        (show (2 ^ 32 - 1 : Nat) > 0 by decide)]
  rw [hbits]
  exact streamInfo_read _ h k hk

/-- `Unknown` metadata blocks that `metadata_block` accepts. -/
structure MetaOk (m : UnknownBlock) : Prop where
  tag : 1 ≤ m.tag ∧ m.tag ≤ 126
  len : m.data.length < 2 ^ 24
  bytes : ∀ b ∈ m.data, b < 256

theorem blockHeader_first (isLast : Bool) (tag : Nat) (ht : tag ≤ 127) :
    decide ((tag + if isLast then 0x80 else 0) / 128 ≠ 0) = isLast ∧ (tag + if isLast then 0x80 else 0) % 128 = tag := by
  cases isLast with
  | true =>
    simp only [if_true]
    have h1 : (tag + 128) / 128 = 1 := by omega
    have h2 : (tag + 128) % 128 = tag := by omega
    simp [h1, h2]
  | false =>
    simp only [Bool.false_eq_true, if_false, Nat.add_zero]
    have h1 : tag / 128 = 0 := by omega
    have h2 : tag % 128 = tag := by omega
    simp [h1, h2]

theorem metadataBlock_unknown_read (m : UnknownBlock) (hm : MetaOk m) (isLast : Bool) (k : Bits) :
    metadataBlock (Stream.blockHeader isLast m.tag m.data.length ++ bytesToBits m.data ++ k) =
      .ok ((isLast, .unknown m), k) := by
  obtain ⟨⟨ht1, ht2⟩, hl, hb⟩ := hm
  obtain ⟨h1, h2⟩ := blockHeader_first isLast m.tag (by omega)
  unfold metadataBlock Stream.blockHeader
  rw [List.append_assoc, List.append_assoc]
  refine bind_ok (beUint_natToBits 1 _ _ (by split <;> omega)) ?_
  refine bind_ok (beUint_natToBits 3 _ _ hl) ((if_neg (by rw [h2]; omega)).trans ?_)
  refine bind_ok (byteTake_bytesToBits m.data k hb) ((if_neg (by rw [h2]; omega)).trans ?_)
  rw [pure_eq, h1, h2]

theorem metadataBlock_info_read (s : StreamInfo) (hs : InfoOk s) (isLast : Bool) (len : Nat) (k : Bits)
    (hl : len < 2 ^ 24) (hk : k.length % 8 = 0) :
    metadataBlock (Stream.blockHeader isLast 0 len ++ s.bits ++ k) = .ok ((isLast, .streamInfo s), k) := by
  obtain ⟨h1, h2⟩ := blockHeader_first isLast 0 (by omega)
  unfold metadataBlock Stream.blockHeader
  rw [List.append_assoc, List.append_assoc]
  refine bind_ok (beUint_natToBits 1 _ _ (by split <;> omega)) ?_
  refine bind_ok (beUint_natToBits 3 _ _ hl) ((if_pos h2).trans ?_)
  refine bind_ok (streamInfo_read s hs k hk) ?_
  rw [h1]
  rfl

/-- The `while !is_last` loop reads the blocks from `j` to the end of the list: `n` blocks without the flag, then
the one with it. -/
theorem metadataLoop_read (l : List UnknownBlock) (hl : ∀ m ∈ l, MetaOk m) (k : Bits) (n j : Nat)
    (hn : j + (n + 1) = l.length) :
    metadataLoop (Layout.metasFrom l j (n + 1) ++ k) = .ok ((l.drop j).map MetaData.unknown, k) := by
  have hget : ∀ j (hj : j < l.length), l.getD j ⟨0, []⟩ = l[j] := fun j hj => by
    rw [List.getD_eq_getElem?_getD, List.getElem?_eq_getElem hj]
    rfl
  induction n generalizing j with
  | zero =>
    have hj : j < l.length := by omega
    rw [Layout.metasFrom_succ, Layout.metasFrom_zero, List.append_nil, metadataLoop_eq, hget j hj]
    refine bind_ok (metadataBlock_unknown_read l[j] (hl _ (List.getElem_mem hj)) _ k) ?_
    rw [List.drop_eq_getElem_cons hj, List.drop_of_length_le (by omega)]
    exact if_pos (decide_eq_true (by omega))
  | succ n ih =>
    have hj : j < l.length := by omega
    rw [Layout.metasFrom_succ, List.append_assoc, metadataLoop_eq, hget j hj]
    refine bind_ok (metadataBlock_unknown_read l[j] (hl _ (List.getElem_mem hj)) _ _) ?_
    refine (if_neg (by simp only [decide_eq_true_eq]; omega)).trans ?_
    refine (if_pos (by simp only [List.length_append, Stream.blockHeader, natToBits_length]; omega)).trans ?_
    rw [List.drop_eq_getElem_cons hj]
    exact bind_ok (ih (j + 1) (by omega)) rfl

theorem framesTillEof_read (info : StreamInfo) (frames : List Frame) :
    ∀ (fbs : List Bits), frames.mapM (Frame.bits rfcCrc8 rfcCrc16) = some fbs →
      (∀ f ∈ frames, FrameOk info f) → framesTillEof info fbs.flatten = .ok frames := by
  induction frames with
  | nil =>
    intro fbs hm _
    simp only [List.mapM_nil, Option.pure_def, Option.some.injEq] at hm
    subst hm
    rw [framesTillEof_eq]
    rfl
  | cons f fs ih =>
    intro fbs hm hok
    simp only [List.mapM_cons, Option.bind_eq_bind, Option.bind_eq_some_iff, Option.pure_def,
      Option.some.injEq] at hm
    obtain ⟨fb, hfb, fbs', hrest, rfl⟩ := hm
    have hrd := ih fbs' hrest fun g hg => hok g (List.mem_cons_of_mem f hg)
    have h8 := Layout.frames_bits_len8 fs fbs' hrest
    have hpos := Layout.frame_bits_ge16 f fb hfb
    rw [List.flatten_cons, framesTillEof_eq, if_neg (by rw [List.length_append]; omega)]
    refine bind_ok (frame_read f info true fb fbs'.flatten hfb (hok f List.mem_cons_self) h8) ?_
    exact (if_pos (by rw [List.length_append]; omega)).trans (bind_ok hrd rfl)

def PStream.ofStream (s : Stream) : PStream :=
  { info := s.info, metadata := s.metadata.map MetaData.unknown, frames := s.frames }

theorem PStream.ofStream_toStream (s : Stream) : (PStream.ofStream s).toStream? = some s := by
  unfold PStream.toStream? PStream.ofStream
  simp only
  rw [mapM_map_some_map _ MetaData.unknown id s.metadata fun b _ => rfl, List.map_id]
  rfl

/-- What `parser::stream` needs to read back a stream written by `Stream::write`. -/
structure StreamOk (s : Stream) : Prop where
  info : InfoOk s.info
  metas : ∀ m ∈ s.metadata, MetaOk m
  frames : ∀ f ∈ s.frames, FrameOk s.info f

theorem stream_read (s : Stream) (sb : Bits) (hbits : s.bits rfcCrc8 rfcCrc16 = some sb) (hok : StreamOk s) :
    stream sb = .ok (PStream.ofStream s) := by
  obtain ⟨fbs, hfr, rfl⟩ := (Layout.stream_bits_iff s sb).1 hbits
  have hrd := framesTillEof_read s.info s.frames fbs hfr hok.frames
  have h8 := Layout.frames_bits_len8 s.frames fbs hfr
  have hm8 := Layout.metasFrom_len8 s.metadata 0 s.metadata.length
  unfold stream
  refine bind_ok (byteTag_read _ _) ?_
  rw [← List.append_assoc (Stream.blockHeader _ 0 34)]
  refine bind_ok (metadataBlock_info_read s.info hok.info _ 34 _ (by decide) (by rw [List.length_append]; omega)) ?_
  unfold PStream.ofStream
  cases hmeta : s.metadata with
  | nil => exact bind_ok (if_pos (decide_eq_true rfl)) (bind_ok hrd rfl)
  | cons m ms =>
    refine bind_ok ((if_neg (by simp)).trans
      (metadataLoop_read (m :: ms) (fun x hx => hok.metas x (hmeta ▸ hx)) _ ms.length 0 (Nat.zero_add _))) ?_
    exact bind_ok hrd rfl

theorem parseStream_read (s : Stream) (sb : Bits) (hbits : s.bits rfcCrc8 rfcCrc16 = some sb) (hok : StreamOk s) :
    parseStream (packBytes sb) = .ok (PStream.ofStream s) := by
  have h8 := Layout.stream_bits_len8 s sb hbits hok.info.md5len
  unfold parseStream
  rw [(Strict.bits_as_bytes sb h8).1]
  exact stream_read s sb hbits hok

end FlacVerif.Repo
