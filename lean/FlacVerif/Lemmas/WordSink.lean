/-
`MemSink<u64>` (model: `WordSink`): each write appends its bits to what the storage words hold; so `step` appends the ideal
bits of every valid op, and `run` those of an op sequence.
-/
import FlacVerif.Lemmas.BitStore
namespace FlacVerif
namespace WordSink

structure Inv (s : WordSink) : Prop where
  size : s.storage.length = (s.len + 63) / 64
  tail : ∀ i, s.len ≤ i → s.bitAt i = false

theorem Inv.size_le {s : WordSink} (h : s.Inv) : s.storage.length ≤ s.len := by rw [h.size]; omega

theorem inv_empty : empty.Inv := ⟨rfl, fun i _ => by simp [bitAt, empty]⟩

theorem bitAt_of_ge_storage (s : WordSink) (i : Nat) (h : s.storage.length ≤ i / 64) :
    s.bitAt i = false := by
  simp [bitAt, List.getElem?_eq_none h]

theorem stores_iff (s : WordSink) (bits : Bits) : Stores s.storage s.len bits ↔ s.Inv ∧ s.abs = bits := by
  rw [FlacVerif.stores_iff (by decide)]
  exact ⟨fun ⟨⟨h1, h2⟩, h3⟩ => ⟨⟨h1, h2⟩, h3⟩, fun ⟨⟨h1, h2⟩, h3⟩ => ⟨⟨h1, h2⟩, h3⟩⟩

theorem stores_pad {s : WordSink} {bits : Bits} (hs : Stores s.storage s.len bits) :
    s.len = bits.length ∧ s.paddings < 64 ∧ storeBits s.storage = bits ++ List.replicate s.paddings false := by
  have hl := hs.len
  obtain ⟨k, hk, hst, hlen⟩ := hs.length_eq
  have hr : s.paddings = k := by simp only [paddings]; omega
  exact ⟨hl, hr ▸ hk, hr ▸ hst⟩

/-- `write_msbs_impl` appends `payload`, for a top-aligned operand holding `payload` and zeros below. -/
theorem writeMsbsImpl_stores (s : WordSink) (bits : Bits) (hs : Stores s.storage s.len bits) (val : BitVec 64)
    (n z : Nat) (payload : Bits) (hp : payload.length = n) (hval : msbBits val = payload ++ List.replicate z false) :
    Stores (s.writeMsbsImpl val n).storage (s.writeMsbsImpl val n).len (bits ++ payload) := by
  obtain ⟨hl, hk, hst⟩ := stores_pad hs
  have hnz : 64 = n + z := by rw [← length_msbBits val, hval, List.length_append, List.length_replicate, hp]
  refine ⟨by simp only [writeMsbsImpl, hl, List.length_append, hp], ?_⟩
  simp only [writeMsbsImpl]
  generalize s.paddings = k at hk hst ⊢
  by_cases hk0 : k = 0
  · -- word aligned: `val` is pushed whole, if anything is written at all
    subst hk0
    simp only [ne_eq, not_true_eq_false, if_false, Nat.zero_mod, BitVec.shiftLeft_zero, List.replicate_zero,
      List.append_nil] at hst ⊢
    by_cases h0 : 0 < n
    · rw [if_pos h0, storeBits_append, storeBits_singleton, hst, hval, ← List.append_assoc]
      exact ⟨z, by omega, rfl⟩
    · rw [if_neg h0, hst, List.eq_nil_of_length_eq_zero (hp.trans (Nat.eq_zero_of_not_pos h0)), List.append_nil]
      exact ⟨0, by decide, (List.append_nil _).symm⟩
  · -- the first `k` bits of `val` fill the last word, the rest (if any) starts a new one
    have hkle : k ≤ 64 := Nat.le_of_lt hk
    have hor := storeBits_orLast s.storage bits ((msbBits val).take k) k
      (by rw [List.length_take, length_msbBits]; exact Nat.min_eq_left hkle) (Nat.pos_of_ne_zero hk0) hst
      (val >>> (64 - k)) (by rw [msbBits_ushiftRight val (64 - k) (Nat.sub_le 64 k), Nat.sub_sub_self hkle])
    simp only [ne_eq, hk0, not_false_eq_true, if_true, Nat.mod_eq_of_lt hk,
      Nat.mod_eq_of_lt (Nat.sub_lt (by decide : 0 < 64) (Nat.pos_of_ne_zero hk0))]
    by_cases hkn : k < n
    · rw [if_pos hkn, storeBits_append, hor, storeBits_singleton, msbBits_shiftLeft val k hkle, List.append_assoc,
        ← List.append_assoc (List.take k _), List.take_append_drop, hval]
      exact ⟨z + k, by omega, by rw [List.append_assoc, List.append_assoc, List.replicate_append_replicate]⟩
    · rw [if_neg hkn, hor, hval, take_append_zeros payload z k (by omega) (by omega), hp]
      exact ⟨k - n, by omega, by rw [List.append_assoc]⟩

theorem writeMsbs_stores {w : Nat} (hw : w ≤ 64) (s : WordSink) (bits : Bits) (hs : Stores s.storage s.len bits)
    (val : BitVec w) (n : Nat) (hn : n ≤ w) :
    ∃ s', s.writeMsbs val n = some s' ∧ Stores s'.storage s'.len (bits ++ (msbBits val).take n) := by
  by_cases h0 : n = 0
  · subst h0
    exact ⟨s, by simp only [writeMsbs, if_true], by rwa [List.take_zero, List.append_nil]⟩
  · obtain ⟨m, hm, hmb⟩ := maskMsbs_bits val n (Nat.pos_of_ne_zero h0) hn
    refine ⟨s.writeMsbsImpl (widen m) n, by simp only [writeMsbs, h0, if_false, hm, bind, Option.bind], ?_⟩
    refine writeMsbsImpl_stores s bits hs _ n (w - n + (64 - w)) _
      (by rw [List.length_take, length_msbBits]; exact Nat.min_eq_left hn) ?_
    rw [msbBits_widen hw, hmb, List.append_assoc, List.replicate_append_replicate]

theorem writeMsbs_len {w : Nat} (s s' : WordSink) (val : BitVec w) (n : Nat) (h : s.writeMsbs val n = some s') :
    s'.len = s.len + n := by
  simp only [writeMsbs] at h
  split at h
  · simp_all
  · cases hm : maskMsbs val n with
    | none => simp [hm, bind] at h
    | some m => simp [hm, bind, writeMsbsImpl] at h; subst h; rfl

theorem writeLsbs_stores {w : Nat} (hw : w ≤ 64) (s : WordSink) (bits : Bits) (hs : Stores s.storage s.len bits)
    (v n : Nat) (hn : n ≤ w) :
    ∃ s', s.writeLsbs (BitVec.ofNat w v) n = some s' ∧ Stores s'.storage s'.len (bits ++ natToBits n v) := by
  by_cases h0 : n = 0
  · subst h0
    exact ⟨s, by simp only [writeLsbs, if_true], by rwa [natToBits, List.append_nil]⟩
  · have hk : w - n < w := Nat.sub_lt (Nat.lt_of_lt_of_le (Nat.pos_of_ne_zero h0) hn) (Nat.pos_of_ne_zero h0)
    refine ⟨s.writeMsbsImpl (widen (BitVec.ofNat w v <<< (w - n))) n,
      by simp only [writeLsbs, h0, if_false, chkSub, chkShl, hn, hk, if_true, bind, Option.bind], ?_⟩
    refine writeMsbsImpl_stores s bits hs _ n (w - n + (64 - w)) _ (natToBits_length n v) ?_
    rw [msbBits_widen hw, msbBits_lsbs w v n hn, List.append_assoc, List.replicate_append_replicate]

theorem alignToByte_stores (s : WordSink) (bits : Bits) (hs : Stores s.storage s.len bits) :
    Stores s.alignToByte.storage s.alignToByte.len (bits ++ List.replicate ((8 - s.len % 8) % 8) false) := by
  have hl := hs.len
  obtain ⟨k, hk, hst, hlen⟩ := hs.length_eq
  -- the byte boundary is not past the word boundary
  have hle : (8 - s.len % 8) % 8 ≤ k := by omega
  refine ⟨by simp only [alignToByte, paddingsToByte, hl, List.length_append, List.length_replicate],
    k - (8 - s.len % 8) % 8, Nat.lt_of_le_of_lt (Nat.sub_le _ _) hk, ?_⟩
  rw [alignToByte, hst, List.append_assoc, List.replicate_append_replicate, Nat.add_sub_cancel' hle]

theorem writeZeros_stores (s : WordSink) (bits : Bits) (hs : Stores s.storage s.len bits) (n : Nat) :
    Stores (s.writeZeros n).storage (s.writeZeros n).len (bits ++ List.replicate n false) := by
  obtain ⟨hl, hk, hst⟩ := stores_pad hs
  refine ⟨by simp only [writeZeros, hl, List.length_append, List.length_replicate], ?_⟩
  simp only [writeZeros]
  generalize s.paddings = k at hk hst ⊢
  -- the zero words cover what does not fit into the last word, with fewer than 64 bits to spare
  have he : n ≤ k + 64 * ((n - k + 63) / 64) ∧ k + 64 * ((n - k + 63) / 64) < n + 64 := by omega
  generalize (n - k + 63) / 64 = e at he ⊢
  refine ⟨k + 64 * e - n, by omega, ?_⟩
  rw [storeBits_append, storeBits_replicate_zero, hst, List.append_assoc, List.append_assoc,
    List.replicate_append_replicate, List.replicate_append_replicate, Nat.add_sub_cancel' he.1]

theorem writeBytes_stores (s : WordSink) (bits : Bits) (hs : Stores s.storage s.len bits) (bs : List Nat) :
    ∃ s', bs.foldlM (fun (s : WordSink) b => s.writeMsbs (BitVec.ofNat 8 b) 8) s = some s' ∧
      Stores s'.storage s'.len (bits ++ bytesToBits bs) := by
  induction bs generalizing s bits with
  | nil => exact ⟨s, rfl, by rwa [bytesToBits, List.flatMap_nil, List.append_nil]⟩
  | cons b bs ih =>
    obtain ⟨s1, h1, r1⟩ := writeMsbs_stores (by decide) s bits hs (BitVec.ofNat 8 b) 8 (Nat.le_refl 8)
    rw [msbBits_ofNat, List.take_of_length_le (by rw [natToBits_length]; exact Nat.le_refl 8)] at r1
    obtain ⟨s2, h2, r2⟩ := ih s1 _ r1
    refine ⟨s2, by rw [List.foldlM_cons, h1]; exact h2, ?_⟩
    rwa [bytesToBits, List.flatMap_cons, ← List.append_assoc]

theorem step_writeTwoc (s : WordSink) (v : Int) (n : Nat) :
    s.step (.writeTwoc v n) = if 1 ≤ n ∧ n ≤ 64 then s.writeMsbs (BitVec.ofInt 64 v <<< (64 - n)) n else none :=
  twoc_shift _ v n

/-- Every valid operation succeeds on `MemSink<u64>` (no panic) and appends exactly the ideal bits. -/
theorem step_stores (s : WordSink) (bits : Bits) (hs : Stores s.storage s.len bits) (op : Op) (hv : op.Valid) :
    ∃ s', s.step op = some s' ∧ Stores s'.storage s'.len (bits ++ op.ideal s.len) := by
  cases op with
  | alignToByte => exact ⟨_, rfl, alignToByte_stores s bits hs⟩
  | writeLsbs w v n => exact writeLsbs_stores (validWidth_facts hv.1).2.2 s bits hs v n hv.2.2
  | writeMsbs w v n =>
    have := writeMsbs_stores (validWidth_facts hv.1).2.2 s bits hs (BitVec.ofNat w v) n hv.2.2
    rwa [msbBits_ofNat] at this
  | write w v =>
    have := writeMsbs_stores (validWidth_facts hv.1).2.2 s bits hs (BitVec.ofNat w v) w (Nat.le_refl w)
    rwa [msbBits_ofNat, List.take_of_length_le (by rw [natToBits_length]; exact Nat.le_refl w)] at this
  | writeTwoc v n =>
    obtain ⟨h1, hn, _⟩ := hv
    have := writeMsbs_stores (Nat.le_refl 64) s bits hs (BitVec.ofInt 64 v <<< (64 - n)) n hn
    rw [msbBits_twoc v n hn, List.take_left' (Count.twoc_length n v)] at this
    rw [step_writeTwoc, if_pos ⟨h1, hn⟩]
    exact this
  | writeZeros n => exact ⟨_, rfl, writeZeros_stores s bits hs n⟩
  | writeBytesAligned bs =>
    obtain ⟨s2, h2, r2⟩ := writeBytes_stores s.alignToByte _ (alignToByte_stores s bits hs) bs
    exact ⟨s2, h2, by rwa [List.append_assoc] at r2⟩

theorem run_stores (s : WordSink) (bits : Bits) (hs : Stores s.storage s.len bits) (ops : List Op)
    (hv : ∀ op ∈ ops, op.Valid) :
    ∃ s', s.run ops = some s' ∧ Stores s'.storage s'.len (bits ++ idealRun s.len ops) :=
  foldlM_stores step storage len step_stores s bits hs ops hv

end WordSink
end FlacVerif
