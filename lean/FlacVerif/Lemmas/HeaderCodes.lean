/-
The code spaces of a frame header (`Model/Codes.lean`), for any reader: which block-size, sample-rate and channel
specs are in their code range (`Repo.SpecOk`, `Repo.SrOk`, `Repo.ChOk`: what the repository's parser can produce and
what a 4-bit field can carry), and that the constructors `BlockSizeSpec::from_size`, `SampleSizeSpec::from_bits` return
specs in range (`from_size` one of the given size, for every 16-bit size from 1 on; `SampleRateSpec::from_freq` is in
`Theorems/C02`, with the RFC's table); the immediates a spec writes after the code nibbles are whole bytes.
-/
import FlacVerif.Model.Codes
namespace FlacVerif
namespace Repo

/-- The block-size specs the parser can produce: never `Reserved`, parameters in their code range. -/
def SpecOk : BlockSizeSpec → Prop
  | .reserved => False
  | .s192 => True
  | .pow2Mul576 x => x ≤ 3
  | .extraByte x => x < 256
  | .extraTwoBytes x => x < 65536
  | .pow2Mul256 x => x ≤ 7

instance (s : BlockSizeSpec) : Decidable (SpecOk s) := by
  cases s <;> (unfold SpecOk; infer_instance)

/-- Sample-rate specs in their code range (`Fixed(tag)` stands for the eleven table entries). -/
def SrOk : SampleRateSpec → Prop
  | .unspecified => True
  | .fixed t => 1 ≤ t ∧ t ≤ 11
  | .kHz v => v < 256
  | .hz v => v < 65536
  | .daHz v => v < 65536

instance (s : SampleRateSpec) : Decidable (SrOk s) := by
  cases s <;> (unfold SrOk; infer_instance)

/-- Channel assignments `ChannelAssignment::from_tag` can produce. -/
def ChOk : ChannelAssignment → Prop
  | .independent n => 1 ≤ n ∧ n ≤ 8
  | _ => True

instance (a : ChannelAssignment) : Decidable (ChOk a) := by
  cases a <;> (unfold ChOk; infer_instance)

/-- The code of a spec in range is not the reserved `0000` and has 4 bits. -/
theorem specTag_range (spec : BlockSizeSpec) (hs : SpecOk spec) : 1 ≤ spec.tag ∧ spec.tag ≤ 15 := by
  cases spec <;> simp only [BlockSizeSpec.tag] <;> simp only [SpecOk] at hs <;> omega

/-- The code of a spec in range is not the invalid `1111`. -/
theorem srTag_le (spec : SampleRateSpec) (hs : SrOk spec) : spec.tag ≤ 14 := by
  cases spec <;> simp only [SampleRateSpec.tag] <;> simp only [SrOk] at hs <;> omega

/-- The code of an assignment in range is not reserved. -/
theorem chTag_le (a : ChannelAssignment) (ha : ChOk a) : a.tag ≤ 10 := by
  cases a <;> simp only [ChannelAssignment.tag] <;> simp only [ChOk] at ha <;> omega

theorem sampleSizeTag_lt (bps : Nat) : sampleSizeTag bps < 8 := by
  -- every branch is a literal
  unfold sampleSizeTag
  simp only [apply_ite (· < 8), Nat.reduceLT, ite_self]

/-- One of the six widths with a code of their own, or code 0: "see STREAMINFO". -/
theorem sampleSizeTag_cases (bps : Nat) :
    bps = 8 ∨ bps = 12 ∨ bps = 16 ∨ bps = 20 ∨ bps = 24 ∨ bps = 32 ∨ sampleSizeTag bps = 0 := by
  by_cases h8 : bps = 8
  · exact .inl h8
  by_cases h12 : bps = 12
  · exact .inr (.inl h12)
  by_cases h16 : bps = 16
  · exact .inr (.inr (.inl h16))
  by_cases h20 : bps = 20
  · exact .inr (.inr (.inr (.inl h20)))
  by_cases h24 : bps = 24
  · exact .inr (.inr (.inr (.inr (.inl h24))))
  by_cases h32 : bps = 32
  · exact .inr (.inr (.inr (.inr (.inr (.inl h32)))))
  refine .inr (.inr (.inr (.inr (.inr (.inr ?_)))))
  unfold sampleSizeTag
  rw [if_neg h8, if_neg h12, if_neg h16, if_neg h20, if_neg h24, if_neg h32]

theorem sampleSizeTag_ok (bps : Nat) (h0 : sampleSizeTag bps ≠ 0) (h7 : sampleSizeTag bps ≠ 7) :
    bps = 8 ∨ bps = 12 ∨ bps = 16 ∨ bps = 20 ∨ bps = 24 := by
  rcases sampleSizeTag_cases bps with h | h | h | h | h | h | h
  · exact .inl h
  · exact .inr (.inl h)
  · exact .inr (.inr (.inl h))
  · exact .inr (.inr (.inr (.inl h)))
  · exact .inr (.inr (.inr (.inr h)))
  · exact absurd (by subst h; rfl) h7
  · exact absurd h h0

/-- The immediates after the header's code nibbles are whole bytes, at most two. -/
theorem bsExtra_len (spec : BlockSizeSpec) : spec.extraBits.length % 8 = 0 := by
  cases spec <;> simp [BlockSizeSpec.extraBits]

theorem srExtra_len (spec : SampleRateSpec) : spec.extraBits.length % 8 = 0 := by
  cases spec <;> simp [SampleRateSpec.extraBits]

theorem bsExtra_le (spec : BlockSizeSpec) : spec.extraBits.length ≤ 16 := by
  cases spec <;> simp [BlockSizeSpec.extraBits]

theorem srExtra_le (spec : SampleRateSpec) : spec.extraBits.length ≤ 16 := by
  cases spec <;> simp [SampleRateSpec.extraBits]

end Repo
open Repo

theorem BlockSizeSpec.fromSize_some (n : Nat) (hn : 1 ≤ n) : ∃ bss, BlockSizeSpec.fromSize n = some bss := by
  -- every arm but `size = 0` is a `some`
  rw [← Option.isSome_iff_exists]
  unfold BlockSizeSpec.fromSize
  simp only [apply_ite Option.isSome, Option.isSome_some, if_neg (show ¬ n = 0 by omega), ite_self]

theorem BlockSizeSpec.fromSize_ok (n : Nat) (h1 : 1 ≤ n) (h2 : n < 2 ^ 16) (bss : BlockSizeSpec)
    (h : BlockSizeSpec.fromSize n = some bss) : SpecOk bss ∧ bss.blockSize = some n := by
  unfold BlockSizeSpec.fromSize at h
  by_cases h192 : n = 192
  · rw [if_pos h192] at h
    cases h
    exact ⟨trivial, by rw [h192]; rfl⟩
  rw [if_neg h192] at h
  by_cases h576 : n = 576 ∨ n = 1152 ∨ n = 2304 ∨ n = 4608
  · rw [if_pos h576] at h
    cases h
    rcases h576 with hn | hn | hn | hn <;> subst hn <;> decide
  rw [if_neg h576] at h
  by_cases h256 : n = 256 ∨ n = 512 ∨ n = 1024 ∨ n = 2048 ∨ n = 4096 ∨ n = 8192 ∨ n = 16384 ∨ n = 32768
  · rw [if_pos h256] at h
    cases h
    rcases h256 with hn | hn | hn | hn | hn | hn | hn | hn <;> subst hn <;> decide
  rw [if_neg h256, if_neg (show ¬ n = 0 by omega)] at h
  -- the two tables are no longer needed (and would make `omega` split cases)
  clear h192 h576 h256
  by_cases hs : n ≤ 256
  · rw [if_pos hs] at h
    cases h
    exact ⟨show n - 1 < 256 by omega, show some (n - 1 + 1) = some n by congr 1; omega⟩
  · rw [if_neg hs] at h
    cases h
    exact ⟨show n - 1 < 65536 by omega, show some (n - 1 + 1) = some n by congr 1; omega⟩

end FlacVerif
