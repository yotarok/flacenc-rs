/-
MD5 invariant: the bytes already hashed followed by the queued data blocks are exactly the bytes of
the blocks read so far, in order; the queue holds data blocks followed only by stop tokens (empty
blocks); the hasher exits on the first stop token and at most one more stop token is sent after it.
Needs the (realistic) assumption that a block read from the source is never empty: an empty byte
block *is* the stop token of the md5 channel.
-/
import FlacVerif.Lemmas.ParInvC
namespace FlacVerif.Par

/-- no block of the input is empty (a read returning 0 samples is end-of-input, not a block) -/
def Params.NonemptyBlocks (p : Params) : Prop := ∀ b ∈ p.blocks, b.bytes ≠ []

def prefixBytes (p : Params) (j : Nat) : List Nat := ((p.blocks.take j).map (·.bytes)).flatten

/-- number of data blocks sent to the hasher -/
def md5Sent (m : MPc) (k : Nat) : Nat :=
  match m with
  | .filledMd5 _ | .enq _ => k + 1
  | _ => k

/-- number of stop tokens sent to the hasher -/
def emptiesSent (p : Params) (m : MPc) (readErr : Bool) : Nat :=
  match m with
  | .eofEmpty _ => 1
  | .stop _ | .reqStop => if p.eofSendsEmpty = true ∧ readErr = false then 1 else 0
  | .joinH | .joinW _ | .done => (if p.eofSendsEmpty = true ∧ readErr = false then 1 else 0) + 1
  | _ => 0

def InvMd5 (p : Params) (s : State) : Prop :=
  ∃ d e, s.md5Q = d ++ List.replicate e [] ∧ (∀ b ∈ d, b ≠ []) ∧
    s.hashed ++ d.flatten = prefixBytes p (md5Sent s.main s.k) ∧
    (s.hasher = .running → e = emptiesSent p s.main s.readErr) ∧
    (s.hasher = .exited → d = [] ∧ e + 1 = emptiesSent p s.main s.readErr)

theorem InvMd5.init (p : Params) : InvMd5 p (init p) :=
  ⟨[], 0, by simp [Par.init, prefixBytes, md5Sent, emptiesSent]⟩

theorem emptiesSent_afterStop (p : Params) (r : Nat) (re : Bool) :
    emptiesSent p (afterStop r) re = if p.eofSendsEmpty = true ∧ re = false then 1 else 0 := by
  cases r <;> rfl

theorem md5Sent_afterStop (r k : Nat) : md5Sent (afterStop r) k = k := by
  cases r <;> rfl

/-- the hasher stops on the first stop token: as long as none was sent it is running -/
theorem InvMd5.running {p : Params} {s : State} (h : InvMd5 p s) (h0 : emptiesSent p s.main s.readErr = 0) :
    s.hasher = .running := by
  obtain ⟨_, e, _, _, _, _, h5⟩ := h
  cases hh : s.hasher with
  | running => rfl
  | exited => have := (h5 hh).2; omega

/-- a stop token that was sent stays queued while the hasher runs -/
theorem InvMd5.queue_ne_nil {p : Params} {s : State} (h : InvMd5 p s) (hh : s.hasher = .running)
    (h0 : 0 < emptiesSent p s.main s.readErr) : s.md5Q ≠ [] := by
  obtain ⟨d, e, h1, _, _, h4, _⟩ := h
  intro hq
  have := congrArg List.length (hq.symm.trans h1)
  have := h4 hh
  simp at *; omega

/-- once the hasher has exited everything sent was hashed, and only the stop tokens sent after the one it took are queued -/
theorem InvMd5.exited {p : Params} {s : State} (h : InvMd5 p s) (hh : s.hasher = .exited) :
    s.md5Q = List.replicate (emptiesSent p s.main s.readErr - 1) [] ∧ s.hashed = prefixBytes p (md5Sent s.main s.k) := by
  obtain ⟨d, e, h1, _, h3, _, h5⟩ := h
  obtain ⟨rfl, he⟩ := h5 hh
  exact ⟨by rw [h1, ← he]; rfl, by simpa using h3⟩

theorem InvMd5.congr {p : Params} {s s' : State} (h : InvMd5 p s) (hq : s'.md5Q = s.md5Q)
    (hh : s'.hashed = s.hashed) (hp : s'.hasher = s.hasher)
    (h1 : md5Sent s'.main s'.k = md5Sent s.main s.k)
    (h2 : emptiesSent p s'.main s'.readErr = emptiesSent p s.main s.readErr) : InvMd5 p s' := by
  unfold InvMd5 at *
  rw [hq, hh, hp, h1, h2]; exact h

theorem prefixBytes_succ {p : Params} {k : Nat} {b : Block} (hb : p.blocks[k]? = some b) :
    prefixBytes p (k + 1) = prefixBytes p k ++ b.bytes := by
  have hlt := getElem?_some_lt hb
  have hget : p.blocks[k] = b := by
    rw [List.getElem?_eq_getElem hlt] at hb; exact Option.some.inj hb
  simp [prefixBytes, List.take_succ_eq_append_getElem hlt, hget]

theorem InvMd5.step {p : Params} {s s' : State} {e : Ev} (hne : p.NonemptyBlocks) (hC : InvC p s)
    (h : InvMd5 p s) (hs : Step p s e s') : InvMd5 p s' := by
  have hmo := hC.mainOk
  cases hs
  case refill_recv id rest hm hq =>
    exact h.congr rfl rfl rfl (by simp [hm, md5Sent]) (by simp [hm, emptiesSent])
  case md5_data id b x hm hnf hcap hb hx =>
    have hrun := h.running (by simp [hm, emptiesSent])
    obtain ⟨d, e, h1, h2, h3, h4, h5⟩ := h
    simp only [hm, emptiesSent, md5Sent] at h3 h4 h5
    have he0 : e = 0 := h4 hrun
    subst he0
    have hbne : b.bytes ≠ [] := hne b (List.mem_of_getElem? hb)
    refine ⟨d ++ [b.bytes], 0, ?_, ?_, ?_, ?_, ?_⟩
    · simp [h1]
    · intro c hc
      rcases List.mem_append.1 hc with hc | hc
      · exact h2 c hc
      · simp at hc; subst hc; exact hbne
    · simp only [md5Sent, prefixBytes_succ hb, ← h3]; simp
    · intro _; simp [emptiesSent]
    · intro hh; have := (h5 hh).2; omega
  case md5_eof id hm hnf hcap hb he =>
    obtain ⟨d, e, h1, h2, h3, h4, h5⟩ := h
    simp only [hm, emptiesSent, md5Sent] at h3 h4 h5
    refine ⟨d, e + 1, ?_, h2, ?_, ?_, ?_⟩
    · simp [h1, List.replicate_succ']
    · simpa [md5Sent] using h3
    · intro hh; simp [emptiesSent, h4 hh]
    · intro hh; have := (h5 hh).2; omega
  case md5_stop hm hcap =>
    obtain ⟨d, e, h1, h2, h3, h4, h5⟩ := h
    simp only [hm, emptiesSent, md5Sent] at h3 h4 h5
    refine ⟨d, e + 1, ?_, h2, ?_, ?_, ?_⟩
    · simp [h1, List.replicate_succ']
    · simpa [md5Sent] using h3
    · intro hh; simp [emptiesSent, h4 hh]
    · intro hh; have := h5 hh; exact ⟨this.1, by simp [emptiesSent]; omega⟩
  case f_filled id x hm hx =>
    exact h.congr rfl rfl rfl (by simp [hm, md5Sent]) (by simp [hm, emptiesSent])
  case f_eof_plain id hm hnf hk he =>
    refine h.congr rfl rfl rfl (by simp only [md5Sent_afterStop]; simp [hm, md5Sent]) ?_
    simp only [emptiesSent_afterStop]; simp [hm, he, emptiesSent]
  case f_eof_empty id hm =>
    simp only [MainOk, hm] at hmo
    refine h.congr rfl rfl rfl (by simp only [md5Sent_afterStop]; simp [hm, md5Sent]) ?_
    simp only [emptiesSent_afterStop]; simp [hm, hmo.1, hmo.2.1, emptiesSent]
  case f_read_err id hm hf =>
    refine h.congr rfl rfl rfl (by simp only [md5Sent_afterStop]; simp [hm, md5Sent]) ?_
    simp only [emptiesSent_afterStop]; simp [hm, emptiesSent]
  case enc_send_some id hm hcap =>
    exact h.congr rfl rfl rfl (by simp [hm, md5Sent]) (by simp [hm, emptiesSent])
  case enc_send_none r hm hcap =>
    refine h.congr rfl rfl rfl (by simp only [md5Sent_afterStop]; simp [hm, md5Sent]) ?_
    simp only [emptiesSent_afterStop]; simp [hm, emptiesSent]
  case joined_hasher hm hh =>
    refine h.congr rfl rfl rfl ?_ ?_ <;> split <;> simp [hm, md5Sent, emptiesSent]
  case joined_worker j hm hj =>
    refine h.congr rfl rfl rfl ?_ ?_ <;> split <;> simp [hm, md5Sent, emptiesSent]
  case md5_recv_stop rest hh hq =>
    obtain ⟨d, e, h1, h2, h3, h4, h5⟩ := h
    rw [hq] at h1
    have hd : d = [] := by
      cases d with
      | nil => rfl
      | cons c d =>
        simp only [List.cons_append, List.cons.injEq] at h1
        exact absurd h1.1.symm (h2 c (by simp))
    subst hd
    cases e with
    | zero => simp at h1
    | succ e =>
      simp only [List.nil_append, List.replicate_succ, List.cons.injEq, true_and] at h1
      refine ⟨[], e, by simp [h1], by simp, h3, by simp, ?_⟩
      intro _; exact ⟨rfl, h4 hh⟩
  case md5_recv_data b rest hh hq hb =>
    obtain ⟨d, e, h1, h2, h3, h4, h5⟩ := h
    rw [hq] at h1
    cases d with
    | nil =>
      cases e with
      | zero => simp at h1
      | succ e =>
        simp only [List.nil_append, List.replicate_succ, List.cons.injEq] at h1
        exact absurd h1.1 hb
    | cons c d =>
      simp only [List.cons_append, List.cons.injEq] at h1
      obtain ⟨rfl, h1⟩ := h1
      refine ⟨d, e, h1, fun x hx => h2 x (by simp [hx]), ?_, h4, ?_⟩
      · simpa [List.append_assoc] using h3
      · intro hx; rw [hh] at hx; cases hx
  all_goals exact h.congr rfl rfl rfl rfl rfl

end FlacVerif.Par
