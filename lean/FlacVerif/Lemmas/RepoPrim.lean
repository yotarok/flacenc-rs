/-
The primitive reads of the parser mirror (`Model/RepoParser.lean`) against the primitive writers: bit fields
(`takeBits`, `tagBits`), the unary code, signed samples (`uToI`, `rawSamples`), whole bytes (`beUint`, `byteTake`,
`byteTag`), and the two position helpers `consumed` and `alignByte`.  At the head: the exact values of the checked
arithmetic and of the functions that have one under a range hypothesis (`uToI_eq`, `headerBlockSize_ok`,
`subframe_asserts`, the two loops as the programs they abbreviate), which the round trip and the no-panic calculus
(`Lemmas/RepoSat`) both rest on.
-/
import FlacVerif.Model.RepoParser
import FlacVerif.Lemmas.HeaderCodes
import FlacVerif.Lemmas.Bits
import FlacVerif.Lemmas.ListFacts
import FlacVerif.Lemmas.Layout
import FlacVerif.Lemmas.Bytes
namespace FlacVerif.Repo
open PResult

theorem PResult.bind_ok {α β : Type} {x : PResult α} {f : α → PResult β} {v : α} {r : PResult β}
    (hx : x = .ok v) (hf : f v = r) : (x >>= f) = r := by
  rw [hx]; exact hf

theorem uadd_ok (w : Nat) (site : String) (a b : Nat) (h : a + b < 2 ^ w) : uadd w site a b = .ok (a + b) :=
  if_pos h
theorem usub_ok (site : String) (a b : Nat) (h : b ≤ a) : usub site a b = .ok (a - b) :=
  if_pos h
theorem umul_ok (w : Nat) (site : String) (a b : Nat) (h : a * b < 2 ^ w) : umul w site a b = .ok (a * b) :=
  if_pos h
theorem ushl_ok (w : Nat) (site : String) (a k : Nat) (h : k < w) : ushl w site a k = .ok ((a * 2 ^ k) % 2 ^ w) :=
  if_pos h
theorem ushl_one_ok (w : Nat) (site : String) (k : Nat) (h : k < w) : ushl w site 1 k = .ok (2 ^ k) := by
  rw [ushl_ok w site 1 k h, Nat.one_mul, Nat.mod_eq_of_lt (Nat.pow_lt_pow_right (by decide) h)]
theorem passert_ok (c : Bool) (site : String) (h : c = true) : passert c site = .ok () :=
  if_pos h

theorem asSigned_id (w : Nat) (v : Int) (hw : 1 ≤ w) (hlo : -(2 ^ (w - 1) : Int) ≤ v) (hhi : v < (2 ^ (w - 1) : Int)) :
    asSigned w v = v :=
  (bmod_two_pow_def w hw v).symm.trans (bmod_of_fits w hw ⟨hlo, hhi⟩)

theorem uToI_eq (x bits : Nat) (h1 : 1 ≤ bits) (h2 : bits ≤ 30) (hx : x < 2 ^ bits) :
    uToI x bits = .ok (if x ≥ 2 ^ (bits - 1) then (x : Int) - (2 ^ bits : Int) else (x : Int)) := by
  unfold uToI
  have hp30 : (2 : Nat) ^ bits ≤ 2 ^ 30 := Nat.pow_le_pow_right (by decide) h2
  have hx31 : ¬ x ≥ 2 ^ 31 := by omega
  rw [usub_ok _ bits 1 h1, ok_bind, ushl_one_ok 64 _ (bits - 1) (by omega), ok_bind]
  by_cases hge : x ≥ 2 ^ (bits - 1)
  · rw [if_pos hge, if_pos hge, ushl_one_ok 32 _ bits (by omega)]
    simp only [ok_bind, pure_eq]
    rw [if_neg hx31, asSigned_id 32 _ (by decide) (by omega) (by omega), ← two_pow_cast]
    have hin : inI32 ((x : Int) - 2 ^ bits) = true := by
      simp only [inI32, Bool.and_eq_true, decide_eq_true_eq, two_pow_cast bits]
      omega
    rw [if_pos hin]
  · rw [if_neg hge, if_neg hge]
    simp only [ok_bind, pure_eq]
    rw [if_neg hx31]
    have hin : inI32 ((x : Int) - 0) = true := by
      simp only [inI32, Bool.and_eq_true, decide_eq_true_eq]
      omega
    rw [if_pos hin, Int.sub_zero]

/-- The three `usize` computations of `Residual::from_parts` stay below `2^64`: at most `bs < 2^32` quotients,
each a `u32`, and at most `2^15` Rice parameters below 32.  (`+ 0`: each sum is the first argument of a checked
addition to 0, as `from_parts` folds from 0.) -/
theorem fromParts_bounds (ps qs : List Nat) (bs : Nat) (hbs : bs < 2 ^ 32) (hq : ∀ q ∈ qs, q < 2 ^ 32)
    (hql : qs.length ≤ bs) (hp : ∀ p ∈ ps, p < 32) (hpl : ps.length ≤ 2 ^ 15) :
    qs.foldl max 0 * bs < 2 ^ 64 ∧ qs.foldl (· + ·) 0 + 0 < 2 ^ 64 ∧ ps.foldl (· + ·) 0 + 0 < 2 ^ 64 := by
  have hmax : qs.foldl max 0 < 2 ^ 32 :=
    (foldl_forall_iff max (· < 2 ^ 32) (· < 2 ^ 32) (fun _ _ => Nat.max_lt) qs 0).2 ⟨by decide, hq⟩
  have h1 := foldl_add_le_mul qs (2 ^ 32) 0 (fun q h => Nat.le_of_lt (hq q h))
  have h2 : 2 ^ 32 * qs.length ≤ 2 ^ 32 * 2 ^ 32 := Nat.mul_le_mul (Nat.le_refl _) (by omega)
  have h3 := foldl_add_le_mul ps 32 0 (fun p h => Nat.le_of_lt (hp p h))
  exact ⟨Nat.lt_of_lt_of_le (Nat.mul_lt_mul'' hmax hbs) (by decide), by omega, by omega⟩

/-- With at most 25 bits per sample the five `debug_assert!`s of `subframe` pass. -/
theorem subframe_asserts (blockSize bps : Nat) (h2 : bps ≤ 25) (i : Bits) :
    subframe blockSize bps i =
      alt (constant blockSize bps) (alt (fixedLpc blockSize bps) (alt (lpc blockSize bps) (verbatim blockSize bps))) i := by
  unfold subframe bpsAssert
  simp only [passert_ok _ _ (decide_eq_true h2), ok_bind]

theorem headerBlockSize_ok (h : FrameHeader) (hs : SpecOk h.blockSizeSpec) :
    ∃ n, headerBlockSize h = .ok n ∧ h.blockSizeSpec.blockSize = some n ∧ n ≤ 65536 := by
  unfold headerBlockSize
  generalize h.blockSizeSpec = spec at hs
  cases spec with
  | reserved => exact hs.elim
  | s192 => exact ⟨192, rfl, rfl, by decide⟩
  | pow2Mul576 x =>
    have hx : x ≤ 3 := hs
    have h8 : (2 : Nat) ^ x ≤ 2 ^ 3 := Nat.pow_le_pow_right (by decide) hx
    refine ⟨576 * 2 ^ x, ?_, rfl, by omega⟩
    show ushl 64 _ 1 x >>= _ = _
    rw [ushl_one_ok 64 _ x (by omega), ok_bind, umul_ok 64 _ _ _ (by omega)]
  | extraByte x =>
    have hx : x < 256 := hs
    exact ⟨x + 1, uadd_ok 64 _ x 1 (by omega), rfl, by omega⟩
  | extraTwoBytes x =>
    have hx : x < 65536 := hs
    exact ⟨x + 1, uadd_ok 64 _ x 1 (by omega), rfl, by omega⟩
  | pow2Mul256 x =>
    have hx : x ≤ 7 := hs
    have h8 : (2 : Nat) ^ x ≤ 2 ^ 7 := Nat.pow_le_pow_right (by decide) hx
    refine ⟨256 * 2 ^ x, ?_, rfl, by omega⟩
    show ushl 64 _ 1 x >>= _ = _
    rw [ushl_one_ok 64 _ x (by omega), ok_bind, umul_ok 64 _ _ _ (by omega)]

theorem bpsOffset_le (a : ChannelAssignment) (ch : Nat) : a.bpsOffset ch ≤ 1 := by
  cases a <;> simp only [ChannelAssignment.bpsOffset] <;> (try split) <;> omega

/-- The loop as the monadic program it abbreviates (the length test only serves termination). -/
theorem metadataLoop_eq (i : Bits) :
    metadataLoop i = metadataBlock i >>= fun ((isLast, b), i') =>
      if isLast then .ok ([b], i')
      else if i'.length < i.length then metadataLoop i' >>= fun (bs, i'') => .ok (b :: bs, i'')
      else .error true := by
  rw [metadataLoop]
  rcases metadataBlock i with ⟨⟨isLast, b⟩, i'⟩ | e | s
  · cases isLast
    · by_cases hlt : i'.length < i.length
      · simp only [Bool.false_eq_true, if_false, dif_pos hlt, if_pos hlt, ok_bind]
        rcases metadataLoop i' with ⟨bs, i''⟩ | e | s <;> rfl
      · simp only [Bool.false_eq_true, if_false, dif_neg hlt, if_neg hlt, ok_bind]
    · rfl
  · rfl
  · rfl

theorem framesTillEof_eq (info : StreamInfo) (i : Bits) :
    framesTillEof info i = if i.length = 0 then .ok [] else frame info true i >>= fun (f, i') =>
      if i'.length < i.length then framesTillEof info i' >>= fun fs => .ok (f :: fs) else .error false := by
  rw [framesTillEof]
  by_cases h0 : i.length = 0
  · rw [if_pos h0, if_pos h0]
  · rw [if_neg h0, if_neg h0]
    rcases frame info true i with ⟨f, i'⟩ | e | s
    · by_cases hlt : i'.length < i.length
      · simp only [dif_pos hlt, if_pos hlt, ok_bind]
        rcases framesTillEof info i' with fs | e | s <;> rfl
      · simp only [dif_neg hlt, if_neg hlt, ok_bind]
    · rfl
    · rfl

theorem takeBits_natToBits (w c v : Nat) (k : Bits) (h : c ≤ w) :
    takeBits w c (natToBits c v ++ k) = .ok (v % 2 ^ c, k) := by
  unfold takeBits
  by_cases hc : c = 0
  · subst hc; rw [if_pos rfl, Nat.pow_zero, Nat.mod_one]; rfl
  · rw [if_neg hc, if_neg (by simp), if_neg (Nat.not_lt.mpr h), List.take_left' (natToBits_length c v),
      List.drop_left' (natToBits_length c v), bitsToNat_natToBits]

theorem takeBits_natToBits_lt (w c v : Nat) (k : Bits) (h : c ≤ w) (hv : v < 2 ^ c) :
    takeBits w c (natToBits c v ++ k) = .ok (v, k) := by
  rw [takeBits_natToBits w c v k h, Nat.mod_eq_of_lt hv]

theorem tagBits_natToBits (w p c : Nat) (k : Bits) (h : c ≤ w) (hp : p < 2 ^ c) :
    tagBits w p c (natToBits c p ++ k) = .ok (p, k) := by
  unfold tagBits
  rw [takeBits_natToBits_lt w c p k h hp]
  exact if_pos rfl

theorem unaryCode_unary (q : Nat) (k : Bits) : unaryCode (List.replicate q false ++ true :: k) = .ok (q, k) := by
  induction q with
  | zero => rfl
  | succ q ih => rw [List.replicate_succ, List.cons_append, unaryCode, ih]

theorem takeBits_twoc (w b : Nat) (v : Int) (k : Bits) (hw : b ≤ w) :
    takeBits w b (twoc b v ++ k) = .ok ((v % (2 ^ b : Int)).toNat, k) :=
  takeBits_natToBits_lt w b _ k hw (emod_toNat_lt b v)

theorem uToI_twoc (b : Nat) (v : Int) (h1 : 1 ≤ b) (h2 : b ≤ 30) (hv : SubFrame.inRange b v = true) :
    uToI (v % (2 ^ b : Int)).toNat b = .ok v := by
  obtain ⟨w, rfl⟩ : ∃ w, b = w + 1 := ⟨b - 1, by omega⟩
  rw [uToI_eq _ (w + 1) h1 h2 (emod_toNat_lt (w + 1) v), Nat.add_sub_cancel]
  exact congrArg PResult.ok (Layout.twoc_sign w v hv).symm

theorem rawSamplesLoop_read (bps : Nat) (h1 : 1 ≤ bps) (h2 : bps ≤ 30) (xs : List Int) (k : Bits)
    (hx : ∀ x ∈ xs, SubFrame.inRange bps x = true) :
    rawSamplesLoop bps xs.length (xs.flatMap (twoc bps) ++ k) = .ok (xs, k) := by
  induction xs with
  | nil => rfl
  | cons x xs ih =>
    rw [List.length_cons, rawSamplesLoop, List.flatMap_cons, List.append_assoc]
    refine bind_ok (takeBits_twoc 32 bps x _ (by omega)) ?_
    refine bind_ok (uToI_twoc bps x h1 h2 (hx x List.mem_cons_self)) ?_
    exact bind_ok (ih fun y hy => hx y (List.mem_cons_of_mem x hy)) rfl

theorem rawSamples_read (bps : Nat) (h1 : 1 ≤ bps) (h2 : bps ≤ 25) (xs : List Int) (k : Bits)
    (hx : ∀ x ∈ xs, SubFrame.inRange bps x = true) :
    rawSamples bps xs.length (xs.flatMap (twoc bps) ++ k) = .ok (xs, k) := by
  exact bind_ok (passert_ok _ _ (decide_eq_true (by omega))) (rawSamplesLoop_read bps h1 (by omega) xs k hx)

theorem beUint_natToBits (n v : Nat) (k : Bits) (hv : v < 2 ^ (8 * n)) :
    beUint n (natToBits (8 * n) v ++ k) = .ok (v, k) := by
  unfold beUint
  rw [if_neg (by simp), List.take_left' (natToBits_length _ v), List.drop_left' (natToBits_length _ v),
    bitsToNat_natToBits, Nat.mod_eq_of_lt hv]

theorem bitsToBytes_length (n : Nat) (i : Bits) : (bitsToBytes n i).length = n := by
  induction n generalizing i with
  | zero => rfl
  | succ n ih => simp [bitsToBytes, ih]

theorem bitsToBytes_lt (n : Nat) (i : Bits) : ∀ b ∈ bitsToBytes n i, b < 256 := by
  induction n generalizing i with
  | zero => intro b hb; cases hb
  | succ n ih =>
    intro b hb
    rcases List.mem_cons.mp hb with rfl | hb
    · exact bitsToNat_take_lt 8 i
    · exact ih _ b hb

theorem bitsToBytes_bytesToBits (bs : List Nat) (k : Bits) (h : ∀ b ∈ bs, b < 256) :
    bitsToBytes bs.length (bytesToBits bs ++ k) = bs := by
  induction bs with
  | nil => rfl
  | cons b bs ih =>
    rw [List.length_cons, bitsToBytes, bytesToBits_cons, List.append_assoc, List.take_left' (natToBits_length 8 b),
      List.drop_left' (natToBits_length 8 b), bitsToNat_natToBits, Nat.mod_eq_of_lt (h b List.mem_cons_self),
      ih fun b' hb' => h b' (List.mem_cons_of_mem b hb')]

theorem byteTake_bytesToBits (bs : List Nat) (k : Bits) (h : ∀ b ∈ bs, b < 256) :
    byteTake bs.length (bytesToBits bs ++ k) = .ok (bs, k) := by
  unfold byteTake
  rw [if_neg (by rw [List.length_append, bytesToBits_length]; omega), bitsToBytes_bytesToBits bs k h,
    List.drop_left' (bytesToBits_length bs)]

theorem byteTag_read (t : List Nat) (k : Bits) : byteTag t (bytesToBits t ++ k) = .ok ((), k) := by
  unfold byteTag
  simp only
  have hmin : min (bytesToBits t).length (bytesToBits t ++ k).length = (bytesToBits t).length := by
    rw [List.length_append]; omega
  rw [hmin, List.take_left' rfl, List.take_length]
  simp only [ne_eq, not_true_eq_false, if_false]
  rw [if_neg (by rw [List.length_append]; omega), List.drop_left' rfl]

theorem alt_ok {α : Type} (p q : Bits → PResult α) (i : Bits) (v : α) (h : p i = .ok v) : alt p q i = .ok v := by
  rw [alt, h]

theorem alt_reject {α : Type} (p q : Bits → PResult α) (i : Bits) (h : p i = .error false) : alt p q i = q i := by
  rw [alt, h]

theorem consumed_append (a b : Bits) : consumed (a ++ b) b = a := by
  unfold consumed
  rw [List.length_append, Nat.add_sub_cancel, List.take_left' rfl]

theorem alignByte_aligned (i : Bits) (h : i.length % 8 = 0) : alignByte i = i := by
  unfold alignByte
  rw [h]; rfl

end FlacVerif.Repo
