/-
The generated configuration model `Gen/Config.lean` (+ `Gen/Constants.lean`, `Model/TVal.lean`) made usable:
for C07, each `X.verify` as the literal ranges it tests; for C19, lookups in tables with erased or rewritten
keys and the generated `X.fromT` parsers as chains of optional fields.
-/
import FlacVerif.Gen.Config
import FlacVerif.Lemmas.ConfigAttr
namespace FlacVerif
open Gen

/-- Applies `f` to the value stored under key `k` of a table (one level). -/
def TVal.mapKey (k : String) (f : TVal → TVal) : TVal → TVal
  | .table kv => .table (kv.map fun p => if p.1 == k then (p.1, f p.2) else p)
  | v => v

/-- Removes the keys `ks` from the (sub)table reached by following `path` from the root
(`[]` = the root table itself, i.e. `eraseKeys`). -/
def TVal.eraseAt : List String → List String → TVal → TVal
  | [], ks, t => t.eraseKeys ks
  | k :: path, ks, t => t.mapKey k (TVal.eraseAt path ks)

namespace ConfigL

theorem orderSel_verify_iff (exp : Bool) (o : OrderSel) :
    OrderSel.verify exp o = true ↔
      (match o with | .BitCount => True | .ApproxEnt p => 1 ≤ p ∧ p ≤ 64) := by
  -- here and below `Const.*` is unfolded only after `decide_eq_true_eq` has fired: unfolded in the same pass, the
  -- proposition and its `Decidable` instance no longer match
  cases o <;> simp only [OrderSel.verify, Bool.and_eq_true, decide_eq_true_eq] <;>
    simp only [Const.MAX_ENTROPY_ESTIMATOR_PARTITIONS]

theorem window_verify_iff (exp : Bool) (w : Window) :
    Window.verify exp w = true ↔
      (match w with | .Rectangle => True | .Tukey a => F32.inRange 0 0x3F800000 a = true) := by
  cases w <;> simp only [Window.verify]

theorem fixed_verify_iff (exp : Bool) (c : Fixed) :
    Fixed.verify exp c = true ↔ (c.max_order ≤ 4 ∧ OrderSel.verify exp c.order_sel = true) := by
  simp only [Fixed.verify, Bool.and_eq_true, decide_eq_true_eq]
  simp only [Const.fixed_MAX_LPC_ORDER]

theorem prc_verify_iff (exp : Bool) (c : Prc) : Prc.verify exp c = true ↔ c.max_parameter ≤ 14 := by
  simp only [Prc.verify, decide_eq_true_eq]
  simp only [Const.rice_MAX_RICE_PARAMETER]

theorem qlpc_verify_iff (exp : Bool) (c : Qlpc) :
    Qlpc.verify exp c = true ↔
      (1 ≤ c.lpc_order ∧ c.lpc_order ≤ 24 ∧ 1 ≤ c.quant_precision ∧ c.quant_precision ≤ 15 ∧
       (exp = false → c.use_direct_mse = false ∧ c.mae_optimization_steps = 0) ∧
       Window.verify exp c.window = true) := by
  cases exp <;>
  simp only [Qlpc.verify, Bool.and_eq_true, decide_eq_true_eq,
    Bool.not_eq_true', beq_iff_eq, and_assoc, Bool.false_or, Bool.true_or, true_and, forall_const,
    Bool.true_eq_false, false_imp_iff] <;>
  simp only [Const.qlpc_MAX_ORDER, Const.qlpc_MAX_PRECISION]

theorem subframe_verify_iff (exp : Bool) (c : SubFrameCoding) :
    SubFrameCoding.verify exp c = true ↔
      (Fixed.verify exp c.fixed = true ∧ Qlpc.verify exp c.qlpc = true ∧
       Prc.verify exp c.prc = true) := by
  simp only [SubFrameCoding.verify, Bool.and_eq_true, and_assoc]

theorem encoder_verify_iff (exp : Bool) (c : Encoder) :
    Encoder.verify exp c = true ↔
      (32 ≤ c.block_size ∧ c.block_size ≤ 32767 ∧
       SubFrameCoding.verify exp c.subframe_coding = true) := by
  simp only [Encoder.verify, StereoCoding.verify, Bool.and_eq_true, decide_eq_true_eq, and_assoc,
    Bool.and_true]
  simp only [Const.MIN_BLOCK_SIZE, Const.MAX_BLOCK_SIZE]

@[cfg_parse] theorem lookup_filter_keys (ks : List String) (k : String) (kv : List (String × TVal)) :
    (kv.filter (fun p => !ks.contains p.1)).lookup k =
      if ks.contains k then none else kv.lookup k := by
  induction kv with
  | nil => simp only [List.filter_nil, List.lookup, ite_self]
  | cons p kv ih =>
    obtain ⟨k', v⟩ := p
    rw [List.filter_cons]
    by_cases hk : k = k'
    · subst hk
      cases hc : ks.contains k
      · simp only [Bool.not_false, if_true, List.lookup, beq_self_eq_true, Bool.false_eq_true,
          if_false]
      · simp only [Bool.not_true, Bool.false_eq_true, if_false, if_true, ih, hc]
    · have hne : (k == k') = false := by simpa using hk
      cases hc : ks.contains k'
      · simp only [Bool.not_false, if_true, List.lookup, hne, ih]
      · simp only [Bool.not_true, Bool.false_eq_true, if_false, List.lookup, hne, ih]

@[cfg_parse] theorem eraseKeys_table (ks : List String) (kv : List (String × TVal)) :
    (TVal.table kv).eraseKeys ks = .table (kv.filter fun p => !ks.contains p.1) := rfl

theorem eraseKeys_empty (t : TVal) : t.eraseKeys [] = t := by
  cases t <;> simp [TVal.eraseKeys]

theorem eraseKeys_nil (kv : List (String × TVal)) : (TVal.table kv).eraseKeys [] = .table kv :=
  eraseKeys_empty _

@[cfg_parse] theorem lookup_mapKey (k k' : String) (f : TVal → TVal) (kv : List (String × TVal)) :
    (kv.map fun p => if p.1 == k then (p.1, f p.2) else p).lookup k' =
      if k' == k then (kv.lookup k').map f else kv.lookup k' := by
  induction kv with
  | nil => simp [List.lookup]
  | cons p kv ih =>
    obtain ⟨k0, v⟩ := p
    simp only [List.map_cons]
    by_cases h0 : k0 = k
    · subst h0
      by_cases h1 : k' = k0
      · subst h1; simp [List.lookup]
      · have : (k' == k0) = false := by simpa using h1
        simp only [BEq.rfl, if_true, List.lookup, this, ih]
    · have hk0 : (k0 == k) = false := by simpa using h0
      by_cases h1 : k' = k0
      · subst h1; simp [List.lookup, hk0]
      · have : (k' == k0) = false := by simpa using h1
        simp only [hk0, Bool.false_eq_true, if_false, List.lookup, this, ih]

@[cfg_parse] theorem mapKey_table (k : String) (f : TVal → TVal) (kv : List (String × TVal)) :
    (TVal.table kv).mapKey k f =
      .table (kv.map fun p => if p.1 == k then (p.1, f p.2) else p) := rfl

/-! ### the struct parsers as chains of fields

`do`-notation elaborates each `let x ← match kv.lookup … with …` of `X.fromT` into a join point that
both arms call, so the unfolded parsers double in size with every field.  `field` is one such step in
continuation-passing form; `X_fromT_table` restates each parser as a chain of them. -/

/-- One `#[serde(default)]` field: parse the value found under the key, or take the default. -/
def field {α β : Type} (o : Option TVal) (p : TVal → Except String α) (d : α)
    (k : α → Except String β) : Except String β :=
  match o with
  | some v => p v >>= k
  | none => k d

def asInt : TVal → Except String Nat
  | .int n => .ok n
  | _ => .error "expected an integer"

def asBool : TVal → Except String Bool
  | .bool b => .ok b
  | _ => .error "expected a boolean"

/-- `Option<NonZeroUsize>`. -/
def asNonZero : TVal → Except String (Option Nat)
  | .int n => if n = 0 then .error "expected a non-zero integer" else .ok (some n)
  | _ => .error "expected an integer"

@[cfg_parse] theorem field_none {α β : Type} (p : TVal → Except String α) (d : α) (k : α → Except String β) :
    field none p d k = k d := rfl

@[cfg_parse] theorem field_some {α β : Type} (v : TVal) (p : TVal → Except String α) (d : α)
    (k : α → Except String β) : field (some v) p d k = p v >>= k := rfl

@[cfg_parse] theorem field_erased {α β : Type} (b : Bool) (v : TVal) (p : TVal → Except String α) (d : α)
    (k : α → Except String β) :
    field (if b = true then none else some v) p d k = (if b = true then .ok d else p v) >>= k := by
  cases b <;> rfl

@[cfg_parse] theorem ite_ok {α : Type} (b : Bool) (x y : α) :
    (if b = true then (.ok x : Except String α) else .ok y) = .ok (if b = true then x else y) := by
  cases b <;> rfl

@[cfg_parse] theorem ok_bind {α β : Type} (a : α) (k : α → Except String β) : (Except.ok a >>= k) = k a := rfl

theorem bind_ok {α β : Type} (x : Except String α) (g : α → β) :
    (x >>= fun a => .ok (g a)) = x.map g := by
  cases x <;> rfl

theorem field_ok {α β : Type} {o : Option TVal} {p : TVal → Except String α} {d : α}
    {k : α → Except String β} {r : β} (h : field o p d k = .ok r) :
    ∃ a, (a = d ∨ ∃ v, p v = .ok a) ∧ k a = .ok r := by
  cases o with
  | none => exact ⟨d, Or.inl rfl, h⟩
  | some v =>
    rw [field_some] at h
    cases hp : p v with
    | error e => rw [hp] at h; cases h
    | ok a => rw [hp] at h; exact ⟨a, Or.inr ⟨v, hp⟩, h⟩

@[cfg_parse] theorem asInt_int (n : Nat) : asInt (.int n) = .ok n := rfl

@[cfg_parse] theorem asBool_bool (b : Bool) : asBool (.bool b) = .ok b := rfl

@[cfg_parse] theorem asNonZero_int (n : Nat) (h : n ≠ 0) : asNonZero (.int n) = .ok (some n) := if_neg h

theorem asNonZero_ne {v : TVal} {a : Option Nat} (h : asNonZero v = .ok a) : a ≠ some 0 := by
  cases v with
  | int n =>
    rintro rfl
    by_cases hn : n = 0
    · rw [asNonZero, if_pos hn] at h
      cases h
    · rw [asNonZero_int n hn] at h
      exact hn (Option.some.inj (Except.ok.inj h))
  | _ => cases h

@[cfg_parse] theorem stereo_fromT_table (par : Bool) (kv : List (String × TVal)) :
    StereoCoding.fromT par (.table kv) =
      field (kv.lookup "use_leftside") asBool (StereoCoding.default par).use_leftside fun use_leftside =>
      field (kv.lookup "use_rightside") asBool (StereoCoding.default par).use_rightside fun use_rightside =>
      field (kv.lookup "use_midside") asBool (StereoCoding.default par).use_midside fun use_midside =>
      .ok { use_leftside, use_rightside, use_midside } := by
  unfold StereoCoding.fromT
  rfl

@[cfg_parse] theorem fixed_fromT_table (par : Bool) (kv : List (String × TVal)) :
    Fixed.fromT par (.table kv) =
      field (kv.lookup "max_order") asInt (Fixed.default par).max_order fun max_order =>
      field (kv.lookup "order_sel") (OrderSel.fromT par) (Fixed.default par).order_sel fun order_sel =>
      .ok { max_order, order_sel } := by
  unfold Fixed.fromT
  rfl

@[cfg_parse] theorem qlpc_fromT_table (par : Bool) (kv : List (String × TVal)) :
    Qlpc.fromT par (.table kv) =
      field (kv.lookup "lpc_order") asInt (Qlpc.default par).lpc_order fun lpc_order =>
      field (kv.lookup "quant_precision") asInt (Qlpc.default par).quant_precision fun quant_precision =>
      field (kv.lookup "use_direct_mse") asBool (Qlpc.default par).use_direct_mse fun use_direct_mse =>
      field (kv.lookup "mae_optimization_steps") asInt (Qlpc.default par).mae_optimization_steps
        fun mae_optimization_steps =>
      field (kv.lookup "window") (Window.fromT par) (Qlpc.default par).window fun window =>
      .ok { lpc_order, quant_precision, use_direct_mse, mae_optimization_steps, window } := by
  unfold Qlpc.fromT
  rfl

@[cfg_parse] theorem prc_fromT_table (par : Bool) (kv : List (String × TVal)) :
    Prc.fromT par (.table kv) =
      field (kv.lookup "max_parameter") asInt (Prc.default par).max_parameter fun max_parameter =>
      .ok { max_parameter } := by
  unfold Prc.fromT
  rfl

@[cfg_parse] theorem subframe_fromT_table (par : Bool) (kv : List (String × TVal)) :
    SubFrameCoding.fromT par (.table kv) =
      field (kv.lookup "use_constant") asBool (SubFrameCoding.default par).use_constant fun use_constant =>
      field (kv.lookup "use_fixed") asBool (SubFrameCoding.default par).use_fixed fun use_fixed =>
      field (kv.lookup "use_lpc") asBool (SubFrameCoding.default par).use_lpc fun use_lpc =>
      field (kv.lookup "fixed") (Fixed.fromT par) (SubFrameCoding.default par).fixed fun fixed =>
      field (kv.lookup "qlpc") (Qlpc.fromT par) (SubFrameCoding.default par).qlpc fun qlpc =>
      field (kv.lookup "prc") (Prc.fromT par) (SubFrameCoding.default par).prc fun prc =>
      .ok { use_constant, use_fixed, use_lpc, fixed, qlpc, prc } := by
  unfold SubFrameCoding.fromT
  rfl

@[cfg_parse] theorem encoder_fromT_table (par : Bool) (kv : List (String × TVal)) :
    Encoder.fromT par (.table kv) =
      field (kv.lookup "block_size") asInt (Encoder.default par).block_size fun block_size =>
      field (kv.lookup "multithread") asBool (Encoder.default par).multithread fun multithread =>
      field (kv.lookup "workers") asNonZero (Encoder.default par).workers fun workers =>
      field (kv.lookup "stereo_coding") (StereoCoding.fromT par) (Encoder.default par).stereo_coding
        fun stereo_coding =>
      field (kv.lookup "subframe_coding") (SubFrameCoding.fromT par) (Encoder.default par).subframe_coding
        fun subframe_coding =>
      .ok { block_size, multithread, workers, stereo_coding, subframe_coding } := by
  unfold Encoder.fromT
  rfl

attribute [cfg_parse] List.cons_append List.nil_append List.append_nil List.lookup Option.map_some
  Bool.false_eq_true ite_self

end ConfigL
end FlacVerif
