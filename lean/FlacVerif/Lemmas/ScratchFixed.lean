/-
Helper lemmas for C10, site 1: `FIXED_LPC_ERRORS` / `reset_fixed_lpc_errors` on stale `SimdVec`s
(`Scratch.resetFixedLpcErrors`) against the stateless `diffs`.
-/
import FlacVerif.Lemmas.ScratchVec
import FlacVerif.Lemmas.Predict
namespace FlacVerif.Scratch

theorem zipWith_dropLast (x : List Int) (c : Int) :
    List.zipWith (fun a b => wrap32 (a - b)) x (c :: x.dropLast) = diff1.go c x := by
  induction x generalizing c with
  | nil => simp [diff1.go_nil]
  | cons a rest ih =>
    cases rest with
    | nil => simp [diff1.go_cons, diff1.go_nil]
    | cons b r =>
      rw [List.dropLast_cons_cons, List.zipWith_cons_cons, diff1.go_cons, ih a]

theorem rotateRight1_of_getLast (x : Vec16) (l : Int) (h : x.getLast? = some l) : rotateRight1 x = l :: x.dropLast := by
  unfold rotateRight1
  rw [h]

theorem diffVec_of_getLast (x : Vec16) (c l : Int) (h : x.getLast? = some l) :
    diffVec x c = (List.zipWith (fun a b => wrap32 (a - b)) x (c :: x.dropLast), l) := by
  unfold diffVec
  rw [rotateRight1_of_getLast x l h]
  rfl

/-- The vector statement `x - (x.rotate_elements_right::<1>() with lane 0 := carry)` is the scalar
difference pass continued with `carry`; the new carry is the last lane. -/
theorem diffVec_eq (x : Vec16) (c : Int) (hx : x ≠ []) :
    diffVec x c = (diff1.go c x, x.getLast?.getD c) := by
  rw [diffVec_of_getLast x c _ (List.getLast?_eq_some_getLast hx), zipWith_dropLast,
    List.getLast?_eq_some_getLast hx, Option.getD_some]

/-- The loop as a pure map with carry. -/
def diffVecs : Int → List Vec16 → List Vec16
  | _, [] => []
  | c, x :: rest => (diffVec x c).1 :: diffVecs (diffVec x c).2 rest

theorem take_set_succ {α : Type} (l : List α) (i : Nat) (a : α) (h : i < l.length) :
    (l.set i a).take (i + 1) = l.take i ++ [a] := by
  rw [List.take_add_one, List.take_set_of_le (Nat.le_refl i), List.getElem?_set_self h]; rfl

/-- With `errors[next].simd_len() = errors[order].simd_len()` every vector of the destination is
overwritten: nothing of the stale (resized) destination survives. -/
theorem diffLoop_eq (t : Nat) (c : Int) (prev next : List Vec16) (h : next.length = t + prev.length) :
    diffLoop t c prev next = next.take t ++ diffVecs c prev := by
  induction prev generalizing t c next with
  | nil =>
    simp only [diffLoop, diffVecs, List.append_nil]
    rw [List.take_of_length_le (by simp at h; omega)]
  | cons x rest ih =>
    simp only [diffLoop, diffVecs]
    rw [ih (t + 1) _ (next.set t (diffVec x c).1) (by simp at h ⊢; omega),
      take_set_succ _ _ _ (by simp at h; omega)]
    simp

structure Shape (n : Nat) (inner : List Vec16) : Prop where
  len : inner.length = n
  lanes : ∀ v ∈ inner, v.length = 16

theorem diffVecs_shape (n : Nat) (c : Int) (inner : List Vec16) (h : Shape n inner) :
    Shape n (diffVecs c inner) := by
  induction inner generalizing n c with
  | nil => exact h
  | cons x rest ih =>
    obtain ⟨hl, hv⟩ := h
    have hx : x.length = 16 := hv x (by simp)
    have hne : x ≠ [] := by intro e; rw [e] at hx; simp at hx
    have hr := ih (n - 1) (diffVec x c).2 ⟨by simp at hl; omega, fun v hm => hv v (by simp [hm])⟩
    refine ⟨by simp [diffVecs, hr.len] at hl ⊢; omega, ?_⟩
    intro v hm
    simp only [diffVecs, List.mem_cons] at hm
    rcases hm with hm | hm
    · rw [hm, diffVec_eq x c hne]; simp [diff1.go_length, hx]
    · exact hr.lanes v hm

theorem flat_diffVecs (c : Int) (inner : List Vec16) (h : ∀ v ∈ inner, v.length = 16) :
    flat (diffVecs c inner) = diff1.go c (flat inner) := by
  induction inner generalizing c with
  | nil => simp [diffVecs, flat, diff1.go_nil]
  | cons x rest ih =>
    have hx : x.length = 16 := h x (by simp)
    have hne : x ≠ [] := by intro e; rw [e] at hx; simp at hx
    have := ih (diffVec x c).2 (fun v hm => h v (by simp [hm]))
    simp only [flat] at this ⊢
    simp only [diffVecs, List.flatten_cons, this, diff1.go_append]
    rw [diffVec_eq x c hne]

theorem chunk16_spec (n : Nat) (xs : List Int) (h : xs.length = 16 * n) :
    Shape n (chunk16 n xs) ∧ flat (chunk16 n xs) = xs := by
  induction n generalizing xs with
  | zero =>
    have : xs = [] := List.eq_nil_of_length_eq_zero (by omega)
    subst this
    exact ⟨⟨rfl, fun v hv => by cases hv⟩, rfl⟩
  | succ n ih =>
    obtain ⟨⟨h1, h2⟩, h3⟩ := ih (xs.drop 16) (by simp; omega)
    refine ⟨⟨by simp [chunk16, h1], ?_⟩, ?_⟩
    · intro v hv
      simp only [chunk16, List.mem_cons] at hv
      rcases hv with hv | hv
      · rw [hv]; simp; omega
      · exact h2 v hv
    · simp only [flat] at h3 ⊢
      simp only [chunk16, List.flatten_cons, h3, List.take_append_drop]

theorem flat_replicate_zeroV (n : Nat) : flat (List.replicate n zeroV) = List.replicate (16 * n) 0 := by
  induction n with
  | zero => rfl
  | succ n ih =>
    simp only [flat] at ih ⊢
    rw [List.replicate_succ, List.flatten_cons, ih, zeroV, List.replicate_append_replicate]
    congr 1; omega

/-- The signal followed by the zero lanes of the last vector. -/
def padded (signal : List Int) : List Int :=
  signal ++ List.replicate (16 * ((signal.length + 16 - 1) / 16) - signal.length) 0

theorem padded_length (signal : List Int) : (padded signal).length = 16 * ((signal.length + 16 - 1) / 16) := by
  simp only [padded, List.length_append, List.length_replicate]; omega

/-- `pack_into_simd_vec` clears the destination first: the result does not depend on it. -/
theorem packIntoSimdVec_eq (src : List Int) (dest : List Vec16) :
    packIntoSimdVec src dest = chunk16 ((src.length + 16 - 1) / 16) (padded src) := by
  unfold packIntoSimdVec padded
  simp only [vecClear, vecResize_nil, List.length_replicate, flat_replicate_zeroV, List.drop_replicate]

/-- `errors[k]` after the reset, as a closed expression in the signal. -/
def errAt (signal : List Int) : Nat → SimdVec
  | 0 => ⟨chunk16 ((signal.length + 16 - 1) / 16) (padded signal), signal.length⟩
  | k + 1 => ⟨diffVecs 0 (errAt signal k).inner, signal.length⟩

/-- `reset_from_slice` leaves the plane of order 0, whatever the vector held. -/
theorem resetFromSlice_eq (v : SimdVec) (signal : List Int) : v.resetFromSlice signal = errAt signal 0 := by
  rw [SimdVec.resetFromSlice, packIntoSimdVec_eq]
  rfl

theorem errAt_spec (signal : List Int) (k : Nat) :
    Shape ((signal.length + 16 - 1) / 16) (errAt signal k).inner ∧
    flat (errAt signal k).inner = diffs k (padded signal) ∧ (errAt signal k).len = signal.length := by
  induction k with
  | zero =>
    obtain ⟨h1, h2⟩ := chunk16_spec _ (padded signal) (padded_length signal)
    exact ⟨h1, h2, rfl⟩
  | succ k ih =>
    obtain ⟨h1, h2, _⟩ := ih
    refine ⟨diffVecs_shape _ _ _ h1, ?_, rfl⟩
    simp only [errAt, flat_diffVecs 0 _ h1.lanes, h2, diffs, diff1]

theorem errAt_asRef (signal : List Int) (k : Nat) : (errAt signal k).asRef = diffs k signal := by
  obtain ⟨_, h2, h3⟩ := errAt_spec signal k
  unfold SimdVec.asRef
  rw [h2, h3, ← diffs_take]
  simp [padded]

/-- One round of the order loop: the destination `errors[order+1]` is resized (stale vectors are
kept) and then every one of its vectors is overwritten. -/
theorem fixedStep_eq (signal : List Int) (errors : List SimdVec) (order : Nat)
    (hprev : errors.getD order default = errAt signal order) :
    fixedStep signal.length errors order = errors.set (order + 1) (errAt signal (order + 1)) := by
  unfold fixedStep
  simp only [hprev, SimdVec.resize]
  have hs := (errAt_spec signal order).1
  rw [diffLoop_eq 0 0 _ _ (by rw [vecResize_length, hs.len]; omega)]
  simp [errAt]

theorem resetFixedLpcErrors_eq (stale : List SimdVec) (h5 : stale.length = 5) (signal : List Int) :
    resetFixedLpcErrors stale signal
      = [errAt signal 0, errAt signal 1, errAt signal 2, errAt signal 3, errAt signal 4] := by
  match stale, h5 with
  | [s0, s1, s2, s3, s4], _ =>
    rw [resetFixedLpcErrors, resetFromSlice_eq, show List.range 4 = [0, 1, 2, 3] from rfl]
    simp only [List.foldl_cons, List.foldl_nil]
    rw [fixedStep_eq signal _ 0 rfl, fixedStep_eq signal _ 1 rfl, fixedStep_eq signal _ 2 rfl,
      fixedStep_eq signal _ 3 rfl]
    rfl

end FlacVerif.Scratch
