/-
Deadlock freedom: in every state satisfying the invariants that is not final, some thread has an
enabled step. Moreover a `join` of a worker is only ever needed when all workers have exited (so the
statement also holds when `join` waits for one particular worker).
-/
import FlacVerif.Lemmas.ParInvNum
import FlacVerif.Lemmas.ParInvMd5
namespace FlacVerif.Par

variable {p : Params} {s : State}

theorem worker_progress (hT : InvTok p s) (hN : InvNum p s) {pc : WPc} (hpc : pc ∈ s.workers)
    (hni : pc ≠ .idle) (hne : pc ≠ .exited) :
    ∃ e s', Step p s e s' ∧ e ≠ .m_joined_worker := by
  obtain ⟨w, hw⟩ := List.getElem?_of_mem hpc
  cases pc with
  | idle => exact absurd rfl hni
  | exited => exact absurd rfl hne
  | got id =>
    have hwo := hN.workers _ hpc
    simp only [WOk, Holds] at hwo
    obtain ⟨n, x, hx1, hx2, _, _⟩ := hwo
    have hl : s.main.lockedBuf ≠ some id := by
      intro hl
      exact (hT.excl_main (lockedBuf_hand hl)).2.2.1 _ hpc (by simp [WPc.hand])
    exact ⟨_, _, Step.w_lock w id n x hw hx1 hx2 hl, by simp⟩
  | encoded id n res =>
    exact ⟨_, _, Step.refill_send w id n res hw (Nat.lt_succ_of_le hT.refill_le), by simp⟩
  | sent id n res =>
    cases res with
    | some f => exact ⟨_, _, Step.w_push w id n f hw, by simp⟩
    | none => exact ⟨_, _, Step.w_err w id n hw, by simp⟩

theorem queue_progress (hC : InvC p s) (hT : InvTok p s) (hN : InvNum p s)
    (hq : s.encodeQ ≠ []) (hex : s.exitedCount < p.W) :
    ∃ e s', Step p s e s' ∧ e ≠ .m_joined_worker := by
  obtain ⟨pc, hpc, hne⟩ := exists_ne_of_count_lt (l := s.workers) (a := .exited)
    (by rw [hC.wlen]; exact hex)
  by_cases hi : pc = .idle
  · subst hi
    obtain ⟨w, hw⟩ := List.getElem?_of_mem hpc
    cases hq' : s.encodeQ with
    | nil => exact absurd hq' hq
    | cons x rest =>
      cases x with
      | some id => exact ⟨_, _, Step.enc_recv_some w id rest hw hq', by simp⟩
      | none => exact ⟨_, _, Step.enc_recv_none w rest hw hq', by simp⟩
  · exact worker_progress hT hN hpc hi hne

theorem hasher_progress (hh : s.hasher = .running) (hq : s.md5Q ≠ []) :
    ∃ e s', Step p s e s' ∧ e ≠ .m_joined_worker := by
  cases hq' : s.md5Q with
  | nil => exact absurd hq' hq
  | cons b rest =>
    by_cases hb : b = []
    · subst hb; exact ⟨_, _, Step.md5_recv_stop rest hh hq', by simp⟩
    · exact ⟨_, _, Step.md5_recv_data b rest hh hq' hb, by simp⟩

theorem md5_full_ne (h : ¬ s.md5Q.length < md5Cap) : s.md5Q ≠ [] := by
  intro h0; rw [h0] at h; simp [md5Cap] at h

theorem progress (hW : 0 < p.W) (hC : InvC p s) (hT : InvTok p s) (hN : InvNum p s)
    (hM : InvMd5 p s) (hnf : ¬ s.final) :
    ∃ e s', Step p s e s' ∧ (e = .m_joined_worker → ∀ pc ∈ s.workers, pc = .exited) := by
  have wk : (∃ e s', Step p s e s' ∧ e ≠ .m_joined_worker) →
      ∃ e s', Step p s e s' ∧ (e = .m_joined_worker → ∀ pc ∈ s.workers, pc = .exited) := by
    rintro ⟨e, s', h1, h2⟩; exact ⟨e, s', h1, fun h => absurd h h2⟩
  have hmo := hC.mainOk
  have hnones := hC.nones
  have hlen := hT.lengths
  cases hm : s.main with
  | recv =>
    cases hr : s.refillQ with
    | cons id rest => exact wk ⟨_, _, Step.refill_recv id rest hm hr, by simp⟩
    | nil =>
      -- all `2W` tokens are in workers' hands or in the encode queue: a worker can go on, or one can receive (there is
      -- one: `hW`; with `W = 0` this is the deadlock of `C06_W0_deadlock`)
      simp only [hm, hr, MPc.hand, MPc.lost, MPc.pastFeed, MPc.nonesSent] at hlen hnones
      simp only [List.length_nil, reduceIte] at hlen
      by_cases hh : 0 < (s.workers.flatMap WPc.hand).length
      · obtain ⟨pc, hpc, hhand⟩ := exists_hand_of_flatMap_pos hh
        exact wk (worker_progress hT hN hpc (by rintro rfl; exact hhand rfl)
          (by rintro rfl; exact hhand rfl))
      · have hs : 0 < (somes s.encodeQ).length := by omega
        refine wk (queue_progress hC hT hN ?_ (by omega))
        intro h0; rw [h0] at hs; simp at hs
  | locked id =>
    by_cases hf : p.readFailAt = some s.k
    · exact wk ⟨_, _, Step.f_read_err id hm hf, by simp⟩
    · have hid := (hT.excl_main (x := id) (by simp [hm, MPc.hand])).2.2.2
      have hrunning := hM.running (by simp [hm, emptiesSent])
      -- the reads are enabled unless the md5 queue is full, and then the hasher (still running: no stop token was sent) takes a block
      by_cases hcap : s.md5Q.length < md5Cap
      · cases hb : p.blocks[s.k]? with
        | some b =>
          have hlt : id < s.bufs.length := by rw [hC.blen]; exact hid
          exact wk ⟨_, _, Step.md5_data id b s.bufs[id] hm hf hcap hb
            (List.getElem?_eq_getElem hlt), by simp⟩
        | none =>
          cases he : p.eofSendsEmpty with
          | true => exact wk ⟨_, _, Step.md5_eof id hm hf hcap hb he, by simp⟩
          | false => exact wk ⟨_, _, Step.f_eof_plain id hm hf (List.getElem?_eq_none_iff.1 hb) he, by simp⟩
      · exact wk (hasher_progress hrunning (md5_full_ne hcap))
  | eofEmpty id => exact wk ⟨_, _, Step.f_eof_empty id hm, by simp⟩
  | filledMd5 id =>
    have hmb := hN.mainBuf
    simp only [MainBuf, hm] at hmb
    obtain ⟨x, hx, _⟩ := hmb
    exact wk ⟨_, _, Step.f_filled id x hm hx, by simp⟩
  | enq id =>
    -- one token is in the main thread's hand and no stop token is queued yet: at most `2W - 1` entries in a queue of `2W + 1`
    simp only [hm, MPc.hand, MPc.lost, MPc.pastFeed, MPc.nonesSent] at hlen hnones
    simp only [List.length_nil, List.length_cons, reduceIte] at hlen
    have := length_eq_somes_add_nones s.encodeQ
    exact wk ⟨_, _, Step.enc_send_some id hm (by simp only [Params.encodeCap]; omega), by simp⟩
  | stop r =>
    simp only [MainOk, hm] at hmo
    cases r with
    | zero => omega
    | succ r =>
      by_cases hcap : s.encodeQ.length < p.encodeCap
      · exact wk ⟨_, _, Step.enc_send_none r hm hcap, by simp⟩
      · -- the queue is full, and fewer stop tokens were sent than there are workers: one of them has not exited
        simp only [hm, MPc.nonesSent] at hnones
        refine wk (queue_progress hC hT hN ?_ (by omega))
        intro h0; rw [h0] at hcap; simp [Params.encodeCap] at hcap
  | reqStop =>
    by_cases hcap : s.md5Q.length < md5Cap
    · exact wk ⟨_, _, Step.md5_stop hm hcap, by simp⟩
    · have hne := md5_full_ne hcap
      cases hh : s.hasher with
      | running => exact wk (hasher_progress hh hne)
      | exited =>
        -- the hasher exited on the stop token of the end-of-input read, the only one sent so far: nothing is queued
        have hq := (hM.exited hh).1
        simp only [hm, emptiesSent] at hq
        exact absurd (by split at hq <;> exact hq) hne
  | joinH =>
    cases hh : s.hasher with
    | exited => exact wk ⟨_, _, Step.joined_hasher hm hh, by simp⟩
    | running =>
      -- the md5 stop token was sent and not yet consumed: the queue is not empty
      exact wk (hasher_progress hh (hM.queue_ne_nil hh (by simp [hm, emptiesSent])))
  | joinW j =>
    simp only [MainOk, hm] at hmo
    simp only [hm, MPc.nonesSent] at hnones
    by_cases hall : s.exitedCount = p.W
    · refine ⟨_, _, Step.joined_worker j hm (by omega), ?_⟩
      intro _ pc hpc
      have : s.workers.count .exited = s.workers.length := by rw [hC.wlen]; exact hall
      exact (List.count_eq_length.1 this pc hpc).symm
    · -- all `W` stop tokens were sent and not all consumed: one is queued and a worker has not exited
      have hle : s.exitedCount ≤ p.W := by
        have : s.exitedCount ≤ s.workers.length := List.count_le_length
        rw [hC.wlen] at this; exact this
      refine wk (queue_progress hC hT hN ?_ (by omega))
      intro h0; rw [h0] at hnones; simp at hnones; omega
  | done => exact absurd hm hnf

end FlacVerif.Par
