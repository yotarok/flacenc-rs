/-
Token conservation: every buffer id `0..2W-1` is in exactly one place — the refill queue, the main
thread's hand, the encode queue, or the hand of a worker (between `encode_recv` and `refill_send`).
The only ids that leave circulation are the ones the main thread holds at `f_eof` / `f_read_err`.
Consequences: no buffer is ever held by two threads (the per-buffer mutex is never contended) and the
refill queue can never be full (`InvTok.refill_le`).
-/
import FlacVerif.Lemmas.ParStep
import FlacVerif.Lemmas.ParList
namespace FlacVerif.Par

def WPc.hand : WPc → List Nat
  | .got id => [id]
  | .encoded id _ _ => [id]
  | _ => []

def MPc.hand : MPc → List Nat
  | .locked id | .eofEmpty id | .filledMd5 id | .enq id => [id]
  | _ => []

theorem lockedBuf_hand {m : MPc} {id : Nat} (h : m.lockedBuf = some id) : id ∈ m.hand := by
  cases m <;> simp_all [MPc.lockedBuf, MPc.hand]

theorem exists_hand_of_flatMap_pos {l : List WPc} (h : 0 < (l.flatMap WPc.hand).length) :
    ∃ pc ∈ l, pc.hand ≠ [] := by
  obtain ⟨x, hx⟩ := List.exists_mem_of_length_pos h
  obtain ⟨pc, hpc, hx'⟩ := List.mem_flatMap.1 hx
  exact ⟨pc, hpc, by intro h0; rw [h0] at hx'; cases hx'⟩

/-- work items of the encode queue -/
def somes (q : List (Option Nat)) : List Nat := q.filterMap id

@[simp] theorem somes_nil : somes [] = [] := rfl
@[simp] theorem somes_cons_some (x : Nat) (q : List (Option Nat)) :
    somes (some x :: q) = x :: somes q := by simp [somes]
@[simp] theorem somes_cons_none (q : List (Option Nat)) : somes (none :: q) = somes q := by
  simp [somes]

theorem somes_append (a b : List (Option Nat)) : somes (a ++ b) = somes a ++ somes b := by
  simp [somes]

theorem mem_somes {q : List (Option Nat)} {x : Nat} : x ∈ somes q ↔ some x ∈ q := by
  simp [somes]

theorem length_eq_somes_add_nones (q : List (Option Nat)) :
    q.length = (somes q).length + q.count none := by
  induction q with
  | nil => rfl
  | cons x q ih => cases x <;> simp [ih] <;> omega

def tokens (s : State) : List Nat :=
  s.refillQ ++ s.main.hand ++ somes s.encodeQ ++ s.workers.flatMap WPc.hand

/-- The feed loop is over (`request_stop` and later). -/
def MPc.pastFeed : MPc → Prop
  | .stop _ | .reqStop | .joinH | .joinW _ | .done => True
  | _ => False

instance (m : MPc) : Decidable m.pastFeed := by
  cases m <;> simp only [MPc.pastFeed] <;> infer_instance

/-- `1` when the feed loop is over (its last buffer id is out of circulation). -/
def MPc.lost (m : MPc) : Nat := if m.pastFeed then 1 else 0

theorem afterStop_hand (r : Nat) : (afterStop r).hand = [] := by
  cases r <;> rfl

theorem afterStop_lost (r : Nat) : (afterStop r).lost = 1 := by
  cases r <;> rfl

/-- the buffer id that leaves circulation with the event -/
def Ev.drops : Ev → List Nat
  | .f_eof id | .f_read_err id => [id]
  | _ => []

theorem Step.lost {p : Params} {s s' : State} {e : Ev} (hs : Step p s e s') :
    s'.main.lost = s.main.lost + e.drops.length := by
  cases hs
  -- the worker and hasher steps leave the main pc alone
  case enc_recv_some | enc_recv_none | w_lock | refill_send | w_push | w_err | md5_recv_stop | md5_recv_data => rfl
  case joined_hasher hm _ => rw [hm]; split <;> rfl
  case joined_worker hm _ => rw [hm]; split <;> rfl
  all_goals simp only [afterStop_lost, ‹s.main = _›]; rfl

theorem Step.tokens_perm {p : Params} {s s' : State} {e : Ev} (hs : Step p s e s') (x : Nat) :
    (tokens s).count x = (tokens s').count x + e.drops.count x := by
  cases hs
  case enc_recv_some w id rest hw hq =>
    have := count_flatMap_set WPc.hand s.workers w _ (.got id) x hw
    simp only [tokens, hq, somes_cons_some, List.count_append, List.count_cons, WPc.hand,
      List.count_nil, Ev.drops] at this ⊢; omega
  case enc_recv_none w rest hw hq =>
    have := count_flatMap_set WPc.hand s.workers w _ .exited x hw
    simp only [tokens, hq, somes_cons_none, List.count_append, WPc.hand,
      List.count_nil, Ev.drops] at this ⊢; omega
  case w_lock w id n b hw hx hn hl =>
    have := count_flatMap_set WPc.hand s.workers w _ (.encoded id n (enc n b.blk)) x hw
    simp only [tokens, List.count_append, List.count_cons, WPc.hand, List.count_nil, Ev.drops] at this ⊢
    omega
  case refill_send w id n res hw hcap =>
    have := count_flatMap_set WPc.hand s.workers w _ (.sent id n res) x hw
    simp only [tokens, List.count_append, List.count_cons, WPc.hand, List.count_nil, Ev.drops] at this ⊢
    omega
  case w_push w id n f hw =>
    have := count_flatMap_set WPc.hand s.workers w _ .idle x hw
    simp only [tokens, List.count_append, WPc.hand, List.count_nil, Ev.drops] at this ⊢
    omega
  case w_err w id n hw =>
    have := count_flatMap_set WPc.hand s.workers w _ .idle x hw
    simp only [tokens, List.count_append, WPc.hand, List.count_nil, Ev.drops] at this ⊢
    omega
  case joined_hasher hm hh => split <;> simp [tokens, hm, MPc.hand, Ev.drops]
  case joined_worker j hm hj => split <;> simp [tokens, hm, MPc.hand, Ev.drops]
  -- the hasher touches no token; these steps of the main thread keep the buffer it holds
  case md5_recv_stop | md5_recv_data => rfl
  case md5_data | md5_eof | md5_stop | f_filled => rw [tokens, tokens, ‹s.main = _›]; rfl
  -- a receive or send moves an id between the main thread's hand and a queue; at the end of the feed loop it is dropped
  case refill_recv | f_eof_plain | f_eof_empty | f_read_err | enc_send_some | enc_send_none =>
    simp only [tokens, afterStop_hand, Ev.drops, *]
    simp only [List.count_append, somes_append, somes_cons_some,
      somes_cons_none, somes_nil, List.count_cons, List.count_nil, MPc.hand]
    omega

structure InvTok (p : Params) (s : State) : Prop where
  cnt : ∀ x, (tokens s).count x ≤ if x < 2 * p.W then 1 else 0
  len : (tokens s).length + s.main.lost = 2 * p.W

theorem InvTok.init (p : Params) : InvTok p (init p) := by
  have : ((List.replicate p.W WPc.idle).flatMap WPc.hand) = [] := by
    simp [WPc.hand]
  constructor
  · intro x
    simp [tokens, Par.init, MPc.hand, somes, this, Params.nbuf]
  · simp [tokens, Par.init, MPc.hand, somes, this, Params.nbuf, MPc.lost, MPc.pastFeed]

theorem InvTok.step {p : Params} {s s' : State} {e : Ev} (h : InvTok p s) (hs : Step p s e s') :
    InvTok p s' where
  cnt x := Nat.le_trans (hs.tokens_perm x ▸ Nat.le_add_right _ _) (h.cnt x)
  -- a permutation keeps the length
  len := by
    have := (List.perm_iff_count.2 fun x => (hs.tokens_perm x).trans List.count_append.symm).length_eq
    rw [List.length_append] at this
    rw [hs.lost, ← h.len, this]; omega

theorem InvTok.lt {p : Params} {s : State} (h : InvTok p s) {x : Nat} (hx : x ∈ tokens s) :
    x < 2 * p.W := by
  have h1 := h.cnt x
  have h2 : 0 < (tokens s).count x := List.count_pos_iff.2 hx
  split at h1
  · assumption
  · omega

theorem InvTok.once {p : Params} {s : State} (h : InvTok p s) (x : Nat) :
    s.refillQ.count x + s.main.hand.count x + (somes s.encodeQ).count x + (s.workers.flatMap WPc.hand).count x ≤ 1 := by
  have h1 := h.cnt x
  simp only [tokens, List.count_append] at h1
  split at h1 <;> omega

theorem InvTok.excl_main {p : Params} {s : State} (h : InvTok p s) {x : Nat}
    (hx : x ∈ s.main.hand) :
    x ∉ s.refillQ ∧ some x ∉ s.encodeQ ∧ (∀ pc ∈ s.workers, x ∉ pc.hand) ∧ x < 2 * p.W := by
  have h1 := h.once x
  have h2 := List.count_pos_iff.2 hx
  exact ⟨fun hm => by have := List.count_pos_iff.2 hm; omega,
    fun hm => by have := List.count_pos_iff.2 (mem_somes.2 hm); omega,
    fun pc hpc hm => by have := List.count_pos_iff.2 (List.mem_flatMap.2 ⟨pc, hpc, hm⟩); omega,
    h.lt (by simp [tokens, hx])⟩

theorem InvTok.excl_worker {p : Params} {s : State} (h : InvTok p s) {x : Nat} {pc : WPc}
    (hpc : pc ∈ s.workers) (hx : x ∈ pc.hand) :
    x ∉ s.refillQ ∧ some x ∉ s.encodeQ ∧ x ∉ s.main.hand ∧ x < 2 * p.W := by
  have h1 := h.once x
  have hw := List.mem_flatMap.2 ⟨pc, hpc, hx⟩
  have h2 := List.count_pos_iff.2 hw
  exact ⟨fun hm => by have := List.count_pos_iff.2 hm; omega,
    fun hm => by have := List.count_pos_iff.2 (mem_somes.2 hm); omega,
    fun hm => by have := List.count_pos_iff.2 hm; omega,
    h.lt (by simp [tokens, hw])⟩

theorem InvTok.queue_lt {p : Params} {s : State} (h : InvTok p s) {x : Nat}
    (hx : some x ∈ s.encodeQ) : x < 2 * p.W :=
  h.lt (by simp [tokens, mem_somes.2 hx])

theorem InvTok.lengths {p : Params} {s : State} (h : InvTok p s) :
    s.refillQ.length + s.main.hand.length + (somes s.encodeQ).length +
      (s.workers.flatMap WPc.hand).length + s.main.lost = 2 * p.W := by
  have := h.len
  simpa [tokens, Nat.add_assoc] using this

/-- the refill queue is never full: its capacity is `2W + 1` -/
theorem InvTok.refill_le {p : Params} {s : State} (h : InvTok p s) : s.refillQ.length ≤ 2 * p.W := by
  have := h.lengths; omega

end FlacVerif.Par
