/-
GenCount — the `count_bits_exact` side of the generated writer (Gen/Writer.lean): `count_bits` of a well-formed component whose
count is small does not overflow `usize` (C08Gen proves the `count_bits` VALUES and the `write_exact` side; this file adds
what `StreamInfo::update_frame_info` needs: `Frame::count_bits` of an encoder-built frame cannot panic).
-/
import FlacVerif.Theorems.C08Gen
import FlacVerif.Model.Encode
namespace FlacVerif
namespace GenCount
open Gen.Writer

/-- `Residual::count_bits` cannot panic (`_exact`: every `usize` check of the generated function passes). -/
theorem residual_count_exact (r : Residual) (c : Nat) (hwf : r.WF) (hw : r.warmup ≤ 32) (h : r.count = some c)
    (hc : c < 2 ^ 40) : Residual.count_bits_exact r = true := by
  obtain ⟨ho, hpl, _, _, _, _, _, hp14, _, _⟩ := hwf
  have hn := C08Gen.nparts_eq r (by omega)
  have hnp : r.nparts ≤ 32768 := by
    rw [Residual.nparts]
    calc 2 ^ r.order ≤ 2 ^ 15 := Nat.pow_le_pow_right (by decide) ho
      _ = 32768 := by decide
  have hplen : r.params.length ≤ 32768 := by rw [hpl]; exact hnp
  have hppos : 0 < r.params.length := by rw [hpl]; exact Nat.two_pow_pos _
  -- 458752 = 14 · 32768: largest Rice parameter times the largest number of partitions
  have hsp : r.params.foldl (· + ·) 0 ≤ 458752 := by
    have := foldl_add_le_mul r.params 14 0 hp14
    omega
  have hplr : r.blockSize >>> r.order = r.partLen := rfl
  have hple : r.partLen ≤ r.blockSize := by rw [Residual.partLen]; exact Nat.shiftRight_le _ _
  -- the three `if`s of `Residual.count` are the no-underflow guards of `count_bits`; past them every `usize` check is bounded
  -- by `c + 32` or `458752 * (c + 32)`
  obtain ⟨h1, h2, h3, h⟩ := Count.count_some h
  have hbs : r.blockSize ≤ c + 32 := by omega
  have hprod : List.foldl (· + ·) 0 r.params * r.partLen ≤ 458752 * (c + 32) :=
    Nat.mul_le_mul hsp (by omega)
  unfold Residual.count_bits_exact
  simp only [andB, hn, hplr, Bool.and_eq_true, decide_eq_true_eq]
  omega

/-- `SubFrame::count_bits` cannot panic. -/
theorem subframe_count_exact (s : SubFrame) (c : Nat) (hwf : s.WF) (h : s.count = some c) (hc : c < 2 ^ 40) :
    SubFrame.count_bits_exact s = true := by
  cases s with
  | constant n dc bps =>
    simp only [SubFrame.count, Option.some.injEq] at h
    simp only [SubFrame.count_bits_exact, Constant.count_bits_exact, decide_eq_true_eq]
    omega
  | verbatim xs bps =>
    simp only [SubFrame.count, Option.some.injEq] at h
    simp only [SubFrame.count_bits_exact, Verbatim.count_bits_exact, Verbatim.count_bits_from_metadata_exact, Bool.and_eq_true,
      decide_eq_true_eq]
    omega
  | fixed warm res bps =>
    obtain ⟨hw4, hwr, hrwf, _⟩ := hwf
    simp only [SubFrame.count, Option.map_eq_some_iff] at h
    obtain ⟨cr, hcr, hsum⟩ := h
    have hre := residual_count_exact res cr hrwf (by omega) hcr (by omega)
    have hrv := C08Gen.C08G_residual_count res cr (by have := hrwf.1; omega) hcr
    simp only [SubFrame.count_bits_exact, FixedLpc.count_bits_exact, hre, hrv, Bool.and_eq_true, decide_eq_true_eq, and_true]
    omega
  | lpc warm coefs shift precision res bps =>
    obtain ⟨_, hc32, hwc, hwr, hrwf, _⟩ := hwf
    simp only [SubFrame.count, Option.map_eq_some_iff] at h
    obtain ⟨cr, hcr, hsum⟩ := h
    have hre := residual_count_exact res cr hrwf (by omega) hcr (by omega)
    have hrv := C08Gen.C08G_residual_count res cr (by have := hrwf.1; omega) hcr
    simp only [SubFrame.count_bits_exact, Lpc.count_bits_exact, andB, hre, hrv, Bool.and_eq_true, decide_eq_true_eq, and_true]
    omega


theorem utf8like_exact (v : Nat) : utf8like_bytesize_exact v = true ∧ utf8like_bytesize v ≤ 13 := by
  unfold utf8like_bytesize_exact utf8like_bytesize Gen.Headers.leadingZeros andB
  by_cases h0 : v = 0
  · simp [h0]
  · simp only [h0, if_false]
    constructor
    · simp only [Bool.and_eq_true, decide_eq_true_eq]
      refine ⟨by omega, ?_⟩
      split
      · rfl
      · simp only [Bool.and_eq_true, decide_eq_true_eq]; omega
    · split <;> omega

/-- **`FrameHeader::count_bits` cannot panic**, and it is at most 176 bits. -/
theorem header_count_exact (h : Gen.Writer.FrameHeader) :
    Gen.Writer.FrameHeader.count_bits_exact h = true ∧ Gen.Writer.FrameHeader.count_bits h ≤ 176 := by
  have e1 : Gen.Headers.BlockSizeSpec.count_extra_bits h.block_size_spec ≤ 16 := by
    unfold Gen.Headers.BlockSizeSpec.count_extra_bits; cases h.block_size_spec <;> simp
  have e2 : Gen.Headers.SampleRateSpec.count_extra_bits h.sample_rate_spec ≤ 16 := by
    unfold Gen.Headers.SampleRateSpec.count_extra_bits; cases h.sample_rate_spec <;> simp
  obtain ⟨a1, a2⟩ := utf8like_exact h.start_sample_number
  obtain ⟨b1, b2⟩ := utf8like_exact h.frame_number
  unfold Gen.Writer.FrameHeader.count_bits_exact Gen.Writer.FrameHeader.count_bits
  cases hv : h.variable_block_size
  · simp only [Bool.false_eq_true, if_false, bindE, andE, andB, b1, Bool.true_and, Bool.and_eq_true, decide_eq_true_eq, and_true]
    omega
  · simp only [if_true, bindE, andE, andB, a1, Bool.true_and, Bool.and_eq_true, decide_eq_true_eq, and_true]
    omega

theorem map_count_bits (subs : List SubFrame) (hs : ∀ s ∈ subs, s.WF ∧ ∃ c, s.count = some c) :
    subs.map SubFrame.count_bits = subs.map cnt := by
  apply List.map_congr_left
  intro s hs'
  obtain ⟨hwf, c, hc⟩ := hs s hs'
  rw [C08Gen.C08G_subframe_count s c (C08Gen.subOrd_of_WF s hwf) hc]
  simp [cnt, hc]

/-- `Frame::count_bits` cannot panic. -/
theorem frame_count_exact (g : Gen.Writer.Frame) (hp : g.precomputed_bitstream = none)
    (hs : ∀ s ∈ g.subframes, s.WF ∧ ∃ c, s.count = some c)
    (hsum : (g.subframes.map cnt).foldl (· + ·) 0 < 2 ^ 40) :
    Gen.Writer.Frame.count_bits_exact g = true ∧ Gen.Writer.Frame.count_bits g < 2 ^ 44 := by
  obtain ⟨hh1, hh2⟩ := header_count_exact g.header
  have hmap := map_count_bits g.subframes hs
  have hall : g.subframes.all SubFrame.count_bits_exact = true := by
    rw [List.all_eq_true]
    intro s hs'
    obtain ⟨hwf, c, hc⟩ := hs s hs'
    refine subframe_count_exact s c hwf hc ?_
    have h1 : cnt s ∈ g.subframes.map cnt := List.mem_map_of_mem hs'
    have h2 := mem_le_foldl_add _ _ h1 0
    have : cnt s = c := by simp [cnt, hc]
    omega
  have hsh : ∀ x : Nat, (x >>> 3) <<< 3 ≤ x := by
    intro x; simp only [Nat.shiftRight_eq_div_pow, Nat.shiftLeft_eq]; exact Nat.div_mul_le_self x _
  have hb := hsh (Gen.Writer.FrameHeader.count_bits g.header + List.foldl (· + ·) 0 (List.map cnt g.subframes) + 7)
  have hm : ((Gen.Writer.FrameHeader.count_bits g.header + List.foldl (· + ·) 0 (List.map cnt g.subframes) + 7) >>> 3) <<< 3
      % 18446744073709551616 ≤ Gen.Writer.FrameHeader.count_bits g.header + List.foldl (· + ·) 0 (List.map cnt g.subframes) + 7 :=
    Nat.le_trans (Nat.mod_le _ _) hb
  unfold Gen.Writer.Frame.count_bits_exact Gen.Writer.Frame.count_bits
  simp only [hp, andB, hh1, hall, hmap, Bool.true_and, Bool.and_eq_true, decide_eq_true_eq]
  refine ⟨⟨by omega, ⟨by omega, by omega⟩, by omega⟩, by omega⟩

/-- ... and its VALUE is the hand model's `Frame.count` (a version of `C08G_frame_count` whose `usize` bound comes from the
sub-frames instead of being assumed). -/
theorem frame_count_value (g : Gen.Writer.Frame) (c : Nat) (hp : g.precomputed_bitstream = none)
    (hf : g.header.frame_number < 2 ^ 32) (hss : g.header.start_sample_number < 2 ^ 64)
    (hs : ∀ s ∈ g.subframes, s.WF ∧ ∃ c, s.count = some c)
    (hsum : (g.subframes.map cnt).foldl (· + ·) 0 < 2 ^ 40) (h : (C08Gen.frameOfGen g).count = some c) :
    Gen.Writer.Frame.count_bits g = c := by
  refine C08Gen.C08G_frame_count g c hp hf hss (fun s hs' => C08Gen.subOrd_of_WF s (hs s hs').1) ?_ h
  obtain ⟨_, hh2⟩ := header_count_exact g.header
  rw [C08Gen.C08G_header_count g.header hf hss] at hh2
  obtain ⟨_, rfl⟩ := Count.frame_count_some h
  simp only [C08Gen.frameOfGen]
  have := Nat.div_mul_le_self ((C08Gen.hdrOfGen g.header).count + List.foldl (· + ·) 0 (List.map cnt g.subframes) + 7) 8
  omega

end GenCount
end FlacVerif
