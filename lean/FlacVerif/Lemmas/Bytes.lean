/-
Bytes and bits. `packBytes` is known by two facts: what it yields are bytes (`packBytes_lt`), and unpacking them gives the
bits back, followed by the zeros that fill the last byte (`bytesToBits_packBytes_pad`). `bytesToBits` is injective on
bytes, so everything else about `packBytes` follows from these two: it inverts `bytesToBits`, it commutes with `++`, `take`
and `drop` at byte boundaries.
A whole number of bytes is written `length = 8 * n` here, and the proofs of this file cite `Count.bytesToBits_length`,
`OpsL.bytesToBits_cons`, `Repo.bytesToBits_packBytes`; the same facts under other names or with `8 ∣ length`,
`length % 8 = 0` are there in the forms their users have.
-/
import FlacVerif.Model.Codes
namespace FlacVerif

@[simp] theorem Count.bytesToBits_length (bs : List Nat) : (bytesToBits bs).length = 8 * bs.length := by
  induction bs with
  | nil => rfl
  | cons b bs ih =>
    rw [bytesToBits, List.flatMap_cons, List.length_append, natToBits_length, ← bytesToBits, ih, List.length_cons]
    omega

theorem OpsL.bytesToBits_cons (b : Nat) (bs : List Nat) :
    bytesToBits (b :: bs) = natToBits 8 b ++ bytesToBits bs := by simp [bytesToBits]

namespace Repo

theorem bytesToBits_append (a b : List Nat) : bytesToBits (a ++ b) = bytesToBits a ++ bytesToBits b := by
  simp [bytesToBits]

theorem bytesToBits_cons (a : Nat) (b : List Nat) : bytesToBits (a :: b) = natToBits 8 a ++ bytesToBits b :=
  OpsL.bytesToBits_cons a b

theorem bytesToBits_length (bs : List Nat) : (bytesToBits bs).length = 8 * bs.length :=
  Count.bytesToBits_length bs

end Repo

theorem bytesToBits_inj {x y : List Nat} (hx : ∀ b ∈ x, b < 256) (hy : ∀ b ∈ y, b < 256)
    (h : bytesToBits x = bytesToBits y) : x = y := by
  induction x generalizing y with
  | nil =>
    cases y with
    | nil => rfl
    | cons b y => have := congrArg List.length h; simp at this
  | cons a x ih =>
    cases y with
    | nil => have := congrArg List.length h; simp at this
    | cons b y =>
      rw [OpsL.bytesToBits_cons, OpsL.bytesToBits_cons] at h
      obtain ⟨h1, h2⟩ := List.append_inj h (by rw [natToBits_length, natToBits_length])
      have hab := congrArg bitsToNat h1
      rw [bitsToNat_natToBits, bitsToNat_natToBits, Nat.mod_eq_of_lt (hx a List.mem_cons_self),
        Nat.mod_eq_of_lt (hy b List.mem_cons_self)] at hab
      rw [hab, ih (fun c hc => hx c (List.mem_cons_of_mem _ hc)) (fun c hc => hy c (List.mem_cons_of_mem _ hc)) h2]

theorem drop_bytesToBits (bs : List Nat) (i : Nat) : (bytesToBits bs).drop (8 * i) = bytesToBits (bs.drop i) := by
  induction i generalizing bs with
  | zero => rfl
  | succ i ih =>
    cases bs with
    | nil => simp [bytesToBits]
    | cons b bs =>
      rw [OpsL.bytesToBits_cons, List.drop_succ_cons, ← ih bs, show 8 * (i + 1) = 8 + 8 * i by omega, ← List.drop_drop,
        List.drop_left' (natToBits_length 8 b)]

theorem take_bytesToBits (bs : List Nat) (i : Nat) : (bytesToBits bs).take (8 * i) = bytesToBits (bs.take i) := by
  induction i generalizing bs with
  | zero => rfl
  | succ i ih =>
    cases bs with
    | nil => simp [bytesToBits]
    | cons b bs =>
      rw [List.take_succ_cons, OpsL.bytesToBits_cons, OpsL.bytesToBits_cons, ← ih bs, show 8 * (i + 1) = 8 + 8 * i by omega,
        List.take_append, natToBits_length, Nat.add_sub_cancel_left,
        List.take_of_length_le (by rw [natToBits_length]; omega)]

theorem packBytes_nil : packBytes [] = [] := by rw [packBytes]

theorem packBytes_lt (b : Bits) : ∀ x ∈ packBytes b, x < 256 := by
  induction hn : b.length using Nat.strongRecOn generalizing b with
  | _ n ih =>
    cases b with
    | nil => simp [packBytes]
    | cons b0 rest =>
      rw [packBytes]
      intro x hx
      rcases List.mem_cons.mp hx with rfl | hx
      · have := bitsToNat_lt (List.take 8 (b0 :: rest) ++ List.replicate (8 - (List.take 8 (b0 :: rest)).length) false)
        have hl : (List.take 8 (b0 :: rest) ++ List.replicate (8 - (List.take 8 (b0 :: rest)).length) false).length = 8 := by
          simp only [List.length_append, List.length_replicate, List.length_take]; omega
        rw [hl] at this; exact this
      · exact ih _ (by rw [← hn, List.length_drop]; simp; omega) _ rfl x hx

theorem bytesToBits_packBytes_pad (b : Bits) :
    bytesToBits (packBytes b) = b ++ List.replicate ((8 - b.length % 8) % 8) false := by
  induction hn : b.length using Nat.strongRecOn generalizing b with
  | _ n ih =>
    subst hn
    cases b with
    | nil => simp [packBytes, bytesToBits]
    | cons b0 rest =>
      rw [packBytes, OpsL.bytesToBits_cons, ih _ (by rw [List.length_drop, List.length_cons]; omega) _ rfl]
      have := natToBits_bitsToNat ((b0 :: rest).take 8 ++ List.replicate (8 - ((b0 :: rest).take 8).length) false)
      rw [show ((b0 :: rest).take 8 ++ List.replicate (8 - ((b0 :: rest).take 8).length) false).length = 8 by
        simp only [List.length_append, List.length_replicate, List.length_take]; omega] at this
      rw [this]
      by_cases h8 : 8 ≤ (b0 :: rest).length
      · -- a whole byte: the padding is that of the rest
        rw [show 8 - ((b0 :: rest).take 8).length = 0 by rw [List.length_take]; omega, List.replicate_zero, List.append_nil,
          ← List.append_assoc, List.take_append_drop, List.length_drop,
          show ((b0 :: rest).length - 8) % 8 = (b0 :: rest).length % 8 by omega]
      · -- the last, partial byte
        have hL : (b0 :: rest).length < 8 := Nat.lt_of_not_le h8
        have hpos : 0 < (b0 :: rest).length := Nat.succ_pos _
        rw [List.take_of_length_le (Nat.le_of_lt hL), List.drop_eq_nil_of_le (Nat.le_of_lt hL), List.length_nil,
          Nat.mod_eq_of_lt hL, Nat.mod_eq_of_lt (show 8 - (b0 :: rest).length < 8 by omega)]
        exact List.append_nil _

theorem Repo.bytesToBits_packBytes (n : Nat) (bs : Bits) (h : bs.length = 8 * n) : bytesToBits (packBytes bs) = bs := by
  rw [bytesToBits_packBytes_pad, h, Nat.mul_mod_right]
  exact List.append_nil bs

theorem OpsL.bytesToBits_packBytes (b : Bits) (h : 8 ∣ b.length) : bytesToBits (packBytes b) = b :=
  let ⟨n, hn⟩ := h
  Repo.bytesToBits_packBytes n b hn

theorem packBytes_length (n : Nat) (bs : Bits) (h : bs.length = 8 * n) : (packBytes bs).length = n := by
  have hl := congrArg List.length (Repo.bytesToBits_packBytes n bs h)
  rw [Count.bytesToBits_length] at hl
  omega

theorem Strict.packBytes_bytesToBits (bs : List Nat) (h : ∀ b ∈ bs, b < 256) : packBytes (bytesToBits bs) = bs :=
  bytesToBits_inj (packBytes_lt _) h (Repo.bytesToBits_packBytes bs.length _ (Count.bytesToBits_length bs))

/-- The zeros that fill the last byte are already in its packed form. -/
theorem packBytes_append_zeros (b : Bits) (k : Nat) (hk : k < 8) (h8 : (b.length + k) % 8 = 0) :
    packBytes (b ++ List.replicate k false) = packBytes b := by
  rw [show k = (8 - b.length % 8) % 8 by omega, ← bytesToBits_packBytes_pad, Strict.packBytes_bytesToBits _ (packBytes_lt b)]

theorem packBytes_append (n : Nat) (a b : Bits) (h : a.length = 8 * n) : packBytes (a ++ b) = packBytes a ++ packBytes b := by
  refine bytesToBits_inj (packBytes_lt _) (List.forall_mem_append.mpr ⟨packBytes_lt a, packBytes_lt b⟩) ?_
  rw [Repo.bytesToBits_append, bytesToBits_packBytes_pad, bytesToBits_packBytes_pad b, Repo.bytesToBits_packBytes n a h,
    List.length_append, h, Nat.mul_add_mod, List.append_assoc]

theorem Strict.bits_as_bytes (fb : Bits) (h : fb.length % 8 = 0) :
    bytesToBits (packBytes fb) = fb ∧ (packBytes fb).length = fb.length / 8 := by
  have hl : fb.length = 8 * (fb.length / 8) := by omega
  exact ⟨Repo.bytesToBits_packBytes _ fb hl, packBytes_length _ fb hl⟩

theorem take_packBytes (a b : Bits) (more : List Nat) (h : a.length % 8 = 0) :
    (packBytes (a ++ b) ++ more).take (a.length / 8) = packBytes a := by
  have hl : a.length = 8 * (a.length / 8) := by omega
  rw [packBytes_append _ a b hl, List.append_assoc, List.take_append_of_le_length (by rw [packBytes_length _ a hl]; omega),
    List.take_of_length_le (by rw [packBytes_length _ a hl]; omega)]

theorem drop_packBytes (a b : Bits) (more : List Nat) (h : a.length % 8 = 0) :
    (packBytes (a ++ b) ++ more).drop (a.length / 8) = packBytes b ++ more := by
  have hl : a.length = 8 * (a.length / 8) := by omega
  rw [packBytes_append _ a b hl, List.append_assoc, List.drop_append_of_le_length (by rw [packBytes_length _ a hl]; omega),
    List.drop_of_length_le (by rw [packBytes_length _ a hl]; omega)]
  rfl

end FlacVerif
