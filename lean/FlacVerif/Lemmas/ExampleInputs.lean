/-
The inputs of the worked examples of C01 (strict round trip) and C07 (totality): a smooth block of 64 samples, two channels of 40
samples, and a stand-in for the digest.
-/
namespace FlacVerif
namespace C01StrictEx

def smooth64 : List Int := (List.range 64).map fun (t : Nat) => ((t : Int) * (t : Int)) / 7 - 300

/-- A stand-in digest (any function producing 16 bytes will do; nothing is proved about MD5). -/
def toyMd5 (x : List Nat) : List Nat := List.replicate 16 (x.length % 256)

def streamL : List Int := (List.range 40).map fun (t : Nat) => ((t : Int) * (t : Int)) / 7 - 30
def streamR : List Int := (List.range 40).map fun (t : Nat) => ((t : Int) * 37 % 11) - 5

end C01StrictEx
end FlacVerif
