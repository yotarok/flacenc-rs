/-
C13 for the residuals `encode_subframe` emits. First the link between the implementation-side size (`Residual.bits`,
`Residual.count`) and the specification-side cost of C13: the written size of the residual that
`encode_residual_with_prc_parameter` builds (`Residual.ofErrors`) is `6 + choiceCost` of the folded errors
(`Extras.ofErrors_bits_length`). An emitted fixed / LPC candidate was compared with the verbatim size (`keepBelow`, C09) and
its reported size is its written size (C08); so the cost of the chosen partitioning is far below the saturation value
`2^28 - 1` and `C13_emitted` applies (`Optimal`: what C13 says of one emitted residual; `SubOutcome.optimal`).
-/
import FlacVerif.Lemmas.Outcome
import FlacVerif.Theorems.C13
import FlacVerif.Lemmas.Predict
import FlacVerif.Lemmas.OfErrors
import FlacVerif.Lemmas.Count
namespace FlacVerif
namespace Extras
open Count Strict

theorem partCost_rsum (p : Nat) (l : List Nat) :
    partCost p l = 4 + (rsum l.length (fun i => l.getD i 0 >>> p) + l.length * (p + 1)) := by
  unfold partCost
  rw [← List.sum_eq_foldl, ← map_getD_eq_map l 0 (fun e => (e >>> p) + p + 1)]
  change 4 + rsum l.length (fun i => (l.getD i 0 >>> p) + p + 1) = _
  have : (fun i => (l.getD i 0 >>> p) + p + 1) = fun i => (l.getD i 0 >>> p) + (p + 1) := by
    funext i; omega
  rw [this, rsum_add_fn, rsum_const]

theorem partBits_ofErrors (errors : List Int) (w o : Nat) (ps : List Nat)
    (herr : ∀ e ∈ errors, -(2 ^ 31 : Int) < e ∧ e < (2 ^ 31 : Int)) (k : Nat) (hk : k < 2 ^ o) :
    ((Residual.ofErrors errors w o ps).partBits k).length =
      partCost (ps.getD k 0) (partErrors (errors.map fold) w o k) := by
  have hpow : 0 < 2 ^ o := Nat.two_pow_pos o
  have hstop : (k + 1) * (errors.length >>> o) ≤ errors.length := by
    rw [Nat.shiftRight_eq_div_pow]
    calc (k + 1) * (errors.length / 2 ^ o) ≤ 2 ^ o * (errors.length / 2 ^ o) :=
          Nat.mul_le_mul_right _ (by omega)
      _ ≤ errors.length := Nat.mul_div_le _ _
  rw [partBits_length, partCost_rsum]
  simp only [ofErrors_partLen, ofErrors_warmup, ofErrors_params]
  unfold partErrors
  simp only [List.length_map]
  rw [List.length_drop, List.length_take, Nat.min_eq_left (by rw [List.length_map]; exact hstop),
    List.getD_eq_getElem?_getD (l := ps.take (2 ^ o)), List.getElem?_take_of_lt hk, ← List.getD_eq_getElem?_getD]
  congr 2
  apply rsum_congr
  intro i hi
  have ht : max w (k * (errors.length >>> o)) + i < (k + 1) * (errors.length >>> o) := by omega
  rw [getD_drop_take _ _ _ _ _ ht]
  have htn : max w (k * (errors.length >>> o)) + i < errors.length := by omega
  rw [ofErrors_quot errors w o ps _ htn, if_neg (by omega),
    Nat.div_eq_of_lt_le (by omega) ht]
  have hmem := herr _ (getD_mem errors _ 0 htn)
  rw [encodeSignbit_eq_fold _ hmem.1 hmem.2]
  congr 1
  rw [List.getD_eq_getElem?_getD, List.getD_eq_getElem?_getD, List.getElem?_map,
    List.getElem?_eq_getElem htn]
  rfl

/-- **Written size of an emitted residual.** For prediction errors strictly inside `(-2^31, 2^31)`
(where the `u32` sign folding is the mathematical one), any warm-up, order and parameter list:
`Residual::write` of `encode_residual_with_prc_parameter(errors, …)` emits exactly
`6 + choiceCost (folded errors) warm order params` bits (2 bits method + 4 bits order, then per
partition 4 bits of parameter and `q + p + 1` bits per coded sample). -/
theorem ofErrors_bits_length (errors : List Int) (w o : Nat) (ps : List Nat)
    (herr : ∀ e ∈ errors, -(2 ^ 31 : Int) < e ∧ e < (2 ^ 31 : Int)) :
    (Residual.ofErrors errors w o ps).bits.length = 6 + choiceCost (errors.map fold) w o ps := by
  unfold Residual.bits choiceCost
  rw [List.length_append, natToBits_length, length_flatMap_range, ← List.sum_eq_foldl]
  change 6 + rsum _ _ = 6 + rsum (2 ^ o) _
  congr 1
  exact rsum_congr (fun k hk => partBits_ofErrors errors w o ps herr k hk)

theorem ofErrors_count (errors : List Int) (w o : Nat) (ps : List Nat)
    (herr : ∀ e ∈ errors, -(2 ^ 31 : Int) < e ∧ e < (2 ^ 31 : Int))
    (hwf : (Residual.ofErrors errors w o ps).WF) :
    (Residual.ofErrors errors w o ps).count = some (6 + choiceCost (errors.map fold) w o ps) := by
  rw [residual_count _ hwf, ofErrors_bits_length errors w o ps herr]

/-- What C13 says about one emitted residual, for a given error signal. -/
def OptimalFor (maxP n : Nat) (warm : List Int) (res : Residual) (errors : List Int) : Prop :=
  res = Residual.ofErrors errors warm.length res.order res.params ∧
    orderOk n warm.length res.order = true ∧ res.params.length = 2 ^ res.order ∧
    (∀ p ∈ res.params, p ≤ maxP) ∧
    ∀ o ps, orderOk n warm.length o = true → ps.length = 2 ^ o → (∀ p ∈ ps, p ≤ maxP) →
      choiceCost (errors.map fold) warm.length res.order res.params ≤
        choiceCost (errors.map fold) warm.length o ps

/-- What C13 says about one emitted residual. -/
def Optimal (maxP n : Nat) (warm : List Int) (res : Residual) : Prop :=
  ∃ errors : List Int, errors.length = n ∧ (∀ e ∈ errors, -(2 ^ 31 : Int) < e ∧ e < (2 ^ 31 : Int)) ∧
    OptimalFor maxP n warm res errors

theorem verbatim_small (n bps : Nat) (hlen : n < 2 ^ 16) (hb : bps ≤ 32) : verbatimBits n bps < 2 ^ 22 := by
  unfold verbatimBits
  have : n * bps ≤ 65535 * 32 := Nat.mul_le_mul (by omega) hb
  omega

/-- The core: a predicted sub-frame `s` cheaper than verbatim is optimal for its error signal: its residual then
reports less than `2^22`, far below the saturation value `2^28 - 1` (`C13_optimal`, `C13_emitted`).  `h` is what `s`
reports beside its residual. -/
theorem optimal_of_predicted {maxP : Nat} {xs coefs : List Int} {shift : Nat} {errors : List Int} {prc : PrcParameter}
    (p : Predicted maxP xs coefs shift errors prc) {bps h : Nat} {s : SubFrame} (hb : bps ≤ 32)
    (hs : s.count = (Residual.ofErrors errors coefs.length prc.order prc.ps).count.map (h + ·))
    (hcheap : Cheaper xs bps s) :
    OptimalFor maxP xs.length (xs.take coefs.length) (Residual.ofErrors errors coefs.length prc.order prc.ps)
      errors := by
  obtain ⟨c0, hc, hlt⟩ := hcheap
  have hvs := verbatim_small xs.length bps p.small hb
  rw [hs, Option.map_eq_some_iff] at hc
  obtain ⟨c, hc, rfl⟩ := hc
  have := p.order
  have := p.n64
  have hn : max 64 coefs.length ≤ errors.length := by rw [p.len]; omega
  have hlen : errors.length < 2 ^ 16 := by rw [p.len]; exact p.small
  obtain ⟨hwf, hwl, _⟩ := p.residual_wf
  obtain ⟨_, hpl, _⟩ := p.space
  have hopt := C13_optimal errors coefs.length maxP p.maxP14 p.range hn hlen prc p.found
  simp only [List.length_map] at hopt
  obtain ⟨hok, _, hpm, _⟩ := hopt
  rw [ofErrors_count errors coefs.length prc.order prc.ps p.range hwf] at hc
  simp only [Option.some.injEq] at hc
  have hem := C13_emitted errors coefs.length maxP p.maxP14 p.range hn hlen prc p.found (by omega)
  simp only [List.length_map] at hem
  have hpar : (Residual.ofErrors errors coefs.length prc.order prc.ps).params = prc.ps := by
    rw [ofErrors_params, List.take_of_length_le (by omega)]
  rw [← p.len]
  refine ⟨?_, ?_, ?_, ?_, ?_⟩
  · rw [hwl, hpar, ofErrors_order]
  · rw [hwl, ofErrors_order]; exact hok
  · rw [hpar, ofErrors_order]; exact hpl
  · rw [hpar]; exact hpm
  · rw [hwl, hpar, ofErrors_order]; exact hem

theorem optimal_fixed {maxP : Nat} {xs : List Int} {bps k : Nat} {prc : PrcParameter} (hk : k ≤ 4)
    (p : Predicted maxP xs (fixedCoefs k) 0 (diffs k xs) prc) (hb : bps ≤ 32)
    (hc : Cheaper xs bps (.fixed (xs.take k) (Residual.ofErrors (diffs k xs) k prc.order prc.ps) bps)) :
    OptimalFor maxP xs.length (xs.take k) (Residual.ofErrors (diffs k xs) k prc.order prc.ps) (diffs k xs) := by
  have hcl := (fixedCoefs_bound k hk).1
  have := optimal_of_predicted p hb (by rw [hcl]; rfl) hc
  rw [hcl] at this
  exact this

/-- **The partitioning of every residual `encode_subframe` emits is optimal** in the search space: an emitted
candidate's reported size is below the verbatim size, far below the saturation value, so `optimal_of_predicted`
applies to its error signal. -/
theorem _root_.FlacVerif.Strict.SubOutcome.optimal {cfg : SubCfg} {xs : List Int} {bps : Nat} {s : SubFrame}
    (o : SubOutcome cfg xs bps s) :
    match s with
    | .fixed warm res _ => Optimal cfg.maxP xs.length warm res
    | .lpc warm _ _ _ res _ => Optimal cfg.maxP xs.length warm res
    | _ => True := by
  have hb : bps ≤ 32 := Nat.le_trans o.width.2 (by decide)
  cases o.case with
  | constant _ => trivial
  | verbatim => trivial
  | fixed k prc hk4 p hcnt => exact ⟨_, p.len, p.range, optimal_fixed hk4 p hb hcnt⟩
  | lpc coefs shift precision errors prc hok p hcnt => exact ⟨_, p.len, p.range, optimal_of_predicted p hb rfl hcnt⟩

end Extras
end FlacVerif
