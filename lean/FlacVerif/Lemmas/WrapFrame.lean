/-
The release-build decoder (C01): `Frame::decode()` of the release build (block size from
the header, every sub-frame, stereo un-mixing in wrapping `i32` arithmetic, interleaving) returns the
interleaved input for every frame `encode_frame` can return — for every oracle log satisfying
`OEvent.Ok`.
-/
import FlacVerif.Lemmas.WrapSubframe
import FlacVerif.Lemmas.EncodeFrameShape
import FlacVerif.Lemmas.RepoRoundTripFrame
import FlacVerif.Lemmas.DResult
namespace FlacVerif
namespace Wrap
open Repo

theorem headerFor_blockSize (asg : ChannelAssignment) (n bps rate number : Nat) (hdr : FrameHeader)
    (hn : 1 ≤ n ∧ n < 2 ^ 16) (hh : headerFor asg n bps rate number = some hdr) :
    headerBlockSize hdr = .ok n := by
  obtain ⟨bss, hbss, rfl⟩ := Strict.headerFor_some hh
  obtain ⟨hok, hbs⟩ := BlockSizeSpec.fromSize_ok n hn.1 hn.2 bss hbss
  obtain ⟨m, hm1, hm2, -⟩ := headerBlockSize_ok
    (FrameHeader.mk false bss asg (sampleSizeTag bps) ((SampleRateSpec.fromFreq rate).getD .unspecified) number 0) hok
  simp only [] at hm2
  rw [hbs] at hm2
  simp only [Option.some.injEq] at hm2
  rw [hm1, hm2]

theorem interleaveLoop_eq : ∀ (n : Nat) (chans : List (List Int)), (∀ c ∈ chans, c.length = n) →
    interleaveLoop n chans = (List.range n).flatMap fun t => chans.map fun c => c.getD t 0 := by
  intro n
  induction n with
  | zero => intro chans _; rfl
  | succ n ih =>
    intro chans h
    rw [interleaveLoop, List.range_succ_eq_map, List.flatMap_cons, List.flatMap_map]
    rw [ih (chans.map List.tail) (by
      intro c hc
      obtain ⟨c0, hc0, rfl⟩ := List.mem_map.1 hc
      rw [List.length_tail, h c0 hc0]; rfl)]
    congr 1
    · apply List.map_congr_left
      intro c hc
      cases c with
      | nil => rfl
      | cons a as => rfl
    · congr 1
      funext t
      simp only [Function.comp_def, List.map_map]
      apply List.map_congr_left
      intro c _
      cases c with
      | nil => rfl
      | cons a as => simp

theorem _root_.FlacVerif.Rfc.interleave_eq_flatMap (chans : List (List Int)) (total : Nat) (hne : 1 ≤ chans.length)
    (hlen : ∀ c ∈ chans, c.length = total) :
    Rfc.interleave chans = (List.range total).flatMap fun t => chans.map fun c => c.getD t 0 := by
  cases chans with
  | nil => simp at hne
  | cons c0 cs =>
    unfold Rfc.interleave
    simp only []
    rw [hlen c0 (by simp)]

theorem interleave_getD (b : List (List Int)) (n t c : Nat) (hne : 1 ≤ b.length) (hlen : ∀ x ∈ b, x.length = n)
    (ht : t < n) (hc : c < b.length) : (Rfc.interleave b).getD (b.length * t + c) 0 = (b.getD c []).getD t 0 := by
  have h1 := flatMap_drop_uniform (fun t => b.map fun x => x.getD t 0) b.length (by intro t; simp) (List.range n) t
  have h2 := flatMap_take_uniform (fun t => b.map fun x => x.getD t 0) b.length (by intro t; simp) ((List.range n).drop t) 1
  rw [← h1, Nat.one_mul] at h2
  rw [Rfc.interleave_eq_flatMap b n hne hlen, Nat.mul_comm b.length t, ← getD_take_drop _ (t * b.length) b.length c 0 hc, h2]
  have : ((List.range n).drop t).take 1 = [t] := by
    apply List.ext_getElem
    · simp; omega
    · intro i h1 h2; simp at h1 ⊢; omega
  rw [this]
  simp [List.getD_eq_getElem?_getD, hc]

theorem interleave_length (b : List (List Int)) (n : Nat) (hne : 1 ≤ b.length) (hlen : ∀ x ∈ b, x.length = n) :
    (Rfc.interleave b).length = n * b.length := by
  rw [Rfc.interleave_eq_flatMap b n hne hlen, length_flatMap_eq_mul _ _ b.length (fun t _ => by simp), List.length_range]

theorem _root_.FlacVerif.Repo.interleave_eq_rfc (n : Nat) (chans : List (List Int)) (hne : 1 ≤ chans.length) (h : ∀ c ∈ chans, c.length = n) :
    Repo.interleave n chans = .ok (Rfc.interleave chans) := by
  unfold Repo.interleave
  have hany : chans.any (fun c => decide (c.length > n)) = false := by
    rw [List.any_eq_false]
    intro c hc
    have := h c hc
    simp; omega
  rw [hany]
  simp only [Bool.false_eq_true, if_false]
  rw [interleaveLoop_eq n chans h, Rfc.interleave_eq_flatMap chans n hne h]

theorem midside_elem (a b : Int) (ha : -(2 ^ 29 : Int) ≤ a ∧ a < 2 ^ 29) (hb : -(2 ^ 29 : Int) ≤ b ∧ b < 2 ^ 29) :
    wrap32 (wrap32 (wrap32 (2 * ((a + b) >>> (1 : Nat))) + (a - b) % 2) + (a - b)) / 2 = a ∧
    wrap32 (wrap32 (wrap32 (2 * ((a + b) >>> (1 : Nat))) + (a - b) % 2) - (a - b)) / 2 = b := by
  rw [Int.shiftRight_eq_div_pow]
  have e : ((2 ^ 1 : Nat) : Int) = 2 := by decide
  rw [e]
  have h1 : wrap32 (2 * ((a + b) / 2)) = 2 * ((a + b) / 2) := Strict.wrap32_id _ (by omega) (by omega)
  rw [h1]
  have h2 : 2 * ((a + b) / 2) + (a - b) % 2 = a + b := by omega
  rw [h2, Strict.wrap32_id (a + b) (by omega) (by omega)]
  rw [Strict.wrap32_id (a + b + (a - b)) (by omega) (by omega), Strict.wrap32_id (a + b - (a - b)) (by omega) (by omega)]
  constructor <;> omega

/-- Stereo un-mixing in wrapping `i32` arithmetic returns the two channels, for each of the three recombinations.
One induction: the loop step differs only in the last rewrite.  (The strict decoder un-mixes in exact arithmetic:
`Strict.recon_stereo`.) -/
theorem decorrelate_wrap : ∀ (l r : List Int), l.length = r.length →
    (∀ x ∈ l, -(2 ^ 29 : Int) ≤ x ∧ x < 2 ^ 29) → (∀ x ∈ r, -(2 ^ 29 : Int) ≤ x ∧ x < 2 ^ 29) →
    decorrelate false .leftSide l.length l (Strict.sideOf l r) = .ok (l, r) ∧
    decorrelate false .rightSide l.length (Strict.sideOf l r) r = .ok (l, r) ∧
    decorrelate false .midSide l.length (Strict.midOf l r) (Strict.sideOf l r) = .ok (l, r) := by
  intro l
  induction l with
  | nil =>
    intro r hr _ _
    have : r = [] := List.eq_nil_of_length_eq_zero (by simpa using hr.symm)
    subst this; exact ⟨rfl, rfl, rfl⟩
  | cons a l ih =>
    intro r hr hl hrr
    match r, hr with
    | b :: r, hr =>
      have ha := hl a (by simp)
      have hb := hrr b (by simp)
      obtain ⟨i1, i2, i3⟩ := ih r (by simpa using hr) (fun x hx => hl x (by simp [hx])) (fun x hx => hrr x (by simp [hx]))
      obtain ⟨e1, e2⟩ := midside_elem a b ha hb
      simp only [Strict.midOf, Strict.sideOf, List.zipWith_cons_cons, List.map_cons, List.length_cons, decorrelate,
        midSide, i32op_false, asSigned32_eq_wrap32, DResult.ok_bind, DResult.pure_eq] at i1 i2 i3 ⊢
      rw [i1, i2, i3, e1, e2, Strict.wrap32_id (a - (a - b)) (by omega) (by omega),
        Strict.wrap32_id (a - b + b) (by omega) (by omega)]
      simp only [DResult.ok_bind]
      refine ⟨?_, ?_, trivial⟩ <;> congr 3 <;> omega

/-- **`Frame::decode()` of the release build inverts `encode_frame`**: every sub-frame decodes to the signal it
codes (`decodeSubframe_outcome`, channel by channel), un-mixing returns the channels
(`decorrelate_wrap`), and interleaving them is `Rfc.interleave` (`Repo.interleave_eq_rfc`). -/
theorem _root_.FlacVerif.Strict.FrameOutcome.wrapdec {cfg : SubCfg} {chans : List (List Int)} {bps rate number n : Nat}
    {f : Frame} {asg : ChannelAssignment} {raws : List (List Int)}
    (fo : Strict.FrameOutcome cfg chans bps rate number n f asg raws) :
    decodeFrameMode false f = .ok (Rfc.interleave chans) := by
  have hch := fo.chanCount
  have hlen := fo.chanLen
  have hn := fo.size
  have hb := fo.width
  have hx := fo.range
  have hform := fo.form
  have hbs := headerFor_blockSize asg n bps rate number f.header hn fo.header
  have hasg := (Strict.headerFor_fields fo.header).2
  have hdec : f.subframes.mapM (decodeSubframe false) = .ok raws := mapM_ok _ _ _ fo.len fun i h1 h2 =>
    decodeSubframe_outcome (fo.sub i h1 h2).2
  have hfin := interleave_eq_rfc n chans hch.1 hlen
  unfold decodeFrameMode
  simp only [hbs, hasg, hdec, DResult.ok_bind]
  -- in the stereo forms both channels are at most 30 bits wide, so the wrapping un-mixing is exact
  have h29 := fun c hc x hxc => Strict.inRange_bound bps 29 (by omega) x (hx c hc x hxc)
  cases hform with
  | indep => exact hfin
  | left l r hc =>
    subst hc
    obtain rfl := hlen l (by simp)
    simp only [(decorrelate_wrap l r (hlen r (by simp)).symm (h29 l (by simp)) (h29 r (by simp))).1, DResult.ok_bind,
      DResult.pure_eq]
    exact hfin
  | right l r hc =>
    subst hc
    obtain rfl := hlen l (by simp)
    simp only [(decorrelate_wrap l r (hlen r (by simp)).symm (h29 l (by simp)) (h29 r (by simp))).2.1, DResult.ok_bind,
      DResult.pure_eq]
    exact hfin
  | mid l r hc =>
    subst hc
    obtain rfl := hlen l (by simp)
    simp only [(decorrelate_wrap l r (hlen r (by simp)).symm (h29 l (by simp)) (h29 r (by simp))).2.2, DResult.ok_bind,
      DResult.pure_eq]
    exact hfin

end Wrap
end FlacVerif
