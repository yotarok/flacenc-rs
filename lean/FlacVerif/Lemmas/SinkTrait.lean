/-
The provided methods of `trait BitSink` (`write_bytes_aligned`, `write_twoc`, `write_zeros`, as generated from
`src/bitsink.rs`) run over ANY implementation `d : BitSinkReq σ ε` of the four required methods. `runReq d s calls` makes
the required calls in order and leaves at the first `Err`; the loops of the provided methods are such runs, and each
provided method is the run of its `Op.expand` (`default_twoc`, `default_bytes_aligned`, `default_zeros`). The names are in
namespace `C12Gen`; Theorems/C12Gen.lean continues it.
-/
import FlacVerif.Lemmas.SinkPrelude
import FlacVerif.Lemmas.IdealRun
namespace FlacVerif.C12Gen
open FlacVerif.Gen.Sink

variable {σ ε : Type}

/-- forget the returned padding count -/
def unitR (r : Option (Except ε Nat × σ)) : Option (Except ε Unit × σ) :=
  r.map fun p => (p.1.map fun _ => (), p.2)

/-- a call of a required method (for the other kinds of `Op`: no call) -/
def reqCall (d : BitSinkReq σ ε) (s : σ) : Op → Option (Except ε Unit × σ)
  | .alignToByte => unitR (d.align_to_byte s)
  | .writeLsbs w v n => d.write_lsbs s (BitVec.ofNat w v) n
  | .writeMsbs w v n => d.write_msbs s (BitVec.ofNat w v) n
  | .write w v => d.write s (BitVec.ofNat w v)
  | _ => some (.ok (), s)

/-- required-method calls in order, leaving at the first `Err` -/
def runReq (d : BitSinkReq σ ε) : σ → List Op → Option (Except ε Unit × σ)
  | s, [] => some (.ok (), s)
  | s, c :: cs =>
    match reqCall d s c with
    | none => none
    | some (.error e, s') => some (.error e, s')
    | some (.ok _, s') => runReq d s' cs

theorem runReq_append (d : BitSinkReq σ ε) (s : σ) (a b : List Op) :
    runReq d s (a ++ b) = match runReq d s a with
      | none => none
      | some (.error e, s') => some (.error e, s')
      | some (.ok _, s') => runReq d s' b := by
  induction a generalizing s with
  | nil => simp [runReq]
  | cons c cs ih =>
    simp only [List.cons_append, runReq]
    cases h : reqCall d s c with
    | none => simp
    | some p =>
      obtain ⟨r, s'⟩ := p
      cases r with
      | error e => simp
      | ok u => simp [ih]

/-- a single call: the arms that leave at `Err` and go on at `Ok` re-wrap the result as it is -/
theorem runReq_single (d : BitSinkReq σ ε) (s : σ) (c : Op) : runReq d s [c] = reqCall d s c := by
  simp only [runReq]
  cases reqCall d s c with
  | none => rfl
  | some p => obtain ⟨r, s'⟩ := p; cases r <;> rfl

/-- a `for` loop whose body is one required call with `?` = the calls in order with early exit -/
theorem forF_calls {α ρ : Type} (d : BitSinkReq σ ε) (mk : ε → σ → ρ) (g : α → Op) (f : α → σ → Option (Flow ρ σ))
    (hf : ∀ b s, f b s = match reqCall d s (g b) with
      | none => none
      | some (.error e, s') => some (.ret (mk e s'))
      | some (.ok _, s') => some (.next s'))
    (xs : List α) (s : σ) :
    forF xs s f = match runReq d s (xs.map g) with
      | none => none
      | some (.error e, s') => some (.ret (mk e s'))
      | some (.ok _, s') => some (.next s') := by
  induction xs generalizing s with
  | nil => simp [forF, runReq]
  | cons b bs ih =>
    simp only [List.map_cons, forF, runReq, hf]
    cases h : reqCall d s (g b) with
    | none => simp
    | some p =>
      obtain ⟨r, s'⟩ := p
      cases r with
      | error e => simp
      | ok u => simp [ih]

theorem forF_map {α β ρ : Type} (h : α → β) (xs : List α) (s : σ) (f : β → σ → Option (Flow ρ σ)) :
    forF (xs.map h) s f = forF xs s (fun a => f (h a)) := by
  induction xs generalizing s with
  | nil => rfl
  | cons x xs ih =>
    simp only [List.map_cons, forF]
    cases f (h x) s with
    | none => rfl
    | some r => cases r <;> simp [ih]

/-- the loop of the provided `write_zeros`, for any condition / body with the stated pointwise behaviour -/
theorem whileF_zeros {ρ : Type} (d : BitSinkReq σ ε) (mk : ε → σ → ρ) (c : σ × Nat → Bool) (f : σ × Nat → Option (Flow ρ (σ × Nat)))
    (hc : ∀ s m, c (s, m) = decide (m > 64))
    (hf : ∀ s m, 64 ≤ m → f (s, m) = match d.write s (0#64) with
      | none => none
      | some (.error e, s') => some (.ret (mk e s'))
      | some (.ok _, s') => some (.next (s', m - 64)))
    (fuel : Nat) (s : σ) (m : Nat) (hm : m ≤ fuel) :
    whileF fuel c f (s, m) = match runReq d s (List.replicate ((m - 1) / 64) (.write 64 0)) with
      | none => none
      | some (.error e, s') => some (.ret (mk e s'))
      | some (.ok _, s') => some (.next (s', m - 64 * ((m - 1) / 64))) := by
  induction fuel generalizing s m with
  | zero =>
    have : m = 0 := by omega
    subst this; simp [whileF, hc, runReq]
  | succ fuel ih =>
    by_cases h : m > 64
    · -- one more round: one more zero word, the same remainder
      have hq : (m - 1) / 64 = (m - 64 - 1) / 64 + 1 := by
        rw [show m - 1 = (m - 64 - 1) + 64 by omega, Nat.add_div_right _ (by decide)]
      have hr : m - 64 * ((m - 64 - 1) / 64 + 1) = m - 64 - 64 * ((m - 64 - 1) / 64) := by omega
      simp only [whileF, hc, h, decide_true, if_true, hq, List.replicate_succ, runReq, reqCall, hr,
        hf s m (by omega)]
      have h0 : BitVec.ofNat 64 0 = (0#64) := rfl
      rw [h0]
      cases hw : d.write s (0#64) with
      | none => simp
      | some p =>
        obtain ⟨r, s'⟩ := p
        cases r with
        | error e => simp
        | ok u => simp only []; exact ih s' (m - 64) (by omega)
    · simp [whileF, hc, h, Nat.div_eq_of_lt (show m - 1 < 64 by omega), runReq]

/-- a call of a required method whose operand fits its width -/
def reqFit : Op → Prop
  | .alignToByte => True
  | .writeLsbs w v _ => v < 2 ^ w
  | .writeMsbs w v _ => v < 2 ^ w
  | .write w v => v < 2 ^ w
  | _ => False

/-- A sink that treats each method as a function of the call it stands for, the operand read back as `v.toNat`: for a call
whose operand fits its width that function is what `reqCall` computes. -/
theorem reqCall_of_fit (d : BitSinkReq σ ε) (s : σ) (F : Op → Option (Except ε Unit × σ))
    (ha : unitR (d.align_to_byte s) = F .alignToByte)
    (hl : ∀ {w : Nat} (v : BitVec w) (n : Nat), d.write_lsbs s v n = F (.writeLsbs w v.toNat n))
    (hm : ∀ {w : Nat} (v : BitVec w) (n : Nat), d.write_msbs s v n = F (.writeMsbs w v.toNat n))
    (hw : ∀ {w : Nat} (v : BitVec w), d.write s v = F (.write w v.toNat)) (c : Op) (hc : reqFit c) :
    reqCall d s c = F c := by
  cases c with
  | alignToByte => exact ha
  | writeLsbs w v n => rw [reqCall, hl, BitVec.toNat_ofNat, Nat.mod_eq_of_lt (show v < 2 ^ w from hc)]
  | writeMsbs w v n => rw [reqCall, hm, BitVec.toNat_ofNat, Nat.mod_eq_of_lt (show v < 2 ^ w from hc)]
  | write w v => rw [reqCall, hw, BitVec.toNat_ofNat, Nat.mod_eq_of_lt (show v < 2 ^ w from hc)]
  | writeTwoc v n => exact hc.elim
  | writeZeros n => exact hc.elim
  | writeBytesAligned bs => exact hc.elim

theorem expand_fit (op : Op) (hv : op.Valid) : ∀ c ∈ op.expand, reqFit c := by
  cases op with
  | alignToByte => simp [Op.expand, reqFit]
  | writeLsbs w v n => simpa [Op.expand, reqFit] using hv.2.1
  | writeMsbs w v n => simpa [Op.expand, reqFit] using hv.2.1
  | write w v => simpa [Op.expand, reqFit] using hv.2
  | writeTwoc v n =>
    simp only [Op.expand, List.mem_singleton, forall_eq, reqFit]
    exact BitVec.isLt _
  | writeZeros n =>
    intro c hc
    simp only [Op.expand, List.mem_append, List.mem_replicate, List.mem_singleton] at hc
    rcases hc with ⟨_, rfl⟩ | rfl <;> simp [reqFit]
  | writeBytesAligned bs =>
    intro c hc
    simp only [Op.expand, List.mem_cons, List.mem_map] at hc
    rcases hc with rfl | ⟨b, hb, rfl⟩
    · simp [reqFit]
    · have : b < 256 := hv b hb
      simpa [reqFit] using this

/-- the provided `write_twoc`: one `write_msbs` of the sample shifted to the top; outside `1 ≤ n ≤ 64` the dev profile panics
(the release profile wraps: not claimed) -/
theorem write_twoc_eq (dbg : Bool) (d : BitSinkReq σ ε) (s : σ) (v : Int) (n : Nat) (hp : dbg = true ∨ (1 ≤ n ∧ n ≤ 64)) :
    BitSink.write_twoc dbg d s v n =
      if 1 ≤ n ∧ n ≤ 64 then d.write_msbs s (BitVec.ofInt 64 v <<< (64 - n)) n else none := by
  by_cases hv : 1 ≤ n ∧ n ≤ 64
  · have hk : 64 - n < 64 := by omega
    simp only [BitSink.write_twoc, subU_ok, hv.2, hv, and_self, if_true, Option.bind_some, shlB, hk]
    cases d.write_msbs s (BitVec.ofInt 64 v <<< (64 - n)) n <;> rfl
  · have hd : dbg = true := hp.resolve_right hv
    rw [if_neg hv]
    by_cases hn : n ≤ 64
    · simp [BitSink.write_twoc, subU, shlB, show n = 0 by omega, hd]
    · simp [BitSink.write_twoc, subU, hn, hd]

theorem default_twoc (dbg : Bool) (d : BitSinkReq σ ε) (s : σ) (v : Int) (n : Nat) (h1 : 1 ≤ n) (h2 : n ≤ 64) :
    BitSink.write_twoc dbg d s v n = runReq d s (Op.expand (.writeTwoc v n)) := by
  rw [write_twoc_eq dbg d s v n (Or.inr ⟨h1, h2⟩), if_pos ⟨h1, h2⟩]
  simp only [Op.expand, runReq_single, reqCall, BitVec.ofNat_toNat, BitVec.setWidth_eq]

theorem default_bytes_aligned (dbg : Bool) (d : BitSinkReq σ ε) (s : σ) (bs : List Nat) :
    unitR (BitSink.write_bytes_aligned dbg d s (bs.map (BitVec.ofNat 8))) = runReq d s (Op.expand (.writeBytesAligned bs)) := by
  simp only [BitSink.write_bytes_aligned, Op.expand, runReq, reqCall, unitR]
  cases h : d.align_to_byte s with
  | none => simp
  | some p =>
    obtain ⟨r, s'⟩ := p
    cases r with
    | error e => simp [Except.map]
    | ok u =>
      simp only [Option.bind_some, Option.map_some, Except.map]
      rw [forF_map, forF_calls d (fun e s => (Except.error e, s)) (fun b => Op.write 8 b)]
      · cases h2 : runReq d s' (bs.map fun b => Op.write 8 b) with
        | none => simp [bindF]
        | some q =>
          obtain ⟨r2, s2⟩ := q
          cases r2 <;> simp [bindF]
      · intro b s
        simp only [reqCall]
        cases d.write s (BitVec.ofNat 8 b) with
        | none => rfl
        | some p => obtain ⟨r, s'⟩ := p; cases r <;> rfl

theorem default_zeros (dbg : Bool) (d : BitSinkReq σ ε) (s : σ) (n : Nat) :
    BitSink.write_zeros dbg d s n = runReq d s (Op.expand (.writeZeros n)) := by
  rw [expand_writeZeros]
  simp only [BitSink.write_zeros]
  rw [whileF_zeros d (fun e s => (Except.error e, s)) _ _ ?_ ?_ n s n (Nat.le_refl _), runReq_append]
  · cases h2 : runReq d s (List.replicate ((n - 1) / 64) (Op.write 64 0)) with
    | none => simp [bindF]
    | some q =>
      obtain ⟨r2, s2⟩ := q
      cases r2 with
      | error e => simp [bindF]
      | ok u =>
        simp only [bindF, runReq_single, reqCall]
        have h0 : BitVec.ofNat 64 0 = (0#64) := rfl
        rw [h0]
        cases d.write_msbs s2 (0#64) (n - 64 * ((n - 1) / 64)) with
        | none => rfl
        | some p => obtain ⟨r, s'⟩ := p; cases r <;> rfl
  · intro s m; rfl
  · intro s m hm
    simp only [subU_ok dbg 64 m 64 hm]
    cases d.write s (0#64) with
    | none => rfl
    | some p => obtain ⟨r, s'⟩ := p; cases r <;> rfl

end FlacVerif.C12Gen
