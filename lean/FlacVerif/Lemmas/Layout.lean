/-
The bit layout of the written components (`Model/Bits.lean`, `Model/Rice.lean`, `Model/Component.lean`), field by
field and right-nested, with the length and byte-alignment facts beside it: what every reader of the written bits walks
along, and what the size counts of header, frame, STREAMINFO and stream add up (the residual count sums its partitions
in a form of its own, `Lemmas/Count`).  One section per component: signed fields (`twoc` and its inverse), residual,
sub-frame, frame header and frame, STREAMINFO, stream.  What `BlockSizeSpec.extraBits`, `SampleRateSpec.extraBits` and
`Stream.blockHeader` write is their definition (a case analysis on the spec; one `natToBits` on a byte that no reader
takes apart bit by bit); of these only `blockHeader_length` is stated here (that the two immediates are whole bytes
is `Repo.bsExtra_len`, `srExtra_len` in `Lemmas/HeaderCodes`).  Nothing here is about a reader.
-/
import FlacVerif.Model.Component
import FlacVerif.Lemmas.Bits
import FlacVerif.Lemmas.Bytes
import FlacVerif.Lemmas.HeaderCodes
import FlacVerif.Lemmas.ListFacts
namespace FlacVerif.Layout

theorem inRange_iff (b : Nat) (v : Int) :
    SubFrame.inRange b v = true ↔ -(2 ^ (b - 1) : Int) ≤ v ∧ v < (2 ^ (b - 1) : Int) := by
  simp [SubFrame.inRange]

/-- The range of a `b`-bit signed number with the bounds as casts of naturals (the form `omega` takes). -/
theorem inRange_iff_nat (b : Nat) (v : Int) :
    SubFrame.inRange b v = true ↔ -((2 ^ (b - 1) : Nat) : Int) ≤ v ∧ v < ((2 ^ (b - 1) : Nat) : Int) := by
  rw [inRange_iff, two_pow_cast]

theorem _root_.FlacVerif.Strict.inRange_bound (b k : Nat) (hb : b ≤ k + 1) (x : Int) (hx : SubFrame.inRange b x = true) :
    -(2 ^ k : Int) ≤ x ∧ x < 2 ^ k := by
  have h := (inRange_iff b x).1 hx
  have hle : (2 : Int) ^ (b - 1) ≤ 2 ^ k := two_pow_le_two_pow (show b - 1 ≤ k by omega)
  omega

/-- The sign rule of a two's-complement field: an in-range `v` is the `w + 1`-bit field value written for it, or that
value less `2^(w+1)` when its top bit is set.  Every reader of a signed field applies this rule in its own words. -/
theorem twoc_sign (w : Nat) (v : Int) (hv : SubFrame.inRange (w + 1) v = true) :
    v = if 2 ^ w ≤ (v % (2 ^ (w + 1) : Int)).toNat then ((v % (2 ^ (w + 1) : Int)).toNat : Int) - (2 ^ (w + 1) : Int)
      else (v % (2 ^ (w + 1) : Int)).toNat := by
  -- `v` is its own reduction to `w + 1` bits; `hm` spells that reduction out on the residue `m`
  have hm := bmod_of_fits (w + 1) (Nat.succ_pos w) ((inRange_iff (w + 1) v).1 hv)
  rw [bmod_two_pow_def (w + 1) (Nat.succ_pos w), Nat.add_sub_cancel] at hm
  have h0 := Int.emod_nonneg v (Int.ne_of_gt (show (0 : Int) < 2 ^ (w + 1) from Int.pow_pos (by decide)))
  generalize v % (2 ^ (w + 1) : Int) = m at hm h0
  rw [two_pow_cast w] at *
  split at hm
  · rw [if_neg (by omega)]; omega
  · rw [if_pos (by omega)]; omega

theorem fromTwoc_natToBits (w m : Nat) (h : m < 2 ^ (w + 1)) :
    fromTwoc (natToBits (w + 1) m) = if 2 ^ w ≤ m then (m : Int) - (2 ^ (w + 1) : Int) else m := by
  have hdbl : (2 : Nat) ^ (w + 1) = 2 * 2 ^ w := by rw [Nat.pow_succ, Nat.mul_comm]
  rw [natToBits, testBit_top w m h, two_pow_cast (w + 1)]
  by_cases hm : 2 ^ w ≤ m
  · rw [if_pos hm, decide_eq_true hm, fromTwoc, natToBits_length, bitsToNat_natToBits,
      Nat.mod_eq_sub_mod hm, Nat.mod_eq_of_lt (by omega), two_pow_cast w]
    omega
  · rw [if_neg hm, decide_eq_false hm, fromTwoc, bitsToNat_natToBits, Nat.mod_eq_of_lt (by omega)]

theorem fromTwoc_twoc (b : Nat) (v : Int) (h1 : 1 ≤ b) (hv : SubFrame.inRange b v = true) :
    fromTwoc (twoc b v) = v := by
  obtain ⟨w, rfl⟩ : ∃ w, b = w + 1 := ⟨b - 1, by omega⟩
  rw [twoc, fromTwoc_natToBits w _ (emod_toNat_lt (w + 1) v)]
  exact (twoc_sign w v hv).symm

/-- One coded sample: the quotient in unary, the stop bit, the remainder. -/
theorem sampleBits_eq (p q rem : Nat) :
    Residual.sampleBits p q rem = List.replicate q false ++ true :: natToBits p rem := by
  rw [Residual.sampleBits, natToBits_stop]

theorem sampleBits_length (p q rem : Nat) : (Residual.sampleBits p q rem).length = q + (p + 1) := by
  simp [Residual.sampleBits]

/-- One partition: the Rice parameter, then the coded samples from the end of the warm-up (first partition) or the
start of the partition to its end. -/
theorem partBits_eq (r : Residual) (k : Nat) :
    r.partBits k = natToBits 4 (r.params.getD k 0) ++
      (List.range' (max r.warmup (k * r.partLen)) ((k + 1) * r.partLen - max r.warmup (k * r.partLen))).flatMap
        fun t => Residual.sampleBits (r.params.getD k 0) (r.quotients.getD t 0) (r.remainders.getD t 0) := by
  rw [List.range'_eq_map_range, List.flatMap_map]
  rfl

/-- A residual: the coding method `00`, the partition order, the partitions. -/
theorem residual_bits (r : Residual) (ho : r.order ≤ 15) :
    r.bits = natToBits 2 0 ++ (natToBits 4 r.order ++ (List.range' 0 (2 ^ r.order)).flatMap r.partBits) := by
  rw [Residual.bits, Residual.nparts, List.range_eq_range', natToBits_split 2 4 r.order,
    Nat.div_eq_of_lt (by omega : r.order < 2 ^ 4), List.append_assoc]

theorem nparts_mul_partLen (r : Residual) (hdiv : 2 ^ r.order ∣ r.blockSize) : 2 ^ r.order * r.partLen = r.blockSize := by
  rw [partLen_eq]
  exact Nat.mul_div_cancel' hdiv

/-- The type byte of a fixed-predictor sub-frame of order `k`: type `8 + k` above the wasted-bits flag. -/
theorem fixed_type_byte (k : Nat) (hk : k ≤ 4) : 0x10 ||| (k <<< 1) = 2 * (8 + k) := by
  rw [show (0x10 : Nat) = 2 ^ 4 from rfl, or_shl1 4 k (by omega)]
  omega

/-- The type byte of an LPC sub-frame of order `k`: type `31 + k` above the wasted-bits flag. -/
theorem lpc_type_byte (k : Nat) (h1 : 1 ≤ k) (h32 : k ≤ 32) : 0x40 ||| ((k - 1) <<< 1) = 2 * (31 + k) := by
  rw [show (0x40 : Nat) = 2 ^ 6 from rfl, or_shl1 6 (k - 1) (by omega)]
  omega

/-! A sub-frame is its type byte, twice the 7-bit type (padding bit and 6-bit code) with the wasted-bits flag 0
below it, and then its fields. -/

theorem constant_bits (n : Nat) (dc : Int) (b : Nat) :
    (SubFrame.constant n dc b).bits = natToBits 8 (2 * 0) ++ twoc b dc := rfl

theorem verbatim_bits (xs : List Int) (b : Nat) :
    (SubFrame.verbatim xs b).bits = natToBits 8 (2 * 1) ++ xs.flatMap (twoc b) := rfl

theorem fixed_bits (warm : List Int) (res : Residual) (b : Nat) (h : warm.length ≤ 4) :
    (SubFrame.fixed warm res b).bits =
      natToBits 8 (2 * (8 + warm.length)) ++ (warm.flatMap (twoc b) ++ res.bits) := by
  rw [SubFrame.bits, fixed_type_byte _ h, List.append_assoc]

theorem lpc_bits (warm coefs : List Int) (shift : Int) (precision : Nat) (res : Residual) (b : Nat)
    (h1 : 1 ≤ coefs.length) (h32 : coefs.length ≤ 32) :
    (SubFrame.lpc warm coefs shift precision res b).bits =
      natToBits 8 (2 * (31 + coefs.length)) ++ (warm.flatMap (twoc b) ++ (natToBits 4 (precision - 1) ++
        (twoc 5 shift ++ (coefs.flatMap (twoc precision) ++ res.bits)))) := by
  rw [SubFrame.bits, lpc_type_byte _ h1 h32]
  simp only [List.append_assoc]

theorem subframe_bits_pos (s : SubFrame) : 0 < s.bits.length := by
  cases s <;> simp [SubFrame.bits] <;> omega

/-- The four writes of the fixed part of a frame header, as its seven fields. -/
theorem header_fixed_bits (var bs sr ch ss : Nat) (hvar : var ≤ 1) (hsr : sr < 16) :
    natToBits 16 (0xFFF8 + var) ++ natToBits 8 ((bs <<< 4) ||| sr) ++ natToBits 4 ch ++ natToBits 4 (ss <<< 1) =
      natToBits 15 0x7FFC ++ (natToBits 1 var ++ (natToBits 4 bs ++ (natToBits 4 sr ++ (natToBits 4 ch ++
        (natToBits 3 ss ++ natToBits 1 0))))) := by
  have h1 : natToBits 16 (0xFFF8 + var) = natToBits 15 0x7FFC ++ natToBits 1 var :=
    natToBits_concat 15 1 0x7FFC var (by omega)
  have h2 : natToBits 8 ((bs <<< 4) ||| sr) = natToBits 4 bs ++ natToBits 4 sr := by
    rw [Nat.shiftLeft_eq, Nat.mul_comm, or_add 4 bs sr hsr]
    exact natToBits_concat 4 4 bs sr hsr
  have h3 : natToBits 4 (ss <<< 1) = natToBits 3 ss ++ natToBits 1 0 := by
    rw [Nat.shiftLeft_eq, Nat.mul_comm]
    exact natToBits_concat 3 1 ss 0 (by decide)
  rw [h1, h2, h3]
  simp only [List.append_assoc]

/-- `FrameHeader.bits` succeeds exactly when the number can be coded and the channel code has 4 bits; what it
writes, in the four writes of the fixed part and the three variable parts, then the CRC-8 of all that. -/
theorem header_bits_iff {p8 : CrcParams} (h : FrameHeader) (hb : Bits) :
    h.bits p8 = some hb ↔ ∃ num body, encodeUtf8like h.number = some num ∧ h.assignment.tag ≤ 15 ∧
      body = natToBits 16 (0xFFF8 + (if h.isVariable then 1 else 0)) ++
        natToBits 8 ((h.blockSizeSpec.tag <<< 4) ||| h.sampleRateSpec.tag) ++
        natToBits 4 h.assignment.tag ++ natToBits 4 (h.sampleSizeTag <<< 1) ++
        bytesToBits num ++ h.blockSizeSpec.extraBits ++ h.sampleRateSpec.extraBits ∧
      hb = body ++ natToBits 8 (crcBits p8 body) := by
  unfold FrameHeader.bits FrameHeader.bodyBits
  simp only [Option.bind_eq_bind, Option.bind_eq_some_iff, Option.some.injEq]
  constructor
  · rintro ⟨body, ⟨num, hu, hbody⟩, rfl⟩
    split at hbody
    · cases hbody
    · next htag => exact ⟨num, body, hu, Nat.le_of_not_gt htag, (Option.some.inj hbody).symm, rfl⟩
  · rintro ⟨num, body, hu, htag, rfl, rfl⟩
    exact ⟨_, ⟨num, hu, if_neg (Nat.not_lt.mpr htag)⟩, rfl⟩

theorem header_bits_isSome {p8 : CrcParams} (h : FrameHeader) (num : List Nat)
    (hu : encodeUtf8like h.number = some num) (ht : h.assignment.tag ≤ 15) : ∃ hb, h.bits p8 = some hb :=
  ⟨_, (header_bits_iff h _).2 ⟨num, _, hu, ht, rfl, rfl⟩⟩

theorem header_bits_length {p8 : CrcParams} (h : FrameHeader) (hb : Bits) (hbits : h.bits p8 = some hb)
    (num : List Nat) (hu : encodeUtf8like h.number = some num) :
    hb.length = 40 + 8 * num.length + h.blockSizeSpec.extraBits.length + h.sampleRateSpec.extraBits.length := by
  obtain ⟨num', body, hu', _, rfl, rfl⟩ := (header_bits_iff h hb).1 hbits
  obtain rfl : num' = num := Option.some.inj (hu'.symm.trans hu)
  simp only [List.length_append, natToBits_length, Count.bytesToBits_length]
  omega

/-- A written frame header, field by field: sync code, blocking bit, the four code fields, the reserved bit, the
coded number and the two immediates (a whole number of bytes), then the CRC-8 of all that.  The second byte splits
into its two 4-bit codes when the sample-rate code has 4 bits, as every code of the format has
(`SampleRateSpec.fixed t` of the model holds any `t`). -/
theorem header_bits_some {p8 : CrcParams} (h : FrameHeader) (hb : Bits) (hbits : h.bits p8 = some hb) :
    ∃ num body, encodeUtf8like h.number = some num ∧ h.assignment.tag ≤ 15 ∧
      (h.sampleRateSpec.tag < 16 →
        body = natToBits 15 0x7FFC ++ (natToBits 1 (if h.isVariable then 1 else 0) ++
          (natToBits 4 h.blockSizeSpec.tag ++ (natToBits 4 h.sampleRateSpec.tag ++ (natToBits 4 h.assignment.tag ++
          (natToBits 3 h.sampleSizeTag ++ (natToBits 1 0 ++ (bytesToBits num ++
          (h.blockSizeSpec.extraBits ++ h.sampleRateSpec.extraBits))))))))) ∧
      body.length % 8 = 0 ∧ hb = body ++ natToBits 8 (crcBits p8 body) := by
  obtain ⟨num, body, hu, htag, hbody, rfl⟩ := (header_bits_iff h hb).1 hbits
  have hvar : (if h.isVariable = true then 1 else 0) ≤ 1 := by split <;> omega
  refine ⟨num, body, hu, htag, fun hsr => ?_, ?_, rfl⟩
  · rw [hbody, header_fixed_bits _ _ _ _ _ hvar hsr]
    simp only [List.append_assoc]
  · have := Repo.bsExtra_len h.blockSizeSpec
    have := Repo.srExtra_len h.sampleRateSpec
    rw [hbody]
    simp only [List.length_append, natToBits_length, Count.bytesToBits_length]
    omega

theorem header_bits_len8 {p8 : CrcParams} (h : FrameHeader) (hb : Bits) (hbits : h.bits p8 = some hb) :
    hb.length % 8 = 0 := by
  obtain ⟨_, body, _, _, _, h8, rfl⟩ := header_bits_some h hb hbits
  rw [List.length_append, natToBits_length]
  omega

theorem padTo8_length (bs : Bits) : (Frame.padTo8 bs).length = (bs.length + 7) / 8 * 8 := by
  simp only [Frame.padTo8, List.length_append, List.length_replicate]; omega

/-- A written frame: header, sub-frames, zero bits up to a byte boundary, then the CRC-16 of all that. -/
theorem frame_bits_some {p8 p16 : CrcParams} (f : Frame) (fb : Bits) (hbits : f.bits p8 p16 = some fb) :
    ∃ hb pad body, f.header.bits p8 = some hb ∧
      pad = List.replicate ((8 - (hb ++ f.subframes.flatMap SubFrame.bits).length % 8) % 8) false ∧
      body = hb ++ (f.subframes.flatMap SubFrame.bits ++ pad) ∧ body.length % 8 = 0 ∧
      fb = body ++ natToBits 16 (crcBits p16 body) := by
  unfold Frame.bits Frame.padTo8 at hbits
  simp only [Option.bind_eq_bind, Option.bind_eq_some_iff, Option.some.injEq] at hbits
  obtain ⟨hb, hh, rfl⟩ := hbits
  refine ⟨hb, _, _, hh, rfl, rfl, ?_, by simp only [List.append_assoc]⟩
  simp only [List.length_append, List.length_replicate]
  omega

theorem frame_bits_isSome {p8 p16 : CrcParams} (f : Frame) (hb : Bits) (hh : f.header.bits p8 = some hb) :
    ∃ fb, f.bits p8 p16 = some fb := by
  unfold Frame.bits
  rw [hh]
  exact ⟨_, rfl⟩

theorem frame_bits_length {p8 p16 : CrcParams} (f : Frame) (fb hb : Bits) (hbits : f.bits p8 p16 = some fb)
    (hh : f.header.bits p8 = some hb) :
    fb.length = (hb.length + (f.subframes.flatMap SubFrame.bits).length + 7) / 8 * 8 + 16 := by
  obtain ⟨hb', pad, body, hh', rfl, rfl, _, rfl⟩ := frame_bits_some f fb hbits
  obtain rfl : hb' = hb := Option.some.inj (hh'.symm.trans hh)
  simp only [List.length_append, List.length_replicate, natToBits_length]
  omega

theorem frame_bits_len8 {p8 p16 : CrcParams} (f : Frame) (fb : Bits) (hbits : f.bits p8 p16 = some fb) :
    fb.length % 8 = 0 := by
  obtain ⟨_, _, body, _, _, _, h8, rfl⟩ := frame_bits_some f fb hbits
  rw [List.length_append, natToBits_length]
  omega

theorem frame_bits_ge16 {p8 p16 : CrcParams} (f : Frame) (fb : Bits) (hbits : f.bits p8 p16 = some fb) :
    16 ≤ fb.length := by
  obtain ⟨_, _, body, _, _, _, _, rfl⟩ := frame_bits_some f fb hbits
  rw [List.length_append, natToBits_length]
  omega

/-- The frame sizes STREAMINFO carries on the wire: `(0, 0)` ("unknown") while `min > max`, as in a `StreamInfo`
that has seen no frame. -/
def writtenFrameSizes (s : StreamInfo) : Nat × Nat :=
  if s.minFrame > s.maxFrame then (0, 0) else (s.minFrame, s.maxFrame)

theorem writtenFrameSizes_unknown {s : StreamInfo} (h : s.minFrame > s.maxFrame) : writtenFrameSizes s = (0, 0) :=
  if_pos h

theorem writtenFrameSizes_known {s : StreamInfo} (h : ¬ s.minFrame > s.maxFrame) :
    writtenFrameSizes s = (s.minFrame, s.maxFrame) :=
  if_neg h

theorem info_bits (s : StreamInfo) :
    s.bits = natToBits 16 s.minBlock ++ (natToBits 16 s.maxBlock ++ (natToBits 24 (writtenFrameSizes s).1 ++
      (natToBits 24 (writtenFrameSizes s).2 ++ (natToBits 20 s.rate ++ (natToBits 3 (s.channels - 1) ++
      (natToBits 5 (s.bps - 1) ++ (natToBits 36 s.total ++ bytesToBits s.md5))))))) := by
  unfold StreamInfo.bits writtenFrameSizes
  by_cases h : s.minFrame > s.maxFrame
  · simp only [h, if_true, List.append_assoc]
  · simp only [h, if_false, List.append_assoc]

theorem streaminfo_length (s : StreamInfo) (hm : s.md5.length = 16) : s.bits.length = 272 := by
  rw [info_bits]
  simp only [List.length_append, natToBits_length, Count.bytesToBits_length, hm]

/-- The metadata blocks `j, …, j + n - 1` after STREAMINFO, in the words of `Stream.bits` (the last-flag on the
last block of the list). -/
def metasFrom (l : List UnknownBlock) (j n : Nat) : Bits :=
  (List.range' j n).flatMap fun i =>
    let m := l.getD i ⟨0, []⟩
    Stream.blockHeader (i + 1 = l.length) m.tag m.data.length ++ bytesToBits m.data

theorem metasFrom_zero (l : List UnknownBlock) (j : Nat) : metasFrom l j 0 = [] := rfl

theorem metasFrom_succ (l : List UnknownBlock) (j n : Nat) :
    metasFrom l j (n + 1) = Stream.blockHeader (j + 1 = l.length) (l.getD j ⟨0, []⟩).tag (l.getD j ⟨0, []⟩).data.length ++
      bytesToBits (l.getD j ⟨0, []⟩).data ++ metasFrom l (j + 1) n := by
  rw [metasFrom, List.range'_succ, List.flatMap_cons]
  rfl

theorem blockHeader_length (l : Bool) (t n : Nat) : (Stream.blockHeader l t n).length = 32 := by
  simp [Stream.blockHeader]

theorem metasFrom_len8 (l : List UnknownBlock) (j n : Nat) : (metasFrom l j n).length % 8 = 0 := by
  induction n generalizing j with
  | zero => rfl
  | succ n ih =>
    have := ih (j + 1)
    rw [metasFrom_succ]
    simp only [List.length_append, blockHeader_length, Count.bytesToBits_length]
    omega

theorem metasFrom_length (l : List UnknownBlock) :
    (metasFrom l 0 l.length).length = (l.map fun m => 32 + 8 * m.data.length).sum := by
  rw [metasFrom, ← List.range_eq_range', List.length_flatMap]
  simp only [List.length_append, blockHeader_length, Count.bytesToBits_length]
  rw [map_getD_eq_map l ⟨0, []⟩ (fun m => 32 + 8 * m.data.length)]

/-- `Stream.bits` succeeds exactly when every frame serialises; what it writes: the marker, the STREAMINFO block
(last-flag when no other block follows), the other metadata blocks, the frames. -/
theorem stream_bits_iff {p8 p16 : CrcParams} (s : Stream) (sb : Bits) :
    s.bits p8 p16 = some sb ↔ ∃ fbs, s.frames.mapM (Frame.bits p8 p16) = some fbs ∧
      sb = bytesToBits [0x66, 0x4C, 0x61, 0x43] ++ (Stream.blockHeader (s.metadata.length = 0) 0 34 ++
        (s.info.bits ++ (metasFrom s.metadata 0 s.metadata.length ++ fbs.flatten))) := by
  unfold Stream.bits
  simp only [Option.bind_eq_bind, Option.bind_eq_some_iff, Option.some.injEq, metasFrom, List.range_eq_range',
    List.append_assoc]
  exact ⟨fun ⟨fbs, h, e⟩ => ⟨fbs, h, e.symm⟩, fun ⟨fbs, h, e⟩ => ⟨fbs, h, e.symm⟩⟩

theorem frames_bits_len8 {p8 p16 : CrcParams} : ∀ (frames : List Frame) (fbs : List Bits),
    frames.mapM (Frame.bits p8 p16) = some fbs → fbs.flatten.length % 8 = 0
  | [], _, h => by cases h; rfl
  | f :: fs, _, h => by
    obtain ⟨fb, fbs, hfb, hfs, rfl⟩ := mapM_cons_some h
    have h1 := frame_bits_len8 f fb hfb
    have h2 := frames_bits_len8 fs fbs hfs
    rw [List.flatten_cons, List.length_append]
    omega

theorem stream_bits_len8 {p8 p16 : CrcParams} (s : Stream) (sb : Bits) (h : s.bits p8 p16 = some sb)
    (hm : s.info.md5.length = 16) : sb.length % 8 = 0 := by
  obtain ⟨fbs, hfr, rfl⟩ := (stream_bits_iff s sb).1 h
  have h1 := frames_bits_len8 s.frames fbs hfr
  have h2 := metasFrom_len8 s.metadata 0 s.metadata.length
  simp only [List.length_append, Count.bytesToBits_length, blockHeader_length, streaminfo_length s.info hm,
    List.length_cons, List.length_nil]
  omega

theorem stream_bits_nometa {p8 p16 : CrcParams} (info : StreamInfo) (frames : List Frame) (fbs : List Bits)
    (h : frames.mapM (Frame.bits p8 p16) = some fbs) :
    (Stream.mk info [] frames).bits p8 p16 =
      some (bytesToBits [0x66, 0x4C, 0x61, 0x43] ++ Stream.blockHeader true 0 34 ++ info.bits ++ fbs.flatten) := by
  rw [(stream_bits_iff _ _).2 ⟨fbs, h, rfl⟩]
  simp only [List.length_nil, decide_true, metasFrom_zero, List.nil_append, List.append_assoc]

end FlacVerif.Layout
