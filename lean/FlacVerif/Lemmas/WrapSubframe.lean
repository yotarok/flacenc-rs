/-
The release-build decoder (C01), up to the sub-frame. `Residual::copy_signal` of the repository's decoder
(`Repo.residualSignal`, either build mode) on the residual component the encoder builds (`Residual.ofErrors`) returns the
prediction errors (zero on the warm-up) and hits no panic site. The prediction loop of `decode_lpc` in the release build
(`Repo.lpcLoop false`: `i64` prediction sum, `(pred >> shift) as i32`, wrapping `i32` addition) inverts the encoder's 32-bit
residual `wrap32 (x - prediction)` for EVERY bounded coefficient set, with no hypothesis that the exact residual fits 32
bits. So `SubFrame::decode()` of the release build returns the input block for every sub-frame `encode_subframe` can
return, for every oracle log satisfying `OEvent.Ok`.
-/
import FlacVerif.Lemmas.Outcome
import FlacVerif.Lemmas.WrapArith
import FlacVerif.Lemmas.OfErrors
namespace FlacVerif
namespace Wrap
open Repo Strict

theorem decodeSignbitD_ok (debug : Bool) (v : Nat) (h : v < 2 ^ 32 - 1) : decodeSignbitD debug v = .ok (unfold v) := by
  unfold decodeSignbitD FlacVerif.unfold
  split
  · simp only []
    rw [asSigned32_eq_wrap32, Strict.wrap32_id _ (by omega) (by omega)]
    exact i32op_inRange debug _ _ (by omega) (by omega)
  · rw [asSigned32_eq_wrap32, Strict.wrap32_id _ (by omega) (by omega)]

theorem residualSignalLoop_ok (debug : Bool) (params : List Nat) (partLen : Nat) :
    ∀ (n : Nat) (qs rs : List Nat) (t : Nat), n ≤ qs.length → n ≤ rs.length →
    (∀ i, i < n → (t + i) / partLen < params.length ∧ params.getD ((t + i) / partLen) 0 < 32 ∧
      qs.getD i 0 * 2 ^ params.getD ((t + i) / partLen) 0 + rs.getD i 0 < 2 ^ 32 - 1) →
    residualSignalLoop debug params partLen qs rs n t =
      .ok ((List.range n).map fun i =>
        unfold (qs.getD i 0 * 2 ^ params.getD ((t + i) / partLen) 0 + rs.getD i 0)) := by
  intro n
  induction n with
  | zero => intro qs rs t _ _ _; rfl
  | succ n ih =>
    intro qs rs t hq hr h
    match qs, rs, hq, hr with
    | q :: qs', r :: rs', hq, hr =>
      have h0 := h 0 (by omega)
      rw [Nat.add_zero] at h0
      obtain ⟨hi, hp, hv⟩ := h0
      simp only [List.getD_cons_zero] at hv
      have hidx : params[t / partLen]? = some (params.getD (t / partLen) 0) := by
        rw [List.getD_eq_getElem?_getD, List.getElem?_eq_getElem hi]; rfl
      have hq32 : q * 2 ^ params.getD (t / partLen) 0 < 2 ^ 32 := by omega
      have ih' := ih qs' rs' (t + 1) (by simpa using hq) (by simpa using hr) (fun i hi' => by
        have := h (i + 1) (by omega)
        simpa [show t + (i + 1) = t + 1 + i by omega] using this)
      unfold residualSignalLoop
      simp only [idx, hidx, DResult.ok_bind, if_pos hp, Nat.mod_eq_of_lt hq32,
        if_pos (show q * 2 ^ params.getD (t / partLen) 0 + r < 2 ^ 32 by omega), decodeSignbitD_ok debug _ hv,
        List.tail_cons, ih', DResult.pure_eq]
      rw [List.range_succ_eq_map, List.map_cons, List.map_map]
      simp only [List.getD_cons_zero, Nat.add_zero, Function.comp_def, List.getD_cons_succ]
      congr 2
      apply List.map_congr_left
      intro i _
      rw [show t + 1 + i = t + (i + 1) by omega]

/-- Everything reduces to `residualSignalLoop_ok` started at `t = 0`; both its side condition
and its value at index `t` are `Strict.ofErrors_val` (`hval` below). -/
theorem residualSignal_ofErrors (debug : Bool) (errors : List Int) (w o : Nat) (ps : List Nat)
    (hpos : 0 < errors.length) (ho : o ≤ 15) (hps : ps.length = 2 ^ o) (hdvd : 2 ^ o ∣ errors.length)
    (hp : ∀ p ∈ ps, p ≤ 14)
    (herr : ∀ e ∈ errors, -(2 ^ 31 : Int) < e ∧ e < (2 ^ 31 : Int)) :
    residualSignal debug (Residual.ofErrors errors w o ps) =
      .ok ((List.range errors.length).map fun t => if t < w then 0 else errors.getD t 0) := by
  have hpar : ps.take (2 ^ o) = ps := List.take_of_length_le (by omega)
  have hfull : 2 ^ o * (errors.length / 2 ^ o) = errors.length := Nat.mul_div_cancel' hdvd
  have hpl : 0 < errors.length / 2 ^ o := by
    rcases Nat.eq_zero_or_pos (errors.length / 2 ^ o) with h0 | h0
    · rw [h0] at hfull; omega
    · exact h0
  have hql := ofErrors_quotients_length errors w o ps
  have hrl := ofErrors_remainders_length errors w o ps
  unfold residualSignal
  rw [Strict.ofErrors_order, Strict.ofErrors_blockSize, if_pos (by omega : o < 64)]
  simp only [DResult.ok_bind]
  rw [if_neg (by omega)]
  rw [Strict.ofErrors_params, hpar]
  have hshift : errors.length >>> o = errors.length / 2 ^ o := Nat.shiftRight_eq_div_pow _ _
  have hidx : ∀ t, t < errors.length → t / (errors.length / 2 ^ o) < 2 ^ o := by
    intro t ht
    rw [Nat.div_lt_iff_lt_mul hpl, hfull]
    exact ht
  have hp14 : ∀ j, ps.getD j 0 ≤ 14 := fun j => getD_of_forall (· ≤ 14) ps j 0 hp (Nat.zero_le _)
  have hval : ∀ t, t < errors.length →
      (Residual.ofErrors errors w o ps).quotients.getD t 0 * 2 ^ ps.getD (t / (errors.length / 2 ^ o)) 0 +
        (Residual.ofErrors errors w o ps).remainders.getD t 0 =
      if t < w then 0 else fold (errors.getD t 0) := by
    intro t ht
    rw [← hshift]
    exact Strict.ofErrors_val errors w o ps t ht (herr _ (getD_mem errors t 0 ht))
  rw [residualSignalLoop_ok debug ps _ errors.length _ _ 0 (by omega) (by omega)]
  · congr 1
    apply List.map_congr_left
    intro t ht
    rw [List.mem_range] at ht
    rw [Nat.zero_add, hval t ht]
    split
    · rfl
    · exact unfold_fold _
  · intro t ht
    rw [Nat.zero_add, hval t ht]
    refine ⟨by rw [hps]; exact hidx t ht, by have := hp14 (t / (errors.length / 2 ^ o)); omega, ?_⟩
    split
    · decide
    · have he := herr _ (getD_mem errors t 0 ht)
      unfold fold
      split <;> omega

/-- The `i64` prediction sum of `decode_lpc` never overflows when the accumulator leaves room for `2^46` per
remaining coefficient (coefficients up to `2^15` in absolute value, `i32` history): both build modes return
the exact sum. -/
theorem predict_ok (debug : Bool) : ∀ (coefs hist : List Int) (acc : Int),
    coefs.length ≤ hist.length →
    (∀ c ∈ coefs, -(2 ^ 15 : Int) ≤ c ∧ c ≤ 2 ^ 15) →
    (∀ h ∈ hist, -(2 ^ 31 : Int) ≤ h ∧ h < 2 ^ 31) →
    -(2 ^ 62 : Int) ≤ acc - coefs.length * 2 ^ 46 → acc + coefs.length * 2 ^ 46 ≤ 2 ^ 62 →
    Repo.predict debug coefs hist acc = .ok ((List.zipWith (· * ·) coefs hist).foldl (· + ·) acc) := by
  intro coefs
  induction coefs with
  | nil => intro hist acc _ _ _ _ _; rfl
  | cons w ws ih =>
    intro hist acc hl hc hh h1 h2
    match hist, hl with
    | h :: hs, hl =>
      -- one product is at most `2^31 · 2^15 = 2^46` in absolute value
      have hb : -(2 ^ 46 : Int) ≤ w * h ∧ w * h ≤ 2 ^ 46 := by
        have hcw := hc w (by simp)
        have hhh := hh h (by simp)
        have := natAbs_mul_le w h (2 ^ 31) (by omega)
        omega
      simp only [List.length_cons, Int.natCast_add, Int.natCast_one] at h1 h2
      unfold Repo.predict
      simp only []
      have hin : ((decide (-(2 ^ 63 : Int) ≤ w * h) && decide (w * h < (2 ^ 63 : Int))) &&
          (decide (-(2 ^ 63 : Int) ≤ acc + w * h) && decide (acc + w * h < (2 ^ 63 : Int)))) = true := by
        simp only [Bool.and_eq_true, decide_eq_true_eq]
        omega
      rw [if_pos hin]
      rw [ih hs (acc + w * h) (by simpa using hl) (fun c hc' => hc c (by simp [hc']))
        (fun x hx => hh x (by simp [hx])) (by omega) (by omega)]
      rfl

theorem lpcLoop_wrap (coefs : List Int) (shift : Nat) (hlen : coefs.length ≤ 32)
    (hc : ∀ c ∈ coefs, -(2 ^ 15 : Int) ≤ c ∧ c ≤ 2 ^ 15) :
    ∀ (xs hist : List Int), coefs.length ≤ hist.length →
    (∀ h ∈ hist, -(2 ^ 31 : Int) ≤ h ∧ h < 2 ^ 31) → (∀ x ∈ xs, -(2 ^ 31 : Int) ≤ x ∧ x < 2 ^ 31) →
    lpcLoop false coefs shift ((residualFrom coefs shift hist xs).map wrap32) hist = .ok (hist.reverse ++ xs) := by
  intro xs
  induction xs with
  | nil => intro hist _ _ _; simp [residualFrom, lpcLoop]
  | cons x xs ih =>
    intro hist hl hh hx
    have hxr := hx x (by simp)
    rw [residualFrom, List.map_cons, lpcLoop]
    rw [predict_ok false coefs hist 0 hl hc hh (by omega) (by omega)]
    simp only [DResult.ok_bind]
    have hP : ((List.zipWith (· * ·) coefs hist).foldl (· + ·) 0) / (2 ^ shift : Int) = FlacVerif.predict coefs shift hist := by
      unfold FlacVerif.predict
      rw [Int.shiftRight_eq_div_pow, Int.natCast_pow]
      rfl
    rw [hP, asSigned32_eq_wrap32, i32op_false]
    simp only [DResult.ok_bind]
    rw [wrap32_recon x _ hxr.1 hxr.2]
    rw [ih (x :: hist) (by simp; omega) (fun h hm => by
      simp only [List.mem_cons] at hm
      rcases hm with rfl | hm
      · exact hxr
      · exact hh h hm) (fun y hy => hx y (by simp [hy]))]
    simp

theorem fixedCoefs_idx (k : Nat) (hk : k ≤ 4) : Repo.fixedCoefs[k]? = some (FlacVerif.fixedCoefs k) := by
  have : k = 0 ∨ k = 1 ∨ k = 2 ∨ k = 3 ∨ k = 4 := by omega
  rcases this with rfl | rfl | rfl | rfl | rfl <;> rfl

/-- `decode_lpc` of the release build returns the block for a predicted sub-frame, fixed or LPC alike: the residual is
exact and within `i32`, so it is its own 32-bit reduction, which `lpcLoop_wrap` inverts. -/
theorem decodeLpc_predicted {maxP : Nat} {xs coefs : List Int} {shift : Nat} {errors : List Int} {prc : PrcParameter}
    (p : Predicted maxP xs coefs shift errors prc) (hsh : shift < 64)
    (hx : ∀ x ∈ xs, -(2 ^ 31 : Int) ≤ x ∧ x < 2 ^ 31) :
    decodeLpc false (xs.take coefs.length) coefs (shift : Int)
      (Residual.ofErrors errors coefs.length prc.order prc.ps) = .ok xs := by
  obtain ⟨h15, hpl, hdvd, hw, hp⟩ := p.space
  have hel := p.len
  have hn := p.n64
  have hwn : coefs.length ≤ xs.length := by
    have := Nat.shiftRight_le errors.length prc.order
    omega
  have hed : errors.drop coefs.length = (errors.drop coefs.length).map wrap32 :=
    ((List.map_congr_left fun e he => wrap32_id e (by have := p.range e (List.mem_of_mem_drop he); omega)
      (p.range e (List.mem_of_mem_drop he)).2).trans (List.map_id _)).symm
  unfold decodeLpc
  rw [residualSignal_ofErrors false errors coefs.length prc.order prc.ps (by omega) h15 hpl hdvd hp p.range]
  simp only [DResult.ok_bind, List.length_take, List.length_map, List.length_range]
  rw [if_neg (by omega)]
  have hs : (0 ≤ (shift : Int) ∧ (shift : Int) < 64) := by omega
  rw [if_pos hs]
  simp only [DResult.ok_bind, Int.toNat_natCast, Nat.min_eq_left hwn]
  rw [map_ite_drop, map_getD_eq_drop errors coefs.length _ 0 (by omega), hed, p.exact]
  unfold lpcResidual
  simp only []
  rw [lpcLoop_wrap coefs shift p.order p.coef _ _ (by simp; omega)
    (fun h hm => hx h (List.mem_of_mem_take (List.mem_reverse.1 hm)))
    (fun y hy => hx y (List.mem_of_mem_drop hy))]
  rw [List.reverse_reverse, List.take_append_drop]

theorem decodeSubframe_lpc {maxP : Nat} {xs coefs : List Int} {shift : Int} {precision : Nat} {errors : List Int}
    {prc : PrcParameter} (p : Predicted maxP xs coefs shift.toNat errors prc)
    (hok : (OEvent.qlpc coefs shift precision).Ok) (bps : Nat) (hx : ∀ x ∈ xs, -(2 ^ 31 : Int) ≤ x ∧ x < 2 ^ 31) :
    decodeSubframe false (.lpc (xs.take coefs.length) coefs shift precision
      (Residual.ofErrors errors coefs.length prc.order prc.ps) bps) = .ok xs := by
  have := decodeLpc_predicted p (by have := hok.2.2.2.2.2.1; omega) hx
  rw [Int.toNat_of_nonneg hok.2.2.2.2.1] at this
  exact this

/-- The release decoder on an LPC candidate, stated on the shape predicate: any log of `OEvent.Ok` parameter sets,
widths up to 32. -/
theorem decode_lpc (cfg : SubCfg) (xs : List Int) (bps : Nat) (log : List OEvent) (s : SubFrame)
    (hn : 64 ≤ xs.length) (hlen : xs.length < 2 ^ 16) (hb : 1 ≤ bps ∧ bps ≤ 32)
    (hx : ∀ x ∈ xs, SubFrame.inRange bps x = true) (hmax : cfg.maxP ≤ 14)
    (hlog : ∀ e ∈ log, e.Ok) (hs : Strict.LpcShape cfg xs bps log s) : decodeSubframe false s = .ok xs := by
  obtain ⟨coefs, shift, precision, errors, prc, hok, p, rfl⟩ := hs.predicted hn hlen hmax hlog
  exact decodeSubframe_lpc p hok bps fun x hxm => inRange_bound bps 31 (by omega) x (hx x hxm)

theorem decodeSubframe_outcome {cfg : SubCfg} {xs : List Int} {bps : Nat} {s : SubFrame} (o : SubOutcome cfg xs bps s) :
    decodeSubframe false s = .ok xs := by
  have hx31 := fun x hxm => inRange_bound bps 31 (by have := o.width; omega) x (o.range x hxm)
  cases o.case with
  | constant hc =>
    show DResult.ok (List.replicate xs.length (xs.headD 0)) = DResult.ok xs
    rw [← isConstant_replicate xs hc]
  | verbatim => rfl
  | fixed k prc hk4 p _ =>
    have := decodeLpc_predicted p (by decide) hx31
    rw [(fixedCoefs_bound k hk4).1] at this
    unfold decodeSubframe
    simp only [idx, show (xs.take k).length = k by rw [List.length_take]; have := p.n64; omega, fixedCoefs_idx k hk4,
      DResult.ok_bind]
    exact this
  | lpc coefs shift precision errors prc hok p _ => exact decodeSubframe_lpc p hok bps hx31

end Wrap
end FlacVerif
