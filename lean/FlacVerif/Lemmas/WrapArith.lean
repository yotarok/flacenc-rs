/-
The release-build decoder (C01): the 32-bit reductions of the repository's decoder
mirror (`Repo.asSigned 32`, `Repo.i32op false`) are the encoder model's `wrap32`; algebra of `wrap32`.
-/
import FlacVerif.Model.RepoParser
import FlacVerif.Lemmas.Predict
namespace FlacVerif
namespace Wrap
open Repo

theorem asSigned_eq_bmod (w : Nat) (hw : 0 < w) (v : Int) : asSigned w v = Int.bmod v (2 ^ w) :=
  (bmod_two_pow_def w hw v).symm

theorem asSigned32_eq_wrap32 (v : Int) : asSigned 32 v = wrap32 v :=
  (asSigned_eq_bmod 32 (by decide) v).trans (Strict.wrap32_eq_bmod v).symm

theorem inI32_iff (v : Int) : inI32 v = true ↔ -(2 ^ 31 : Int) ≤ v ∧ v < (2 ^ 31 : Int) := by
  simp [inI32]

theorem i32op_false (site : String) (v : Int) : i32op false site v = .ok (wrap32 v) := by
  unfold i32op
  split
  · rename_i h
    rw [inI32_iff] at h
    rw [Strict.wrap32_id v h.1 h.2]
  · simp [asSigned32_eq_wrap32]

theorem i32op_inRange (debug : Bool) (site : String) (v : Int) (h1 : -(2 ^ 31 : Int) ≤ v) (h2 : v < (2 ^ 31 : Int)) :
    i32op debug site v = .ok v := by
  unfold i32op
  rw [if_pos ((inI32_iff v).2 ⟨h1, h2⟩)]

theorem wrap32_add_left (a b : Int) : wrap32 (wrap32 a + b) = wrap32 (a + b) := by
  simp only [Strict.wrap32_eq_bmod]; exact Int.bmod_add_bmod

theorem wrap32_add_wrap32 (a b : Int) : wrap32 (wrap32 a + wrap32 b) = wrap32 (a + b) := by
  rw [wrap32_add_left, Int.add_comm, wrap32_add_left, Int.add_comm]

theorem wrap32_sub_wrap32 (a b : Int) : wrap32 (wrap32 a - wrap32 b) = wrap32 (a - b) := by
  unfold wrap32; omega

theorem wrap32_range (v : Int) : -(2 ^ 31 : Int) ≤ wrap32 v ∧ wrap32 v < (2 ^ 31 : Int) := by
  unfold wrap32; omega

theorem wrap32_recon (x p : Int) (h1 : -(2 ^ 31 : Int) ≤ x) (h2 : x < (2 ^ 31 : Int)) :
    wrap32 (wrap32 (x - p) + wrap32 p) = x := by
  rw [wrap32_add_wrap32, show x - p + p = x by omega, Strict.wrap32_id x h1 h2]

end Wrap
end FlacVerif
