/-
The step notions of `Model/ParProg.lean` (`runTau`, `visStep`, `settle`, `macroStep`, `macroStepC`) by their equations, and
what follows from `ParProg.step env g tid` being a function: the internal steps of a thread lead to at most one state where
they end (`halt_unique`), so its next protocol step (`C06G_next_unique`) and its macro step to the first yield point
(`macroStepC_unique`) are unique, and a thread that is stuck has none (`stuck_no_vis`). No program occurs here.
-/
import FlacVerif.Model.ParProg

namespace FlacVerif.C06Gen
open FlacVerif.Par FlacVerif.ParProg

theorem runTau_succ {en : Env} {tid : Tid} {n : Nat} {g g' : PState} : runTau en tid (n + 1) g = some g' ↔
    ∃ g1, ParProg.step en g tid = some (.tau, g1) ∧ runTau en tid n g1 = some g' := by
  rw [runTau]
  split
  · rename_i g1 hs
    exact ⟨fun h => ⟨g1, hs, h⟩, fun ⟨_, h, h'⟩ => by cases hs.symm.trans h; exact h'⟩
  · rename_i hs
    exact ⟨nofun, fun ⟨g1, h, _⟩ => (hs g1 h).elim⟩

theorem visStep_iff {en : Env} {tid : Tid} {g g' : PState} {e : Ev} :
    visStep en tid g = some (e, g') ↔ ParProg.step en g tid = some (.ev e, g') := by
  rw [visStep]
  split
  · rename_i e1 g1 hs
    exact ⟨fun h => by cases h; exact hs, fun h => by cases hs.symm.trans h; rfl⟩
  · rename_i hs
    exact ⟨nofun, fun h => (hs e g' h).elim⟩

theorem settle_succ {en : Env} {tid : Tid} {n : Nat} {g g' : PState} : settle en tid (n + 1) g = some g' ↔
    g.yields tid = false ∧ ∃ g1, ParProg.step en g tid = some (.tau, g1) ∧ settle en tid n g1 = some g' := by
  rw [settle]
  split
  · rename_i hy
    exact ⟨nofun, fun ⟨h, _⟩ => by rw [hy] at h; cases h⟩
  · rename_i hy
    have hy : g.yields tid = false := by simpa using hy
    split
    · rename_i g1 hs
      exact ⟨fun h => ⟨hy, g1, hs, h⟩, fun ⟨_, _, h, h'⟩ => by cases hs.symm.trans h; exact h'⟩
    · rename_i hs
      exact ⟨nofun, fun ⟨_, g1, h, _⟩ => (hs g1 h).elim⟩

theorem settle_runTau {en : Env} {tid : Tid} : ∀ (b : Nat) (g g' : PState), settle en tid b g = some g' → runTau en tid b g = some g' := by
  intro b
  induction b with
  | zero => exact fun _ _ h => h
  | succ b ih =>
    intro g g' h
    obtain ⟨_, g1, hs, h'⟩ := settle_succ.1 h
    exact runTau_succ.2 ⟨g1, hs, ih g1 g' h'⟩


theorem macroStep_unpack {en : Env} {tid : Tid} {a b : Nat} {g g3 : PState} {e : Ev}
    (h : macroStep en tid a b g = some (e, g3)) :
    ∃ g1 g2, runTau en tid a g = some g1 ∧ visStep en tid g1 = some (e, g2) ∧ runTau en tid b g2 = some g3 := by
  unfold macroStep at h
  split at h
  · rename_i g1 h1
    split at h
    · rename_i e' g2 h2
      split at h
      · rename_i g3' h3
        cases h
        exact ⟨g1, g2, h1, h2, h3⟩
      · cases h
    · cases h
  · cases h

theorem macroStepC_unpack {en : Env} {tid : Tid} {a b : Nat} {g g3 : PState} {e : Ev}
    (h : macroStepC en tid a b g = some (e, g3)) :
    ∃ g1 g2, runTau en tid a g = some g1 ∧ visStep en tid g1 = some (e, g2) ∧ settle en tid b g2 = some g3 ∧
      g3.yields tid = true := by
  unfold macroStepC at h
  split at h
  · rename_i g1 h1
    split at h
    · rename_i e' g2 h2
      split at h
      · rename_i g3' h3
        split at h
        · rename_i hy
          cases h
          exact ⟨g1, g2, h1, h2, h3, hy⟩
        · cases h
      · cases h
    · cases h
  · cases h

theorem macroStepC_sound {en : Env} {tid : Tid} {a b : Nat} {g : PState} {r : Ev × PState}
    (h : macroStepC en tid a b g = some r) : macroStep en tid a b g = some r := by
  obtain ⟨g1, g2, h1, h2, h3, _⟩ := macroStepC_unpack (e := r.1) (g3 := r.2) h
  simp only [macroStep, h1, h2, settle_runTau _ _ _ h3]

theorem vis_no_tau {en : Env} {tid : Tid} {g g' gx : PState} {e : Ev} (h : visStep en tid g = some (e, g')) :
    ParProg.step en g tid ≠ some (.tau, gx) :=
  fun hs => nomatch (visStep_iff.1 h).symm.trans hs

/-- The step of a thread is a function of the state, so its internal steps lead to at most one state that has no further
internal step (a protocol step or a blocked statement is next), after a determined number of steps. -/
theorem halt_unique {en : Env} {tid : Tid} : ∀ (a : Nat) {a' : Nat} {g g1 g1' : PState}, runTau en tid a g = some g1 →
    (∀ gx, ParProg.step en g1 tid ≠ some (.tau, gx)) → runTau en tid a' g = some g1' →
    (∀ gx, ParProg.step en g1' tid ≠ some (.tau, gx)) → a = a' ∧ g1 = g1' := by
  intro a
  induction a with
  | zero =>
    intro a' g g1 g1' h1 hh h2 _
    cases h1
    cases a' with
    | zero => cases h2; exact ⟨rfl, rfl⟩
    | succ m => obtain ⟨gx, hs, _⟩ := runTau_succ.1 h2; exact (hh gx hs).elim
  | succ n ih =>
    intro a' g g1 g1' h1 hh h2 hh'
    obtain ⟨gx, hs, h1⟩ := runTau_succ.1 h1
    cases a' with
    | zero => cases h2; exact (hh' gx hs).elim
    | succ m =>
      obtain ⟨gx', hs', h2⟩ := runTau_succ.1 h2
      cases hs.symm.trans hs'
      obtain ⟨h5, h6⟩ := ih h1 hh h2 hh'
      exact ⟨congrArg (· + 1) h5, h6⟩

/-- A thread's next protocol step is unique: the program semantics is a function per thread. -/
theorem C06G_next_unique (env : Env) (tid : Tid) : ∀ (a a' : Nat) (g g1 g1' : PState) (e e' : Ev) (g2 g2' : PState),
    runTau env tid a g = some g1 → visStep env tid g1 = some (e, g2) →
    runTau env tid a' g = some g1' → visStep env tid g1' = some (e', g2') → a = a' ∧ e = e' ∧ g2 = g2' := by
  intro a a' g g1 g1' e e' g2 g2' h1 h2 h3 h4
  obtain ⟨rfl, rfl⟩ := halt_unique a h1 (fun _ => vis_no_tau h2) h3 (fun _ => vis_no_tau h4)
  cases h2.symm.trans h4
  exact ⟨rfl, rfl, rfl⟩

def stuckAt (env : Env) (tid : Tid) (k : Nat) (g : PState) : Prop :=
  ∃ gk, runTau env tid k g = some gk ∧ ParProg.step env gk tid = none

theorem stuck_no_vis (env : Env) (tid : Tid) : ∀ (k : Nat) (g : PState), stuckAt env tid k g →
    ∀ (a : Nat) (g1 : PState) (e : Ev) (g2 : PState), runTau env tid a g = some g1 → visStep env tid g1 = some (e, g2) → False := by
  intro k g ⟨gk, h1, h2⟩ a g1 e g2 h3 h4
  obtain ⟨_, rfl⟩ := halt_unique k h1 (fun _ hs => nomatch h2.symm.trans hs) h3 (fun _ => vis_no_tau h4)
  cases h2.symm.trans (visStep_iff.1 h4)

theorem settle_unique {en : Env} {tid : Tid} : ∀ (b b' : Nat) (g y y' : PState),
    settle en tid b g = some y → y.yields tid = true → settle en tid b' g = some y' → y'.yields tid = true →
    b = b' ∧ y = y' := by
  intro b
  induction b with
  | zero =>
    intro b' g y y' h1 hy h2 hy'
    cases h1
    cases b' with
    | zero => cases h2; exact ⟨rfl, rfl⟩
    | succ b' => rw [(settle_succ.1 h2).1] at hy; cases hy
  | succ b ih =>
    intro b' g y y' h1 hy h2 hy'
    obtain ⟨hny, gx, hs, h1⟩ := settle_succ.1 h1
    cases b' with
    | zero => cases h2; rw [hny] at hy'; cases hy'
    | succ b' =>
      obtain ⟨_, gx', hs', h2⟩ := settle_succ.1 h2
      cases hs.symm.trans hs'
      obtain ⟨hb, hyy⟩ := ih b' gx y y' h1 hy h2 hy'
      exact ⟨congrArg (· + 1) hb, hyy⟩

theorem macroStepC_unique {en : Env} {tid : Tid} {a b a' b' : Nat} {g g3 g3' : PState} {e e' : Ev}
    (h : macroStepC en tid a b g = some (e, g3)) (h' : macroStepC en tid a' b' g = some (e', g3')) : e = e' ∧ g3 = g3' := by
  obtain ⟨g1, g2, h1, h2, h3, hy⟩ := macroStepC_unpack h
  obtain ⟨x1, x2, k1, k2, k3, ky⟩ := macroStepC_unpack h'
  obtain ⟨_, h6, h7⟩ := C06G_next_unique _ _ a a' g g1 x1 e e' g2 x2 h1 h2 k1 k2
  subst h6 h7
  exact ⟨rfl, (settle_unique b b' g2 g3 g3' h3 hy k3 ky).2⟩

/-- `stuckAt` in the form the interpreter can be run on: first the internal steps, then the step that fails -/
theorem stuckAt_iff {env : Env} {tid : Tid} {k : Nat} {g : PState} : stuckAt env tid k g ↔
    (match runTau env tid k g with | some gk => ParProg.step env gk tid = none | none => False) := by
  unfold stuckAt
  cases runTau env tid k g with
  | none => exact ⟨fun ⟨_, h, _⟩ => (nomatch h), False.elim⟩
  | some gk => exact ⟨fun ⟨_, h, h'⟩ => Option.some.inj h ▸ h', fun h => ⟨gk, rfl, h⟩⟩

end FlacVerif.C06Gen
