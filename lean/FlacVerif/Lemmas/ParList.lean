/-
List facts used by the protocol invariants: updating one element of the worker list, the sorted
association list of `ParSink`, the shape of the encode queue.
-/
import FlacVerif.Model.Par
namespace FlacVerif.Par

theorem count_set_add {α : Type} [DecidableEq α] (l : List α) (i : Nat) (a b x : α)
    (h : l[i]? = some a) :
    (l.set i b).count x + (if a = x then 1 else 0) = l.count x + (if b = x then 1 else 0) := by
  induction l generalizing i with
  | nil => simp at h
  | cons y l ih =>
    cases i with
    | zero =>
      simp at h; subst h
      simp only [List.set_cons_zero, List.count_cons, beq_iff_eq]; omega
    | succ i =>
      simp at h; have := ih i h
      simp only [List.set_cons_succ, List.count_cons]; omega

theorem exists_ne_of_count_lt {α : Type} [DecidableEq α] {l : List α} {a : α}
    (h : l.count a < l.length) : ∃ x ∈ l, x ≠ a := by
  induction l with
  | nil => simp at h
  | cons y l ih =>
    by_cases hy : y = a
    · subst hy
      simp only [List.count_cons_self, List.length_cons] at h
      obtain ⟨x, hx, hne⟩ := ih (by omega)
      exact ⟨x, by simp [hx], hne⟩
    · exact ⟨y, by simp, hy⟩

theorem sum_map_set {α : Type} (f : α → Nat) (l : List α) (i : Nat) (a b : α)
    (h : l[i]? = some a) : ((l.set i b).map f).sum + f a = (l.map f).sum + f b := by
  induction l generalizing i with
  | nil => cases h
  | cons y l ih =>
    cases i with
    | zero => cases h; simp only [List.set_cons_zero, List.map_cons, List.sum_cons]; omega
    | succ i => have := ih i h; simp only [List.set_cons_succ, List.map_cons, List.sum_cons]; omega

theorem count_flatMap_set {α : Type} (f : α → List Nat) (l : List α) (i : Nat) (a b : α) (x : Nat)
    (h : l[i]? = some a) :
    ((l.set i b).flatMap f).count x + (f a).count x = (l.flatMap f).count x + (f b).count x := by
  rw [List.count_flatMap, List.count_flatMap]; exact sum_map_set _ l i a b h

theorem getElem?_some_lt {α : Type} {l : List α} {i : Nat} {a : α} (h : l[i]? = some a) : i < l.length :=
  (List.getElem?_eq_some_iff.1 h).1

theorem mem_set_or_eq {α : Type} {l : List α} {i : Nat} {a b x : α} (h : l[i]? = some a)
    (hx : x ∈ l) : x = a ∨ x ∈ l.set i b := by
  obtain ⟨j, hj⟩ := List.mem_iff_getElem?.1 hx
  by_cases hji : j = i
  · exact Or.inl (Option.some.inj ((hji ▸ hj).symm.trans h))
  · exact Or.inr (List.mem_iff_getElem?.2 ⟨j, by rw [List.getElem?_set_ne (Ne.symm hji)]; exact hj⟩)

theorem length_snoc_le {α : Type} {q : List α} {x : α} {c : Nat} (h : q.length < c) : (q ++ [x]).length ≤ c := by
  rw [List.length_append]; exact h

theorem length_tail_le {α : Type} {q r : List α} {x : α} {c : Nat} (hq : q = x :: r) (h : q.length ≤ c) : r.length ≤ c := by
  rw [hq] at h; exact Nat.le_of_succ_le h

theorem count_range (n x : Nat) : (List.range n).count x = if x < n then 1 else 0 :=
  List.count_range

theorem insertKey_ne_nil {α : Type} (n : Nat) (v : α) (l : List (Nat × α)) :
    insertKey n v l ≠ [] := by
  cases l with
  | nil => simp [insertKey]
  | cons x l =>
    obtain ⟨m, u⟩ := x
    simp only [insertKey]; split
    · simp
    · split <;> simp

theorem mem_insertKey {α : Type} {n : Nat} {v : α} {l : List (Nat × α)} {x : Nat × α}
    (h : x ∈ insertKey n v l) : x = (n, v) ∨ x ∈ l := by
  induction l with
  | nil => simp [insertKey] at h; exact Or.inl h
  | cons y l ih =>
    obtain ⟨m, u⟩ := y
    simp only [insertKey] at h
    split at h
    · rcases List.mem_cons.1 h with h | h
      · exact Or.inl h
      · exact Or.inr h
    · split at h
      · rcases List.mem_cons.1 h with h | h
        · exact Or.inl h
        · exact Or.inr (List.mem_cons_of_mem _ h)
      · rcases List.mem_cons.1 h with h | h
        · exact Or.inr (by simp [h])
        · rcases ih h with h | h
          · exact Or.inl h
          · exact Or.inr (List.mem_cons_of_mem _ h)

theorem keys_insertKey {α : Type} (n : Nat) (v : α) (l : List (Nat × α)) (m : Nat) :
    m ∈ (insertKey n v l).map (·.1) ↔ m = n ∨ m ∈ l.map (·.1) := by
  induction l with
  | nil => simp [insertKey]
  | cons y l ih =>
    obtain ⟨k, u⟩ := y
    simp only [insertKey]
    split
    · simp
    · split
      · subst_vars; simp
      · simp only [List.map_cons, List.mem_cons, ih]
        exact or_left_comm

theorem mem_keys {α : Type} {l : List (Nat × α)} {n : Nat} (h : n ∈ l.map (·.1)) :
    ∃ v, (n, v) ∈ l := by
  obtain ⟨⟨m, v⟩, hmem, rfl⟩ := List.mem_map.1 h
  exact ⟨v, hmem⟩

theorem sorted_insertKey {α : Type} (n : Nat) (v : α) (l : List (Nat × α))
    (h : (l.map (·.1)).Pairwise (· < ·)) : ((insertKey n v l).map (·.1)).Pairwise (· < ·) := by
  induction l with
  | nil => simp [insertKey]
  | cons y l ih =>
    obtain ⟨k, u⟩ := y
    simp only [List.map_cons, List.pairwise_cons] at h
    simp only [insertKey]
    split
    · rename_i hlt
      simp only [List.map_cons, List.pairwise_cons, List.mem_cons]
      refine ⟨?_, h⟩
      rintro a (rfl | ha)
      · exact hlt
      · exact Nat.lt_trans hlt (h.1 a ha)
    · split
      · subst_vars
        simp only [List.map_cons, List.pairwise_cons]
        exact h
      · rename_i h1 h2
        simp only [List.map_cons, List.pairwise_cons]
        refine ⟨?_, ih h.2⟩
        intro a ha
        rcases (keys_insertKey n v l a).1 ha with rfl | ha
        · omega
        · exact h.1 a ha

theorem insertKey_keeps {α : Type} (P : Nat × α → Prop) (n : Nat) (v : α) {l : List (Nat × α)}
    (hl : ∀ x ∈ l, P x) (hv : P (n, v)) (hs : (l.map (·.1)).Pairwise (· < ·)) :
    (∀ x ∈ insertKey n v l, P x) ∧ ((insertKey n v l).map (·.1)).Pairwise (· < ·) ∧
      n ∈ (insertKey n v l).map (·.1) ∧ ∀ m ∈ l.map (·.1), m ∈ (insertKey n v l).map (·.1) :=
  ⟨fun x hx => (mem_insertKey hx).elim (· ▸ hv) (hl x), sorted_insertKey n v l hs,
    (keys_insertKey n v l n).2 (Or.inl rfl), fun m hm => (keys_insertKey n v l m).2 (Or.inr hm)⟩

theorem eq_range_of_sorted (l : List Nat) (N : Nat) (hs : l.Pairwise (· < ·))
    (hm : ∀ n, n ∈ l ↔ n < N) : l = List.range N := by
  induction N generalizing l with
  | zero =>
    cases l with
    | nil => rfl
    | cons a l => exact absurd ((hm a).1 (by simp)) (by omega)
  | succ N ih =>
    -- split off the last element
    have hN : N ∈ l := (hm N).2 (by omega)
    obtain ⟨l1, l2, rfl⟩ := List.append_of_mem hN
    rw [List.pairwise_append] at hs
    obtain ⟨hs1, hs2, hs3⟩ := hs
    rw [List.pairwise_cons] at hs2
    have hl2 : l2 = [] := by
      cases l2 with
      | nil => rfl
      | cons b l2 =>
        have h1 : N < b := hs2.1 b (by simp)
        have h2 : b < N + 1 := (hm b).1 (by simp)
        omega
    subst hl2
    rw [List.range_succ]
    congr 1
    apply ih l1 hs1
    intro n
    constructor
    · intro hn
      exact hs3 n hn N (by simp)
    · intro hn
      have : n ∈ l1 ++ [N] := (hm n).2 (by omega)
      rcases List.mem_append.1 this with h | h
      · exact h
      · simp at h; omega


/-- "No some after none": behind the first stop token (`none`) of the encode queue only stop tokens follow. -/
def NSAN : List (Option Nat) → Prop
  | [] => True
  | some _ :: q => NSAN q
  | none :: q => ∀ x ∈ q, x = none

theorem NSAN_append_some {q : List (Option Nat)} (id : Nat) (h : q.count none = 0) :
    NSAN (q ++ [some id]) := by
  induction q with
  | nil => simp [NSAN]
  | cons x q ih =>
    cases x with
    | none => simp at h
    | some y => simp only [List.cons_append, NSAN]; exact ih (by simpa using h)

theorem NSAN_append_none {q : List (Option Nat)} (h : NSAN q) : NSAN (q ++ [none]) := by
  induction q with
  | nil => simp [NSAN]
  | cons x q ih =>
    cases x with
    | none =>
      simp only [List.cons_append, NSAN] at h ⊢
      intro x hx
      rcases List.mem_append.1 hx with hx | hx
      · exact h x hx
      · simpa using hx
    | some y => simp only [List.cons_append, NSAN] at h ⊢; exact ih h

theorem NSAN_tail {x : Option Nat} {q : List (Option Nat)} (h : NSAN (x :: q)) : NSAN q := by
  cases x with
  | some y => exact h
  | none =>
    -- everything in `q` is `none`, in particular what follows its head
    cases q with
    | nil => trivial
    | cons y q =>
      cases h y List.mem_cons_self
      exact fun x hx => h x (List.mem_cons_of_mem _ hx)

end FlacVerif.Par
