/-
List facts with no model in them, in this order: folds (sum; bounds on max / min as iffs with their corollaries; selection;
congruence), the counter of a stepped `while`, `getD` against `map` / `take` / `drop` / `++` / `reverse`, splitting of
`range'` and of `take` / `drop`, `zipWith` of an encoding pair against its decoder, `lookup`, `flatMap` and sums of maps,
`mapM` into `Option` (when it succeeds, what success says), `Repo.sliceD`.
-/
namespace FlacVerif

theorem foldl_add_sum (l : List Nat) (a : Nat) : l.foldl (· + ·) a = a + l.sum := by
  induction l generalizing a with
  | nil => simp
  | cons x xs ih => rw [List.foldl_cons, ih, List.sum_cons]; omega

theorem mem_le_foldl_add (l : List Nat) (x : Nat) (hx : x ∈ l) : ∀ a, x ≤ l.foldl (· + ·) a := by
  induction l with
  | nil => simp at hx
  | cons y ys ih =>
    intro a
    simp only [List.mem_cons] at hx
    simp only [List.foldl_cons]
    rcases hx with rfl | hx
    · have := foldl_add_sum ys (a + x); have := foldl_add_sum ys 0; omega
    · exact ih hx _

/-- Bounds on a fold of `max` or `min`: with `op := max`, `P m := m ≤ b`, `Q x := x ≤ b` the hypothesis is `Nat.max_le`
and the conclusion says when the maximum is at most `b`. -/
theorem foldl_forall_iff {α β : Type} (op : β → α → β) (P : β → Prop) (Q : α → Prop)
    (h : ∀ m x, P (op m x) ↔ P m ∧ Q x) (l : List α) (a : β) : P (l.foldl op a) ↔ P a ∧ ∀ x ∈ l, Q x := by
  induction l generalizing a with
  | nil => simp
  | cons x l ih => rw [List.foldl_cons, ih, h, List.forall_mem_cons, and_assoc]

theorem foldl_max_le_iff (l : List Nat) (a B : Nat) : l.foldl max a ≤ B ↔ a ≤ B ∧ ∀ x ∈ l, x ≤ B :=
  foldl_forall_iff max (· ≤ B) (· ≤ B) (fun _ _ => Nat.max_le) l a

theorem le_foldl_min_iff (l : List Nat) (a B : Nat) : B ≤ l.foldl min a ↔ B ≤ a ∧ ∀ x ∈ l, B ≤ x :=
  foldl_forall_iff min (B ≤ ·) (B ≤ ·) (fun _ _ => Nat.le_min) l a

theorem mem_le_foldl_max (l : List Nat) (a x : Nat) (hx : x ∈ l) : x ≤ l.foldl max a :=
  ((foldl_max_le_iff l a _).1 (Nat.le_refl _)).2 x hx

theorem foldl_min_le (l : List Nat) (a : Nat) : l.foldl min a ≤ a :=
  ((le_foldl_min_iff l a _).1 (Nat.le_refl _)).1

theorem foldl_min_le_mem (l : List Nat) (a x : Nat) (hx : x ∈ l) : l.foldl min a ≤ x :=
  ((le_foldl_min_iff l a _).1 (Nat.le_refl _)).2 x hx

/-- A fold that keeps one of its two arguments at every step (`max`, `min`, a keyed choice) returns the start value or
an item. -/
theorem foldl_select_mem {α : Type} (op : α → α → α) (h : ∀ m x, op m x = m ∨ op m x = x) (l : List α) (a : α) :
    l.foldl op a = a ∨ l.foldl op a ∈ l := by
  induction l generalizing a with
  | nil => exact Or.inl rfl
  | cons x l ih =>
    rw [List.foldl_cons]
    rcases ih (op a x) with e | m
    · rw [e]
      rcases h a x with e' | e'
      · exact Or.inl e'
      · rw [e']; exact Or.inr List.mem_cons_self
    · exact Or.inr (List.mem_cons_of_mem _ m)

theorem foldl_min_mem (l : List Nat) (a : Nat) : l.foldl min a = a ∨ l.foldl min a ∈ l :=
  foldl_select_mem min (fun m x => by omega) l a

theorem foldl_congr_mem {α β : Type} (f g : α → β → α) (l : List β) (a : α)
    (h : ∀ a, ∀ b ∈ l, f a b = g a b) : l.foldl f a = l.foldl g a := by
  induction l generalizing a with
  | nil => rfl
  | cons x xs ih =>
    rw [List.foldl_cons, List.foldl_cons, h a x (by simp), ih _ (fun a b hb => h a b (by simp [hb]))]

/-! ### the counter of `while t < b { ..; t += N }` started at `a`: the values `a + j * N`, `j < ⌈(b - a) / N⌉` -/

theorem lt_of_lt_ceil (a b N j : Nat) (hN : 0 < N) (hj : j < (b - a + (N - 1)) / N) : a + j * N < b := by
  have h := (Nat.le_div_iff_mul_le hN).1 hj
  rw [Nat.succ_mul] at h
  omega

theorem le_ceil_mul (a b N : Nat) (hN : 0 < N) : b ≤ a + (b - a + (N - 1)) / N * N := by
  have h1 := Nat.div_add_mod (b - a + (N - 1)) N
  have h2 := Nat.mod_lt (b - a + (N - 1)) hN
  rw [Nat.mul_comm] at h1
  omega

theorem mem_steps (a b N t : Nat) (hN : 0 < N) (h : t ∈ (List.range ((b - a + (N - 1)) / N)).map (fun j => a + j * N)) :
    a ≤ t ∧ t < b := by
  obtain ⟨j, hj, rfl⟩ := List.mem_map.1 h
  exact ⟨Nat.le_add_right _ _, lt_of_lt_ceil a b N j hN (List.mem_range.1 hj)⟩

/-- Blocks of `N` starting at `a, a + N, ..`, each cut at `b` and starting below it, make up an initial segment of
`a, .., b - 1`. -/
theorem flatMap_range'_blocks (N a b : Nat) : ∀ (m : Nat), (∀ j, j < m → a + j * N < b) →
    ((List.range m).map fun j => a + j * N).flatMap (fun t0 => List.range' t0 (min N (b - t0))) =
      List.range' a (min (m * N) (b - a))
  | 0, _ => by rw [Nat.zero_mul, Nat.zero_min]; rfl
  | m + 1, h => by
    have hm := h m (Nat.lt_succ_self m)
    rw [List.range_succ, List.map_append, List.flatMap_append,
      flatMap_range'_blocks N a b m (fun j hj => h j (Nat.lt_succ_of_lt hj)), List.map_singleton, List.flatMap_singleton,
      Nat.min_eq_left (by omega), List.range'_append_1, Nat.succ_mul]
    congr 1
    omega

/-- The loop counter `a, a + N, ..` below `b` (`countUp` of the generated preludes), each block cut at `b`: exactly `a, .., b - 1`. -/
theorem steps_flatMap_blocks (a b N : Nat) (hN : 0 < N) :
    ((List.range ((b - a + (N - 1)) / N)).map fun j => a + j * N).flatMap (fun t0 => List.range' t0 (min N (b - t0))) =
      List.range' a (b - a) := by
  rw [flatMap_range'_blocks N a b _ (fun j hj => lt_of_lt_ceil a b N j hN hj),
    Nat.min_eq_right (Nat.sub_le_iff_le_add'.2 (le_ceil_mul a b N hN))]

theorem getD_map_range {α : Type} (f : Nat → α) (n t : Nat) (d : α) (ht : t < n) :
    ((List.range n).map f).getD t d = f t := by
  rw [List.getD_eq_getElem?_getD, List.getElem?_map, List.getElem?_range ht]
  rfl

theorem map_getD_slice {α β : Type} (l : List α) (a k : Nat) (d : α) (g : α → β) (h : a + k ≤ l.length) :
    (List.range k).map (fun i => g (l.getD (a + i) d)) = ((l.drop a).take k).map g := by
  apply List.ext_getElem
  · simp only [List.length_map, List.length_range, List.length_take, List.length_drop]; omega
  · intro i h1 _
    simp only [List.length_map, List.length_range] at h1
    simp [List.getD_eq_getElem?_getD, List.getElem?_eq_getElem (show a + i < l.length by omega)]

theorem map_getD_eq_map {α β : Type} (l : List α) (d : α) (g : α → β) :
    (List.range l.length).map (fun i => g (l.getD i d)) = l.map g := by
  simpa using map_getD_slice l 0 l.length d g (Nat.le_of_eq (Nat.zero_add _))

theorem getD_slice {α : Type} (l : List α) (a k : Nat) (d : α) (h : a + k ≤ l.length) :
    (l.drop a).take k = (List.range k).map (fun i => l.getD (a + i) d) := by
  simpa using (map_getD_slice l a k d id h).symm

theorem range_map_getD {α : Type} (xs : List α) (d : α) : (List.range xs.length).map (fun t => xs.getD t d) = xs :=
  (map_getD_eq_map xs d id).trans (List.map_id xs)

theorem map_getD_eq_drop {α : Type} (l : List α) (s c : Nat) (d : α) (h : s + c = l.length) :
    (List.range' s c).map (fun t => l.getD t d) = l.drop s := by
  rw [List.range'_eq_map_range, List.map_map]
  simpa [Function.comp_def, List.take_of_length_le (show (l.drop s).length ≤ c by rw [List.length_drop]; omega)] using
    map_getD_slice l s c d id (Nat.le_of_eq h)

theorem map_ite_drop (f : Nat → Int) (n o : Nat) :
    ((List.range n).map (fun t => if t < o then 0 else f t)).drop o = (List.range' o (n - o)).map f := by
  rw [← List.map_drop, List.range_eq_range', List.drop_range', Nat.zero_add, Nat.mul_one]
  apply List.map_congr_left
  intro t ht
  rw [List.mem_range'_1] at ht
  rw [if_neg (by omega)]

theorem getD_take_drop {α : Type} (l : List α) (a b t : Nat) (d : α) (ht : t < b) :
    ((l.drop a).take b).getD t d = l.getD (a + t) d := by
  rw [List.getD_eq_getElem?_getD, List.getD_eq_getElem?_getD, List.getElem?_take, if_pos ht, List.getElem?_drop]

theorem getD_drop_take {α : Type} (l : List α) (a b i : Nat) (d : α) (hi : a + i < b) :
    ((l.take b).drop a).getD i d = l.getD (a + i) d := by
  rw [List.getD_eq_getElem?_getD, List.getD_eq_getElem?_getD, List.getElem?_drop, List.getElem?_take_of_lt hi]

theorem getD_append_lt (a b : List Int) (i : Nat) (h : i < a.length) : (a ++ b).getD i 0 = a.getD i 0 := by
  rw [List.getD_eq_getElem?_getD, List.getD_eq_getElem?_getD, List.getElem?_append_left h]

theorem getD_reverse_lt (a : List Int) (j : Nat) (h : j < a.length) : a.reverse.getD j 0 = a.getD (a.length - 1 - j) 0 := by
  rw [List.getD_eq_getElem?_getD, List.getD_eq_getElem?_getD, List.getElem?_reverse h]

theorem getD_zero_eq_headD (xs : List Int) : xs.getD 0 0 = xs.headD 0 := by cases xs <;> rfl

theorem getD_mem {α : Type} (l : List α) (i : Nat) (d : α) (h : i < l.length) : l.getD i d ∈ l := by
  rw [List.getD_eq_getElem?_getD, List.getElem?_eq_getElem h]
  exact List.getElem_mem h

theorem getD_mem_or_default {α : Type} (l : List α) (t : Nat) (d : α) : l.getD t d ∈ l ∨ l.getD t d = d := by
  by_cases ht : t < l.length
  · exact Or.inl (getD_mem l t d ht)
  · right
    rw [List.getD_eq_getElem?_getD, List.getElem?_eq_none (by omega)]
    rfl

theorem getD_of_forall {α : Type} (P : α → Prop) (l : List α) (t : Nat) (d : α) (h : ∀ x ∈ l, P x) (hd : P d) :
    P (l.getD t d) := by
  rcases getD_mem_or_default l t d with hm | he
  · exact h _ hm
  · rw [he]; exact hd

theorem range'_split (a b c : Nat) (hab : a ≤ b) (hbc : b ≤ c) :
    List.range' a (c - a) = List.range' a (b - a) ++ List.range' b (c - b) := by
  have h1 : c - a = (b - a) + (c - b) := by omega
  have h2 : a + (b - a) = b := Nat.add_sub_cancel' hab
  rw [h1, ← List.range'_append_1, h2]

theorem drop_take_append {α : Type} (l : List α) (a b c : Nat) (hab : a ≤ b) (hbc : b ≤ c)
    (hc : c ≤ l.length) :
    (l.take b).drop a ++ (l.take c).drop b = (l.take c).drop a := by
  have h1 : l.take c = l.take b ++ (l.take c).drop b := by
    have := List.take_append_drop b (l.take c)
    rw [List.take_take, Nat.min_eq_left hbc] at this
    exact this.symm
  conv => rhs; rw [h1]
  rw [List.drop_append_of_le_length]
  rw [List.length_take]; omega

theorem map_dropLast_replace {α β : Type} (f : α → β) : ∀ (l : List α) (x y : α), l.getLast? = some x → f y = f x →
    (l.dropLast ++ [y]).map f = l.map f := by
  intro l
  induction l with
  | nil => intro x y h; simp at h
  | cons a t ih =>
    intro x y h hf
    cases t with
    | nil =>
      simp only [List.getLast?_singleton, Option.some.injEq] at h
      subst h
      simp [hf]
    | cons b t' =>
      have h' : (b :: t').getLast? = some x := by simpa [List.getLast?_cons_cons] using h
      have := ih x y h' hf
      simp only [List.dropLast_cons_cons, List.cons_append, List.map_cons] at this ⊢
      rw [this]

theorem zip_recon (enc1 enc2 : Int → Int → Int) (dec : Int → Int → Int × Int)
    (h : ∀ a b, dec (enc1 a b) (enc2 a b) = (a, b)) :
    ∀ (l r : List Int), l.length = r.length →
      (List.zipWith dec (List.zipWith enc1 l r) (List.zipWith enc2 l r)).map (·.1) = l ∧
      (List.zipWith dec (List.zipWith enc1 l r) (List.zipWith enc2 l r)).map (·.2) = r := by
  intro l
  induction l with
  | nil =>
    intro r hr
    have : r = [] := List.eq_nil_of_length_eq_zero (by simpa using hr.symm)
    subst this
    exact ⟨rfl, rfl⟩
  | cons a l ih =>
    intro r hr
    match r, hr with
    | b :: r, hr =>
      obtain ⟨h1, h2⟩ := ih r (by simpa using hr)
      simp only [List.zipWith_cons_cons, List.map_cons, h a b, h1, h2, and_self]

theorem zipWith_proj (l r : List Int) (h : l.length = r.length) :
    List.zipWith (fun a _ => a) l r = l ∧ List.zipWith (fun _ b => b) l r = r := by
  induction l generalizing r with
  | nil =>
    have : r = [] := List.eq_nil_of_length_eq_zero (by simpa using h.symm)
    subst this
    exact ⟨rfl, rfl⟩
  | cons a l ih =>
    match r, h with
    | b :: r, h =>
      obtain ⟨h1, h2⟩ := ih r (by simpa using h)
      simp only [List.zipWith_cons_cons, h1, h2, and_self]

theorem mem_of_lookup {l : List (Nat × Nat)} {k v : Nat} (h : l.lookup k = some v) : (k, v) ∈ l := by
  induction l with
  | nil => cases h
  | cons p l ih =>
    obtain ⟨a, b⟩ := p
    rw [List.lookup_cons] at h
    split at h
    · next hk =>
      cases h
      rw [beq_iff_eq.1 hk]
      exact List.mem_cons_self
    · exact List.mem_cons_of_mem _ (ih h)

theorem flatMap_congr_mem {α β : Type} (l : List α) (f g : α → List β) (h : ∀ x ∈ l, f x = g x) :
    l.flatMap f = l.flatMap g := by
  rw [List.flatMap_def, List.flatMap_def, List.map_congr_left h]

theorem flatMap_drop_uniform {α β : Type} (f : α → List β) (ch : Nat) (hf : ∀ x, (f x).length = ch) :
    ∀ (l : List α) (a : Nat), (l.flatMap f).drop (a * ch) = (l.drop a).flatMap f := by
  intro l
  induction l with
  | nil => intro a; simp
  | cons x xs ih =>
    intro a
    cases a with
    | zero => simp
    | succ a =>
      rw [List.flatMap_cons, List.drop_succ_cons, ← ih a, Nat.succ_mul, List.drop_append, hf x]
      have : (f x).drop (a * ch + ch) = [] := List.drop_eq_nil_of_le (by rw [hf x]; omega)
      rw [this, Nat.add_sub_cancel, List.nil_append]

theorem flatMap_take_uniform {α β : Type} (f : α → List β) (ch : Nat) (hf : ∀ x, (f x).length = ch) :
    ∀ (l : List α) (n : Nat), (l.flatMap f).take (n * ch) = (l.take n).flatMap f := by
  intro l
  induction l with
  | nil => intro n; simp
  | cons x xs ih =>
    intro n
    cases n with
    | zero => simp
    | succ n =>
      rw [List.flatMap_cons, List.take_succ_cons, List.flatMap_cons, ← ih n, Nat.succ_mul, List.take_append, hf x]
      have : (f x).take (n * ch + ch) = f x := List.take_of_length_le (by rw [hf x]; omega)
      rw [this, Nat.add_sub_cancel]

theorem sum_map_eq_mul {α : Type} (l : List α) (g : α → Nat) (c : Nat) (h : ∀ x ∈ l, g x = c) :
    (l.map g).sum = l.length * c := by
  rw [List.map_congr_left h, List.map_const', List.sum_replicate_nat]

theorem length_flatMap_eq_mul {α β : Type} (l : List α) (f : α → List β) (c : Nat) (h : ∀ x ∈ l, (f x).length = c) :
    (l.flatMap f).length = l.length * c := by
  rw [List.length_flatMap, sum_map_eq_mul l _ c h]

theorem sum_map_le {α : Type} (l : List α) (f g : α → Nat) (h : ∀ x ∈ l, f x ≤ g x) :
    (l.map f).sum ≤ (l.map g).sum := by
  induction l with
  | nil => simp
  | cons x l ih =>
    simp only [List.map_cons, List.sum_cons]
    have h1 := h x (by simp)
    have h2 := ih (fun y hy => h y (by simp [hy]))
    omega

theorem sum_map_le_length_mul {α : Type} (l : List α) (g : α → Nat) (c : Nat) (h : ∀ x ∈ l, g x ≤ c) :
    (l.map g).sum ≤ l.length * c := by
  have := sum_map_le l g (fun _ => c) h
  rwa [List.map_const', List.sum_replicate_nat] at this

theorem foldl_add_le_mul (l : List Nat) (k a : Nat) (h : ∀ p ∈ l, p ≤ k) : l.foldl (· + ·) a ≤ a + l.length * k := by
  have := sum_map_le_length_mul l id k h
  rw [List.map_id] at this
  rw [foldl_add_sum]
  omega

theorem getD_zero_le_sum (l : List Nat) : l.getD 0 0 ≤ l.sum := by
  cases l with
  | nil => simp
  | cons x l => simp

theorem mapM_congr_mem {α β : Type} (f g : α → Option β) (l : List α) (h : ∀ a ∈ l, f a = g a) :
    l.mapM f = l.mapM g := by
  induction l with
  | nil => rfl
  | cons a l ih =>
    rw [List.mapM_cons, List.mapM_cons, h a (by simp), ih (fun b hb => h b (by simp [hb]))]

theorem mapM_some_map {α β : Type} (f : α → Option β) (g : α → β) (l : List α)
    (h : ∀ x ∈ l, f x = some (g x)) : l.mapM f = some (l.map g) := by
  induction l with
  | nil => simp
  | cons x l ih =>
    rw [List.mapM_cons, h x (by simp), ih (fun y hy => h y (by simp [hy]))]
    simp

theorem mapM_map_some_map {α β γ : Type} (f : β → Option γ) (h : α → β) (g : α → γ) (l : List α)
    (hf : ∀ x ∈ l, f (h x) = some (g x)) : (l.map h).mapM f = some (l.map g) := by
  rw [List.mapM_map]
  exact mapM_some_map (f ∘ h) g l hf

theorem mapM_map_comm {α β γ : Type} (F : α → Option β) (G : β → γ) :
    ∀ l : List α, l.mapM (fun x => (F x).map G) = (l.mapM F).map (List.map G)
  | [] => rfl
  | x :: xs => by
    simp only [List.mapM_cons, mapM_map_comm F G xs]
    cases F x with
    | none => rfl
    | some y => cases xs.mapM F <;> rfl

theorem mapM_pair {α β γ : Type} (f : α → Option β) (g : α → Option γ) (m : β → γ) (l : List α)
    (h : ∀ x ∈ l, ∃ b, f x = some b ∧ g x = some (m b)) :
    ∃ bs, l.mapM f = some bs ∧ l.mapM g = some (bs.map m) := by
  induction l with
  | nil => exact ⟨[], by simp, by simp⟩
  | cons x l ih =>
    obtain ⟨b, hb1, hb2⟩ := h x (by simp)
    obtain ⟨bs, hbs1, hbs2⟩ := ih (fun y hy => h y (by simp [hy]))
    refine ⟨b :: bs, ?_, ?_⟩
    · rw [List.mapM_cons, hb1, hbs1]; simp
    · rw [List.mapM_cons, hb2, hbs2]; simp

theorem mapM_isSome {α β : Type} (f : α → Option β) (l : List α) (h : ∀ x ∈ l, ∃ y, f x = some y) :
    ∃ ys, l.mapM f = some ys :=
  let ⟨ys, hys, _⟩ := mapM_pair f f id l fun x hx => let ⟨y, hy⟩ := h x hx; ⟨y, hy, hy⟩
  ⟨ys, hys⟩

theorem mapM_cons_some {α β : Type} {f : α → Option β} {x : α} {xs : List α} {ys : List β}
    (h : (x :: xs).mapM f = some ys) : ∃ y ys', f x = some y ∧ xs.mapM f = some ys' ∧ ys = y :: ys' := by
  simp only [List.mapM_cons, Option.pure_def, Option.bind_eq_bind, Option.bind_eq_some_iff, Option.some.injEq] at h
  obtain ⟨y, hy, ys', h2, rfl⟩ := h
  exact ⟨y, ys', hy, h2, rfl⟩

theorem mapM_length {α β : Type} {f : α → Option β} : ∀ {l : List α} {ys : List β}, l.mapM f = some ys →
    ys.length = l.length
  | [], ys, h => by cases h; rfl
  | x :: xs, ys, h => by
    obtain ⟨y, ys', _, h2, rfl⟩ := mapM_cons_some h
    rw [List.length_cons, List.length_cons, mapM_length h2]

/-- The converse of `mapM_isSome`. -/
theorem mapM_some_forall {α β : Type} {f : α → Option β} : ∀ {l : List α} {ys : List β}, l.mapM f = some ys →
    ∀ x ∈ l, ∃ y, f x = some y
  | [], _, _, x, hx => absurd hx List.not_mem_nil
  | x :: xs, ys, h, z, hz => by
    obtain ⟨y, ys', hy, h2, _⟩ := mapM_cons_some h
    rcases List.mem_cons.mp hz with rfl | hz
    · exact ⟨y, hy⟩
    · exact mapM_some_forall h2 z hz

theorem mapM_mem {α β : Type} (F : α → Option β) (l : List α) (ys : List β) (hm : l.mapM F = some ys) :
    ∀ y ∈ ys, ∃ x ∈ l, F x = some y := by
  induction l generalizing ys with
  | nil => cases hm; intro y hy; cases hy
  | cons a as ih =>
    obtain ⟨y0, ys', hy0, hys, rfl⟩ := mapM_cons_some hm
    intro y hy
    rcases List.mem_cons.mp hy with rfl | hy
    · exact ⟨a, List.mem_cons_self, hy0⟩
    · obtain ⟨x, hx, hF⟩ := ih ys' hys y hy
      exact ⟨x, List.mem_cons_of_mem _ hx, hF⟩

theorem mapM_eq_map {α β : Type} (F : α → Option β) (G : α → β) (h : ∀ t v, F t = some v → v = G t) (l : List α)
    (ys : List β) (hm : l.mapM F = some ys) : ys = l.map G := by
  have := mapM_some_map F G l fun x hx => by
    obtain ⟨y, hy⟩ := mapM_some_forall hm x hx
    rw [hy, h x y hy]
  exact Option.some.inj (hm.symm.trans this)

theorem map_image_some {α β γ : Type} (img : α → β) {x : Option (Option α × γ)} {b : β} {l : γ}
    (h : x.map (fun r => (r.1.map img, r.2)) = some (some b, l)) : ∃ a, x = some (some a, l) ∧ img a = b := by
  obtain _ | ⟨_ | a, l'⟩ := x
  · simp at h
  · simp at h
  · simp only [Option.map_some, Option.some.injEq, Prod.mk.injEq] at h
    exact ⟨a, by rw [h.2], h.1⟩

namespace Repo

/-- `n` entries of `l` from index `t` (default 0). -/
def sliceD (l : List Nat) : (n t : Nat) → List Nat
  | 0, _ => []
  | n + 1, t => l.getD t 0 :: sliceD l n (t + 1)

theorem sliceD_eq_map (l : List Nat) (n t : Nat) : sliceD l n t = (List.range' t n).map (fun i => l.getD i 0) := by
  induction n generalizing t with
  | zero => rfl
  | succ n ih => rw [sliceD, ih, List.range'_succ, List.map_cons]

theorem sliceD_all (l : List Nat) (n t : Nat) (h : t + n = l.length) : sliceD l n t = l.drop t := by
  rw [sliceD_eq_map, map_getD_eq_drop l t n 0 h]

theorem sliceD_add (l : List Nat) (a b t : Nat) : sliceD l (a + b) t = sliceD l a t ++ sliceD l b (t + a) := by
  rw [sliceD_eq_map, sliceD_eq_map, sliceD_eq_map, ← List.map_append, List.range'_append_1]

theorem sliceD_length (l : List Nat) (n t : Nat) : (sliceD l n t).length = n := by
  rw [sliceD_eq_map, List.length_map, List.length_range']

theorem sliceD_mem (l : List Nat) (n t x : Nat) (hx : x ∈ sliceD l n t) : ∃ j, j < n ∧ x = l.getD (t + j) 0 := by
  rw [sliceD_eq_map] at hx
  obtain ⟨i, hi, rfl⟩ := List.mem_map.1 hx
  obtain ⟨h1, h2⟩ := List.mem_range'_1.1 hi
  exact ⟨i - t, by omega, by rw [Nat.add_sub_cancel' h1]⟩

end Repo

end FlacVerif
