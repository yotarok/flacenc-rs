/-
What the prelude functions of Gen/Lpc.lean (`arithS`, `addU`, `sliceR`, `loopM`, `zipWithM`, ...) compute inside
their domain: the rewrite steps every theorem about a generated function of parts `lpc` and `floatskel` is made of.
Part `lpc` prints its own copy of the prelude of Gen/Decode.lean (the non-recursive functions are the same terms, equal
by `rfl`), so the arithmetic and slice laws here are those of Lemmas/GenPrelude.lean, stated for this copy because `rw`
matches the constant.

A call that succeeds is removed with `rw [addU_ok .., Option.bind_some]`, not with `simp only [Option.bind_some]`:
`Option.bind_some` is proved by `rfl`, so `simp` applies it as a definitional step and records no proof; the kernel is
then left to check `(some a).bind k ≡ k a` by itself, and where `k a` is again a long chain of `bind`s it compares the
two chains argument by argument (unfolding `arithS`, `2 ^ 15`, ...) before it unfolds the outer `bind`.  `rw` records
the step as an explicit `congrArg`, which the kernel checks at once.
-/
import FlacVerif.Gen.Lpc
import FlacVerif.Lemmas.GenPrelude
import FlacVerif.Lemmas.ScratchVec
namespace FlacVerif.Gen.Lpc

theorem arithS_ok (dbg : Bool) (w : Nat) (v : Int) (h : -(2 ^ (w - 1) : Int) ≤ v ∧ v < (2 ^ (w - 1) : Int)) :
    arithS dbg w v = some v :=
  Decode.arithS_ok dbg w v h

/-- the same for a symbolic width, where the bound is a natural number -/
theorem arithS_of_natAbs (dbg : Bool) (w : Nat) (v : Int) (h : v.natAbs < 2 ^ (w - 1)) : arithS dbg w v = some v := by
  have hc : ((2 ^ (w - 1) : Nat) : Int) = (2 ^ (w - 1) : Int) := Int.natCast_pow 2 (w - 1)
  exact arithS_ok dbg w v (by rw [← hc]; omega)

theorem wrapS_of_inRange (w : Nat) (hw : 0 < w) {v : Int} (h : -(2 ^ (w - 1) : Int) ≤ v ∧ v < (2 ^ (w - 1) : Int)) :
    wrapS w v = v :=
  Decode.wrapS_of_inRange w hw h

theorem castU_of_nonneg {w : Nat} {v : Int} (h0 : 0 ≤ v) (h : v < 2 ^ w) : castU w v = v.toNat :=
  Decode.castU_of_nonneg h0 h

theorem addU_ok (dbg : Bool) (w a b : Nat) (h : a + b < 2 ^ w) : addU dbg w a b = some (a + b) := if_pos h

theorem subU_ok (dbg : Bool) (w a b : Nat) (h : b ≤ a) : subU dbg w a b = some (a - b) := if_pos h

theorem mulU_ok (dbg : Bool) (w a b : Nat) (h : a * b < 2 ^ w) : mulU dbg w a b = some (a * b) := if_pos h

theorem shAmt_ok (dbg : Bool) (w k : Nat) (h : k < w) : shAmt dbg w k = some k := if_pos h

theorem divU_ok (a b : Nat) (h : b ≠ 0) : divU a b = some (a / b) := Decode.divU_ok a b h

/-- an `assert!`, or a `debug_assert!` (`c = (!dbg || ..)`), that holds -/
theorem req_ok (c : Bool) (h : c = true) : req c = some () := if_pos h

theorem sliceR_ok {α : Type} (xs : List α) (a b : Nat) (h : a ≤ b ∧ b ≤ xs.length) :
    sliceR xs a b = some ((xs.take b).drop a) :=
  if_pos h

theorem setAt_ok {α : Type} (xs : List α) (i : Nat) (v : α) (h : i < xs.length) : setAt xs i v = some (xs.set i v) :=
  Decode.setAt_ok xs i v h

theorem sliceFill_ok {α : Type} (xs : List α) (a b : Nat) (v : α) (h : a ≤ b ∧ b ≤ xs.length) :
    sliceFill xs a b v = some (xs.take a ++ List.replicate (b - a) v ++ xs.drop b) :=
  Decode.sliceFill_ok xs a b v h

theorem sliceCopy_ok {α : Type} (xs : List α) (a b : Nat) (src : List α)
    (h : a ≤ b ∧ b ≤ xs.length ∧ src.length = b - a) : sliceCopy xs a b src = some (xs.take a ++ src ++ xs.drop b) :=
  Decode.sliceCopy_ok xs a b src h

theorem vecResize_length {α : Type} (v : List α) (n : Nat) (x : α) : (vecResize v n x).length = n :=
  Scratch.vecResize_length v n x

theorem loopM_eq_loop {α σ : Type} (xs : List α) (s : σ) (f : α → σ → Option σ) : loopM xs s f = Prelude.loop xs s f :=
  Prelude.eq_loop loopM (fun _ _ => rfl) (fun _ _ _ _ => rfl) xs s f

theorem rangeL_zero (n : Nat) : rangeL 0 n = List.range' 0 n := by
  rw [rangeL, Nat.sub_zero]

theorem zipWithM_nil_left {α β γ : Type} (f : α → β → Option γ) (bs : List β) : zipWithM f [] bs = some [] := by
  cases bs <;> rfl

theorem zipWithM_cons {α β γ : Type} (f : α → β → Option γ) (a : α) (as : List α) (b : β) (bs : List β) :
    zipWithM f (a :: as) (b :: bs) = (f a b).bind fun c => (zipWithM f as bs).bind fun cs => some (c :: cs) := rfl

theorem zipWithM_pure {α β γ : Type} (f : α → β → Option γ) (g : α → β → γ) :
    ∀ (as : List α) (bs : List β), (∀ i (h1 : i < as.length) (h2 : i < bs.length), f as[i] bs[i] = some (g as[i] bs[i])) →
      zipWithM f as bs = some (List.zipWith g as bs)
  | [], bs, _ => zipWithM_nil_left f bs
  | _ :: _, [], _ => rfl
  | a :: as, b :: bs, h => by
    have h0 : f a b = some (g a b) := h 0 (Nat.zero_lt_succ _) (Nat.zero_lt_succ _)
    rw [zipWithM_cons, h0, Option.bind_some,
      zipWithM_pure f g as bs (fun i h1 h2 => h (i + 1) (Nat.succ_lt_succ h1) (Nat.succ_lt_succ h2))]
    rfl

end FlacVerif.Gen.Lpc

namespace FlacVerif.C01Gen
open Gen.Lpc

theorem simdAbs_ok (dbg : Bool) (w : Nat) (l : List Int) (h : ∀ c ∈ l, c.natAbs < 2 ^ (w - 1)) :
    simdAbs dbg w l = some (l.map fun c => (c.natAbs : Int)) := by
  unfold simdAbs
  induction l with
  | nil => rfl
  | cons c cs ih =>
    rw [List.mapM_cons, arithS_of_natAbs dbg w (Int.ofNat c.natAbs) (h c (by simp)), ih (fun x hx => h x (by simp [hx]))]
    rfl

theorem zipMutM_pure {α β : Type} (g : α → β) (c : α → Bool) :
    ∀ (as : List α) (bs : List β) (s : Bool), as.length = bs.length →
      zipMutM as bs s (fun v p fits => some (g v, fits && c v)) = some (as.map g, s && as.all c)
  | [], [], s, _ => by simp [zipMutM]
  | a :: as, b :: bs, s, h => by
    rw [zipMutM]
    simp only [Option.bind_some]
    rw [zipMutM_pure g c as bs _ (by simpa using h)]
    simp [Bool.and_assoc]
  | [], _ :: _, _, h => by simp at h
  | _ :: _, [], _, h => by simp at h

end FlacVerif.C01Gen

namespace FlacVerif.C10Gen
open Gen.Lpc

theorem mapGet_insert_self {κ ν : Type} [DecidableEq κ] (m : List (κ × ν)) (k : κ) (v : ν) :
    mapGet (mapInsert m k v) k = some v := by
  simp [mapGet, mapInsert]

end FlacVerif.C10Gen
