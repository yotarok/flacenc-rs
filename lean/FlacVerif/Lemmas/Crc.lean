/-
The bitwise CRC register of `Model/Codes.lean` as a GF(2)-linear map, for any parameters with an odd generator
polynomial and initial register 0 (`Good`): linearity in register and input, the zero-feed map `zfeed` (shifting in
zeros) with its injectivity, a register fed its own bits is shifted out (`crcFold_own`), hence the closed form
`crcFold 0 b = zfeed width (bitsToNat b)` for `|b| ≤ width`, and from these the general theorems of which every
`C16_*` CRC statement is an instance: burst detection, acceptance of a message followed by its own check value,
rejection of a burst anywhere in body and check field.
-/
import FlacVerif.Model.Codes
import FlacVerif.Lemmas.Bits
namespace FlacVerif

/-- Bitwise xor of two bit strings (truncating to the shorter one). -/
def xorBits (a b : Bits) : Bits := List.zipWith (· != ·) a b

namespace Crc

def crcFold (p : CrcParams) (r : Nat) (bs : Bits) : Nat := bs.foldl (crcStepBit p) r

def zfeed (p : CrcParams) (n : Nat) (r : Nat) : Nat := crcFold p r (List.replicate n false)

theorem crcBits_eq_fold (p : CrcParams) (bs : Bits) : crcBits p bs = crcFold p p.init bs := rfl

@[simp] theorem crcFold_nil (p : CrcParams) (r : Nat) : crcFold p r [] = r := rfl
@[simp] theorem crcFold_cons (p : CrcParams) (r : Nat) (b : Bool) (bs : Bits) :
    crcFold p r (b :: bs) = crcFold p (crcStepBit p r b) bs := rfl
theorem crcFold_append (p : CrcParams) (r : Nat) (a b : Bits) :
    crcFold p r (a ++ b) = crcFold p (crcFold p r a) b := by
  simp [crcFold, List.foldl_append]

@[simp] theorem xorBits_length (a b : Bits) : (xorBits a b).length = min a.length b.length := by
  simp [xorBits]

theorem xorBits_append (a1 a2 b1 b2 : Bits) (h : a1.length = b1.length) :
    xorBits (a1 ++ a2) (b1 ++ b2) = xorBits a1 b1 ++ xorBits a2 b2 :=
  List.zipWith_append h

theorem xorBits_take (n : Nat) (a b : Bits) : (xorBits a b).take n = xorBits (a.take n) (b.take n) :=
  List.take_zipWith

theorem xorBits_drop (n : Nat) (a b : Bits) : (xorBits a b).drop n = xorBits (a.drop n) (b.drop n) :=
  List.drop_zipWith

theorem xorBits_replicate_false_left (b : Bits) :
    xorBits (List.replicate b.length false) b = b := by
  induction b with
  | nil => rfl
  | cons x xs ih => simpa [xorBits, List.replicate_succ] using ih

theorem step_eq (p : CrcParams) (r : Nat) (b : Bool) :
    crcStepBit p r b =
      (r * 2 % 2 ^ p.width) ^^^ (if (r.testBit (p.width - 1) != b) then p.poly else 0) := by
  by_cases h : (r.testBit (p.width - 1) != b) = true <;> simp [crcStepBit, h]

theorem shift_xor (w r1 r2 : Nat) :
    (r1 ^^^ r2) * 2 % 2 ^ w = (r1 * 2 % 2 ^ w) ^^^ (r2 * 2 % 2 ^ w) := by
  rw [← Nat.xor_mod_two_pow]
  congr 1
  have := @Nat.shiftLeft_xor_distrib 1 r1 r2
  simpa [Nat.shiftLeft_eq] using this

theorem sel_xor (a b : Bool) (p : Nat) :
    (if (a != b) = true then p else 0) = (if a = true then p else 0) ^^^ (if b = true then p else 0) := by
  cases a <;> cases b <;> simp

theorem step_linear (p : CrcParams) (r1 r2 : Nat) (b1 b2 : Bool) :
    crcStepBit p (r1 ^^^ r2) (b1 != b2) = crcStepBit p r1 b1 ^^^ crcStepBit p r2 b2 := by
  rw [step_eq, step_eq, step_eq, shift_xor, Nat.testBit_xor]
  -- the feedback bit of the sum is the sum of the feedback bits
  have hb : ((r1.testBit (p.width - 1) ^^ r2.testBit (p.width - 1)) != (b1 != b2)) =
      ((r1.testBit (p.width - 1) != b1) != (r2.testBit (p.width - 1) != b2)) := by
    cases r1.testBit (p.width - 1) <;> cases r2.testBit (p.width - 1) <;> cases b1 <;> cases b2 <;> rfl
  rw [hb, sel_xor]
  ac_rfl

theorem step_lt (p : CrcParams) (hp : p.poly < 2 ^ p.width) (r : Nat) (b : Bool) :
    crcStepBit p r b < 2 ^ p.width := by
  rw [step_eq]
  apply Nat.xor_lt_two_pow (Nat.mod_lt _ (Nat.two_pow_pos _))
  split
  · exact hp
  · exact Nat.two_pow_pos _

theorem step_zero_false (p : CrcParams) : crcStepBit p 0 false = 0 := by
  simp [crcStepBit]

/-- The parameters the theorems below are about: an odd polynomial (a non-zero constant term: a zero step reflects
zero, `step_false_eq_zero`) and initial register 0 (the CRC is then linear, not merely affine). -/
structure Good (p : CrcParams) : Prop where
  width_pos : 0 < p.width
  poly_lt : p.poly < 2 ^ p.width
  poly_odd : p.poly % 2 = 1
  init_zero : p.init = 0

theorem Good.init_lt {p : CrcParams} (g : Good p) : p.init < 2 ^ p.width :=
  g.init_zero ▸ Nat.two_pow_pos _

/-- A zero-bit step reflects zero (the generator polynomial has a non-zero constant term). -/
theorem step_false_eq_zero (p : CrcParams) (hw : 0 < p.width) (hodd : p.poly % 2 = 1)
    (r : Nat) (h : crcStepBit p r false = 0) (hr : r < 2 ^ p.width) : r = 0 := by
  rw [step_eq] at h
  cases ht : r.testBit (p.width - 1) with
  | true =>
    exfalso
    rw [ht] at h
    have h0 := congrArg (fun n => n.testBit 0) h
    simp only [Nat.testBit_xor, Nat.testBit_mod_two_pow, hw, decide_true, Bool.true_and,
      Nat.zero_testBit] at h0
    have h1 : (r * 2).testBit 0 = false := by
      rw [Nat.testBit_zero]; simp
    have h2 : p.poly.testBit 0 = true := Nat.mod_two_eq_one_iff_testBit_zero.mp hodd
    simp [h1, h2] at h0
  | false =>
    rw [ht] at h
    simp only [Bool.bne_false, Bool.false_eq_true, if_false, Nat.xor_zero] at h
    have hlt : r < 2 ^ (p.width - 1) := by
      apply Nat.lt_pow_two_of_testBit
      intro j hj
      by_cases hj' : j = p.width - 1
      · rw [hj']; exact ht
      · have : j ≥ p.width := by omega
        exact Nat.testBit_lt_two_pow
          (Nat.lt_of_lt_of_le hr (Nat.pow_le_pow_right (by omega) this))
    have hpow : 2 ^ p.width = 2 ^ (p.width - 1) * 2 := by
      rw [← Nat.pow_succ]; congr 1; omega
    rw [Nat.mod_eq_of_lt (by omega)] at h
    omega

theorem crcFold_lt (p : CrcParams) (hp : p.poly < 2 ^ p.width) (r : Nat) (hr : r < 2 ^ p.width)
    (bs : Bits) : crcFold p r bs < 2 ^ p.width := by
  induction bs generalizing r with
  | nil => exact hr
  | cons b bs ih => exact ih _ (step_lt p hp r b)

theorem crcFold_linear (p : CrcParams) (r1 r2 : Nat) (a b : Bits) (h : a.length = b.length) :
    crcFold p (r1 ^^^ r2) (xorBits a b) = crcFold p r1 a ^^^ crcFold p r2 b := by
  induction a generalizing b r1 r2 with
  | nil =>
    cases b with
    | nil => rfl
    | cons _ _ => simp at h
  | cons x xs ih =>
    cases b with
    | nil => simp at h
    | cons y ys =>
      simp only [List.length_cons, Nat.add_right_cancel_iff] at h
      show crcFold p (crcStepBit p (r1 ^^^ r2) (x != y)) (xorBits xs ys) = _
      rw [step_linear, ih _ _ _ h]
      rfl

theorem zfeed_zero (p : CrcParams) (r : Nat) : zfeed p 0 r = r := rfl

theorem zfeed_succ (p : CrcParams) (n r : Nat) :
    zfeed p (n + 1) r = zfeed p n (crcStepBit p r false) := rfl


theorem zfeed_of_zero (p : CrcParams) (n : Nat) : zfeed p n 0 = 0 := by
  induction n with
  | zero => rfl
  | succ n ih => rw [zfeed_succ, step_zero_false, ih]

theorem zfeed_eq_zero (p : CrcParams) (g : Good p) (n r : Nat) (hr : r < 2 ^ p.width) (h : zfeed p n r = 0) :
    r = 0 := by
  induction n generalizing r with
  | zero => exact h
  | succ n ih =>
    rw [zfeed_succ] at h
    exact step_false_eq_zero p g.width_pos g.poly_odd r (ih _ (step_lt p g.poly_lt r false) h) hr


theorem crcFold_own_aux (p : CrcParams) (k s : Nat) (hk : k ≤ p.width) (hs : s < 2 ^ k) :
    crcFold p (s * 2 ^ (p.width - k)) (natToBits k s) = 0 := by
  induction k generalizing s with
  | zero =>
    have : s = 0 := by simpa using hs
    simp [this, natToBits]
  | succ k ih =>
    have ht : (s * 2 ^ (p.width - (k + 1))).testBit (p.width - 1) = s.testBit k := by
      rw [Nat.testBit_mul_two_pow]
      have : p.width - 1 - (p.width - (k + 1)) = k := by omega
      simp [this]; omega
    have hsh : s * 2 ^ (p.width - (k + 1)) * 2 % 2 ^ p.width = s % 2 ^ k * 2 ^ (p.width - k) := by
      obtain ⟨d, hd⟩ := Nat.exists_eq_add_of_le hk
      rw [hd, Nat.add_sub_cancel_left, show k + 1 + d - k = d + 1 by omega, show k + 1 + d = k + (d + 1) by omega,
        Nat.pow_add, Nat.mul_assoc, ← Nat.pow_succ, Nat.mul_mod_mul_right]
    rw [natToBits, crcFold_cons, step_eq, ht, bne_self_eq_false, if_neg Bool.false_ne_true, Nat.xor_zero, hsh,
      ← natToBits_mod k k s (Nat.le_refl k)]
    exact ih _ (by omega) (Nat.mod_lt _ (Nat.two_pow_pos k))

/-- A register fed its own `width` bits is shifted out: no hypothesis on polynomial or initial value. -/
theorem crcFold_own (p : CrcParams) (r : Nat) (hr : r < 2 ^ p.width) :
    crcFold p r (natToBits p.width r) = 0 := by
  simpa using crcFold_own_aux p p.width r (Nat.le_refl _) hr

theorem crcFold_zero_natToBits (p : CrcParams) (s : Nat) (hs : s < 2 ^ p.width) :
    crcFold p 0 (natToBits p.width s) = zfeed p p.width s := by
  -- register `0 = s ^^^ s`, input = zeros xor the bits of `s`: by linearity the run is `zfeed s` xor
  -- (`s` fed its own bits), and `crcFold_own` makes the second summand 0
  have h := crcFold_linear p s s (List.replicate p.width false) (natToBits p.width s) (by simp)
  have hx := xorBits_replicate_false_left (natToBits p.width s)
  rw [natToBits_length] at hx
  rw [hx, Nat.xor_self, crcFold_own p s hs, Nat.xor_zero] at h
  exact h

theorem crcFold_zero_short (p : CrcParams) (bs : Bits) (hl : bs.length ≤ p.width) :
    crcFold p 0 bs = zfeed p p.width (bitsToNat bs) := by
  have hlt : bitsToNat bs < 2 ^ p.width :=
    Nat.lt_of_lt_of_le (bitsToNat_lt bs) (Nat.pow_le_pow_right (by omega) hl)
  -- `bs` with leading zeros up to `width` bits; the zeros leave register 0 alone
  have e : natToBits p.width (bitsToNat bs) = List.replicate (p.width - bs.length) false ++ bs := by
    have := natToBits_split (p.width - bs.length) bs.length (bitsToNat bs)
    rwa [Nat.sub_add_cancel hl, Nat.div_eq_of_lt (bitsToNat_lt bs), natToBits_zero, natToBits_bitsToNat] at this
  rw [← crcFold_zero_natToBits p _ hlt, e, crcFold_append]
  exact congrArg (crcFold p · bs) (zfeed_of_zero p _).symm

theorem bitsToNat_ne_zero (bs : Bits) (h : bs.any id = true) : bitsToNat bs ≠ 0 := by
  induction bs with
  | nil => simp at h
  | cons b bs ih =>
    rw [bitsToNat_cons]
    cases b
    · have h' : bs.any id = true := by simpa using h
      have := ih h'
      simpa using this
    · have := Nat.two_pow_pos bs.length
      simp only [Bool.toNat_true, Nat.one_mul]; omega

theorem good_crc8 : Good rfcCrc8 := ⟨by decide, by decide, by decide, rfl⟩
theorem good_crc16 : Good rfcCrc16 := ⟨by decide, by decide, by decide, rfl⟩

theorem crcBits_lt (p : CrcParams) (hp : p.poly < 2 ^ p.width) (hi : p.init < 2 ^ p.width)
    (bs : Bits) : crcBits p bs < 2 ^ p.width := crcFold_lt p hp _ hi bs

theorem crc8_lt (bs : Bits) : crcBits rfcCrc8 bs < 2 ^ 8 := crcBits_lt rfcCrc8 (by decide) (by decide) bs
theorem crc16_lt (bs : Bits) : crcBits rfcCrc16 bs < 2 ^ 16 := crcBits_lt rfcCrc16 (by decide) (by decide) bs

theorem crcBits_linear (p : CrcParams) (hi : p.init = 0) (a b : Bits) (h : a.length = b.length) :
    crcBits p (xorBits a b) = crcBits p a ^^^ crcBits p b := by
  rw [crcBits_eq_fold, crcBits_eq_fold, crcBits_eq_fold, hi, ← crcFold_linear p 0 0 a b h]
  rfl

/-- A non-zero burst of at most `width` bits, anywhere, has a non-zero CRC. -/
theorem crcBits_burst_ne_zero (p : CrcParams) (g : Good p) (i t : Nat) (b : Bits)
    (hb : b.length ≤ p.width) (hnz : b.any id = true) :
    crcBits p (List.replicate i false ++ b ++ List.replicate t false) ≠ 0 := by
  rw [crcBits_eq_fold, g.init_zero, crcFold_append, crcFold_append]
  have h0 : crcFold p 0 (List.replicate i false) = 0 := zfeed_of_zero p i
  rw [h0, crcFold_zero_short p b hb]
  intro h
  have hlt : bitsToNat b < 2 ^ p.width :=
    Nat.lt_of_lt_of_le (bitsToNat_lt b) (Nat.pow_le_pow_right (by omega) hb)
  have h1 := zfeed_eq_zero p g t _ (crcFold_lt p g.poly_lt _ hlt _) h
  have h2 := zfeed_eq_zero p g _ _ hlt h1
  exact bitsToNat_ne_zero b hnz h2

theorem crcBits_burst (p : CrcParams) (g : Good p) (m : Bits) (i : Nat) (b : Bits)
    (hb : b.length ≤ p.width) (hnz : b.any id = true) (t : Nat)
    (hlen : m.length = i + b.length + t) :
    crcBits p (xorBits m (List.replicate i false ++ b ++ List.replicate t false)) ≠ crcBits p m := by
  rw [crcBits_linear p g.init_zero _ _ (by simp; omega)]
  intro h
  apply crcBits_burst_ne_zero p g i t b hb hnz
  have := congrArg (crcBits p m ^^^ ·) h
  simpa [← Nat.xor_assoc] using this


theorem crcBits_accepts_own (p : CrcParams) (hp : p.poly < 2 ^ p.width) (hi : p.init < 2 ^ p.width) (m : Bits) :
    crcBits p (m ++ natToBits p.width (crcBits p m)) = 0 := by
  rw [crcBits_eq_fold, crcFold_append, ← crcBits_eq_fold]
  exact crcFold_own p _ (crcBits_lt p hp hi m)

/-- The check in the shape a parser performs it: if the stored `width`-bit value equals the CRC of
the preceding bits, the CRC over everything is zero. -/
theorem crcBits_zero_of_stored_eq (p : CrcParams) (hp : p.poly < 2 ^ p.width) (hi : p.init < 2 ^ p.width) (m c : Bits)
    (hc : c.length = p.width) (h : crcBits p m = bitsToNat c) : crcBits p (m ++ c) = 0 := by
  have : c = natToBits p.width (crcBits p m) := by
    rw [h, ← hc, natToBits_bitsToNat]
  rw [this]
  exact crcBits_accepts_own p hp hi m

/-- The uncorrupted message passes that check. -/
theorem clean_accepted (p : CrcParams) (hp : p.poly < 2 ^ p.width) (hi : p.init < 2 ^ p.width) (m : Bits) :
    crcBits p ((m ++ natToBits p.width (crcBits p m)).take m.length) =
      bitsToNat ((m ++ natToBits p.width (crcBits p m)).drop m.length) := by
  rw [List.take_left' rfl, List.drop_left' rfl, bitsToNat_natToBits, Nat.mod_eq_of_lt (crcBits_lt p hp hi m)]

/-- Any non-zero error burst of at most `width` bits anywhere in `body ++ check` makes the
parser-side comparison fail. -/
theorem frame_burst_rejected (p : CrcParams) (g : Good p) (body e : Bits)
    (he : e.length = body.length + p.width)
    (hburst : ∃ i b t, e = List.replicate i false ++ b ++ List.replicate t false ∧
      b.length ≤ p.width ∧ b.any id = true) :
    crcBits p ((xorBits (body ++ natToBits p.width (crcBits p body)) e).take body.length) ≠
      bitsToNat ((xorBits (body ++ natToBits p.width (crcBits p body)) e).drop body.length) := by
  obtain ⟨i, b, t, hE, hb, hnz⟩ := hburst
  intro hEq
  have hlenF : (body ++ natToBits p.width (crcBits p body)).length = e.length := by simp [he]
  have hdl : ((xorBits (body ++ natToBits p.width (crcBits p body)) e).drop body.length).length
      = p.width := by
    simp [he]
  have hz := crcBits_zero_of_stored_eq p g.poly_lt g.init_lt _ _ hdl hEq
  rw [List.take_append_drop, crcBits_linear p g.init_zero _ _ hlenF, crcBits_accepts_own p g.poly_lt g.init_lt,
    Nat.zero_xor, hE] at hz
  exact crcBits_burst_ne_zero p g i t b hb hnz hz

end Crc
end FlacVerif
