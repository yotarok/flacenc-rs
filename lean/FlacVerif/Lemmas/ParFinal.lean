/-
Final states of the protocol: everything joined, nothing in flight, and the return value equals
the return value of the single-thread loop.
-/
import FlacVerif.Lemmas.ParInvNum
import FlacVerif.Lemmas.ParInvMd5
namespace FlacVerif.Par

/-- frames the single-thread loop produces when nothing fails -/
def expFrames : Nat → List Block → List OutFrame
  | _, [] => []
  | k, b :: bs => ⟨k, b.bytes⟩ :: expFrames (k + 1) bs

theorem expFrames_length (k : Nat) (bs : List Block) : (expFrames k bs).length = bs.length := by
  induction bs generalizing k with
  | nil => rfl
  | cons b bs ih => simp [expFrames, ih]

theorem expFrames_getElem? (k : Nat) (bs : List Block) (i : Nat) :
    (expFrames k bs)[i]? = bs[i]?.map (fun b => ⟨k + i, b.bytes⟩) := by
  induction bs generalizing k i with
  | nil => simp [expFrames]
  | cons b bs ih =>
    cases i with
    | zero => simp [expFrames]
    | succ i => simp only [expFrames, List.getElem?_cons_succ, ih]; congr; funext b; congr 1; omega

theorem expFrames_nums (k : Nat) (bs : List Block) :
    (expFrames k bs).map (·.num) = List.range' k bs.length := by
  induction bs generalizing k with
  | nil => rfl
  | cons b bs ih => simp [expFrames, ih, List.range'_succ]

theorem seqLoop_fail {fail : Option Nat} {k : Nat} (h : fail = some k) (bs : List Block) :
    seqLoop fail k bs = .error .source := by
  cases bs <;> simp [seqLoop, h]

theorem seqLoop_append (fail : Option Nat) (k0 : Nat) (pre post : List Block)
    (hnf : ∀ j, j < pre.length → fail ≠ some (k0 + j)) :
    seqLoop fail k0 (pre ++ post) =
      if ∀ b ∈ pre, b.valid = true then (seqLoop fail (k0 + pre.length) post).map (expFrames k0 pre ++ ·)
      else .error .config := by
  induction pre generalizing k0 with
  | nil => cases h : seqLoop fail k0 post <;> simp [h, expFrames, Except.map]
  | cons b pre ih =>
    have h0 : fail ≠ some k0 := hnf 0 (Nat.succ_pos _)
    have ih' := ih (k0 + 1) fun j hj => by
      rw [Nat.add_assoc, Nat.add_comm 1 j]; exact hnf (j + 1) (Nat.succ_lt_succ hj)
    rw [List.cons_append, seqLoop, if_neg h0, ih', List.length_cons, Nat.add_assoc, Nat.add_comm 1]
    cases hv : b.valid with
    | false => simp [enc, hv]
    | true =>
      have hc : (∀ c ∈ b :: pre, c.valid = true) ↔ ∀ c ∈ pre, c.valid = true := by simp [hv]
      by_cases hall : ∀ c ∈ pre, c.valid = true
      · rw [if_pos hall, if_pos (hc.2 hall)]
        cases seqLoop fail (k0 + (pre.length + 1)) post <;> simp [enc, hv, expFrames, Except.map]
      · rw [if_neg hall, if_neg (mt hc.1 hall)]; simp [enc, hv]

theorem seqFrames_ok {p : Params} (hnf : p.readFailAt = none) (hv : ∀ b ∈ p.blocks, b.valid) :
    seqFrames p = .ok (expFrames 0 p.blocks) := by
  have := seqLoop_append p.readFailAt 0 p.blocks [] (by intro j _; rw [hnf]; simp)
  rw [List.append_nil, if_pos hv] at this
  simpa [seqFrames, seqLoop, hnf, Except.map] using this

theorem seqResult_ok {p : Params} (hnf : p.readFailAt = none) (hv : ∀ b ∈ p.blocks, b.valid) :
    seqResult p = .ok (List.range p.blocks.length) := by
  simp [seqResult, seqFrames_ok hnf hv, expFrames_nums, List.range_eq_range']

structure FinalFacts (p : Params) (s : State) : Prop where
  workersExited : ∀ pc ∈ s.workers, pc = .exited
  nworkers : s.workers.length = p.W
  hasherExited : s.hasher = .exited
  queueDrained : ∀ x ∈ s.encodeQ, x = none
  feedEnd : FeedEnd p s

/-- The read at which the feed loop ends: the failing read if it lies within the input, else the end-of-input read. -/
def feedStop (p : Params) : Nat :=
  match p.readFailAt with
  | some j => min j p.blocks.length
  | none => p.blocks.length

/-- where reading stopped is determined by the parameters -/
theorem FinalFacts.k_eq {p : Params} {s : State} (hC : InvC p s) (hF : FinalFacts p s) : s.k = feedStop p := by
  have hle := hC.kle
  unfold feedStop
  cases hr : s.readErr with
  | true => rw [hF.feedEnd.1 hr]; exact (Nat.min_eq_left hle).symm
  | false =>
    obtain ⟨hk, hnf⟩ := hF.feedEnd.2 hr
    cases hf : p.readFailAt with
    | none => exact hk
    | some j =>
      -- no read up to `k = N` fails
      have h1 : ¬ j < s.k := fun hj => hC.nofail j hj hf
      have h2 : j ≠ s.k := fun h => hnf (h ▸ hf)
      show s.k = min j p.blocks.length
      omega

theorem feedStop_none {p : Params} (hnf : p.readFailAt = none) : feedStop p = p.blocks.length := by
  rw [feedStop, hnf]

theorem final_facts {p : Params} {s : State} (hW : 0 < p.W) (hC : InvC p s) (hf : s.final) :
    FinalFacts p s := by
  have hmo := hC.mainOk
  have hf' : s.main = .done := hf
  simp only [MainOk, hf'] at hmo
  obtain ⟨h1, h2, h3⟩ := hmo
  have hall : ∀ pc ∈ s.workers, pc = .exited := by
    have : s.workers.count .exited = s.workers.length := by
      rw [hC.wlen]; exact h3
    intro pc hpc
    exact (List.count_eq_length.1 this pc hpc).symm
  exact ⟨hall, hC.wlen, h2, hC.drained (by rw [h3]; exact hW), h1⟩

theorem no_inflight {p : Params} {s : State} (hF : FinalFacts p s) (n : Nat) : ¬ InFlight s n := by
  rintro (⟨id, hid, _⟩ | ⟨pc, hpc, hc⟩)
  · have := hF.queueDrained _ hid; cases this
  · rw [hF.workersExited pc hpc] at hc; exact hc

/-- in a final state every frame number handed out has its result: in the sink if the block is valid, else in the error map -/
theorem InvNum.settled {p : Params} {s : State} (hN : InvNum p s) (hF : FinalFacts p s) {j : Nat} {b : Block}
    (hj : j < s.k) (hb : p.blocks[j]? = some b) :
    (j ∈ s.sink.map (·.1) ∧ b.valid = true) ∨ (j ∈ s.errors.map (·.1) ∧ b.valid = false) := by
  rcases hN.cover j hj with h | h | h
  · exact absurd h (no_inflight hF j)
  · obtain ⟨f, hf⟩ := mem_keys h
    obtain ⟨_, b', hb', hf'⟩ := hN.sink j f hf
    cases hb.symm.trans hb'
    exact Or.inl ⟨h, (enc_some hf').1⟩
  · obtain ⟨u, hu⟩ := mem_keys h
    obtain ⟨_, b', hb', hf'⟩ := hN.errs j u hu
    cases hb.symm.trans hb'
    exact Or.inr ⟨h, enc_none hf'⟩

/-- the error map holds invalid blocks only -/
theorem InvNum.errors_nil {p : Params} {s : State} (hN : InvNum p s)
    (hall : ∀ j b, j < s.k → p.blocks[j]? = some b → b.valid = true) : s.errors = [] := by
  cases he : s.errors with
  | nil => rfl
  | cons x l =>
    obtain ⟨n, u⟩ := x
    obtain ⟨hn, b, hb, hnone⟩ := hN.errs n u (by simp [he])
    have := hall n b hn hb
    rw [enc_none hnone] at this; cases this

theorem final_frames {p : Params} {s : State} (hN : InvNum p s) (hF : FinalFacts p s)
    (hk : s.k = p.blocks.length) (he : s.errors = []) : s.frames = expFrames 0 p.blocks := by
  have hcov : ∀ n, n < p.blocks.length → n ∈ s.sink.map (·.1) := by
    intro n hn
    rcases hN.settled hF (hk ▸ hn) (List.getElem?_eq_getElem hn) with h | h
    · exact h.1
    · simp [he] at h
  have hkeys : s.sink.map (·.1) = List.range p.blocks.length := by
    apply eq_range_of_sorted _ _ hN.sorted
    intro n
    constructor
    · intro hn
      obtain ⟨f, hf⟩ := mem_keys hn
      have := (hN.sink n f hf).1; omega
    · exact hcov n
  have hlen : s.sink.length = p.blocks.length := by
    have := congrArg List.length hkeys; simpa using this
  apply List.ext_getElem?
  intro i
  rw [expFrames_getElem?]
  by_cases hi : i < p.blocks.length
  · have hi' : i < s.sink.length := by omega
    have hki : (s.sink.map (·.1))[i]? = some i := by
      rw [hkeys]; simp [hi]
    simp only [List.getElem?_map, List.getElem?_eq_getElem hi', Option.map_some,
      Option.some.injEq] at hki
    have hmem : s.sink[i] ∈ s.sink := List.getElem_mem hi'
    obtain ⟨_, b, hb, hf⟩ := hN.sink s.sink[i].1 s.sink[i].2 hmem
    rw [hki] at hb hf
    simp only [State.frames, List.getElem?_map, List.getElem?_eq_getElem hi', Option.map_some, hb]
    rw [(enc_some hf).2]; simp
  · have h1 : s.sink.length ≤ i := by omega
    have h2 : p.blocks.length ≤ i := by omega
    simp [State.frames, List.getElem?_eq_none h1, List.getElem?_eq_none h2]

/-- A final state returns what the single-thread loop returns. The loop is cut at `s.k` (`seqLoop_append`: the reads before
`k` succeeded). An invalid block below `k` is not in flight (final state) and not in the sink (which holds encoded frames
only), so it is in `errors`: both sides are `Err(Config)`. Otherwise `errors = []`, read `k` failed or was the end of
input, and the result is `Err(Source)` or the frames of `final_frames`, as the loop's. -/
theorem final_result {p : Params} {s : State} (hC : InvC p s) (hN : InvNum p s)
    (hF : FinalFacts p s) : s.result = seqResult p := by
  have hsp := seqLoop_append p.readFailAt 0 (p.blocks.take s.k) (p.blocks.drop s.k) (by
    intro j hj; rw [Nat.zero_add]; exact hC.nofail j (Nat.lt_of_lt_of_le hj (List.length_take_le _ _)))
  rw [List.take_append_drop, Nat.zero_add, List.length_take, Nat.min_eq_left hC.kle] at hsp
  have hget : ∀ j, j < s.k → (p.blocks.take s.k)[j]? = p.blocks[j]? := fun j hj => by
    rw [List.getElem?_take, if_pos hj]
  by_cases hall : ∀ b ∈ p.blocks.take s.k, b.valid = true
  · rw [if_pos hall] at hsp
    have herr := hN.errors_nil fun j b hj hb => hall b (List.mem_of_getElem? ((hget j hj).trans hb))
    cases hr : s.readErr with
    | true =>
      rw [seqLoop_fail (hF.feedEnd.1 hr)] at hsp
      simp [State.result, herr, hr, seqResult, seqFrames, hsp, Except.map]
    | false =>
      obtain ⟨hk, hnf⟩ := hF.feedEnd.2 hr
      have hfr := final_frames hN hF hk herr
      rw [hk] at hnf hsp
      simp [State.result, herr, hr, seqResult, seqFrames, hsp, seqLoop, hnf, Except.map, hfr]
  · rw [if_neg hall] at hsp
    obtain ⟨b, hb, hbv⟩ : ∃ b ∈ p.blocks.take s.k, b.valid = false := by simpa using hall
    obtain ⟨j, hjb⟩ := List.mem_iff_getElem?.1 hb
    have hj : j < s.k := Nat.lt_of_lt_of_le (getElem?_some_lt hjb) (List.length_take_le _ _)
    rw [hget j hj] at hjb
    have herr : s.errors ≠ [] := by
      rcases hN.settled hF hj hjb with h | h
      · rw [hbv] at h; cases h.2
      · intro he; simp [he] at h
    simp only [State.result, herr, ne_eq, not_false_eq_true, if_true, seqResult, seqFrames, hsp]

/-- The error reported by a final state (`first_encode_error`: smallest key of `parerrors`) belongs
to the first invalid block, and every read up to and including that block succeeded — the point
where the single-thread loop returns its `Config` error. -/
theorem final_first_error {p : Params} {s : State} (hC : InvC p s) (hN : InvNum p s)
    (hF : FinalFacts p s) {n : Nat} {u : Unit} {rest : List (Nat × Unit)}
    (he : s.errors = (n, u) :: rest) :
    (∃ b, p.blocks[n]? = some b ∧ b.valid = false) ∧
    (∀ j b, j < n → p.blocks[j]? = some b → b.valid = true) ∧
    (∀ j, j ≤ n → p.readFailAt ≠ some j) := by
  obtain ⟨hn, b, hb, hnone⟩ := hN.errs n u (by simp [he])
  refine ⟨⟨b, hb, enc_none hnone⟩, ?_, fun j hj => hC.nofail j (by omega)⟩
  intro j c hj hc
  rcases hN.settled hF (by omega) hc with h | ⟨h, _⟩
  · exact h.2
  · have hs := hN.esorted
    rw [he] at hs h
    simp only [List.map_cons, List.pairwise_cons, List.mem_cons] at hs h
    rcases h with h | h
    · omega
    · have := hs.1 j h; omega

theorem prefixBytes_all (p : Params) : prefixBytes p p.blocks.length = seqHashed p := by
  simp [prefixBytes, seqHashed]

theorem final_hashed {p : Params} {s : State} (hM : InvMd5 p s) (hF : FinalFacts p s)
    (hf : s.final) : s.hashed = prefixBytes p s.k := by
  have hf' : s.main = .done := hf
  simpa [hf', md5Sent] using (hM.exited hF.hasherExited).2

end FlacVerif.Par
