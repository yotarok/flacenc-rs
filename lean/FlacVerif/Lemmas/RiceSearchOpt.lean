/-
The result of the search compared with the specification-side cost `choiceCost`.
-/
import FlacVerif.Lemmas.RiceSearchLoop
import FlacVerif.Lemmas.Predict
namespace FlacVerif
namespace RiceSearch

theorem mapM_encodeSignbit (signal : List Int)
    (hsig : ∀ v ∈ signal, -(2 ^ 31 : Int) < v ∧ v < (2 ^ 31 : Int)) :
    signal.mapM encodeSignbit = some (signal.map fold) :=
  mapM_some_map encodeSignbit fold signal fun v hv => encodeSignbit_eq_fold v (hsig v hv).1 (hsig v hv).2

theorem search_eq (signal : List Int) (warm maxP : Nat)
    (hsig : ∀ v ∈ signal, -(2 ^ 31 : Int) < v ∧ v < (2 ^ 31 : Int)) :
    search signal warm maxP = searchFolded (signal.map fold) warm maxP := by
  unfold search
  rw [mapM_encodeSignbit signal hsig]
  rfl

/-- A search that returns was given a block that holds the warm-up and one partition of the minimal size (else
`finest_partition_order` panics). -/
theorem search_some_le (es : List Int) (warm maxP : Nat) (prc : PrcParameter) (h : search es warm maxP = some prc) :
    max 64 warm ≤ es.length := by
  unfold search at h
  simp only [Option.bind_eq_bind, Option.bind_eq_some_iff] at h
  obtain ⟨fs, hfs, h⟩ := h
  rw [← mapM_length hfs]
  exact searchFolded_le fs warm maxP prc h

theorem four_mul_length_le_sum (l : List Nat) (g : Nat → Nat) (hg : ∀ x ∈ l, 4 ≤ g x) :
    4 * l.length ≤ (l.map g).sum := by
  have := sum_map_le l (fun _ => 4) g hg
  rwa [List.map_const', List.sum_replicate_nat, Nat.mul_comm] at this

theorem term_bound (l : List Nat) (g : Nat → Nat) (hg : ∀ x ∈ l, 4 ≤ g x) (x : Nat) (hx : x ∈ l) :
    g x + 4 * (l.length - 1) ≤ (l.map g).sum := by
  obtain ⟨l1, l2, rfl⟩ := List.append_of_mem hx
  simp only [List.map_append, List.map_cons, List.sum_append, List.sum_cons, List.length_append,
    List.length_cons]
  have h1 := four_mul_length_le_sum l1 g (fun y hy => hg y (by simp [hy]))
  have h2 := four_mul_length_le_sum l2 g (fun y hy => hg y (by simp [hy]))
  omega

/-- Every term is at least 4, so one term is at most the sum minus `4 (n - 1)`: below the saturation value under either
hypothesis, hence unsaturated (`term_bound`). -/
theorem sum_sat_eq (l : List Nat) (c : Nat → Nat) (hc : ∀ x ∈ l, 4 ≤ c x)
    (h : (l.map fun x => sat (c x)).sum < 2 ^ 28 - 1 ∨
      ((l.map fun x => sat (c x)).sum ≤ 2 ^ 28 - 1 ∧ 2 ≤ l.length)) :
    (l.map fun x => sat (c x)).sum = (l.map c).sum := by
  refine congrArg List.sum (List.map_congr_left fun x hx => ?_)
  apply sat_eq_of_lt
  have hg : ∀ y ∈ l, 4 ≤ sat (c y) := fun y hy => le_sat (hc y hy) (by decide)
  have := term_bound l (fun x => sat (c x)) hg x hx
  omega

theorem bitsAt_le_choiceCost (es : List Nat) (warm maxP o : Nat) (ps : List Nat)
    (hmax : maxP ≤ 14) (hps : ∀ p ∈ ps, p ≤ maxP) :
    bitsAt es warm maxP o ≤ choiceCost es warm o ps := by
  rw [bitsAt_eq, choiceCost_eq]
  apply sum_map_le
  intro k _
  have hp : ps.getD k 0 ≤ maxP := getD_of_forall (· ≤ maxP) ps k 0 hps (Nat.zero_le _)
  have h := (minimizer_satTable (partErrors es warm o k) maxP).2.2
  have h2 := h.2 (ps.getD k 0) hp (by omega)
  rw [h.1] at h2
  exact Nat.le_trans h2 (sat_le _)

theorem psAt_le (es : List Nat) (warm maxP o : Nat) : ∀ p ∈ psAt es warm maxP o, p ≤ maxP := by
  intro p hp
  rw [psAt_eq] at hp
  obtain ⟨k, _, rfl⟩ := List.mem_map.mp hp
  exact (minimizer_satTable (partErrors es warm o k) maxP).1

theorem choiceCost_psAt (es : List Nat) (warm maxP o : Nat) :
    choiceCost es warm o (psAt es warm maxP o) = ((List.range (2 ^ o)).map fun k =>
      partCost (pStar es warm maxP o k) (partErrors es warm o k)).sum := by
  rw [choiceCost_eq]
  refine congrArg List.sum (List.map_congr_left fun k hk => ?_)
  rw [psAt_eq, getD_map_range _ _ _ _ (List.mem_range.mp hk)]

theorem bitsAt_eq_choiceCost (es : List Nat) (warm maxP o : Nat)
    (h : bitsAt es warm maxP o < 2 ^ 28 - 1 ∨ (bitsAt es warm maxP o ≤ 2 ^ 28 - 1 ∧ o ≠ 0)) :
    bitsAt es warm maxP o = choiceCost es warm o (psAt es warm maxP o) := by
  rw [choiceCost_psAt]
  rw [bitsAt_eq] at h ⊢
  apply sum_sat_eq (List.range (2 ^ o))
    (fun k => partCost (pStar es warm maxP o k) (partErrors es warm o k))
  · intro k _; exact partCost_ge _ _
  · rcases h with h | ⟨h, ho⟩
    · exact Or.inl h
    · refine Or.inr ⟨h, ?_⟩
      rw [List.length_range]
      obtain ⟨o', rfl⟩ := Nat.exists_eq_succ_of_ne_zero ho
      have := Nat.two_pow_pos o'
      rw [Nat.pow_succ]; omega

/-- What the search guarantees of a returned choice `r`: it is a choice of the search space; its `codeBits` is at most the true
cost of EVERY choice of the space; and it is the true cost of `r` when no table entry of the winner can be saturated:
`codeBits` below the saturation value, or equal to it with at least two partitions (`sum_sat_eq`). -/
structure Best (es : List Nat) (warm maxP : Nat) (r : PrcParameter) : Prop where
  ok : orderOk es.length warm r.order = true
  len : r.ps.length = 2 ^ r.order
  le_maxP : ∀ p ∈ r.ps, p ≤ maxP
  lower : ∀ o ps, orderOk es.length warm o = true → (∀ p ∈ ps, p ≤ maxP) → r.codeBits ≤ choiceCost es warm o ps
  eq_cost : r.codeBits < 2 ^ 28 - 1 ∨ (r.codeBits ≤ 2 ^ 28 - 1 ∧ r.order ≠ 0) → r.codeBits = choiceCost es warm r.order r.ps

theorem searchFolded_optimal (es : List Nat) (warm maxP : Nat) (hmax : maxP ≤ 14) (hlen : es.length < 2 ^ 16)
    (r : PrcParameter) (hr : searchFolded es warm maxP = some r) : Best es warm maxP r := by
  obtain ⟨ofin, r', hr', hspec, ⟨o', ho', hcand⟩, hmin⟩ :=
    searchFolded_spec es warm maxP (searchFolded_le es warm maxP r hr) hlen
  rw [hr'] at hr
  have : r' = r := Option.some.inj hr
  subst this
  subst hcand
  exact ⟨(hspec o').mpr ho', psAt_length es warm maxP o', psAt_le es warm maxP o',
    fun o ps hok hps => Nat.le_trans (hmin o ((hspec o).mp hok)) (bitsAt_le_choiceCost es warm maxP o ps hmax hps),
    bitsAt_eq_choiceCost es warm maxP o'⟩

/-- `searchFolded_optimal` for a signal inside `(-2^31, 2^31)`, where the sign fold cannot panic. -/
theorem search_optimal (signal : List Int) (warm maxP : Nat) (hmax : maxP ≤ 14)
    (hsig : ∀ v ∈ signal, -(2 ^ 31 : Int) < v ∧ v < (2 ^ 31 : Int)) (hlen : signal.length < 2 ^ 16)
    (r : PrcParameter) (hr : search signal warm maxP = some r) : Best (signal.map fold) warm maxP r := by
  rw [search_eq signal warm maxP hsig] at hr
  exact searchFolded_optimal (signal.map fold) warm maxP hmax (by rw [List.length_map]; exact hlen) r hr

/-- The reported size of a returned choice is never above the saturation value: it is at most the order-0 candidate, one
saturated table entry. -/
theorem search_codeBits_le (es : List Int) (warm maxP : Nat) (p : PrcParameter)
    (hsig : ∀ v ∈ es, -(2 ^ 31 : Int) < v ∧ v < (2 ^ 31 : Int)) (hlen : es.length < 2 ^ 16)
    (h : search es warm maxP = some p) : p.codeBits ≤ 2 ^ 28 - 1 := by
  have hn := search_some_le es warm maxP p h
  rw [search_eq es warm maxP hsig] at h
  obtain ⟨ofin, r, hr, _, _, hle⟩ := searchFolded_spec (es.map fold) warm maxP
    (by rw [List.length_map]; exact hn) (by rw [List.length_map]; exact hlen)
  rw [hr] at h
  cases h
  have := hle 0 (Nat.zero_le _)
  rw [bitsAt_eq] at this
  simp only [Nat.pow_zero, List.range_one, List.map_cons, List.map_nil, List.sum_cons, List.sum_nil, Nat.add_zero] at this
  exact Nat.le_trans this (sat_le_max _)

end RiceSearch
end FlacVerif
