/-
Helper lemmas for C10, site 4: `PrcParameterFinder::find` on stale buffers (`Scratch.find`)
against the stateless mirror `searchFolded` / `search`.
-/
import FlacVerif.Lemmas.ScratchVec
import FlacVerif.Lemmas.RiceSearchLoop
namespace FlacVerif.Scratch

theorem mapOverwrite_eq_mapM {α β : Type} (f : α → Option β) (src : List α) (dest : List β)
    (h : dest.length = src.length) : mapOverwrite f src dest = src.mapM f := by
  induction src generalizing dest with
  | nil =>
    cases dest with
    | nil => simp [mapOverwrite]
    | cons d ds => simp at h
  | cons x xs ih =>
    cases dest with
    | nil => simp at h
    | cons d ds =>
      simp only [List.length_cons, Nat.add_right_cancel_iff] at h
      rw [mapOverwrite, List.mapM_cons, ih ds h]
      rfl

theorem foldl_push {α β : Type} (g : α → β) (l : List α) (init : List β) :
    l.foldl (fun tb p => tb ++ [g p]) init = init ++ l.map g := by
  induction l generalizing init with
  | nil => simp
  | cons a l ih => simp [ih]

theorem evalInto_eq (maxP : Nat) (tables : List Table) (ps : List Nat) (acc : Nat)
    (h : tables.length ≤ ps.length) :
    evalInto maxP tables ps acc
      = (acc + (tables.map fun t => (t.minimizer maxP).2).sum,
         (tables.map fun t => (t.minimizer maxP).1) ++ ps.drop tables.length) := by
  induction tables generalizing ps acc with
  | nil => cases ps <;> simp [evalInto]
  | cons t ts ih =>
    cases ps with
    | nil => simp at h
    | cons p ps =>
      simp only [List.length_cons, Nat.add_le_add_iff_right] at h
      simp only [evalInto, ih ps _ h, List.map_cons, List.sum_cons, List.length_cons,
        List.drop_succ_cons, List.cons_append]
      congr 1; omega

theorem evalPartitionsInto_eq (tables : List Table) (ps : List Nat) (maxP : Nat)
    (h : ps.length = tables.length) :
    evalPartitionsInto tables ps maxP = some (evalPartitions tables maxP) := by
  unfold evalPartitionsInto
  rw [if_neg (by omega), evalInto_eq maxP tables ps 0 (by omega), RiceSearch.evalPartitions_eq,
    List.drop_of_length_le (by omega)]
  simp

/-- what `merge_partitions` leaves in cell `i`, in terms of the tables it started from -/
def mergedAt (tb0 : List Table) (i : Nat) : Table := (tb0.getD (2 * i) []).merge (tb0.getD (2 * i + 1) []) 4

theorem getD_take {α : Type} (l : List α) (n i : Nat) (d : α) (h : i < n) : (l.take n).getD i d = l.getD i d := by
  simpa using getD_drop_take l 0 n i d (by omega)

/-- The in-place merge reads the cells `2k`, `2k+1`, which lie at or beyond the write cursor `k` and still hold the
input: after `j` steps the vector is the `j` merged tables followed by the untouched rest. -/
theorem mergeFold_eq (tb0 : List Table) (j : Nat) (hj : j ≤ tb0.length) :
    (List.range j).foldl (fun (tb : List Table) k =>
        tb.set k ((tb.getD (2 * k) []).merge (tb.getD (2 * k + 1) []) 4)) tb0
      = (List.range j).map (mergedAt tb0) ++ tb0.drop j := by
  induction j with
  | zero => rfl
  | succ j ih =>
    have hM : ((List.range j).map (mergedAt tb0)).length = j := by rw [List.length_map, List.length_range]
    have hget : ∀ i, j ≤ i → ((List.range j).map (mergedAt tb0) ++ tb0.drop j).getD i [] = tb0.getD i [] := by
      intro i hi
      rw [List.getD_eq_getElem?_getD, List.getElem?_append_right (by rw [hM]; exact hi), hM, List.getElem?_drop,
        Nat.add_sub_cancel' hi, ← List.getD_eq_getElem?_getD]
    rw [List.range_succ, List.foldl_append, List.foldl_cons, List.foldl_nil, ih (by omega), hget _ (by omega),
      hget _ (by omega), List.set_append_right _ _ (by rw [hM]; exact Nat.le_refl j), hM, Nat.sub_self,
      List.drop_eq_getElem_cons hj, List.set_cons_zero, List.map_append, List.append_assoc]
    rfl

theorem mergePartitionsInPlace_spec (tables : List Table) (nparts : Nat)
    (h1 : nparts ≤ tables.length) (h2 : nparts < 2 ^ 15) :
    ∃ tb, mergePartitionsInPlace tables nparts = some (tb, nparts / 2) ∧ tb.length = tables.length ∧
      tb.take (nparts / 2) = mergePartitions (tables.take nparts) := by
  have hm : nparts / 2 ≤ tables.length := Nat.le_trans (Nat.div_le_self _ _) h1
  refine ⟨_, by rw [mergePartitionsInPlace, if_neg (by omega), if_neg (by omega)], ?_, ?_⟩
  · rw [mergeFold_eq tables _ hm, List.length_append, List.length_map, List.length_range, List.length_drop]
    omega
  · rw [mergeFold_eq tables _ hm, List.take_left' (by rw [List.length_map, List.length_range]), mergePartitions,
      List.length_take, Nat.min_eq_left h1]
    apply List.map_congr_left
    intro i hi
    rw [List.mem_range] at hi
    rw [mergedAt, getD_take _ _ _ _ (by omega), getD_take _ _ _ _ (by omega)]

theorem findLoop_spec (maxP fuel : Nat) (s : LoopSt) (h1 : s.nparts ≤ s.tables.length)
    (h2 : s.nparts = 2 ^ s.order) (h3 : s.order < 15) (h4 : s.minPs.length = 2 ^ s.minOrder) :
    ∃ s', findLoop maxP fuel s = some s' ∧ s'.minPs.length = 2 ^ s'.minOrder ∧
      (⟨s'.minOrder, s'.minPs, s'.minBits⟩ : PrcParameter)
        = searchFolded.loop maxP (s.tables.take s.nparts) s.order ⟨s.minOrder, s.minPs, s.minBits⟩ fuel := by
  induction fuel generalizing s with
  | zero => exact ⟨s, rfl, h4, rfl⟩
  | succ fuel ih =>
    have hlen : (s.tables.take s.nparts).length = s.nparts := by rw [List.length_take, Nat.min_eq_left h1]
    by_cases hn : s.nparts ≤ 1
    · exact ⟨s, by rw [findLoop, if_pos hn], h4, (RiceSearch.loop_stop _ _ _ _ _ (by rw [hlen]; exact hn)).symm⟩
    · obtain ⟨tb, hm, hml, hmt⟩ := mergePartitionsInPlace_spec s.tables s.nparts h1
        (by rw [h2]; exact Nat.pow_lt_pow_right (by omega) h3)
      obtain ⟨k, hk⟩ : ∃ k, s.order = k + 1 := by
        cases ho : s.order with
        | zero => rw [ho] at h2; omega
        | succ k => exact ⟨k, rfl⟩
      have hhalf : s.nparts / 2 = 2 ^ (s.order - 1) := by
        rw [h2, hk, Nat.pow_succ, Nat.mul_div_cancel _ (by decide), Nat.add_sub_cancel]
      have hpl := RiceSearch.evalPartitions_snd_length (mergePartitions (s.tables.take s.nparts)) maxP
      rw [RiceSearch.mergePartitions_length, hlen] at hpl
      have hev := evalPartitionsInto_eq (tb.take (s.nparts / 2)) (vecResize s.ps (s.nparts / 2) 0) maxP
        (by rw [vecResize_length, hmt, RiceSearch.mergePartitions_length, hlen])
      rw [hmt] at hev
      rw [RiceSearch.loop_step _ _ _ _ _ (by rw [hlen]; exact hn), findLoop, if_neg hn, hm]
      simp only [Option.bind_eq_bind, Option.bind_some, hmt, hev, RiceSearch.keep]
      generalize evalPartitions (mergePartitions (s.tables.take s.nparts)) maxP = E at hpl
      have hle : s.nparts / 2 ≤ tb.length := hml ▸ Nat.le_trans (Nat.div_le_self _ _) h1
      have ho : s.order - 1 < 15 := Nat.lt_of_le_of_lt (Nat.sub_le _ _) h3
      by_cases hb : E.1 < s.minBits
      · rw [if_pos hb, if_pos hb, ← hmt]
        exact ih ⟨tb, s.nparts / 2, s.order - 1, E.2, vecExtend (vecClear s.minPs) E.2, E.1, s.order - 1⟩
          hle hhalf ho (hpl.trans hhalf)
      · rw [if_neg hb, if_neg hb, ← hmt]
        exact ih ⟨tb, s.nparts / 2, s.order - 1, E.2, s.minPs, s.minBits, s.minOrder⟩ hle hhalf ho h4

/-- With `2^15` partitions the `assert!` of `merge_partitions` fires in the first round. -/
theorem findLoop_none (maxP fuel : Nat) (s : LoopSt) (h : ¬ s.nparts < 2 ^ 15) :
    findLoop maxP (fuel + 1) s = none := by
  unfold findLoop
  have : ¬ s.nparts ≤ 1 := by omega
  simp only [this, ↓reduceIte, mergePartitionsInPlace]
  by_cases h' : s.nparts > s.tables.length
  · simp [h']
  · simp [h', h]

theorem finestOrder_bound (size minPart o : Nat) (h : finestOrder size minPart = some o) : o ≤ 15 := by
  unfold finestOrder at h
  split at h
  · cases h
  · simp only at h
    split at h
    · cases h
    · simp only [Option.some.injEq] at h
      omega

/-- `find` on ANY stale state: the returned parameter is a function of `(signal, warm, maxP)` only, namely that of
the stateless `search` - except with `2^15` partitions, where the `assert!` of `merge_partitions`, which `search`
does not model, fires in the first round. -/
theorem findResult_eq (st : FinderState) (signal : List Int) (warm maxP : Nat) :
    findResult st signal warm maxP =
      if finestOrder signal.length (max 64 warm) = some 15 then none else search signal warm maxP := by
  unfold findResult find search
  cases ho : finestOrder signal.length (max 64 warm) with
  | none =>
    rw [if_neg (by simp)]
    cases hes : signal.mapM encodeSignbit with
    | none => rfl
    | some es =>
      show none = searchFolded es warm maxP
      unfold searchFolded
      rw [mapM_length hes]
      simp only []
      rw [ho]
      rfl
  | some o =>
    simp only [Option.bind_eq_bind, Option.bind_some, vecClear, vecResize_nil]
    rw [mapOverwrite_eq_mapM encodeSignbit signal _ (by simp)]
    cases hes : signal.mapM encodeSignbit with
    | none => split <;> rfl
    | some es =>
      have hlen := mapM_length hes
      simp only [Option.bind_some, foldl_push, List.nil_append]
      generalize hT : (List.range (2 ^ o)).map (fun p =>
        Table.fromErrors ((es.take ((p + 1) * (signal.length / 2 ^ o))).drop
          (max (p * (signal.length / 2 ^ o)) warm)) 4) = T
      have hTl : T.length = 2 ^ o := by rw [← hT]; simp
      rw [evalPartitionsInto_eq T _ maxP (by rw [vecResize_length, hTl])]
      simp only [Option.bind_some]
      have hpl := RiceSearch.evalPartitions_snd_length T maxP
      generalize hE : evalPartitions T maxP = E at hpl
      obtain ⟨bits0, ps0⟩ := E
      simp only at hpl ⊢
      by_cases h15 : o < 15
      · obtain ⟨s', hs', hl', hr'⟩ := findLoop_spec maxP 16 ⟨T, 2 ^ o, o, st.ps, ps0, bits0, o⟩
          (by simp only; omega) rfl h15 (by simp only; rw [hpl, hTl])
        simp only at hr'
        rw [List.take_of_length_le (by omega)] at hr'
        rw [if_neg (by simp; omega)]
        simp only [hs', Option.bind_some, Option.map_some, searchFolded, hlen, ho,
          Option.bind_eq_bind, hT, hE]
        rw [← hr']
        simp only [vecTruncate]
        rw [List.take_of_length_le (by omega)]
      · have ho15 : o = 15 := by have := finestOrder_bound _ _ _ ho; omega
        rw [if_pos (by rw [ho15]), findLoop_none maxP 15 _ (by simp only; rw [ho15]; omega)]
        rfl

end FlacVerif.Scratch
