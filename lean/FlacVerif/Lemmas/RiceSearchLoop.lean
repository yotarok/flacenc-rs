/-
Partition structure, `finestOrder`, `mergePartitions`, `evalPartitions` and the order loop of `searchFolded`.
-/
import FlacVerif.Lemmas.RiceSearch
import FlacVerif.Lemmas.Bits
namespace FlacVerif
namespace RiceSearch

theorem orderOk_iff (n warm o : Nat) :
    orderOk n warm o = true ↔ o ≤ 15 ∧ n % 2 ^ o = 0 ∧ max 64 warm * 2 ^ o ≤ n := by
  simp [orderOk, and_assoc]

theorem orderOk_pred (n warm o : Nat) (h : orderOk n warm (o + 1) = true) :
    orderOk n warm o = true := by
  rw [orderOk_iff] at h ⊢
  obtain ⟨h1, h2, h3⟩ := h
  refine ⟨by omega, ?_, ?_⟩
  · have hd : 2 ^ o ∣ n :=
      Nat.dvd_trans (Nat.pow_dvd_pow 2 (Nat.le_succ o)) (Nat.dvd_of_mod_eq_zero h2)
    exact Nat.mod_eq_zero_of_dvd hd
  · rw [Nat.pow_succ] at h3
    have : max 64 warm * 2 ^ o ≤ max 64 warm * (2 ^ o * 2) := Nat.mul_le_mul_left _ (by omega)
    omega

theorem orderOk_le (n warm o o' : Nat) (h : orderOk n warm o = true) (hle : o' ≤ o) :
    orderOk n warm o' = true := by
  induction o with
  | zero => have : o' = 0 := by omega
            subst this; exact h
  | succ o ih =>
    by_cases h' : o' = o + 1
    · subst h'; exact h
    · exact ih (orderOk_pred n warm o h) (by omega)

/-- `finestOrder n (max 64 warm)` is the largest admissible order. -/
theorem finestOrder_spec (n warm : Nat) (hn : max 64 warm ≤ n) (hlen : n < 2 ^ 32) :
    ∃ ofin, finestOrder n (max 64 warm) = some ofin ∧
      ∀ o, orderOk n warm o = true ↔ o ≤ ofin := by
  have hM : max 64 warm ≠ 0 := by omega
  have hn0 : n ≠ 0 := by omega
  have hdiv : 1 ≤ n / max 64 warm := (Nat.le_div_iff_mul_le (by omega)).mpr (by omega)
  have hdivlt : n / max 64 warm < u32 :=
    Nat.lt_of_le_of_lt (Nat.div_le_self _ _) (by unfold u32; omega)
  have hms : (n / max 64 warm) % u32 = n / max 64 warm := Nat.mod_eq_of_lt hdivlt
  obtain ⟨tz, htz, htzspec⟩ : ∃ tz, ((List.range 64).find? (fun i => n.testBit i)).getD 64 = tz ∧
      ∀ o, n % 2 ^ o = 0 ↔ o ≤ tz := by
    cases hf : (List.range 64).find? (fun i => n.testBit i) with
    | none =>
      exfalso
      rw [List.find?_eq_none] at hf
      have : n % 2 ^ 64 = 0 := (mod_two_pow_eq_zero_iff n 64).mpr (fun j hj => by
        have := hf j (List.mem_range.mpr hj)
        simpa using this)
      omega
    | some i =>
      refine ⟨i, rfl, ?_⟩
      obtain ⟨hi, _, hlow⟩ := List.find?_range_eq_some.mp hf
      intro o
      rw [mod_two_pow_eq_zero_iff]
      constructor
      · intro h
        by_cases hio : i < o
        · have := h i hio
          have hi' : n.testBit i = true := hi
          rw [hi'] at this; cases this
        · omega
      · intro hle j hj
        have := hlow j (by omega)
        simpa using this
  refine ⟨min 15 (min (Nat.log2 (n / max 64 warm)) tz), ?_, ?_⟩
  · unfold finestOrder
    simp only [hM, ↓reduceIte, hms, hn0]
    have : ¬ (n / max 64 warm = 0) := by omega
    simp only [this, ↓reduceIte, htz]
  · intro o
    have hlog : o ≤ Nat.log2 (n / max 64 warm) ↔ max 64 warm * 2 ^ o ≤ n := by
      rw [Nat.le_log2 (Nat.ne_of_gt hdiv), Nat.le_div_iff_mul_le (Nat.pos_of_ne_zero hM), Nat.mul_comm]
    rw [orderOk_iff, htzspec o, ← hlog, Nat.le_min, Nat.le_min]
    constructor <;> rintro ⟨a, b, c⟩ <;> exact ⟨a, c, b⟩

/-- `finestOrder` returns only when the block holds a partition of the minimal size. -/
theorem finestOrder_le {n M o : Nat} (h : finestOrder n M = some o) : M ≤ n := by
  unfold finestOrder at h
  by_cases hM : M = 0
  · omega
  · by_cases hz : n / M = 0
    · simp [hM, hz] at h
    · exact (Nat.div_pos_iff.mp (Nat.pos_of_ne_zero hz)).2

theorem finestOrder_some (n warm o : Nat) (hn : n < 2 ^ 32) (h : finestOrder n (max 64 warm) = some o) :
    orderOk n warm o = true := by
  obtain ⟨ofin, hfin, hspec⟩ := finestOrder_spec n warm (finestOrder_le h) hn
  rw [h] at hfin
  cases hfin
  exact (hspec o).mpr (Nat.le_refl _)

/-- Below `2^21` samples the finest order is below 15: order 15 needs `64 * 2^15` samples. -/
theorem finestOrder_lt_15 {n warm o : Nat} (hn : n < 2 ^ 21) (h : finestOrder n (max 64 warm) = some o) : o < 15 := by
  obtain ⟨_, _, hoM⟩ := (orderOk_iff _ _ _).mp (finestOrder_some _ _ _ (by omega) h)
  have h64 : 64 * 2 ^ o ≤ max 64 warm * 2 ^ o := Nat.mul_le_mul_right _ (by omega)
  exact (Nat.pow_lt_pow_iff_right (by decide : 1 < 2)).mp (by omega)

theorem partErrors_split (es : List Nat) (warm o k : Nat)
    (hok : orderOk es.length warm (o + 1) = true) (hk : k < 2 ^ o) :
    partErrors es warm o k
      = partErrors es warm (o + 1) (2 * k) ++ partErrors es warm (o + 1) (2 * k + 1) := by
  rw [orderOk_iff] at hok
  obtain ⟨_, hdvd, hmin⟩ := hok
  obtain ⟨q, hq'⟩ := Nat.dvd_of_mod_eq_zero hdvd
  have hpos : 0 < 2 ^ o := Nat.two_pow_pos _
  have hplen1 : es.length >>> (o + 1) = q := by
    rw [Nat.shiftRight_eq_div_pow, hq', Nat.mul_div_cancel_left _ (Nat.two_pow_pos _)]
  have hplen0 : es.length >>> o = 2 * q := by
    rw [Nat.shiftRight_eq_div_pow, hq', Nat.pow_succ, Nat.mul_assoc,
      Nat.mul_div_cancel_left _ hpos]
  have hwarm : warm ≤ q := by
    rw [hq', Nat.mul_comm] at hmin
    exact Nat.le_trans (Nat.le_max_right 64 warm) (Nat.le_of_mul_le_mul_left hmin (Nat.two_pow_pos _))
  have hq : q ≤ (2 * k + 1) * q := Nat.le_mul_of_pos_left _ (Nat.succ_pos _)
  have e1 : (k + 1) * (2 * q) = (2 * k + 1 + 1) * q := by
    rw [← Nat.mul_assoc]; congr 1; omega
  have e2 : k * (2 * q) = 2 * k * q := by rw [← Nat.mul_assoc, Nat.mul_comm k 2]
  have e3 : max warm ((2 * k + 1) * q) = (2 * k + 1) * q := Nat.max_eq_right (Nat.le_trans hwarm hq)
  unfold partErrors
  simp only [hplen0, hplen1, e1, e2, e3]
  have hlen : (2 * k + 1 + 1) * q ≤ es.length := by
    rw [hq', Nat.pow_succ]
    exact Nat.mul_le_mul_right _ (by omega)
  have hb : (2 * k + 1) * q ≤ (2 * k + 1 + 1) * q := Nat.mul_le_mul_right _ (Nat.le_succ _)
  have ha : max warm (2 * k * q) ≤ (2 * k + 1) * q :=
    Nat.max_le.mpr ⟨Nat.le_trans hwarm hq, Nat.mul_le_mul_right _ (Nat.le_succ _)⟩
  exact (drop_take_append es _ _ _ ha hb hlen).symm

/-- The tables the search holds when it examines order `o`. -/
def tablesAt (es : List Nat) (warm o : Nat) : List Table :=
  (List.range (2 ^ o)).map fun k => satTable (partErrors es warm o k)

theorem tablesAt_length (es : List Nat) (warm o : Nat) : (tablesAt es warm o).length = 2 ^ o := by
  simp [tablesAt]

theorem partErrors_length_le (es : List Nat) (warm o k : Nat) :
    (partErrors es warm o k).length ≤ es.length := by
  unfold partErrors
  simp only [List.length_drop, List.length_take]
  omega

theorem initial_tables (es : List Nat) (warm o : Nat) (hlen : es.length < 2 ^ 16) :
    ((List.range (2 ^ o)).map fun k =>
      Table.fromErrors ((es.take ((k + 1) * (es.length / 2 ^ o))).drop
        (max (k * (es.length / 2 ^ o)) warm)) 4) = tablesAt es warm o := by
  unfold tablesAt
  apply List.map_congr_left
  intro k _
  have h : (es.take ((k + 1) * (es.length / 2 ^ o))).drop (max (k * (es.length / 2 ^ o)) warm)
      = partErrors es warm o k := by
    unfold partErrors
    simp only [Nat.shiftRight_eq_div_pow, Nat.max_comm]
  rw [h, fromErrors_eq _ (Nat.lt_of_le_of_lt (partErrors_length_le es warm o k) hlen)]

theorem mergePartitions_tablesAt (es : List Nat) (warm o : Nat)
    (hok : orderOk es.length warm (o + 1) = true) :
    mergePartitions (tablesAt es warm (o + 1)) = tablesAt es warm o := by
  unfold mergePartitions
  rw [tablesAt_length]
  have : 2 ^ (o + 1) / 2 = 2 ^ o := by rw [Nat.pow_succ]; omega
  rw [this]
  conv => rhs; unfold tablesAt
  apply List.map_congr_left
  intro k hk
  have hk : k < 2 ^ o := List.mem_range.mp hk
  have hk1 : 2 * k < 2 ^ (o + 1) := by rw [Nat.pow_succ]; omega
  have hk2 : 2 * k + 1 < 2 ^ (o + 1) := by rw [Nat.pow_succ]; omega
  unfold tablesAt
  rw [getD_map_range _ _ _ _ hk1, getD_map_range _ _ _ _ hk2, merge_eq,
    ← partErrors_split es warm o k hok hk]

theorem evalPartitions_fold (tables : List Table) (maxP : Nat) (acc : Nat × List Nat) :
    tables.foldl (fun (acc : Nat × List Nat) t =>
        let (p, b) := t.minimizer maxP; (acc.1 + b, acc.2 ++ [p])) acc
      = (acc.1 + (tables.map fun t => (t.minimizer maxP).2).sum,
         acc.2 ++ tables.map fun t => (t.minimizer maxP).1) := by
  induction tables generalizing acc with
  | nil => simp
  | cons t ts ih =>
    simp only [List.foldl_cons, List.map_cons, List.sum_cons]
    rw [ih]
    simp only [Nat.add_assoc, List.append_assoc, List.singleton_append]

theorem evalPartitions_eq (tables : List Table) (maxP : Nat) :
    evalPartitions tables maxP
      = ((tables.map fun t => (t.minimizer maxP).2).sum,
         tables.map fun t => (t.minimizer maxP).1) := by
  unfold evalPartitions
  rw [evalPartitions_fold]
  simp

theorem evalPartitions_snd_length (tables : List Table) (maxP : Nat) :
    (evalPartitions tables maxP).2.length = tables.length := by
  rw [evalPartitions_eq]; simp

theorem evalPartitions_snd_lt (tables : List Table) (maxP : Nat) : ∀ p ∈ (evalPartitions tables maxP).2, p < 16 := by
  rw [evalPartitions_eq]
  intro p hp
  obtain ⟨t, _, rfl⟩ := List.mem_map.mp hp
  exact minimizer_fst_lt t maxP

theorem mergePartitions_length (tables : List Table) : (mergePartitions tables).length = tables.length / 2 := by
  simp [mergePartitions]

/-- The candidate the search forms at order `o`: per partition `k` the parameter `pStar es warm maxP o k` that `minimizer` picks
from its saturated table; `psAt` lists them, `bitsAt` sums their saturated costs. -/
def bitsAt (es : List Nat) (warm maxP o : Nat) : Nat := (evalPartitions (tablesAt es warm o) maxP).1
def psAt (es : List Nat) (warm maxP o : Nat) : List Nat := (evalPartitions (tablesAt es warm o) maxP).2
def candAt (es : List Nat) (warm maxP o : Nat) : PrcParameter :=
  ⟨o, psAt es warm maxP o, bitsAt es warm maxP o⟩

def pStar (es : List Nat) (warm maxP o k : Nat) : Nat :=
  ((satTable (partErrors es warm o k)).minimizer maxP).1

theorem psAt_eq (es : List Nat) (warm maxP o : Nat) :
    psAt es warm maxP o = (List.range (2 ^ o)).map (pStar es warm maxP o) := by
  unfold psAt tablesAt
  rw [evalPartitions_eq]
  simp only [List.map_map]
  rfl

theorem psAt_length (es : List Nat) (warm maxP o : Nat) : (psAt es warm maxP o).length = 2 ^ o := by
  rw [psAt, evalPartitions_snd_length, tablesAt_length]

theorem bitsAt_eq (es : List Nat) (warm maxP o : Nat) :
    bitsAt es warm maxP o = ((List.range (2 ^ o)).map fun k =>
      sat (partCost (pStar es warm maxP o k) (partErrors es warm o k))).sum := by
  unfold bitsAt tablesAt
  rw [evalPartitions_eq]
  simp only [List.map_map]
  congr 1
  apply List.map_congr_left
  intro k _
  exact (minimizer_satTable (partErrors es warm o k) maxP).2.2.1

theorem choiceCost_eq (es : List Nat) (warm o : Nat) (ps : List Nat) :
    choiceCost es warm o ps = ((List.range (2 ^ o)).map fun k =>
      partCost (ps.getD k 0) (partErrors es warm o k)).sum := by
  unfold choiceCost
  rw [foldl_add_sum]; omega

/-- What the order loop does with a new candidate `c`: it replaces the best so far only if strictly cheaper. -/
def keep (best c : PrcParameter) : PrcParameter := if c.codeBits < best.codeBits then c else best

theorem keep_select (m x : PrcParameter) : keep m x = m ∨ keep m x = x := by
  unfold keep; split
  · exact Or.inr rfl
  · exact Or.inl rfl

theorem le_keep_iff (B : Nat) (m x : PrcParameter) : B ≤ (keep m x).codeBits ↔ B ≤ m.codeBits ∧ B ≤ x.codeBits := by
  unfold keep; split <;> omega

theorem loop_stop (maxP : Nat) (tables : List Table) (order : Nat) (best : PrcParameter) (fuel : Nat)
    (h : tables.length ≤ 1) : searchFolded.loop maxP tables order best fuel = best := by
  cases fuel with
  | zero => rfl
  | succ fuel => rw [searchFolded.loop, if_pos h]

theorem loop_step (maxP : Nat) (tables : List Table) (order : Nat) (best : PrcParameter) (fuel : Nat)
    (h : ¬ tables.length ≤ 1) :
    searchFolded.loop maxP tables order best (fuel + 1) =
      searchFolded.loop maxP (mergePartitions tables) (order - 1)
        (keep best ⟨order - 1, (evalPartitions (mergePartitions tables) maxP).2, (evalPartitions (mergePartitions tables) maxP).1⟩)
        fuel := by
  rw [searchFolded.loop, if_neg h]
  rfl

/-- The candidates the order loop forms from the `2 ^ o` tables of order `o`, as it meets them: orders `o - 1, .., 0`. -/
def coarser (maxP : Nat) : Nat → List Table → List PrcParameter
  | 0, _ => []
  | o + 1, tables =>
    ⟨o, (evalPartitions (mergePartitions tables) maxP).2, (evalPartitions (mergePartitions tables) maxP).1⟩
      :: coarser maxP o (mergePartitions tables)

/-- The order loop is a fold: it returns the first cheapest of `best` and the candidates of the coarser orders. -/
theorem loop_eq_foldl (maxP : Nat) (o : Nat) (tables : List Table) (best : PrcParameter) (fuel : Nat)
    (ht : tables.length = 2 ^ o) (hf : o < fuel) :
    searchFolded.loop maxP tables o best fuel = (coarser maxP o tables).foldl keep best := by
  induction o generalizing tables best fuel with
  | zero => exact loop_stop _ _ _ _ _ (Nat.le_of_eq ht)
  | succ o ih =>
    obtain ⟨fuel, rfl⟩ := Nat.exists_eq_succ_of_ne_zero (Nat.ne_of_gt (Nat.lt_of_le_of_lt (Nat.zero_le _) hf))
    rw [loop_step _ _ _ _ _ (by rw [ht]; exact Nat.not_le.mpr (Nat.one_lt_two_pow (Nat.succ_ne_zero o))), Nat.add_sub_cancel,
      ih _ _ _ (by rw [mergePartitions_length, ht, Nat.pow_succ, Nat.mul_div_cancel _ (by decide)]) (Nat.lt_of_succ_lt_succ hf)]
    rfl

theorem coarser_wf (maxP : Nat) (o : Nat) (tables : List Table) (ht : tables.length = 2 ^ o) :
    ∀ c ∈ coarser maxP o tables, c.ps.length = 2 ^ c.order ∧ (∀ p ∈ c.ps, p < 16) ∧ c.order < o := by
  induction o generalizing tables with
  | zero => intro c hc; cases hc
  | succ o ih =>
    have hm : (mergePartitions tables).length = 2 ^ o := by
      rw [mergePartitions_length, ht, Nat.pow_succ, Nat.mul_div_cancel _ (by decide)]
    intro c hc
    rcases List.mem_cons.mp hc with rfl | hc
    · exact ⟨by rw [evalPartitions_snd_length, hm], evalPartitions_snd_lt _ maxP, Nat.lt_succ_self o⟩
    · obtain ⟨h1, h2, h3⟩ := ih _ hm c hc
      exact ⟨h1, h2, Nat.lt_succ_of_lt h3⟩

theorem loop_wf (maxP fuel order : Nat) (tables : List Table) (best : PrcParameter)
    (ht : tables.length = 2 ^ order) (hf : order < fuel) (hl : best.ps.length = 2 ^ best.order) (hp : ∀ p ∈ best.ps, p < 16)
    (ho : order ≤ best.order) :
    (searchFolded.loop maxP tables order best fuel).ps.length = 2 ^ (searchFolded.loop maxP tables order best fuel).order ∧
    (∀ p ∈ (searchFolded.loop maxP tables order best fuel).ps, p < 16) ∧
    (searchFolded.loop maxP tables order best fuel).order ≤ best.order := by
  rw [loop_eq_foldl maxP order tables best fuel ht hf]
  rcases foldl_select_mem keep keep_select (coarser maxP order tables) best with e | m
  · rw [e]; exact ⟨hl, hp, Nat.le_refl _⟩
  · obtain ⟨h1, h2, h3⟩ := coarser_wf maxP order tables ht _ m
    exact ⟨h1, h2, by omega⟩

theorem coarser_tablesAt (es : List Nat) (warm maxP o : Nat) (hok : orderOk es.length warm o = true) :
    coarser maxP o (tablesAt es warm o) = (List.range o).reverse.map (candAt es warm maxP) := by
  induction o with
  | zero => rfl
  | succ o ih =>
    rw [coarser, mergePartitions_tablesAt es warm o hok, ih (orderOk_pred _ _ _ hok), List.range_succ, List.reverse_append]
    rfl

/-- The search on fewer than `2^16` folded errors: the admissible orders are `0 .. ofin`, and the result is the first cheapest
(by `bitsAt`) of their candidates `candAt`, taken from the finest order down. -/
theorem searchFolded_eq (es : List Nat) (warm maxP : Nat) (hn : max 64 warm ≤ es.length) (hlen : es.length < 2 ^ 16) :
    ∃ ofin, (∀ o, orderOk es.length warm o = true ↔ o ≤ ofin) ∧
      searchFolded es warm maxP
        = some (((List.range ofin).reverse.map (candAt es warm maxP)).foldl keep (candAt es warm maxP ofin)) := by
  obtain ⟨ofin, hfin, hspec⟩ := finestOrder_spec es.length warm hn (by omega)
  have hok : orderOk es.length warm ofin = true := (hspec ofin).mpr (Nat.le_refl _)
  have h15 : ofin ≤ 15 := ((orderOk_iff _ _ _).mp hok).1
  refine ⟨ofin, hspec, ?_⟩
  rw [← coarser_tablesAt es warm maxP ofin hok,
    ← loop_eq_foldl maxP ofin _ (candAt es warm maxP ofin) 16 (tablesAt_length es warm ofin) (by omega)]
  unfold searchFolded
  simp only [hfin, Option.bind_eq_bind, Option.bind_some, initial_tables es warm ofin hlen]
  rfl

theorem searchFolded_spec (es : List Nat) (warm maxP : Nat)
    (hn : max 64 warm ≤ es.length) (hlen : es.length < 2 ^ 16) :
    ∃ ofin r, searchFolded es warm maxP = some r ∧
      (∀ o, orderOk es.length warm o = true ↔ o ≤ ofin) ∧
      (∃ o', o' ≤ ofin ∧ r = candAt es warm maxP o') ∧
      ∀ o', o' ≤ ofin → r.codeBits ≤ bitsAt es warm maxP o' := by
  obtain ⟨ofin, hspec, hr⟩ := searchFolded_eq es warm maxP hn hlen
  have hmem : ∀ c, c ∈ (List.range ofin).reverse.map (candAt es warm maxP) ↔ ∃ o', o' < ofin ∧ c = candAt es warm maxP o' := by
    intro c; simp [eq_comm]
  refine ⟨ofin, _, hr, hspec, ?_, fun o' ho' => ?_⟩
  · rcases foldl_select_mem keep keep_select _ (candAt es warm maxP ofin) with e | m
    · exact ⟨ofin, Nat.le_refl _, e⟩
    · obtain ⟨o', ho', e⟩ := (hmem _).mp m
      exact ⟨o', Nat.le_of_lt ho', e⟩
  · obtain ⟨h2, h3⟩ := (foldl_forall_iff keep (_ ≤ ·.codeBits) (_ ≤ ·.codeBits) (le_keep_iff _) _ _).mp (Nat.le_refl _)
    rcases Nat.lt_or_eq_of_le ho' with h | rfl
    · exact h3 _ ((hmem _).mpr ⟨o', h, rfl⟩)
    · exact h2

theorem searchFolded_le (es : List Nat) (warm maxP : Nat) (r : PrcParameter) (h : searchFolded es warm maxP = some r) :
    max 64 warm ≤ es.length := by
  unfold searchFolded at h
  cases hfo : finestOrder es.length (max 64 warm) with
  | none => simp [hfo] at h
  | some o => exact finestOrder_le hfo

theorem searchFolded_space (es : List Nat) (warm maxP : Nat) (hlen : es.length < 2 ^ 16) (r : PrcParameter)
    (h : searchFolded es warm maxP = some r) :
    orderOk es.length warm r.order = true ∧ r.ps.length = 2 ^ r.order ∧ ∀ p ∈ r.ps, p < 16 := by
  obtain ⟨ofin, r', hr', hspec, ⟨o', ho', rfl⟩, _⟩ := searchFolded_spec es warm maxP (searchFolded_le _ _ _ _ h) hlen
  cases h.symm.trans hr'
  exact ⟨(hspec o').mpr ho', psAt_length es warm maxP o', evalPartitions_snd_lt _ maxP⟩

end RiceSearch
end FlacVerif
