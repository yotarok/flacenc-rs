/-
The reported bit counts of sub-frames, frame headers and frames equal the lengths of their serialisations (C08;
STREAMINFO is `Layout.streaminfo_length`, the stream `C08_stream` itself); also cited wherever a frame's bits are
needed to exist (`frame_count`, `header_count`).  The lengths themselves come from `Lemmas/Layout`.
-/
import FlacVerif.Lemmas.Count
import FlacVerif.Lemmas.Utf8Code
import FlacVerif.Lemmas.ListFacts
import FlacVerif.Lemmas.WeakWF
import FlacVerif.Lemmas.Layout
import FlacVerif.Model.Encode
namespace FlacVerif.Count

theorem subframe_count' (s : SubFrame) (h : s.WF') : s.count = some s.bits.length := by
  cases s with
  | constant n dc bps => simp [SubFrame.count, SubFrame.bits]
  | verbatim xs bps =>
    simp [SubFrame.count, SubFrame.bits, length_flatMap_eq_mul _ _ bps (fun x _ => twoc_length bps x)]
  | fixed warm res bps =>
    obtain ⟨_, _, hr, _⟩ := h
    simp only [SubFrame.count, SubFrame.bits, residual_count res hr, Option.map_some, List.length_append,
      natToBits_length, length_flatMap_eq_mul _ _ bps (fun x _ => twoc_length bps x), Nat.mul_comm bps]
  | lpc warm coefs shift precision res bps =>
    obtain ⟨_, _, hwc, _, hr, _⟩ := h
    simp only [SubFrame.count, SubFrame.bits, residual_count res hr, Option.map_some, List.length_append,
      natToBits_length, twoc_length, length_flatMap_eq_mul _ _ bps (fun x _ => twoc_length bps x),
      length_flatMap_eq_mul _ _ precision (fun x _ => twoc_length precision x), Nat.mul_comm bps,
      Nat.mul_comm precision, hwc]

theorem subframe_count (s : SubFrame) (h : s.WF) : s.count = some s.bits.length :=
  subframe_count' s (VerifyL.wf'_of_wf s h)

theorem header_count (p8 : CrcParams) (h : FrameHeader) (hn : h.number < 2 ^ 36) (ht : h.assignment.tag ≤ 15) :
    ∃ b, h.bits p8 = some b ∧ b.length = h.count := by
  obtain ⟨bs, hbs, hlen, _⟩ := encodeUtf8like_some h.number hn
  obtain ⟨b, hb⟩ := Layout.header_bits_isSome (p8 := p8) h bs hbs ht
  refine ⟨b, hb, ?_⟩
  rw [Layout.header_bits_length h b hb bs hbs, FrameHeader.count, hlen]

theorem frame_count (p8 p16 : CrcParams) (f : Frame) (hn : f.header.number < 2 ^ 36)
    (ht : f.header.assignment.tag ≤ 15) (hs : ∀ s ∈ f.subframes, s.WF) :
    ∃ b, f.bits p8 p16 = some b ∧ f.count = some b.length ∧ 8 ∣ b.length := by
  obtain ⟨hb, hhb, hlen⟩ := header_count p8 f.header hn ht
  obtain ⟨fb, hfb⟩ := Layout.frame_bits_isSome (p16 := p16) f hb hhb
  refine ⟨fb, hfb, ?_, Nat.dvd_of_mod_eq_zero (Layout.frame_bits_len8 f fb hfb)⟩
  simp only [Frame.count, mapM_some_map _ _ _ (fun s hs' => subframe_count s (hs s hs')), Option.bind_eq_bind,
    Option.bind_some, ← List.sum_eq_foldl, Layout.frame_bits_length f fb hb hfb hhb, List.length_flatMap, hlen]

/-- What a returning `Frame.count` says: every sub-frame has a count (`cnt` is then that count), and the sum is padded to a byte. -/
theorem frame_count_some {f : Frame} {c : Nat} (h : f.count = some c) :
    (∀ s ∈ f.subframes, s.count = some (cnt s)) ∧
      c = (f.header.count + (f.subframes.map cnt).foldl (· + ·) 0 + 7) / 8 * 8 + 16 := by
  obtain ⟨subs, hm, hc⟩ := Option.bind_eq_some_iff.mp h
  cases mapM_eq_map SubFrame.count cnt (fun s v hv => by simp [cnt, hv]) _ _ hm
  refine ⟨fun s hs => ?_, (Option.some.inj hc).symm⟩
  obtain ⟨y, hy⟩ := mapM_some_forall hm s hs
  simp [cnt, hy]

end FlacVerif.Count
