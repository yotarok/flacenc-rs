-- GENERATED by ./check: axiom audit of the property theorems
import FlacVerif.Theorems.C10
import FlacVerif.Theorems.C01Gen
import FlacVerif.Theorems.C13Gen
import FlacVerif.Theorems.C10Gen
import FlacVerif.Lemmas.LpcPrelude
#print axioms FlacVerif.C10_fixed_errors
#print axioms FlacVerif.C10_lpc_estimator_buffers
#print axioms FlacVerif.C10_qlpc_errors
#print axioms FlacVerif.C10_msframebuf
#print axioms FlacVerif.C10_msframebuf_indep
#print axioms FlacVerif.C10_msframebuf_init
#print axioms FlacVerif.C10_prc_finder_indep
#print axioms FlacVerif.C10_prc_finder
#print axioms FlacVerif.C10_frame_crc_buffer
#print axioms FlacVerif.C10_header_crc_buffer
#print axioms FlacVerif.C10_sink_clear
#print axioms FlacVerif.C10_key_injective
#print axioms FlacVerif.C10_window_cache
#print axioms FlacVerif.Scratch.Cache.run_spec
#print axioms FlacVerif.C10_window_history
#print axioms FlacVerif.C10_window_history_from
#print axioms FlacVerif.C10_old_fingerprint_leaks
#print axioms FlacVerif.Scratch.runHistory_eq
#print axioms FlacVerif.Scratch.ThreadState.inv_fresh
#print axioms FlacVerif.Scratch.site_reply
#print axioms FlacVerif.Scratch.stepAll_reply
#print axioms FlacVerif.C10_call_frame
#print axioms FlacVerif.C10_history
#print axioms FlacVerif.C10_history_from
#print axioms FlacVerif.C01Gen.forMutM_scalar
#print axioms FlacVerif.C01Gen.C01G_unaligned_map_and_update
#print axioms FlacVerif.C01Gen.C01G_from_parts
#print axioms FlacVerif.C01Gen.C01G_from_parts_panics
#print axioms FlacVerif.C01Gen.mapM_getElem?
#print axioms FlacVerif.C01Gen.C01G_coefs_accessor
#print axioms FlacVerif.C01Gen.mkQ_coefs_get
#print axioms FlacVerif.C01Gen.accList_length
#print axioms FlacVerif.C01Gen.accList_zero
#print axioms FlacVerif.C01Gen.take_eq_map_getD
#print axioms FlacVerif.C01Gen.accList_split
#print axioms FlacVerif.C01Gen.accList_succ
#print axioms FlacVerif.C01Gen.fill_prefix
#print axioms FlacVerif.C01Gen.zipWith_range_getD
#print axioms FlacVerif.C01Gen.C01G_compute_error_impl
#print axioms FlacVerif.C01Gen.abs_sum_loop
#print axioms FlacVerif.C01Gen.wrapS32_eq
#print axioms FlacVerif.C01Gen.C01G_compute_error
#print axioms FlacVerif.C01Gen.C01G_compute_error_fits
#print axioms FlacVerif.C01Gen.C01G_compute_error_callee
#print axioms FlacVerif.C01Gen.C01G_compute_error_order_panics
#print axioms FlacVerif.C01Gen.C01G_compute_error_shift_discrepancy
#print axioms FlacVerif.C01Gen.C01G_compute_error_min_coef_discrepancy
#print axioms FlacVerif.C01Gen.C01G_compute_error_long_buffer_discrepancy
#print axioms FlacVerif.C01Gen.chunkN_eq
#print axioms FlacVerif.C01Gen.C01G_pack_into_simd_vec
#print axioms FlacVerif.C01Gen.C01G_reset_from_slice
#print axioms FlacVerif.C01Gen.C01G_resize
#print axioms FlacVerif.C01Gen.C01G_as_ref
#print axioms FlacVerif.C01Gen.simdRotR_one
#print axioms FlacVerif.C01Gen.simdSubW32_eq
#print axioms FlacVerif.C01Gen.diff_loop_bind
#print axioms FlacVerif.C01Gen.loopM_fill
#print axioms FlacVerif.C01Gen.C01G_reset_fixed_lpc_errors
#print axioms FlacVerif.C01Gen.errAt_as_ref
#print axioms FlacVerif.C01Gen.C01G_diffs
#print axioms FlacVerif.C13Gen.allSome_map_some
#print axioms FlacVerif.C13Gen.allSome_map_of
#print axioms FlacVerif.C13Gen.lanes2_map
#print axioms FlacVerif.C13Gen.lanesM2_map
#print axioms FlacVerif.C13Gen.lanes3_map
#print axioms FlacVerif.C13Gen.splat_eq
#print axioms FlacVerif.C13Gen.INDEX_eq
#print axioms FlacVerif.C13Gen.INDEX1_eq
#print axioms FlacVerif.C13Gen.ZEROS_eq
#print axioms FlacVerif.C13Gen.MAXES_eq
#print axioms FlacVerif.C13Gen.MAXV_eq
#print axioms FlacVerif.C13Gen.lanes16
#print axioms FlacVerif.C13Gen.dbgAssert_ok
#print axioms FlacVerif.C13Gen.C13G_merge
#print axioms FlacVerif.C13Gen.lanesM2_shl
#print axioms FlacVerif.C13Gen.lanesM2_shr
#print axioms FlacVerif.C13Gen.reduceMin_eq
#print axioms FlacVerif.C13Gen.C13G_minimizer
#print axioms FlacVerif.C13Gen.tzU_eq
#print axioms FlacVerif.C13Gen.log2_of_lz
#print axioms FlacVerif.C13Gen.C13G_finest
#print axioms FlacVerif.C13Gen.C13G_finest_release_wraps
#print axioms FlacVerif.C13Gen.C13G_find_max
#print axioms FlacVerif.C13Gen.loopM_congr
#print axioms FlacVerif.C13Gen.loopM_lanes
#print axioms FlacVerif.C13Gen.loopM_index
#print axioms FlacVerif.C13Gen.repeatWhileM_index_aux
#print axioms FlacVerif.C13Gen.repeatWhileM_index
#print axioms FlacVerif.C13Gen.lanesM2_mul
#print axioms FlacVerif.C13Gen.shr_step
#print axioms FlacVerif.C13Gen.chunk_body
#print axioms FlacVerif.C13Gen.chunksAux_len
#print axioms FlacVerif.C13Gen.go_eq_chunks
#print axioms FlacVerif.C13Gen.C13G_from_errors
#print axioms FlacVerif.C13Gen.C13G_eval_partitions
#print axioms FlacVerif.C13Gen.C13G_merge_partitions
#print axioms FlacVerif.C13Gen.scalar_loop
#print axioms FlacVerif.C13Gen.C13G_unaligned
#print axioms FlacVerif.C13Gen.C13G_D1_order_le_14
#print axioms FlacVerif.C13Gen.encode_signbit_eq
#print axioms FlacVerif.C13Gen.zipUpd_encode_signbit
#print axioms FlacVerif.C13Gen.tblBody_ok
#print axioms FlacVerif.C13Gen.sliceSet_prefix
#print axioms FlacVerif.C13Gen.vecResize_length
#print axioms FlacVerif.C13Gen.merge_live
#print axioms FlacVerif.C13Gen.whBody_ok
#print axioms FlacVerif.C13Gen.while_loop
#print axioms FlacVerif.C13Gen.find_eq
#print axioms FlacVerif.C13Gen.findD_ok
#print axioms FlacVerif.C13Gen.findC_spec
#print axioms FlacVerif.C13Gen.findB_spec
#print axioms FlacVerif.C13Gen.shAmtS_wrapS
#print axioms FlacVerif.C13Gen.C13G_find
#print axioms FlacVerif.C13Gen.C13G_find_partitioned_rice_parameter
#print axioms FlacVerif.C13Gen.C13G_scratch_independent
#print axioms FlacVerif.C13Gen.C13G_merge_partitions_assert
#print axioms FlacVerif.C13Gen.C13G_from_errors_dev_overflow
#print axioms FlacVerif.C13Gen.C13G_encode_signbit_release_min
#print axioms FlacVerif.C13Gen.allSome_none
#print axioms FlacVerif.C13Gen.C13G_encode_signbit_simd_negative
#print axioms FlacVerif.C13Gen.C13G_encode_signbit_simd_nonneg
#print axioms FlacVerif.C13Gen.C13G_quotients_and_remainders
#print axioms FlacVerif.C13Gen.setAt_interval
#print axioms FlacVerif.C13Gen.C13G_encode_residual_partition
#print axioms FlacVerif.C13Gen.ofErrors_eq
#print axioms FlacVerif.C13Gen.written_extend
#print axioms FlacVerif.C13Gen.C13G_encode_residual_with_prc_parameter
#print axioms FlacVerif.C13Gen.C13G_encode_residual_chain
#print axioms FlacVerif.C10Gen.winOf_injective
#print axioms FlacVerif.C10Gen.C10G_fingerprint_window
#print axioms FlacVerif.C10Gen.C10G_window_key
#print axioms FlacVerif.C10Gen.C10G_window_key_injective
#print axioms FlacVerif.C10Gen.GInv_nil
#print axioms FlacVerif.C10Gen.C10G_get_window
#print axioms FlacVerif.C10Gen.C10G_get_window_independent
#print axioms FlacVerif.C10Gen.C10G_window_history
#print axioms FlacVerif.C10Gen.keyOf_beq
#print axioms FlacVerif.C10Gen.get_map_keyOf
#print axioms FlacVerif.C10Gen.insert_map_keyOf
#print axioms FlacVerif.C10Gen.C10G_get_window_model
#print axioms FlacVerif.C10Gen.C10G_qlpc_error_buffer
#print axioms FlacVerif.C10Gen.C10G_estimated_qlpc
#print axioms FlacVerif.C10Gen.C10G_fixed_lpc_errors
#print axioms FlacVerif.C10Gen.C10G_fixed_lpc
#print axioms FlacVerif.C10Gen.C10G_cast_buffer
#print axioms FlacVerif.C10Gen.C10G_msframebuf
#print axioms FlacVerif.C10Gen.C10G_frame_crc_buffer
#print axioms FlacVerif.Gen.Lpc.arithS_ok
#print axioms FlacVerif.Gen.Lpc.arithS_of_natAbs
#print axioms FlacVerif.Gen.Lpc.wrapS_of_inRange
#print axioms FlacVerif.Gen.Lpc.castU_of_nonneg
#print axioms FlacVerif.Gen.Lpc.addU_ok
#print axioms FlacVerif.Gen.Lpc.subU_ok
#print axioms FlacVerif.Gen.Lpc.mulU_ok
#print axioms FlacVerif.Gen.Lpc.shAmt_ok
#print axioms FlacVerif.Gen.Lpc.divU_ok
#print axioms FlacVerif.Gen.Lpc.req_ok
#print axioms FlacVerif.Gen.Lpc.sliceR_ok
#print axioms FlacVerif.Gen.Lpc.setAt_ok
#print axioms FlacVerif.Gen.Lpc.sliceFill_ok
#print axioms FlacVerif.Gen.Lpc.sliceCopy_ok
#print axioms FlacVerif.Gen.Lpc.vecResize_length
#print axioms FlacVerif.Gen.Lpc.loopM_eq_loop
#print axioms FlacVerif.Gen.Lpc.rangeL_zero
#print axioms FlacVerif.Gen.Lpc.zipWithM_nil_left
#print axioms FlacVerif.Gen.Lpc.zipWithM_cons
#print axioms FlacVerif.Gen.Lpc.zipWithM_pure
#print axioms FlacVerif.C01Gen.simdAbs_ok
#print axioms FlacVerif.C01Gen.zipMutM_pure
#print axioms FlacVerif.C10Gen.mapGet_insert_self
