-- GENERATED by ./check: axiom audit of the property theorems
import FlacVerif.Theorems.C14
import FlacVerif.Theorems.C14Gen
import FlacVerif.Lemmas.SourcePrelude
#print axioms FlacVerif.C14_le_roundtrip
#print axioms FlacVerif.C14_le_roundtrip_list
#print axioms FlacVerif.C14_fill
#print axioms FlacVerif.C14_fill_accepts
#print axioms FlacVerif.C14_channel_slice
#print axioms FlacVerif.C14_stale_independent
#print axioms FlacVerif.C14_bytes_channel_slice
#print axioms FlacVerif.C14_context
#print axioms FlacVerif.C14Gen.foldl_set_spec
#print axioms FlacVerif.C14Gen.idx_lt
#print axioms FlacVerif.C14Gen.src_lt
#print axioms FlacVerif.C14Gen.div_of_eq_mul
#print axioms FlacVerif.C14Gen.fillCells_eq_model
#print axioms FlacVerif.C14Gen.deinterleave_gen_fill
#print axioms FlacVerif.C14Gen.repeatWhileO_thresh
#print axioms FlacVerif.C14Gen.countUp_blocks
#print axioms FlacVerif.C14Gen.foldl_blocked
#print axioms FlacVerif.C14Gen.blocked_eq_foldl
#print axioms FlacVerif.C14Gen.deinterleaveBlocked_fill
#print axioms FlacVerif.C14Gen.deinterleave_ch1_eq
#print axioms FlacVerif.C14Gen.C14G_deinterleave
#print axioms FlacVerif.C14Gen.padded_window
#print axioms FlacVerif.C14Gen.leNat_eq_leSum
#print axioms FlacVerif.C14Gen.leNat_zeros
#print axioms FlacVerif.C14Gen.leNat_lt
#print axioms FlacVerif.C14Gen.sampleOf_eq
#print axioms FlacVerif.C14Gen.chunk_loop
#print axioms FlacVerif.C14Gen.set_loop
#print axioms FlacVerif.C14Gen.ceil_mul
#print axioms FlacVerif.C14Gen.countUp_zero_mul
#print axioms FlacVerif.C14Gen.le_bytes_impl_eq
#print axioms FlacVerif.C14Gen.le4_eq
#print axioms FlacVerif.C14Gen.C14G_i32s_to_le_bytes
#print axioms FlacVerif.C14Gen.C14G_i32s_to_le_bytes_panics
#print axioms FlacVerif.C14Gen.forF_cons
#print axioms FlacVerif.C14Gen.forF_first
#print axioms FlacVerif.C14Gen.C14G_is_constant
#print axioms FlacVerif.C14Gen.foldl_pair
#print axioms FlacVerif.C14Gen.foldl_min_le
#print axioms FlacVerif.C14Gen.le_foldl_max
#print axioms FlacVerif.C14Gen.minmax_in_iff
#print axioms FlacVerif.C14Gen.C14G_find_min_and_max
#print axioms FlacVerif.C14Gen.C14G_find_max_abs
#print axioms FlacVerif.C14Gen.C14G_le_bytes_to_i32s
#print axioms FlacVerif.C14Gen.C14G_le_bytes_to_i32s_panics
#print axioms FlacVerif.C14Gen.vecResize_length
#print axioms FlacVerif.C14Gen.C14G_with_size
#print axioms FlacVerif.C14Gen.C14G_channels
#print axioms FlacVerif.C14Gen.C14G_fill_interleaved
#print axioms FlacVerif.C14Gen.C14G_fill_le_bytes
#print axioms FlacVerif.C14Gen.C14G_channel_slice
#print axioms FlacVerif.C14Gen.C14G_verify_samples
#print axioms FlacVerif.C14Gen.C14G_fill_equiv
#print axioms FlacVerif.C14Gen.C14G_resize
#print axioms FlacVerif.C14Gen.C14G_with_size_shape
#print axioms FlacVerif.C14Gen.C14G_ctx_new
#print axioms FlacVerif.C14Gen.md5_fold
#print axioms FlacVerif.C14Gen.C14G_ctx_fill_interleaved
#print axioms FlacVerif.C14Gen.C14G_ctx_fill_le_bytes
#print axioms FlacVerif.C14Gen.C14G_ctx_width
#print axioms FlacVerif.C14Gen.pair_fill
#print axioms FlacVerif.C14Gen.C14G_pair_fill_interleaved
#print axioms FlacVerif.C14Gen.C14G_pair_fill_le_bytes
#print axioms FlacVerif.C14Gen.C14G_read_samples
#print axioms FlacVerif.C14Gen.C14G_par_fill_interleaved
#print axioms FlacVerif.C14Gen.C14G_par_fill_le_bytes
#print axioms FlacVerif.C14Gen.sourceBindO_some
#print axioms FlacVerif.C14Gen.sourceReq_true
#print axioms FlacVerif.C14Gen.sourceReq_decide
#print axioms FlacVerif.C14Gen.forO_nil
#print axioms FlacVerif.C14Gen.forO_cons
#print axioms FlacVerif.C14Gen.forO_eq_loop
#print axioms FlacVerif.C14Gen.forO_congr
#print axioms FlacVerif.C14Gen.replicate_nonempty
#print axioms FlacVerif.C14Gen.reduce_replicate
#print axioms FlacVerif.C14Gen.simd_map_and_reduce_scalar
