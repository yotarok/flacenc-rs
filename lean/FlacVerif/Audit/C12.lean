-- GENERATED by ./check: axiom audit of the property theorems
import FlacVerif.Theorems.C12
import FlacVerif.Theorems.GenFrame
import FlacVerif.Theorems.C08Gen
import FlacVerif.Theorems.C12Gen
import FlacVerif.Lemmas.SinkTrait
#print axioms FlacVerif.C12_residual_ops
#print axioms FlacVerif.C12_subframe_ops
#print axioms FlacVerif.C12_header_ops
#print axioms FlacVerif.C12_frame_ops
#print axioms FlacVerif.C12_frame_ops_precomputed
#print axioms FlacVerif.C12_streaminfo_ops
#print axioms FlacVerif.C12_stream_ops
#print axioms FlacVerif.C12_streaminfo_lossless
#print axioms FlacVerif.C12_residual_in_bounds
#print axioms FlacVerif.C12_ops_valid_residual
#print axioms FlacVerif.C12_ops_valid_subframe
#print axioms FlacVerif.C12_ops_valid_header
#print axioms FlacVerif.C12_ops_valid_frame
#print axioms FlacVerif.C12_ops_valid_frame_precomputed
#print axioms FlacVerif.C12_ops_valid_stream
#print axioms FlacVerif.C12_rfc_crc_fit
#print axioms FlacVerif.ops_of_bits
#print axioms FlacVerif.C12_failing_sink
#print axioms FlacVerif.C12_subframe
#print axioms FlacVerif.C12_frame
#print axioms FlacVerif.C12_stream
#print axioms FlacVerif.through_sinks
#print axioms FlacVerif.C08_through_sinks_residual
#print axioms FlacVerif.C08_through_sinks_subframe
#print axioms FlacVerif.C08_through_sinks_frame
#print axioms FlacVerif.C08_through_sinks_stream
#print axioms FlacVerif.C08Gen.countUp_one
#print axioms FlacVerif.C08Gen.countUp_zero_one
#print axioms FlacVerif.C08Gen.forW_some
#print axioms FlacVerif.C08Gen.forW_emit
#print axioms FlacVerif.C08Gen.forW_map
#print axioms FlacVerif.C08Gen.take_map_getD
#print axioms FlacVerif.C08Gen.map_of_mapM_rel
#print axioms FlacVerif.C08Gen.repeatWhileAux_eq
#print axioms FlacVerif.C08Gen.repeatWhile_eq
#print axioms FlacVerif.C08Gen.chunked_range
#print axioms FlacVerif.C08Gen.chunked
#print axioms FlacVerif.C08Gen.loopS_range'
#print axioms FlacVerif.C08Gen.loopE_range'
#print axioms FlacVerif.C08Gen.repeatWhileEAux_true
#print axioms FlacVerif.C08Gen.chunkedE
#print axioms FlacVerif.C08Gen.resOk_of_WF
#print axioms FlacVerif.C08Gen.nparts_eq
#print axioms FlacVerif.C08Gen.C08G_residual_ops
#print axioms FlacVerif.C08Gen.C08G_residual_count
#print axioms FlacVerif.C08Gen.C08G_residual_count_WF
#print axioms FlacVerif.C08Gen.C08G_residual_exact
#print axioms FlacVerif.C08Gen.C08G_constant_ops
#print axioms FlacVerif.C08Gen.C08G_verbatim_ops
#print axioms FlacVerif.C08Gen.C08G_fixed_ops
#print axioms FlacVerif.C08Gen.C08G_lpc_ops
#print axioms FlacVerif.C08Gen.subOk_of_WF
#print axioms FlacVerif.C08Gen.C08G_subframe_ops
#print axioms FlacVerif.C08Gen.C08G_verbatim_fixed_exact
#print axioms FlacVerif.C08Gen.subOrd_of_subOk
#print axioms FlacVerif.C08Gen.subOrd_of_WF
#print axioms FlacVerif.C08Gen.C08G_subframe_count
#print axioms FlacVerif.C08Gen.C08G_subframe_count_WF
#print axioms FlacVerif.C08Gen.C08G_streaminfo_ops
#print axioms FlacVerif.C08Gen.C08G_streaminfo_count
#print axioms FlacVerif.C08Gen.C08G_streaminfo_exact
#print axioms FlacVerif.C08Gen.C08G_block_unknown_ops
#print axioms FlacVerif.C08Gen.C08G_block_streaminfo_ops
#print axioms FlacVerif.C08Gen.C08G_block_unknown_count
#print axioms FlacVerif.C08Gen.C08G_block_streaminfo_count
#print axioms FlacVerif.C08Gen.C08G_block_count
#print axioms FlacVerif.C08Gen.codeBits_eq
#print axioms FlacVerif.C08Gen.C08G_utf8like_bytesize
#print axioms FlacVerif.C08Gen.C08G_header_count
#print axioms FlacVerif.C08Gen.hdrOps_of_writesBits
#print axioms FlacVerif.C08Gen.scratch_crc
#print axioms FlacVerif.C08Gen.chanOk_caOfGen
#print axioms FlacVerif.C08Gen.chanOk_tag
#print axioms FlacVerif.C08Gen.header_core
#print axioms FlacVerif.C08Gen.C08G_header_ops
#print axioms FlacVerif.C08Gen.C08G_frame_count
#print axioms FlacVerif.C08Gen.C08G_frame_count_precomputed
#print axioms FlacVerif.C08Gen.wordExport_resize
#print axioms FlacVerif.C08Gen.C08G_frame_ops
#print axioms FlacVerif.C08Gen.C08G_frame_ops_precomputed
#print axioms FlacVerif.C08Gen.forW_frames
#print axioms FlacVerif.C08Gen.C08G_stream_ops
#print axioms FlacVerif.C08Gen.C08G_stream_count
#print axioms FlacVerif.C12Gen.C12G_call_expand
#print axioms FlacVerif.C12Gen.C12G_expand
#print axioms FlacVerif.C12Gen.runReq_total
#print axioms FlacVerif.C12Gen.C12G_no_panic
#print axioms FlacVerif.C12Gen.runReq_first_error
#print axioms FlacVerif.C12Gen.C12G_first_error
#print axioms FlacVerif.C12Gen.infallible_ok
#print axioms FlacVerif.C12Gen.map_infallible
#print axioms FlacVerif.C12Gen.word_call
#print axioms FlacVerif.C12Gen.byte_call
#print axioms FlacVerif.C12Gen.runSink_infallible
#print axioms FlacVerif.C12Gen.C12G_word_run
#print axioms FlacVerif.C12Gen.C12G_byte_run
#print axioms FlacVerif.C12Gen.reqCall_failAt
#print axioms FlacVerif.C12Gen.runReq_failAt
#print axioms FlacVerif.C12Gen.C12G_writeFailing
#print axioms FlacVerif.C12Gen.runReq_append
#print axioms FlacVerif.C12Gen.runReq_single
#print axioms FlacVerif.C12Gen.forF_calls
#print axioms FlacVerif.C12Gen.forF_map
#print axioms FlacVerif.C12Gen.whileF_zeros
#print axioms FlacVerif.C12Gen.reqCall_of_fit
#print axioms FlacVerif.C12Gen.expand_fit
#print axioms FlacVerif.C12Gen.write_twoc_eq
#print axioms FlacVerif.C12Gen.default_twoc
#print axioms FlacVerif.C12Gen.default_bytes_aligned
#print axioms FlacVerif.C12Gen.default_zeros
