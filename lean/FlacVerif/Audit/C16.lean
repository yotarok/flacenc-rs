-- GENERATED by ./check: axiom audit of the property theorems
import FlacVerif.Theorems.C16crc
import FlacVerif.Theorems.C16
import FlacVerif.Theorems.C02Gen
import FlacVerif.Theorems.C02Hdr
import FlacVerif.Theorems.GenFrame
import FlacVerif.Theorems.GenBlockSize
import FlacVerif.Lemmas.GenPrelude
import FlacVerif.Theorems.C15Gen
import FlacVerif.Theorems.C16Gen
import FlacVerif.Theorems.C16GenRel
import FlacVerif.Lemmas.ParserCorr
import FlacVerif.Lemmas.RepoSuf
#print axioms FlacVerif.crc_register_lt
#print axioms FlacVerif.crc_linear
#print axioms FlacVerif.crc_zero_step_injective
#print axioms FlacVerif.crc_burst
#print axioms FlacVerif.crc_accepts_own
#print axioms FlacVerif.C16_crc8_register_lt
#print axioms FlacVerif.C16_crc16_register_lt
#print axioms FlacVerif.C16_crc8_linear
#print axioms FlacVerif.C16_crc16_linear
#print axioms FlacVerif.C16_crc8_zero_step_injective
#print axioms FlacVerif.C16_crc16_zero_step_injective
#print axioms FlacVerif.C16_crc8_burst
#print axioms FlacVerif.C16_crc16_burst
#print axioms FlacVerif.C16_crc8_accepts_own
#print axioms FlacVerif.C16_crc16_accepts_own
#print axioms FlacVerif.C16_frame_burst_rejected
#print axioms FlacVerif.C16_header_burst_rejected
#print axioms FlacVerif.C16_frame_clean_accepted
#print axioms FlacVerif.C16_header_clean_accepted
#print axioms FlacVerif.C16_total
#print axioms FlacVerif.C16_total_frame
#print axioms FlacVerif.C16_total_subframe
#print axioms FlacVerif.C16_total_residual
#print axioms FlacVerif.C16_streaminfo_range
#print axioms FlacVerif.C16_decoder_panic_warmup_exceeds_block
#print axioms FlacVerif.C16_decoder_panic_partition_longer_than_block
#print axioms FlacVerif.C16_decoder_panic_partitions_do_not_divide_block
#print axioms FlacVerif.C16_decoder_panic_signbit_overflow
#print axioms FlacVerif.C02_crc8_is_rfc
#print axioms FlacVerif.C02_crc16_is_rfc
#print axioms FlacVerif.C02_fixed_coefs_are_rfc
#print axioms FlacVerif.C02Hdr.bsOfGen_toGen
#print axioms FlacVerif.C02Hdr.bsToGen_ofGen
#print axioms FlacVerif.C02Hdr.caOfGen_toGen
#print axioms FlacVerif.C02Hdr.caToGen_ofGen
#print axioms FlacVerif.C02Hdr.from_size_arms
#print axioms FlacVerif.C02Hdr.C02H_blockSize_fromSize
#print axioms FlacVerif.C02Hdr.C02H_blockSize_fromSize_exact
#print axioms FlacVerif.C02Hdr.C02H_blockSize_fromSize_some
#print axioms FlacVerif.C02Hdr.C02H_blockSize_tag
#print axioms FlacVerif.C02Hdr.C02H_blockSize_extraBits
#print axioms FlacVerif.C02Hdr.C02H_blockSize_extraCount
#print axioms FlacVerif.C02Hdr.C02H_blockSize_blockSize
#print axioms FlacVerif.C02Hdr.C02H_blockSize_range_exact
#print axioms FlacVerif.C02Hdr.blockSize_fromSize_gen
#print axioms FlacVerif.C02Hdr.C02H_blockSize_code
#print axioms FlacVerif.C02Hdr.shl_mul_arm
#print axioms FlacVerif.C02Hdr.add_one_arm
#print axioms FlacVerif.C02Hdr.C02H_headerBlockSize
#print axioms FlacVerif.C02Hdr.C02H_sampleSizeTag
#print axioms FlacVerif.C02Hdr.C02H_sampleSizeBits
#print axioms FlacVerif.C02Hdr.ss_bits_eq
#print axioms FlacVerif.C02Hdr.C02H_sampleSize_fromTag
#print axioms FlacVerif.C02Hdr.C02H_sampleSize_bits_roundtrip
#print axioms FlacVerif.C02Hdr.flatten_boolThen
#print axioms FlacVerif.C02Hdr.orElse_ite
#print axioms FlacVerif.C02Hdr.tryInto_map
#print axioms FlacVerif.C02Hdr.orElse_none
#print axioms FlacVerif.C02Hdr.fromFreq_row
#print axioms FlacVerif.C02Hdr.C02H_sampleRate_fromFreq
#print axioms FlacVerif.C02Hdr.C02H_sampleRate_tag
#print axioms FlacVerif.C02Hdr.C02H_sampleRate_fixed_tags
#print axioms FlacVerif.C02Hdr.C02H_sampleRate_extraBits
#print axioms FlacVerif.C02Hdr.C02H_sampleRate_extraCount
#print axioms FlacVerif.C02Hdr.C02H_sampleRate_code
#print axioms FlacVerif.C02Hdr.C02H_sampleRate_fromTag_exact
#print axioms FlacVerif.C02Hdr.C02H_sampleRateCode_nodata
#print axioms FlacVerif.C02Hdr.C02H_sampleRateCode_data
#print axioms FlacVerif.C02Hdr.C02H_channel_channels
#print axioms FlacVerif.C02Hdr.C02H_channel_bpsOffset
#print axioms FlacVerif.C02Hdr.bps_offset_eq
#print axioms FlacVerif.C02Hdr.channels_eq
#print axioms FlacVerif.C02Hdr.C02H_channel_countBits
#print axioms FlacVerif.C02Hdr.C02H_channel_write
#print axioms FlacVerif.C02Hdr.C02H_channel_write_err
#print axioms FlacVerif.C02Hdr.C02H_channel_write_discrepancy
#print axioms FlacVerif.C02Hdr.C02H_channel_fromTag
#print axioms FlacVerif.C08Gen.countUp_one
#print axioms FlacVerif.C08Gen.countUp_zero_one
#print axioms FlacVerif.Repo.PResult.eq_panic_of_isPanic
#print axioms FlacVerif.C15Gen.block_size_eq
#print axioms FlacVerif.Gen.Decode.addU_ok
#print axioms FlacVerif.Gen.Decode.subU_ok
#print axioms FlacVerif.Gen.Decode.mulU_ok
#print axioms FlacVerif.Gen.Decode.shAmt_ok
#print axioms FlacVerif.Gen.Decode.divU_ok
#print axioms FlacVerif.Gen.Decode.arithS_ok
#print axioms FlacVerif.Gen.Decode.req_ok
#print axioms FlacVerif.Gen.Decode.req_false
#print axioms FlacVerif.Gen.Decode.addU_lt
#print axioms FlacVerif.Gen.Decode.subU_wrap
#print axioms FlacVerif.Gen.Decode.shlU_one
#print axioms FlacVerif.Gen.Decode.shrS_one
#print axioms FlacVerif.Gen.Decode.wrapS_eq_bmod
#print axioms FlacVerif.Gen.Decode.wrapS_of_inRange
#print axioms FlacVerif.Gen.Decode.wrapS_add_wrapS
#print axioms FlacVerif.Gen.Decode.arithS_release
#print axioms FlacVerif.Gen.Decode.castU_of_nonneg
#print axioms FlacVerif.Gen.Decode.castU_of_neg
#print axioms FlacVerif.Gen.Decode.castU_mod
#print axioms FlacVerif.Gen.Decode.andS_one
#print axioms FlacVerif.Gen.Decode.sliceR_ok
#print axioms FlacVerif.Gen.Decode.sliceR_prefix
#print axioms FlacVerif.Gen.Decode.sliceFill_ok
#print axioms FlacVerif.Gen.Decode.sliceCopy_ok
#print axioms FlacVerif.Gen.Decode.setAt_ok
#print axioms FlacVerif.Gen.Decode.setAt_none
#print axioms FlacVerif.Gen.Decode.setAt_zero
#print axioms FlacVerif.Gen.Decode.setAt_one
#print axioms FlacVerif.Gen.Decode.setAt_append
#print axioms FlacVerif.Gen.Decode.setAt_boundary
#print axioms FlacVerif.Gen.Decode.getElem?_boundary
#print axioms FlacVerif.Gen.Decode.rangeL_zero
#print axioms FlacVerif.Gen.Decode.enumFrom_nil
#print axioms FlacVerif.Gen.Decode.enumFrom_cons
#print axioms FlacVerif.Gen.Decode.length_enumFrom
#print axioms FlacVerif.Gen.Decode.getElem_enumFrom
#print axioms FlacVerif.Gen.Decode.loopM_nil
#print axioms FlacVerif.Gen.Decode.loopM_cons
#print axioms FlacVerif.Gen.Decode.loopM_eq_loop
#print axioms FlacVerif.C15Gen.toOpt_bind
#print axioms FlacVerif.C15Gen.toOpt_checked
#print axioms FlacVerif.C15Gen.toOpt_shAmt
#print axioms FlacVerif.C15Gen.toOpt_addU
#print axioms FlacVerif.C15Gen.toOpt_idx
#print axioms FlacVerif.C15Gen.wrapS_eq_asSigned
#print axioms FlacVerif.C15Gen.toOpt_i32op
#print axioms FlacVerif.C15Gen.C15G_decode_signbit
#print axioms FlacVerif.C15Gen.C15G_encode_signbit
#print axioms FlacVerif.C15Gen.mapO_length
#print axioms FlacVerif.C15Gen.mapO_congr
#print axioms FlacVerif.C15Gen.loopM_fill
#print axioms FlacVerif.C15Gen.loopM_warm
#print axioms FlacVerif.C15Gen.residualSignalLoop_eq
#print axioms FlacVerif.C15Gen.residualSignal_eq
#print axioms FlacVerif.C15Gen.residualSignal_length
#print axioms FlacVerif.C15Gen.C15G_residual_copy_signal
#print axioms FlacVerif.C15Gen.C15G_residual_copy_signal_short
#print axioms FlacVerif.C15Gen.C15G_residual_decode
#print axioms FlacVerif.C15Gen.C15G_constant_copy_signal
#print axioms FlacVerif.C15Gen.C15G_constant_decode
#print axioms FlacVerif.C15Gen.C15G_verbatim_copy_signal
#print axioms FlacVerif.C15Gen.C15G_verbatim_decode
#print axioms FlacVerif.C15Gen.predict_cons
#print axioms FlacVerif.C15Gen.hist_index
#print axioms FlacVerif.C15Gen.predict_eq
#print axioms FlacVerif.C15Gen.getElem?_mid
#print axioms FlacVerif.C15Gen.getElem?_hist
#print axioms FlacVerif.C15Gen.setAt_hist
#print axioms FlacVerif.C15Gen.lpcLoop_eq
#print axioms FlacVerif.C15Gen.shAmt_castU
#print axioms FlacVerif.C15Gen.decode_lpc_eq
#print axioms FlacVerif.C15Gen.fixed_rows
#print axioms FlacVerif.C15Gen.fixed_rows_length
#print axioms FlacVerif.C15Gen.C15G_fixed_decode
#print axioms FlacVerif.C15Gen.C15G_lpc_decode
#print axioms FlacVerif.C15Gen.C15G_lpc_decode_discrepancy
#print axioms FlacVerif.C15Gen.C15G_subframe_decode
#print axioms FlacVerif.C15Gen.toOpt_mapM
#print axioms FlacVerif.C15Gen.loopM_push
#print axioms FlacVerif.C15Gen.shlS_one
#print axioms FlacVerif.C15Gen.decorrelate_cons
#print axioms FlacVerif.C15Gen.stereo_loop
#print axioms FlacVerif.C15Gen.leftBody_step
#print axioms FlacVerif.C15Gen.rightBody_step
#print axioms FlacVerif.C15Gen.midBody_step
#print axioms FlacVerif.C15Gen.stereo_gen
#print axioms FlacVerif.C15Gen.ilv_index
#print axioms FlacVerif.C15Gen.interleaveLoop_mid
#print axioms FlacVerif.C15Gen.colWrite
#print axioms FlacVerif.C15Gen.ilv_outer
#print axioms FlacVerif.C15Gen.interleaveLoop_zeros
#print axioms FlacVerif.C15Gen.ilv_eq
#print axioms FlacVerif.C15Gen.final_stage
#print axioms FlacVerif.C15Gen.stereo_stage
#print axioms FlacVerif.C15Gen.frame_signal_len
#print axioms FlacVerif.C15Gen.C15G_frame_decode
#print axioms FlacVerif.C15Gen.C15G_frame_panic_iff
#print axioms FlacVerif.C15Gen.C15G_decodeAll
#print axioms FlacVerif.C15Gen.exFrameDom
#print axioms FlacVerif.C16Gen.C16G_takeBits
#print axioms FlacVerif.C16Gen.C16G_tagBits
#print axioms FlacVerif.C16Gen.wrapS_eq_asSigned
#print axioms FlacVerif.C16Gen.u_to_i_tail
#print axioms FlacVerif.C16Gen.C16G_u_to_i
#print axioms FlacVerif.C16Gen.many0_unary
#print axioms FlacVerif.C16Gen.C16G_unary_code
#print axioms FlacVerif.C16Gen.uToI_ne_error
#print axioms FlacVerif.C16Gen.raw_loop
#print axioms FlacVerif.C16Gen.C16G_raw_samples_run
#print axioms FlacVerif.C16Gen.bpsAssert_eq
#print axioms FlacVerif.C16Gen.C16G_raw_samples
#print axioms FlacVerif.C16Gen.subframe_header_eq
#print axioms FlacVerif.C16Gen.C16G_subframe_header
#print axioms FlacVerif.C16Gen.outcome_bind_header
#print axioms FlacVerif.C16Gen.C16G_constant_run
#print axioms FlacVerif.C16Gen.C16G_verbatim_run
#print axioms FlacVerif.C16Gen.inner_loop
#print axioms FlacVerif.C16Gen.accO_eq
#print axioms FlacVerif.C16Gen.outer_loop
#print axioms FlacVerif.C16Gen.residual_run_eq
#print axioms FlacVerif.C16Gen.C16G_residual_run
#print axioms FlacVerif.C16Gen.C16G_residual
#print axioms FlacVerif.C16Gen.bpsAssert_run
#print axioms FlacVerif.C16Gen.C16G_constant
#print axioms FlacVerif.C16Gen.C16G_verbatim
#print axioms FlacVerif.C16Gen.not_and_decide
#print axioms FlacVerif.C16Gen.C16G_fixed_lpc_run
#print axioms FlacVerif.C16Gen.C16G_fixed_lpc
#print axioms FlacVerif.C16Gen.quantizedNew_eq
#print axioms FlacVerif.C16Gen.clsQ_eq
#print axioms FlacVerif.C16Gen.C16G_quantized_parameters
#print axioms FlacVerif.C16Gen.quantizedParameters_length
#print axioms FlacVerif.C16Gen.qp_both
#print axioms FlacVerif.C16Gen.C16G_lpc_run
#print axioms FlacVerif.C16Gen.C16G_lpc
#print axioms FlacVerif.C16Gen.C16G_subframe
#print axioms FlacVerif.C16Gen.C16G_block_size_code
#print axioms FlacVerif.C16Gen.sr_tail
#print axioms FlacVerif.C16Gen.C16G_sample_rate_code
#print axioms FlacVerif.C16Gen.utf8_rest
#print axioms FlacVerif.C16Gen.relB_classify
#print axioms FlacVerif.C16Gen.C16G_utf8_code
#print axioms FlacVerif.C16Gen.relB_ssTag
#print axioms FlacVerif.C16Gen.relB_chTag
#print axioms FlacVerif.C16Gen.hdrOfGen_from_specs
#print axioms FlacVerif.C16Gen.crc_tail
#print axioms FlacVerif.C16Gen.C16G_frame_header
#print axioms FlacVerif.C16Gen.many_subframes
#print axioms FlacVerif.C16Gen.block_size_step
#print axioms FlacVerif.C16Gen.C16G_frame
#print axioms FlacVerif.C16Gen.relB_of_clsL
#print axioms FlacVerif.C16Gen.verifyBps_same
#print axioms FlacVerif.C16Gen.blocks_stage
#print axioms FlacVerif.C16Gen.frames_stage
#print axioms FlacVerif.C16Gen.bindVR_some
#print axioms FlacVerif.C16Gen.bindVR_none
#print axioms FlacVerif.C16Gen.streamInfoLogic
#print axioms FlacVerif.C16Gen.C16G_stream_info
#print axioms FlacVerif.C16Gen.C16G_metadata_block
#print axioms FlacVerif.C16Gen.add_block_ps
#print axioms FlacVerif.C16Gen.add_blocks_ps
#print axioms FlacVerif.C16Gen.push_frames_ps
#print axioms FlacVerif.C16Gen.bits_inj
#print axioms FlacVerif.C16Gen.byteTag_rel
#print axioms FlacVerif.C16Gen.streamInfoChannels
#print axioms FlacVerif.C16Gen.metadataBlockConsumes
#print axioms FlacVerif.C16Gen.md_loop
#print axioms FlacVerif.C16Gen.frame_run_eq
#print axioms FlacVerif.C16Gen.many_frames
#print axioms FlacVerif.C16Gen.relStream_ne_none
#print axioms FlacVerif.C16Gen.isBytes_flac
#print axioms FlacVerif.C16Gen.stream_tail
#print axioms FlacVerif.C16Gen.C16G_stream
#print axioms FlacVerif.C16Gen.C16G_total_residual
#print axioms FlacVerif.C16Gen.C16G_total_subframe
#print axioms FlacVerif.C16Gen.C16G_total_frame_header
#print axioms FlacVerif.C16Gen.C16G_total_frame
#print axioms FlacVerif.C16Gen.C15G_frame_roundtrip
#print axioms FlacVerif.C16Gen.C16G_total
#print axioms FlacVerif.C16Gen.C15G_stream_roundtrip
#print axioms FlacVerif.C16GenRel.R_refl
#print axioms FlacVerif.C16GenRel.R_none
#print axioms FlacVerif.C16GenRel.R_unit
#print axioms FlacVerif.C16GenRel.R_eq_of_ne
#print axioms FlacVerif.C16GenRel.R_bind
#print axioms FlacVerif.C16GenRel.R_bindP
#print axioms FlacVerif.C16GenRel.R_bindO
#print axioms FlacVerif.C16GenRel.R_bindR
#print axioms FlacVerif.C16GenRel.R_bindVR
#print axioms FlacVerif.C16GenRel.R_ite
#print axioms FlacVerif.C16GenRel.R_addU
#print axioms FlacVerif.C16GenRel.R_subU
#print axioms FlacVerif.C16GenRel.R_mulU
#print axioms FlacVerif.C16GenRel.R_shAmt
#print axioms FlacVerif.C16GenRel.R_arithS
#print axioms FlacVerif.C16GenRel.R_req
#print axioms FlacVerif.C16GenRel.sumU_R
#print axioms FlacVerif.C16GenRel.R_loopP
#print axioms FlacVerif.C16GenRel.R_loopO
#print axioms FlacVerif.C16GenRel.R_mapP
#print axioms FlacVerif.C16GenRel.R_verifyP
#print axioms FlacVerif.C16GenRel.R_altP
#print axioms FlacVerif.C16GenRel.R_bitsP
#print axioms FlacVerif.C16GenRel.R_boolThenO
#print axioms FlacVerif.C16GenRel.R_whileP
#print axioms FlacVerif.C16GenRel.R_manyTillEofAux
#print axioms FlacVerif.C16GenRel.R_manyTillEof
#print axioms FlacVerif.C16GenRel.R_manyMNSAux
#print axioms FlacVerif.C16GenRel.R_manyMNS
#print axioms FlacVerif.C16GenRel.R2_bind
#print axioms FlacVerif.C16GenRel.R2_some
#print axioms FlacVerif.C16GenRel.u_to_i_R
#print axioms FlacVerif.C16GenRel.unary_code_R
#print axioms FlacVerif.C16GenRel.raw_samples_pre_R
#print axioms FlacVerif.C16GenRel.raw_samples_run_R
#print axioms FlacVerif.C16GenRel.Residual_from_parts_R
#print axioms FlacVerif.C16GenRel.residual_run_R
#print axioms FlacVerif.C16GenRel.subframe_header_R
#print axioms FlacVerif.C16GenRel.constant_pre_R
#print axioms FlacVerif.C16GenRel.verbatim_pre_R
#print axioms FlacVerif.C16GenRel.fixed_lpc_pre_R
#print axioms FlacVerif.C16GenRel.lpc_pre_R
#print axioms FlacVerif.C16GenRel.constant_run_R
#print axioms FlacVerif.C16GenRel.verbatim_run_R
#print axioms FlacVerif.C16GenRel.fixed_lpc_run_R
#print axioms FlacVerif.C16GenRel.quantized_parameters_run_R
#print axioms FlacVerif.C16GenRel.lpc_run_R
#print axioms FlacVerif.C16GenRel.subframe_pre0_R
#print axioms FlacVerif.C16GenRel.subframe_pre_R
#print axioms FlacVerif.C16GenRel.subframe_run_R
#print axioms FlacVerif.C16GenRel.subframe_R
#print axioms FlacVerif.C16GenRel.utf8_code_R
#print axioms FlacVerif.C16GenRel.block_size_code_run_R
#print axioms FlacVerif.C16GenRel.sample_rate_code_run_R
#print axioms FlacVerif.C16GenRel.frame_header_run_R
#print axioms FlacVerif.C16GenRel.frame_run_R
#print axioms FlacVerif.C16GenRel.frame_R
#print axioms FlacVerif.C16GenRel.stream_info_R
#print axioms FlacVerif.C16GenRel.metadata_block_R
#print axioms FlacVerif.C16GenRel.stream_R
#print axioms FlacVerif.C16GenRel.residual_R
#print axioms FlacVerif.C16GenRel.frame_header_R
#print axioms FlacVerif.C16GenRel.C16G_release_eq_residual
#print axioms FlacVerif.C16GenRel.C16G_release_eq_subframe
#print axioms FlacVerif.C16GenRel.C16G_release_eq_frame_header
#print axioms FlacVerif.C16GenRel.C16G_release_eq_frame
#print axioms FlacVerif.C16GenRel.C16G_total_frame_release
#print axioms FlacVerif.C16GenRel.C16G_release_eq
#print axioms FlacVerif.C16GenRel.C16G_total_release
#print axioms FlacVerif.C16GenRel.C15G_stream_roundtrip_release
#print axioms FlacVerif.C16Gen.cls_eq
#print axioms FlacVerif.C16Gen.bindP_assoc
#print axioms FlacVerif.C16Gen.bindP_obind
#print axioms FlacVerif.C16Gen.bindP_okP_id
#print axioms FlacVerif.C16Gen.cls_eq_none
#print axioms FlacVerif.C16Gen.cls_ne_none
#print axioms FlacVerif.C16Gen.mapP_some_bind
#print axioms FlacVerif.C16Gen.ite_mapP_bind
#print axioms FlacVerif.C16Gen.loopP_pure
#print axioms FlacVerif.C16Gen.whileP_done
#print axioms FlacVerif.C16Gen.outcome_bindK
#print axioms FlacVerif.C16Gen.outcome_bind
#print axioms FlacVerif.C16Gen.noErr_bind
#print axioms FlacVerif.C16Gen.noErr_ok
#print axioms FlacVerif.C16Gen.noErr_panic
#print axioms FlacVerif.C16Gen.noErr_ite
#print axioms FlacVerif.C16Gen.noErr_usub
#print axioms FlacVerif.C16Gen.noErr_ushl
#print axioms FlacVerif.C16Gen.noErr_uadd
#print axioms FlacVerif.C16Gen.noErr_umul
#print axioms FlacVerif.C16Gen.noErr_passert
#print axioms FlacVerif.C16Gen.rel_bindO
#print axioms FlacVerif.C16Gen.rel_check
#print axioms FlacVerif.C16Gen.rel_ite
#print axioms FlacVerif.C16Gen.outcome_bindO
#print axioms FlacVerif.C16Gen.outcome_check
#print axioms FlacVerif.C16Gen.clsO_bind
#print axioms FlacVerif.C16Gen.ite_eq_map
#print axioms FlacVerif.C16Gen.outcome_bind_pure
#print axioms FlacVerif.C16Gen.outcome_fromSlice
#print axioms FlacVerif.C16Gen.altP_cls
#print axioms FlacVerif.C16Gen.subU_eq
#print axioms FlacVerif.C16Gen.sumU_eq
#print axioms FlacVerif.C16Gen.rel_shl
#print axioms FlacVerif.C16Gen.clsO_shl
#print axioms FlacVerif.C16Gen.outcome_shl
#print axioms FlacVerif.C16Gen.IsBytes.drop
#print axioms FlacVerif.C16Gen.IsBytes.take
#print axioms FlacVerif.C16Gen.bits_split
#print axioms FlacVerif.C16Gen.relB_elim
#print axioms FlacVerif.C16Gen.relB_ne_none
#print axioms FlacVerif.C16Gen.relB_pure
#print axioms FlacVerif.C16Gen.relB_shift
#print axioms FlacVerif.C16Gen.relB_bindT
#print axioms FlacVerif.C16Gen.relB_bind
#print axioms FlacVerif.C16Gen.relB_guardM
#print axioms FlacVerif.C16Gen.relB_beU
#print axioms FlacVerif.C16Gen.relB_byteTake
#print axioms FlacVerif.C16Gen.Suffix.align
#print axioms FlacVerif.C16Gen.bitsP_bind
#print axioms FlacVerif.C16Gen.relB_bits_end
#print axioms FlacVerif.C16Gen.relB_bits
#print axioms FlacVerif.C16Gen.bind_ok_of
#print axioms FlacVerif.C16Gen.Suffix.refl
#print axioms FlacVerif.C16Gen.Suffix.trans
#print axioms FlacVerif.C16Gen.Suf.ok_self
#print axioms FlacVerif.C16Gen.Suf.error
#print axioms FlacVerif.C16Gen.Suf.panic
#print axioms FlacVerif.C16Gen.Suf.bind
#print axioms FlacVerif.C16Gen.shorter_of_bind
#print axioms FlacVerif.C16Gen.Suf.bindO
#print axioms FlacVerif.C16Gen.Suf.ite
#print axioms FlacVerif.C16Gen.Suf.guard
#print axioms FlacVerif.C16Gen.Suf.of_suffix
#print axioms FlacVerif.C16Gen.Suf.of_drop
#print axioms FlacVerif.C16Gen.suf_takeBits
#print axioms FlacVerif.C16Gen.suf_tagBits
#print axioms FlacVerif.C16Gen.suf_unaryCode
#print axioms FlacVerif.C16Gen.suf_rawSamplesLoop
#print axioms FlacVerif.C16Gen.suf_rawSamples
#print axioms FlacVerif.C16Gen.suf_residualSamples
#print axioms FlacVerif.C16Gen.suf_residualParts
#print axioms FlacVerif.C16Gen.suf_residual
#print axioms FlacVerif.C16Gen.suf_subframeHeader
#print axioms FlacVerif.C16Gen.suf_constant
#print axioms FlacVerif.C16Gen.suf_verbatim
#print axioms FlacVerif.C16Gen.suf_fixedLpc
#print axioms FlacVerif.C16Gen.suf_quantizedParameters
#print axioms FlacVerif.C16Gen.suf_lpc
#print axioms FlacVerif.C16Gen.suf_alt
#print axioms FlacVerif.C16Gen.suf_subframe
#print axioms FlacVerif.C16Gen.suf_subframes
#print axioms FlacVerif.C16Gen.suf_bytes
#print axioms FlacVerif.C16Gen.suf_beUint
#print axioms FlacVerif.C16Gen.suf_byteTake
#print axioms FlacVerif.C16Gen.suf_streamInfo
