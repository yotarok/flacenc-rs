-- axiom audit of the laws of the prelude of Gen/Source.lean (Lemmas/SourcePrelude.lean)
import FlacVerif.Lemmas.SourcePrelude
#print axioms FlacVerif.C14Gen.sourceBindO_some
#print axioms FlacVerif.C14Gen.sourceReq_true
#print axioms FlacVerif.C14Gen.sourceReq_decide
#print axioms FlacVerif.C14Gen.forO_nil
#print axioms FlacVerif.C14Gen.forO_cons
#print axioms FlacVerif.C14Gen.forO_eq_loop
#print axioms FlacVerif.C14Gen.forO_congr
#print axioms FlacVerif.C14Gen.replicate_nonempty
#print axioms FlacVerif.C14Gen.reduce_replicate
#print axioms FlacVerif.C14Gen.simd_map_and_reduce_scalar
