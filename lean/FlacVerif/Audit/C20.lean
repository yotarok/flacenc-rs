-- GENERATED by ./check: axiom audit of the property theorems
import FlacVerif.Theorems.C01
import FlacVerif.Theorems.C09
import FlacVerif.Theorems.C03Gen
#print axioms FlacVerif.C01.C01_unfold_fold
#print axioms FlacVerif.C01.C01_encodeSignbit
#print axioms FlacVerif.C01.C01_rice_split
#print axioms FlacVerif.C01.C01_lpc
#print axioms FlacVerif.C01.C01_fixed
#print axioms FlacVerif.C01.C01_midside
#print axioms FlacVerif.C01.C01_leftside
#print axioms FlacVerif.C01.C01_rightside
#print axioms FlacVerif.C09.constant_le
#print axioms FlacVerif.C09.C09_subframe
#print axioms FlacVerif.C09.count_le_of_encodedFrom
#print axioms FlacVerif.C09.chooseStereo_le
#print axioms FlacVerif.C09.selectChannels_cost
#print axioms FlacVerif.C09.selectChannels_of
#print axioms FlacVerif.C09.C09_frame
#print axioms FlacVerif.C09.fixedStage_some
#print axioms FlacVerif.C09.encodeChannels_bound
#print axioms FlacVerif.C03Gen.bindM_none
#print axioms FlacVerif.C03Gen.pureM_apply
#print axioms FlacVerif.C03Gen.req_false
#print axioms FlacVerif.C03Gen.tryM_some
#print axioms FlacVerif.C03Gen.tryM_none
#print axioms FlacVerif.C03Gen.tryRet_some
#print axioms FlacVerif.C03Gen.tryRet_none
#print axioms FlacVerif.C03Gen.bindO_some
#print axioms FlacVerif.C03Gen.reqO_true
#print axioms FlacVerif.C03Gen.reqO_false
#print axioms FlacVerif.C03Gen.C03G_with_stream_info
#print axioms FlacVerif.C03Gen.C03G_stream_new
#print axioms FlacVerif.C03Gen.C03G_lens_eq
#print axioms FlacVerif.C03Gen.C03G_lens_get
#print axioms FlacVerif.C03Gen.C03G_lens_panics
#print axioms FlacVerif.C03Gen.C03G_lens_get_set
#print axioms FlacVerif.C03Gen.C03G_lens_set_get
#print axioms FlacVerif.C03Gen.C03G_lens_set_set
#print axioms FlacVerif.C03Gen.C03G_lens_frame
#print axioms FlacVerif.C03Gen.C03G_accessors
#print axioms FlacVerif.C03Gen.C03G_frames
#print axioms FlacVerif.C03Gen.C03G_frame_block_size
#print axioms FlacVerif.C03Gen.update_frame_info_eq
#print axioms FlacVerif.C03Gen.C03G_update_frame_info
#print axioms FlacVerif.C03Gen.C03G_update_frame_info_panics_reserved
#print axioms FlacVerif.C03Gen.C03G_update_frame_info_panics_count
#print axioms FlacVerif.C03Gen.C03G_update_frame_info_panics_total
#print axioms FlacVerif.C03Gen.C03G_update_frame_info_model
#print axioms FlacVerif.C03Gen.C03G_set_md5_digest
#print axioms FlacVerif.C03Gen.C03G_set_md5_digest_panics
#print axioms FlacVerif.C03Gen.C03G_add_frame
#print axioms FlacVerif.C03Gen.C03G_add_frame_panics
#print axioms FlacVerif.C03Gen.foldInfo_cons
#print axioms FlacVerif.C03Gen.foldInfo_fields
#print axioms FlacVerif.C03Gen.foldlM_update_frame_info
#print axioms FlacVerif.C03Gen.foldlM_add_frame
#print axioms FlacVerif.C03Gen.C03G_add_frames
#print axioms FlacVerif.C03Gen.set_block_sizes_ok
#print axioms FlacVerif.C03Gen.finishInfo_foldInfo
#print axioms FlacVerif.C03Gen.C03G_assemble
#print axioms FlacVerif.C03Gen.C03G_driver_unfold
#print axioms FlacVerif.C03Gen.C03G_driver_multithread
#print axioms FlacVerif.C03Gen.C03G_driver_args
#print axioms FlacVerif.C03Gen.C20G_driver_featPar
#print axioms FlacVerif.C03Gen.encode_fixed_size_frame_multithread
#print axioms FlacVerif.C03Gen.C20G_driver_nopar_ignores_multithread
#print axioms FlacVerif.C03Gen.C20G_driver_par_forwards
#print axioms FlacVerif.C03Gen.loopM_succ
#print axioms FlacVerif.C03Gen.loopBody_stop
#print axioms FlacVerif.C03Gen.loopBody_read_err
#print axioms FlacVerif.C03Gen.loopBody_block
#print axioms FlacVerif.C03Gen.C03G_loop
#print axioms FlacVerif.C03Gen.C03G_loop_read_err
#print axioms FlacVerif.C03Gen.C03G_loop_encode_err
#print axioms FlacVerif.C03Gen.run_stream
#print axioms FlacVerif.C03Gen.epilogue_apply
#print axioms FlacVerif.C03Gen.streamInfo_new_some
#print axioms FlacVerif.C03Gen.withSize_shape
#print axioms FlacVerif.C03Gen.withSize_bs
#print axioms FlacVerif.C03Gen.driver_entry
#print axioms FlacVerif.C03Gen.C03G_driver_run
#print axioms FlacVerif.C03Gen.C03G_driver_empty
#print axioms FlacVerif.C03Gen.memOps_exhausted
#print axioms FlacVerif.C03Gen.memOps_len_hint
#print axioms FlacVerif.C03Gen.C03G_driver_mem_empty
#print axioms FlacVerif.C03Gen.chanOk_choose
#print axioms FlacVerif.C03Gen.shape_of_implHeader
#print axioms FlacVerif.C03Gen.genFrame_shape
#print axioms FlacVerif.C03Gen.encode_frame_shape
#print axioms FlacVerif.C03Gen.C03G_encoder_frame_ok
#print axioms FlacVerif.C03Gen.chanOf_fbToCoding
#print axioms FlacVerif.C03Gen.streamAfter_nil
#print axioms FlacVerif.C03Gen.streamAfter_cons
#print axioms FlacVerif.C03Gen.foldInfo_one
#print axioms FlacVerif.C03Gen.current_frame_number_succ
#print axioms FlacVerif.C03Gen.contract_frame
#print axioms FlacVerif.C03GenErr.C03G_frames_contract_pre
#print axioms FlacVerif.C03Gen.Delivers.toPre
#print axioms FlacVerif.C03Gen.Run.ofPre
#print axioms FlacVerif.C03Gen.C03G_frames_contract
#print axioms FlacVerif.C03Gen.C03G_delivers_ctx
#print axioms FlacVerif.C03Gen.C03G_driver_contract
#print axioms FlacVerif.C03Gen.C03G_driver_contract_model_success
