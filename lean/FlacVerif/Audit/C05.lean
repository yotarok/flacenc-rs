-- GENERATED by ./check: axiom audit of the property theorems
import FlacVerif.Theorems.C05
import FlacVerif.Theorems.C06Gen
import FlacVerif.Theorems.C06GenCor
import FlacVerif.Lemmas.ParProgSteps
#print axioms FlacVerif.C05_reaches_iff_replay
#print axioms FlacVerif.C05_deterministic_result
#print axioms FlacVerif.C05_deterministic
#print axioms FlacVerif.C05_empty_block_hash_mismatch
#print axioms FlacVerif.C05_frames
#print axioms FlacVerif.C05_any_two_runs
#print axioms FlacVerif.C05_no_lock_contention
#print axioms FlacVerif.C05_numbering
#print axioms FlacVerif.C06Gen.C06G_refillCap
#print axioms FlacVerif.C06Gen.C06G_encodeCap
#print axioms FlacVerif.C06Gen.C06G_md5Cap
#print axioms FlacVerif.C06Gen.C06G_nbuf
#print axioms FlacVerif.C06Gen.C06G_initTokens
#print axioms FlacVerif.C06Gen.C06G_spawnedWorkers
#print axioms FlacVerif.C06Gen.MCorr.at
#print axioms FlacVerif.C06Gen.MCorr.held
#print axioms FlacVerif.C06Gen.WCorr.held
#print axioms FlacVerif.C06Gen.HCorr.held
#print axioms FlacVerif.C06Gen.WsCorr.free
#print axioms FlacVerif.C06Gen.WsCorr.free_erase
#print axioms FlacVerif.C06Gen.MCorr.not_held
#print axioms FlacVerif.C06Gen.WsCorr.get
#print axioms FlacVerif.C06Gen.WsCorr.set
#print axioms FlacVerif.C06Gen.WsCorr.none
#print axioms FlacVerif.C06Gen.WsCorr.exited
#print axioms FlacVerif.C06Gen.ofLog_md5_recv
#print axioms FlacVerif.C06Gen.ofLog_md5_send
#print axioms FlacVerif.C06Gen.ofLog_refill_recv
#print axioms FlacVerif.C06Gen.ofLog_refill_send
#print axioms FlacVerif.C06Gen.ofLog_encode_send
#print axioms FlacVerif.C06Gen.ofLog_encode_recv
#print axioms FlacVerif.C06Gen.ofLog_f_filled
#print axioms FlacVerif.C06Gen.ofLog_f_eof
#print axioms FlacVerif.C06Gen.ofLog_f_read_err
#print axioms FlacVerif.C06Gen.ofLog_w_lock
#print axioms FlacVerif.C06Gen.ofLog_w_push
#print axioms FlacVerif.C06Gen.ofLog_w_err
#print axioms FlacVerif.C06Gen.ofLog_m_joined_hasher
#print axioms FlacVerif.C06Gen.ofLog_m_joined_worker
#print axioms FlacVerif.C06Gen.env_p
#print axioms FlacVerif.C06Gen.env_fill
#print axioms FlacVerif.C06Gen.env_refillCap
#print axioms FlacVerif.C06Gen.env_encodeCap
#print axioms FlacVerif.C06Gen.env_md5Cap
#print axioms FlacVerif.C06Gen.WsCorr.replicate
#print axioms FlacVerif.C06Gen.C06G_start0
#print axioms FlacVerif.C06Gen.C06G_init
#print axioms FlacVerif.C06Gen.hRun_shape
#print axioms FlacVerif.C06Gen.hRun_fold
#print axioms FlacVerif.C06Gen.wIdle_shape
#print axioms FlacVerif.C06Gen.wGot_fold
#print axioms FlacVerif.C06Gen.wGot_shape
#print axioms FlacVerif.C06Gen.wEncoded_shape
#print axioms FlacVerif.C06Gen.wSent_shape
#print axioms FlacVerif.C06Gen.mRecv_shape
#print axioms FlacVerif.C06Gen.mLocked_shape
#print axioms FlacVerif.C06Gen.errArm_shape
#print axioms FlacVerif.C06Gen.mAfterSend_shape
#print axioms FlacVerif.C06Gen.mAfterRead_shape
#print axioms FlacVerif.C06Gen.mEnq_shape
#print axioms FlacVerif.C06Gen.mLoopEnd_shape
#print axioms FlacVerif.C06Gen.fb_reenter
#print axioms FlacVerif.C06Gen.dropLoop_mLoopEnd
#print axioms FlacVerif.C06Gen.dropCall_mLoopEnd
#print axioms FlacVerif.C06Gen.mAfterLoop_shape
#print axioms FlacVerif.C06Gen.mStopOk_shape
#print axioms FlacVerif.C06Gen.mStopErr_shape
#print axioms FlacVerif.C06Gen.mainProg_drop1
#print axioms FlacVerif.C06Gen.mReqStop_shape
#print axioms FlacVerif.C06Gen.mainProg_drop2
#print axioms FlacVerif.C06Gen.mJoinH_shape
#print axioms FlacVerif.C06Gen.mJoinW_shape
#print axioms FlacVerif.C06Gen.mainProg_drop5
#print axioms FlacVerif.C06Gen.C06G_worker_err_arms
#print axioms FlacVerif.C06Gen.C06G_hasher_fwd
#print axioms FlacVerif.C06Gen.C06G_w_lock_fwd
#print axioms FlacVerif.C06Gen.C06G_encode_recv_fwd
#print axioms FlacVerif.C06Gen.C06G_refill_send_fwd
#print axioms FlacVerif.C06Gen.C06G_w_push_fwd
#print axioms FlacVerif.C06Gen.C06G_w_err_fwd
#print axioms FlacVerif.C06Gen.C06G_refill_recv_fwd
#print axioms FlacVerif.C06Gen.C06G_md5_send_fwd
#print axioms FlacVerif.C06Gen.C06G_f_filled_fwd
#print axioms FlacVerif.C06Gen.afterStop_zero
#print axioms FlacVerif.C06Gen.afterStop_succ
#print axioms FlacVerif.C06Gen.C06G_f_eof_fwd
#print axioms FlacVerif.C06Gen.C06G_f_read_err_fwd
#print axioms FlacVerif.C06Gen.C06G_encode_send_some_fwd
#print axioms FlacVerif.C06Gen.C06G_encode_send_none_fwd
#print axioms FlacVerif.C06Gen.epilogue
#print axioms FlacVerif.C06Gen.C06G_m_joined_hasher_fwd
#print axioms FlacVerif.C06Gen.C06G_m_joined_worker_fwd
#print axioms FlacVerif.C06Gen.C06G_fwdC
#print axioms FlacVerif.C06Gen.C06G_fwd
#print axioms FlacVerif.C06Gen.C06G_bwd_enabled
#print axioms FlacVerif.C06Gen.EnabledOrStuck.step
#print axioms FlacVerif.C06Gen.C06G_hasher_dichotomy
#print axioms FlacVerif.C06Gen.C06G_worker_dichotomy
#print axioms FlacVerif.C06Gen.C06G_main_dichotomy
#print axioms FlacVerif.C06Gen.C06G_bwd
#print axioms FlacVerif.C06Gen.C06G_bwdC
#print axioms FlacVerif.C06Gen.C06G_prog_run_fwd
#print axioms FlacVerif.C06Gen.C06G_prog_run_bwd
#print axioms FlacVerif.C06Gen.C06G_traces_prog
#print axioms FlacVerif.C06Gen.C06G_resultC
#print axioms FlacVerif.C06Gen.C06G_result
#print axioms FlacVerif.C06Gen.macroRun_of_progRun
#print axioms FlacVerif.C06Gen.C06G_run_fwd
#print axioms FlacVerif.C06Gen.C06G_run_bwd
#print axioms FlacVerif.C06Gen.C06G_canon_run_sound
#print axioms FlacVerif.C06Gen.C06G_traces
#print axioms FlacVerif.C06Gen.filter_pos_getD
#print axioms FlacVerif.C06Gen.C06G_worker_count_total
#print axioms FlacVerif.C06Gen.C06G_worker_count_err
#print axioms FlacVerif.C06Gen.C06G_worker_count_pos
#print axioms FlacVerif.C06Gen.C06G_worker_count_config
#print axioms FlacVerif.C06Gen.C06G_worker_count_env
#print axioms FlacVerif.C06Gen.C06GC_start
#print axioms FlacVerif.C06Gen.C06GC_reach_hand
#print axioms FlacVerif.C06Gen.C06GC_step
#print axioms FlacVerif.C06Gen.C06GC_deadlock_free
#print axioms FlacVerif.C06Gen.C06GC_terminates
#print axioms FlacVerif.C06Gen.WsCorr.all_exited
#print axioms FlacVerif.C06Gen.corr_final
#print axioms FlacVerif.C06Gen.C06GC_final
#print axioms FlacVerif.C06Gen.C06GC_deterministic
#print axioms FlacVerif.C06Gen.C06GC_deadlock_free_src
#print axioms FlacVerif.C06Gen.C06GC_final_src
#print axioms FlacVerif.C06Gen.step_done_join
#print axioms FlacVerif.C06Gen.final_no_step
#print axioms FlacVerif.C06Gen.runInv_step
#print axioms FlacVerif.C06Gen.runInv_run
#print axioms FlacVerif.C06Gen.runInv_start
#print axioms FlacVerif.C06Gen.done_of_returned
#print axioms FlacVerif.C06Gen.C06GC_terminates_prog
#print axioms FlacVerif.C06Gen.C06GC_final_prog
#print axioms FlacVerif.C06Gen.C06GC_deterministic_prog
#print axioms FlacVerif.C06Gen.C06GC_final_prog_src
#print axioms FlacVerif.C06Gen.runTau_succ
#print axioms FlacVerif.C06Gen.visStep_iff
#print axioms FlacVerif.C06Gen.settle_succ
#print axioms FlacVerif.C06Gen.settle_runTau
#print axioms FlacVerif.C06Gen.macroStep_unpack
#print axioms FlacVerif.C06Gen.macroStepC_unpack
#print axioms FlacVerif.C06Gen.macroStepC_sound
#print axioms FlacVerif.C06Gen.vis_no_tau
#print axioms FlacVerif.C06Gen.halt_unique
#print axioms FlacVerif.C06Gen.C06G_next_unique
#print axioms FlacVerif.C06Gen.stuck_no_vis
#print axioms FlacVerif.C06Gen.settle_unique
#print axioms FlacVerif.C06Gen.macroStepC_unique
#print axioms FlacVerif.C06Gen.stuckAt_iff
