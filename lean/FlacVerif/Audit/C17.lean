-- GENERATED by ./check: axiom audit of the property theorems
import FlacVerif.Theorems.C17
import FlacVerif.Theorems.C14Gen
import FlacVerif.Theorems.C09Gen
import FlacVerif.Theorems.C03GenErr
import FlacVerif.Lemmas.SourcePrelude
#print axioms FlacVerif.C17_streaminfo
#print axioms FlacVerif.C17_streaminfo_wraparound
#print axioms FlacVerif.C17_framebuf
#print axioms FlacVerif.C17_fill_interleaved_rejects
#print axioms FlacVerif.C17_fill_le_bytes_rejects
#print axioms FlacVerif.C17_context_width
#print axioms FlacVerif.C17_frame_args
#print axioms FlacVerif.C17_frame_number_rejected
#print axioms FlacVerif.C17_sample_range
#print axioms FlacVerif.C17_stream_args
#print axioms FlacVerif.C14Gen.foldl_set_spec
#print axioms FlacVerif.C14Gen.idx_lt
#print axioms FlacVerif.C14Gen.src_lt
#print axioms FlacVerif.C14Gen.div_of_eq_mul
#print axioms FlacVerif.C14Gen.fillCells_eq_model
#print axioms FlacVerif.C14Gen.deinterleave_gen_fill
#print axioms FlacVerif.C14Gen.repeatWhileO_thresh
#print axioms FlacVerif.C14Gen.countUp_blocks
#print axioms FlacVerif.C14Gen.foldl_blocked
#print axioms FlacVerif.C14Gen.blocked_eq_foldl
#print axioms FlacVerif.C14Gen.deinterleaveBlocked_fill
#print axioms FlacVerif.C14Gen.deinterleave_ch1_eq
#print axioms FlacVerif.C14Gen.C14G_deinterleave
#print axioms FlacVerif.C14Gen.padded_window
#print axioms FlacVerif.C14Gen.leNat_eq_leSum
#print axioms FlacVerif.C14Gen.leNat_zeros
#print axioms FlacVerif.C14Gen.leNat_lt
#print axioms FlacVerif.C14Gen.sampleOf_eq
#print axioms FlacVerif.C14Gen.chunk_loop
#print axioms FlacVerif.C14Gen.set_loop
#print axioms FlacVerif.C14Gen.ceil_mul
#print axioms FlacVerif.C14Gen.countUp_zero_mul
#print axioms FlacVerif.C14Gen.le_bytes_impl_eq
#print axioms FlacVerif.C14Gen.le4_eq
#print axioms FlacVerif.C14Gen.C14G_i32s_to_le_bytes
#print axioms FlacVerif.C14Gen.C14G_i32s_to_le_bytes_panics
#print axioms FlacVerif.C14Gen.forF_cons
#print axioms FlacVerif.C14Gen.forF_first
#print axioms FlacVerif.C14Gen.C14G_is_constant
#print axioms FlacVerif.C14Gen.foldl_pair
#print axioms FlacVerif.C14Gen.foldl_min_le
#print axioms FlacVerif.C14Gen.le_foldl_max
#print axioms FlacVerif.C14Gen.minmax_in_iff
#print axioms FlacVerif.C14Gen.C14G_find_min_and_max
#print axioms FlacVerif.C14Gen.C14G_find_max_abs
#print axioms FlacVerif.C14Gen.C14G_le_bytes_to_i32s
#print axioms FlacVerif.C14Gen.C14G_le_bytes_to_i32s_panics
#print axioms FlacVerif.C14Gen.vecResize_length
#print axioms FlacVerif.C14Gen.C14G_with_size
#print axioms FlacVerif.C14Gen.C14G_channels
#print axioms FlacVerif.C14Gen.C14G_fill_interleaved
#print axioms FlacVerif.C14Gen.C14G_fill_le_bytes
#print axioms FlacVerif.C14Gen.C14G_channel_slice
#print axioms FlacVerif.C14Gen.C14G_verify_samples
#print axioms FlacVerif.C14Gen.C14G_fill_equiv
#print axioms FlacVerif.C14Gen.C14G_resize
#print axioms FlacVerif.C14Gen.C14G_with_size_shape
#print axioms FlacVerif.C14Gen.C14G_ctx_new
#print axioms FlacVerif.C14Gen.md5_fold
#print axioms FlacVerif.C14Gen.C14G_ctx_fill_interleaved
#print axioms FlacVerif.C14Gen.C14G_ctx_fill_le_bytes
#print axioms FlacVerif.C14Gen.C14G_ctx_width
#print axioms FlacVerif.C14Gen.pair_fill
#print axioms FlacVerif.C14Gen.C14G_pair_fill_interleaved
#print axioms FlacVerif.C14Gen.C14G_pair_fill_le_bytes
#print axioms FlacVerif.C14Gen.C14G_read_samples
#print axioms FlacVerif.C14Gen.C14G_par_fill_interleaved
#print axioms FlacVerif.C14Gen.C14G_par_fill_le_bytes
#print axioms FlacVerif.C09Gen.req_apply
#print axioms FlacVerif.C09Gen.pureM_apply
#print axioms FlacVerif.C09Gen.minByKey_eq
#print axioms FlacVerif.C09Gen.C09G_encode_residual
#print axioms FlacVerif.C09Gen.bitCands_mem
#print axioms FlacVerif.C09Gen.C09G_select_bitCount
#print axioms FlacVerif.C09Gen.mapMM_est
#print axioms FlacVerif.C09Gen.C09G_select_approxEnt
#print axioms FlacVerif.C09Gen.enumerate_take_map
#print axioms FlacVerif.C09Gen.fixed_orders
#print axioms FlacVerif.C09Gen.fixed_of_order
#print axioms FlacVerif.C09Gen.C09G_fixed_lpc
#print axioms FlacVerif.C09Gen.fixed_lpc_panics_wide
#print axioms FlacVerif.C09Gen.vecResize_length
#print axioms FlacVerif.C09Gen.maxLpcOrder_gen
#print axioms FlacVerif.C09Gen.C09G_estimated_qlpc
#print axioms FlacVerif.C09Gen.filter_count
#print axioms FlacVerif.C09Gen.mapOr_count
#print axioms FlacVerif.C09Gen.stage_eq
#print axioms FlacVerif.C09Gen.C09G_encode_subframe
#print axioms FlacVerif.C09Gen.fixedCandidate_count
#print axioms FlacVerif.C09Gen.lpcCandidate_count
#print axioms FlacVerif.C09Gen.C09G_encode_subframe_valid
#print axioms FlacVerif.C09Gen.sig64_valid
#print axioms FlacVerif.C09Gen.encode_subframe_panics_empty
#print axioms FlacVerif.C09Gen.estimated_qlpc_capacity
#print axioms FlacVerif.C09Gen.estimated_qlpc_dropped
#print axioms FlacVerif.C09Gen.chanOf_length
#print axioms FlacVerif.C09Gen.forall_chansOf
#print axioms FlacVerif.C09Gen.chansOf_length
#print axioms FlacVerif.C09Gen.channel_slice_eq
#print axioms FlacVerif.C09Gen.LogFits.sub
#print axioms FlacVerif.C09Gen.add_subframe_apply
#print axioms FlacVerif.C09Gen.forMS_channels
#print axioms FlacVerif.C09Gen.implHeader_channel_assignment
#print axioms FlacVerif.C09Gen.C09G_encode_frame_impl
#print axioms FlacVerif.C09Gen.resize_apply
#print axioms FlacVerif.C09Gen.fillStereo_spec
#print axioms FlacVerif.C09Gen.stereo_fold_gen
#print axioms FlacVerif.C09Gen.stereo_fold
#print axioms FlacVerif.C09Gen.verbatimBits_lt
#print axioms FlacVerif.C09Gen.add_fits
#print axioms FlacVerif.C09Gen.C09G_try_stereo_coding
#print axioms FlacVerif.C09Gen.withNumber_start_sample_number
#print axioms FlacVerif.C09Gen.withNumber_block_size
#print axioms FlacVerif.C09Gen.withNumber_block_size_exact
#print axioms FlacVerif.C09Gen.headerFor_eq
#print axioms FlacVerif.C09Gen.headerFor_gen
#print axioms FlacVerif.C09Gen.chansOf_headD_length
#print axioms FlacVerif.C09Gen.encode_frame_eq
#print axioms FlacVerif.C09Gen.frameOfGen_genFrame
#print axioms FlacVerif.C09Gen.C09G_encode_frame
#print axioms FlacVerif.C09Gen.log4_fits
#print axioms FlacVerif.C09Gen.msStale_ok
#print axioms FlacVerif.C09Gen.fb2_valid
#print axioms FlacVerif.C09Gen.encode_fixed_size_frame_eq
#print axioms FlacVerif.C09Gen.encode_fixed_size_frame_value
#print axioms FlacVerif.C09Gen.C09G_encode_fixed_size_frame
#print axioms FlacVerif.C09Gen.encode_fixed_size_frame_rejects
#print axioms FlacVerif.C09Gen.encode_fixed_size_frame_rejects_buffer
#print axioms FlacVerif.C03GenErr.C03G_loop_pre
#print axioms FlacVerif.C03GenErr.encode_rejects_samples
#print axioms FlacVerif.C03GenErr.C03G_driver_pre_err
#print axioms FlacVerif.C03GenErr.C03G_driver_mem_err
#print axioms FlacVerif.C03GenErr.driver_mem_new_err
#print axioms FlacVerif.C03GenErr.framesLogOk_prefix
#print axioms FlacVerif.C03GenErr.first_bad
#print axioms FlacVerif.C03GenErr.mem_chunk
#print axioms FlacVerif.C03GenErr.C03G_driver_mem_total_any
#print axioms FlacVerif.C03GenErr.C03G_driver_mem_total
#print axioms FlacVerif.C14Gen.sourceBindO_some
#print axioms FlacVerif.C14Gen.sourceReq_true
#print axioms FlacVerif.C14Gen.sourceReq_decide
#print axioms FlacVerif.C14Gen.forO_nil
#print axioms FlacVerif.C14Gen.forO_cons
#print axioms FlacVerif.C14Gen.forO_eq_loop
#print axioms FlacVerif.C14Gen.forO_congr
#print axioms FlacVerif.C14Gen.replicate_nonempty
#print axioms FlacVerif.C14Gen.reduce_replicate
#print axioms FlacVerif.C14Gen.simd_map_and_reduce_scalar
