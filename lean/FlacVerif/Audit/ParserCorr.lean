-- axiom audit of the lemmas of FlacVerif.Lemmas.RepoSuf and FlacVerif.Lemmas.ParserCorr (and of `map_dropLast_replace`, which
-- Lemmas/ListFacts.lean holds for Theorems/C16Gen.lean); kept by hand (./check writes only Audit/Cxx.lean): one line per
-- theorem, in file order
import FlacVerif.Lemmas.ParserCorr
#print axioms FlacVerif.C16Gen.bind_ok_of
#print axioms FlacVerif.C16Gen.Suffix.refl
#print axioms FlacVerif.C16Gen.Suffix.trans
#print axioms FlacVerif.C16Gen.Suf.ok_self
#print axioms FlacVerif.C16Gen.Suf.error
#print axioms FlacVerif.C16Gen.Suf.panic
#print axioms FlacVerif.C16Gen.Suf.bind
#print axioms FlacVerif.C16Gen.shorter_of_bind
#print axioms FlacVerif.C16Gen.Suf.bindO
#print axioms FlacVerif.C16Gen.Suf.ite
#print axioms FlacVerif.C16Gen.Suf.guard
#print axioms FlacVerif.C16Gen.Suf.of_suffix
#print axioms FlacVerif.C16Gen.Suf.of_drop
#print axioms FlacVerif.C16Gen.suf_takeBits
#print axioms FlacVerif.C16Gen.suf_tagBits
#print axioms FlacVerif.C16Gen.suf_unaryCode
#print axioms FlacVerif.C16Gen.suf_rawSamplesLoop
#print axioms FlacVerif.C16Gen.suf_rawSamples
#print axioms FlacVerif.C16Gen.suf_residualSamples
#print axioms FlacVerif.C16Gen.suf_residualParts
#print axioms FlacVerif.C16Gen.suf_residual
#print axioms FlacVerif.C16Gen.suf_subframeHeader
#print axioms FlacVerif.C16Gen.suf_constant
#print axioms FlacVerif.C16Gen.suf_verbatim
#print axioms FlacVerif.C16Gen.suf_fixedLpc
#print axioms FlacVerif.C16Gen.suf_quantizedParameters
#print axioms FlacVerif.C16Gen.suf_lpc
#print axioms FlacVerif.C16Gen.suf_alt
#print axioms FlacVerif.C16Gen.suf_subframe
#print axioms FlacVerif.C16Gen.suf_subframes
#print axioms FlacVerif.C16Gen.suf_bytes
#print axioms FlacVerif.C16Gen.suf_beUint
#print axioms FlacVerif.C16Gen.suf_byteTake
#print axioms FlacVerif.C16Gen.suf_streamInfo
#print axioms FlacVerif.C16Gen.cls_eq
#print axioms FlacVerif.C16Gen.bindP_assoc
#print axioms FlacVerif.C16Gen.bindP_obind
#print axioms FlacVerif.C16Gen.bindP_okP_id
#print axioms FlacVerif.C16Gen.cls_ok
#print axioms FlacVerif.C16Gen.cls_err_t
#print axioms FlacVerif.C16Gen.cls_err_f
#print axioms FlacVerif.C16Gen.cls_panic
#print axioms FlacVerif.C16Gen.cls_eq_none
#print axioms FlacVerif.C16Gen.cls_ne_none
#print axioms FlacVerif.C16Gen.bindP_none
#print axioms FlacVerif.C16Gen.bindP_err
#print axioms FlacVerif.C16Gen.bindP_ok
#print axioms FlacVerif.C16Gen.bindP_okP
#print axioms FlacVerif.C16Gen.bindP_errP
#print axioms FlacVerif.C16Gen.mapP_some_bind
#print axioms FlacVerif.C16Gen.ite_mapP_bind
#print axioms FlacVerif.C16Gen.loopP_pure
#print axioms FlacVerif.C16Gen.whileP_done
#print axioms FlacVerif.C16Gen.outcome_bindK
#print axioms FlacVerif.C16Gen.outcome_bind
#print axioms FlacVerif.C16Gen.noErr_bind
#print axioms FlacVerif.C16Gen.noErr_ok
#print axioms FlacVerif.C16Gen.noErr_panic
#print axioms FlacVerif.C16Gen.noErr_ite
#print axioms FlacVerif.C16Gen.noErr_usub
#print axioms FlacVerif.C16Gen.noErr_ushl
#print axioms FlacVerif.C16Gen.noErr_uadd
#print axioms FlacVerif.C16Gen.noErr_umul
#print axioms FlacVerif.C16Gen.noErr_passert
#print axioms FlacVerif.C16Gen.rel_bindO
#print axioms FlacVerif.C16Gen.rel_check
#print axioms FlacVerif.C16Gen.rel_ite
#print axioms FlacVerif.C16Gen.outcome_bindO
#print axioms FlacVerif.C16Gen.outcome_check
#print axioms FlacVerif.C16Gen.clsO_bind
#print axioms FlacVerif.C16Gen.ite_eq_map
#print axioms FlacVerif.C16Gen.outcome_bind_pure
#print axioms FlacVerif.C16Gen.outcome_fromSlice
#print axioms FlacVerif.C16Gen.altP_cls
#print axioms FlacVerif.C16Gen.subU_eq
#print axioms FlacVerif.C16Gen.sumU_eq
#print axioms FlacVerif.C16Gen.rel_shl
#print axioms FlacVerif.C16Gen.clsO_shl
#print axioms FlacVerif.C16Gen.outcome_shl
#print axioms FlacVerif.C16Gen.IsBytes.drop
#print axioms FlacVerif.C16Gen.IsBytes.take
#print axioms FlacVerif.C16Gen.bits_split
#print axioms FlacVerif.C16Gen.relB_elim
#print axioms FlacVerif.C16Gen.relB_ne_none
#print axioms FlacVerif.C16Gen.relB_pure
#print axioms FlacVerif.C16Gen.relB_shift
#print axioms FlacVerif.C16Gen.relB_bindT
#print axioms FlacVerif.C16Gen.relB_bind
#print axioms FlacVerif.C16Gen.relB_guardM
#print axioms FlacVerif.C16Gen.relB_beU
#print axioms FlacVerif.C16Gen.relB_byteTake
#print axioms FlacVerif.C16Gen.Suffix.align
#print axioms FlacVerif.C16Gen.bitsP_bind
#print axioms FlacVerif.C16Gen.relB_bits_end
#print axioms FlacVerif.C16Gen.relB_bits
#print axioms FlacVerif.map_dropLast_replace
