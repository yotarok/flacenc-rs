-- GENERATED by ./check: axiom audit of the property theorems
import FlacVerif.Theorems.C08
import FlacVerif.Theorems.C12
import FlacVerif.Theorems.GenFrame
import FlacVerif.Theorems.C08Gen
import FlacVerif.Theorems.C08Gen3
import FlacVerif.Theorems.C08Gen4
import FlacVerif.Lemmas.GenCount
#print axioms FlacVerif.C08_residual
#print axioms FlacVerif.C08_subframe
#print axioms FlacVerif.C08_utf8
#print axioms FlacVerif.C08_header
#print axioms FlacVerif.C08_frame
#print axioms FlacVerif.C08_streaminfo
#print axioms FlacVerif.C08_stream
#print axioms FlacVerif.C12_residual_ops
#print axioms FlacVerif.C12_subframe_ops
#print axioms FlacVerif.C12_header_ops
#print axioms FlacVerif.C12_frame_ops
#print axioms FlacVerif.C12_frame_ops_precomputed
#print axioms FlacVerif.C12_streaminfo_ops
#print axioms FlacVerif.C12_stream_ops
#print axioms FlacVerif.C12_streaminfo_lossless
#print axioms FlacVerif.C12_residual_in_bounds
#print axioms FlacVerif.C12_ops_valid_residual
#print axioms FlacVerif.C12_ops_valid_subframe
#print axioms FlacVerif.C12_ops_valid_header
#print axioms FlacVerif.C12_ops_valid_frame
#print axioms FlacVerif.C12_ops_valid_frame_precomputed
#print axioms FlacVerif.C12_ops_valid_stream
#print axioms FlacVerif.C12_rfc_crc_fit
#print axioms FlacVerif.ops_of_bits
#print axioms FlacVerif.C12_failing_sink
#print axioms FlacVerif.C12_subframe
#print axioms FlacVerif.C12_frame
#print axioms FlacVerif.C12_stream
#print axioms FlacVerif.through_sinks
#print axioms FlacVerif.C08_through_sinks_residual
#print axioms FlacVerif.C08_through_sinks_subframe
#print axioms FlacVerif.C08_through_sinks_frame
#print axioms FlacVerif.C08_through_sinks_stream
#print axioms FlacVerif.C08Gen.countUp_one
#print axioms FlacVerif.C08Gen.countUp_zero_one
#print axioms FlacVerif.C08Gen.forW_some
#print axioms FlacVerif.C08Gen.forW_emit
#print axioms FlacVerif.C08Gen.forW_map
#print axioms FlacVerif.C08Gen.take_map_getD
#print axioms FlacVerif.C08Gen.map_of_mapM_rel
#print axioms FlacVerif.C08Gen.repeatWhileAux_eq
#print axioms FlacVerif.C08Gen.repeatWhile_eq
#print axioms FlacVerif.C08Gen.chunked_range
#print axioms FlacVerif.C08Gen.chunked
#print axioms FlacVerif.C08Gen.loopS_range'
#print axioms FlacVerif.C08Gen.loopE_range'
#print axioms FlacVerif.C08Gen.repeatWhileEAux_true
#print axioms FlacVerif.C08Gen.chunkedE
#print axioms FlacVerif.C08Gen.resOk_of_WF
#print axioms FlacVerif.C08Gen.nparts_eq
#print axioms FlacVerif.C08Gen.C08G_residual_ops
#print axioms FlacVerif.C08Gen.C08G_residual_count
#print axioms FlacVerif.C08Gen.C08G_residual_count_WF
#print axioms FlacVerif.C08Gen.C08G_residual_exact
#print axioms FlacVerif.C08Gen.C08G_constant_ops
#print axioms FlacVerif.C08Gen.C08G_verbatim_ops
#print axioms FlacVerif.C08Gen.C08G_fixed_ops
#print axioms FlacVerif.C08Gen.C08G_lpc_ops
#print axioms FlacVerif.C08Gen.subOk_of_WF
#print axioms FlacVerif.C08Gen.C08G_subframe_ops
#print axioms FlacVerif.C08Gen.C08G_verbatim_fixed_exact
#print axioms FlacVerif.C08Gen.subOrd_of_subOk
#print axioms FlacVerif.C08Gen.subOrd_of_WF
#print axioms FlacVerif.C08Gen.C08G_subframe_count
#print axioms FlacVerif.C08Gen.C08G_subframe_count_WF
#print axioms FlacVerif.C08Gen.C08G_streaminfo_ops
#print axioms FlacVerif.C08Gen.C08G_streaminfo_count
#print axioms FlacVerif.C08Gen.C08G_streaminfo_exact
#print axioms FlacVerif.C08Gen.C08G_block_unknown_ops
#print axioms FlacVerif.C08Gen.C08G_block_streaminfo_ops
#print axioms FlacVerif.C08Gen.C08G_block_unknown_count
#print axioms FlacVerif.C08Gen.C08G_block_streaminfo_count
#print axioms FlacVerif.C08Gen.C08G_block_count
#print axioms FlacVerif.C08Gen.codeBits_eq
#print axioms FlacVerif.C08Gen.C08G_utf8like_bytesize
#print axioms FlacVerif.C08Gen.C08G_header_count
#print axioms FlacVerif.C08Gen.hdrOps_of_writesBits
#print axioms FlacVerif.C08Gen.scratch_crc
#print axioms FlacVerif.C08Gen.chanOk_caOfGen
#print axioms FlacVerif.C08Gen.chanOk_tag
#print axioms FlacVerif.C08Gen.header_core
#print axioms FlacVerif.C08Gen.C08G_header_ops
#print axioms FlacVerif.C08Gen.C08G_frame_count
#print axioms FlacVerif.C08Gen.C08G_frame_count_precomputed
#print axioms FlacVerif.C08Gen.wordExport_resize
#print axioms FlacVerif.C08Gen.C08G_frame_ops
#print axioms FlacVerif.C08Gen.C08G_frame_ops_precomputed
#print axioms FlacVerif.C08Gen.forW_frames
#print axioms FlacVerif.C08Gen.C08G_stream_ops
#print axioms FlacVerif.C08Gen.C08G_stream_count
#print axioms FlacVerif.C08Gen3.leadingZeros_le
#print axioms FlacVerif.C08Gen3.shlU_top
#print axioms FlacVerif.C08Gen3.shrU_top
#print axioms FlacVerif.C08Gen3.shlU_top_drop
#print axioms FlacVerif.C08Gen3.tail_step
#print axioms FlacVerif.C08Gen3.tail_loop
#print axioms FlacVerif.C08Gen3.head_byte
#print axioms FlacVerif.C08Gen3.C08G3_encode_to_utf8like
#print axioms FlacVerif.C08Gen3.C08G3_utf8_cases
#print axioms FlacVerif.C08Gen3.C08G3_param
#print axioms FlacVerif.C08Gen3.C08G3_bytesize
#print axioms FlacVerif.C08Gen3.C08G3_header_write_closed
#print axioms FlacVerif.C08Gen3.C08G3_header_write_exact_closed
#print axioms FlacVerif.C08Gen4.packBytes_pad
#print axioms FlacVerif.C08Gen4.byte_export_pack
#print axioms FlacVerif.C08Gen4.Small.byte_run
#print axioms FlacVerif.C08Gen4.Small.word_run
#print axioms FlacVerif.C08Gen4.C11G_readout_as_slice
#print axioms FlacVerif.C08Gen4.C11G_readout_len_byte
#print axioms FlacVerif.C08Gen4.C11G_readout_len_word
#print axioms FlacVerif.C08Gen4.header_write_unfold
#print axioms FlacVerif.C08Gen4.C08G4_header_write_closed
#print axioms FlacVerif.C08Gen4.wordBytes_len
#print axioms FlacVerif.C08Gen4.bytesToBits_wordBytes
#print axioms FlacVerif.C08Gen4.wordBytes_bit
#print axioms FlacVerif.C08Gen4.wordBytes_bits
#print axioms FlacVerif.C08Gen4.packBytes_zeros
#print axioms FlacVerif.C08Gen4.word_export_pack
#print axioms FlacVerif.C08Gen4.C11G_readout_word_export
#print axioms FlacVerif.C08Gen4.vecResize_length
#print axioms FlacVerif.C08Gen4.vecResize_lt
#print axioms FlacVerif.C08Gen4.C08G4_frame_write_closed
#print axioms FlacVerif.C08Gen4.forW_congr
#print axioms FlacVerif.C08Gen4.C08G4_stream_write_closed
#print axioms FlacVerif.GenCount.residual_count_exact
#print axioms FlacVerif.GenCount.subframe_count_exact
#print axioms FlacVerif.GenCount.utf8like_exact
#print axioms FlacVerif.GenCount.header_count_exact
#print axioms FlacVerif.GenCount.map_count_bits
#print axioms FlacVerif.GenCount.frame_count_exact
#print axioms FlacVerif.GenCount.frame_count_value
