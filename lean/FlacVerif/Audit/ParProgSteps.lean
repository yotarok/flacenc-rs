-- axiom audit of the lemmas on the step notions of Model/ParProg.lean (Lemmas/ParProgSteps.lean)
import FlacVerif.Lemmas.ParProgSteps
#print axioms FlacVerif.C06Gen.runTau_succ
#print axioms FlacVerif.C06Gen.visStep_iff
#print axioms FlacVerif.C06Gen.settle_succ
#print axioms FlacVerif.C06Gen.settle_runTau
#print axioms FlacVerif.C06Gen.macroStep_unpack
#print axioms FlacVerif.C06Gen.macroStepC_unpack
#print axioms FlacVerif.C06Gen.macroStepC_sound
#print axioms FlacVerif.C06Gen.vis_no_tau
#print axioms FlacVerif.C06Gen.halt_unique
#print axioms FlacVerif.C06Gen.C06G_next_unique
#print axioms FlacVerif.C06Gen.stuck_no_vis
#print axioms FlacVerif.C06Gen.settle_unique
#print axioms FlacVerif.C06Gen.macroStepC_unique
#print axioms FlacVerif.C06Gen.stuckAt_iff
