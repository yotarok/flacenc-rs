-- axiom audit of the laws of `simdAbs`, `zipMutM`, `mapGet` / `mapInsert` that stand in Lemmas/LpcPrelude.lean under the
-- namespaces of their users
import FlacVerif.Lemmas.LpcPrelude
#print axioms FlacVerif.C01Gen.simdAbs_ok
#print axioms FlacVerif.C01Gen.zipMutM_pure
#print axioms FlacVerif.C10Gen.mapGet_insert_self
