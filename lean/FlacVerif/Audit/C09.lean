-- GENERATED by ./check: axiom audit of the property theorems
import FlacVerif.Theorems.C09
import FlacVerif.Theorems.C09Stream
import FlacVerif.Theorems.C09Gen
import FlacVerif.Theorems.C01Gen
import FlacVerif.Theorems.C13Gen
import FlacVerif.Theorems.C09Gen2
import FlacVerif.Theorems.C13GenProp
import FlacVerif.Lemmas.LpcPrelude
#print axioms FlacVerif.C09.constant_le
#print axioms FlacVerif.C09.C09_subframe
#print axioms FlacVerif.C09.count_le_of_encodedFrom
#print axioms FlacVerif.C09.chooseStereo_le
#print axioms FlacVerif.C09.selectChannels_cost
#print axioms FlacVerif.C09.selectChannels_of
#print axioms FlacVerif.C09.C09_frame
#print axioms FlacVerif.C09.fixedStage_some
#print axioms FlacVerif.C09.encodeChannels_bound
#print axioms FlacVerif.C09_subframe_wf
#print axioms FlacVerif.C09_frame_bits
#print axioms FlacVerif.C09_frame_vs_verbatim
#print axioms FlacVerif.C09_stream
#print axioms FlacVerif.C09_stream_coarse
#print axioms FlacVerif.C09_header_bits
#print axioms FlacVerif.C09Gen.req_apply
#print axioms FlacVerif.C09Gen.pureM_apply
#print axioms FlacVerif.C09Gen.minByKey_eq
#print axioms FlacVerif.C09Gen.C09G_encode_residual
#print axioms FlacVerif.C09Gen.bitCands_mem
#print axioms FlacVerif.C09Gen.C09G_select_bitCount
#print axioms FlacVerif.C09Gen.mapMM_est
#print axioms FlacVerif.C09Gen.C09G_select_approxEnt
#print axioms FlacVerif.C09Gen.enumerate_take_map
#print axioms FlacVerif.C09Gen.fixed_orders
#print axioms FlacVerif.C09Gen.fixed_of_order
#print axioms FlacVerif.C09Gen.C09G_fixed_lpc
#print axioms FlacVerif.C09Gen.fixed_lpc_panics_wide
#print axioms FlacVerif.C09Gen.vecResize_length
#print axioms FlacVerif.C09Gen.maxLpcOrder_gen
#print axioms FlacVerif.C09Gen.C09G_estimated_qlpc
#print axioms FlacVerif.C09Gen.filter_count
#print axioms FlacVerif.C09Gen.mapOr_count
#print axioms FlacVerif.C09Gen.stage_eq
#print axioms FlacVerif.C09Gen.C09G_encode_subframe
#print axioms FlacVerif.C09Gen.fixedCandidate_count
#print axioms FlacVerif.C09Gen.lpcCandidate_count
#print axioms FlacVerif.C09Gen.C09G_encode_subframe_valid
#print axioms FlacVerif.C09Gen.sig64_valid
#print axioms FlacVerif.C09Gen.encode_subframe_panics_empty
#print axioms FlacVerif.C09Gen.estimated_qlpc_capacity
#print axioms FlacVerif.C09Gen.estimated_qlpc_dropped
#print axioms FlacVerif.C09Gen.chanOf_length
#print axioms FlacVerif.C09Gen.forall_chansOf
#print axioms FlacVerif.C09Gen.chansOf_length
#print axioms FlacVerif.C09Gen.channel_slice_eq
#print axioms FlacVerif.C09Gen.LogFits.sub
#print axioms FlacVerif.C09Gen.add_subframe_apply
#print axioms FlacVerif.C09Gen.forMS_channels
#print axioms FlacVerif.C09Gen.implHeader_channel_assignment
#print axioms FlacVerif.C09Gen.C09G_encode_frame_impl
#print axioms FlacVerif.C09Gen.resize_apply
#print axioms FlacVerif.C09Gen.fillStereo_spec
#print axioms FlacVerif.C09Gen.stereo_fold_gen
#print axioms FlacVerif.C09Gen.stereo_fold
#print axioms FlacVerif.C09Gen.verbatimBits_lt
#print axioms FlacVerif.C09Gen.add_fits
#print axioms FlacVerif.C09Gen.C09G_try_stereo_coding
#print axioms FlacVerif.C09Gen.withNumber_start_sample_number
#print axioms FlacVerif.C09Gen.withNumber_block_size
#print axioms FlacVerif.C09Gen.withNumber_block_size_exact
#print axioms FlacVerif.C09Gen.headerFor_eq
#print axioms FlacVerif.C09Gen.headerFor_gen
#print axioms FlacVerif.C09Gen.chansOf_headD_length
#print axioms FlacVerif.C09Gen.encode_frame_eq
#print axioms FlacVerif.C09Gen.frameOfGen_genFrame
#print axioms FlacVerif.C09Gen.C09G_encode_frame
#print axioms FlacVerif.C09Gen.log4_fits
#print axioms FlacVerif.C09Gen.msStale_ok
#print axioms FlacVerif.C09Gen.fb2_valid
#print axioms FlacVerif.C09Gen.encode_fixed_size_frame_eq
#print axioms FlacVerif.C09Gen.encode_fixed_size_frame_value
#print axioms FlacVerif.C09Gen.C09G_encode_fixed_size_frame
#print axioms FlacVerif.C09Gen.encode_fixed_size_frame_rejects
#print axioms FlacVerif.C09Gen.encode_fixed_size_frame_rejects_buffer
#print axioms FlacVerif.C01Gen.forMutM_scalar
#print axioms FlacVerif.C01Gen.C01G_unaligned_map_and_update
#print axioms FlacVerif.C01Gen.C01G_from_parts
#print axioms FlacVerif.C01Gen.C01G_from_parts_panics
#print axioms FlacVerif.C01Gen.mapM_getElem?
#print axioms FlacVerif.C01Gen.C01G_coefs_accessor
#print axioms FlacVerif.C01Gen.mkQ_coefs_get
#print axioms FlacVerif.C01Gen.accList_length
#print axioms FlacVerif.C01Gen.accList_zero
#print axioms FlacVerif.C01Gen.take_eq_map_getD
#print axioms FlacVerif.C01Gen.accList_split
#print axioms FlacVerif.C01Gen.accList_succ
#print axioms FlacVerif.C01Gen.fill_prefix
#print axioms FlacVerif.C01Gen.zipWith_range_getD
#print axioms FlacVerif.C01Gen.C01G_compute_error_impl
#print axioms FlacVerif.C01Gen.abs_sum_loop
#print axioms FlacVerif.C01Gen.wrapS32_eq
#print axioms FlacVerif.C01Gen.C01G_compute_error
#print axioms FlacVerif.C01Gen.C01G_compute_error_fits
#print axioms FlacVerif.C01Gen.C01G_compute_error_callee
#print axioms FlacVerif.C01Gen.C01G_compute_error_order_panics
#print axioms FlacVerif.C01Gen.C01G_compute_error_shift_discrepancy
#print axioms FlacVerif.C01Gen.C01G_compute_error_min_coef_discrepancy
#print axioms FlacVerif.C01Gen.C01G_compute_error_long_buffer_discrepancy
#print axioms FlacVerif.C01Gen.chunkN_eq
#print axioms FlacVerif.C01Gen.C01G_pack_into_simd_vec
#print axioms FlacVerif.C01Gen.C01G_reset_from_slice
#print axioms FlacVerif.C01Gen.C01G_resize
#print axioms FlacVerif.C01Gen.C01G_as_ref
#print axioms FlacVerif.C01Gen.simdRotR_one
#print axioms FlacVerif.C01Gen.simdSubW32_eq
#print axioms FlacVerif.C01Gen.diff_loop_bind
#print axioms FlacVerif.C01Gen.loopM_fill
#print axioms FlacVerif.C01Gen.C01G_reset_fixed_lpc_errors
#print axioms FlacVerif.C01Gen.errAt_as_ref
#print axioms FlacVerif.C01Gen.C01G_diffs
#print axioms FlacVerif.C13Gen.allSome_map_some
#print axioms FlacVerif.C13Gen.allSome_map_of
#print axioms FlacVerif.C13Gen.lanes2_map
#print axioms FlacVerif.C13Gen.lanesM2_map
#print axioms FlacVerif.C13Gen.lanes3_map
#print axioms FlacVerif.C13Gen.splat_eq
#print axioms FlacVerif.C13Gen.INDEX_eq
#print axioms FlacVerif.C13Gen.INDEX1_eq
#print axioms FlacVerif.C13Gen.ZEROS_eq
#print axioms FlacVerif.C13Gen.MAXES_eq
#print axioms FlacVerif.C13Gen.MAXV_eq
#print axioms FlacVerif.C13Gen.lanes16
#print axioms FlacVerif.C13Gen.dbgAssert_ok
#print axioms FlacVerif.C13Gen.C13G_merge
#print axioms FlacVerif.C13Gen.lanesM2_shl
#print axioms FlacVerif.C13Gen.lanesM2_shr
#print axioms FlacVerif.C13Gen.reduceMin_eq
#print axioms FlacVerif.C13Gen.C13G_minimizer
#print axioms FlacVerif.C13Gen.tzU_eq
#print axioms FlacVerif.C13Gen.log2_of_lz
#print axioms FlacVerif.C13Gen.C13G_finest
#print axioms FlacVerif.C13Gen.C13G_finest_release_wraps
#print axioms FlacVerif.C13Gen.C13G_find_max
#print axioms FlacVerif.C13Gen.loopM_congr
#print axioms FlacVerif.C13Gen.loopM_lanes
#print axioms FlacVerif.C13Gen.loopM_index
#print axioms FlacVerif.C13Gen.repeatWhileM_index_aux
#print axioms FlacVerif.C13Gen.repeatWhileM_index
#print axioms FlacVerif.C13Gen.lanesM2_mul
#print axioms FlacVerif.C13Gen.shr_step
#print axioms FlacVerif.C13Gen.chunk_body
#print axioms FlacVerif.C13Gen.chunksAux_len
#print axioms FlacVerif.C13Gen.go_eq_chunks
#print axioms FlacVerif.C13Gen.C13G_from_errors
#print axioms FlacVerif.C13Gen.C13G_eval_partitions
#print axioms FlacVerif.C13Gen.C13G_merge_partitions
#print axioms FlacVerif.C13Gen.scalar_loop
#print axioms FlacVerif.C13Gen.C13G_unaligned
#print axioms FlacVerif.C13Gen.C13G_D1_order_le_14
#print axioms FlacVerif.C13Gen.encode_signbit_eq
#print axioms FlacVerif.C13Gen.zipUpd_encode_signbit
#print axioms FlacVerif.C13Gen.tblBody_ok
#print axioms FlacVerif.C13Gen.sliceSet_prefix
#print axioms FlacVerif.C13Gen.vecResize_length
#print axioms FlacVerif.C13Gen.merge_live
#print axioms FlacVerif.C13Gen.whBody_ok
#print axioms FlacVerif.C13Gen.while_loop
#print axioms FlacVerif.C13Gen.find_eq
#print axioms FlacVerif.C13Gen.findD_ok
#print axioms FlacVerif.C13Gen.findC_spec
#print axioms FlacVerif.C13Gen.findB_spec
#print axioms FlacVerif.C13Gen.shAmtS_wrapS
#print axioms FlacVerif.C13Gen.C13G_find
#print axioms FlacVerif.C13Gen.C13G_find_partitioned_rice_parameter
#print axioms FlacVerif.C13Gen.C13G_scratch_independent
#print axioms FlacVerif.C13Gen.C13G_merge_partitions_assert
#print axioms FlacVerif.C13Gen.C13G_from_errors_dev_overflow
#print axioms FlacVerif.C13Gen.C13G_encode_signbit_release_min
#print axioms FlacVerif.C13Gen.allSome_none
#print axioms FlacVerif.C13Gen.C13G_encode_signbit_simd_negative
#print axioms FlacVerif.C13Gen.C13G_encode_signbit_simd_nonneg
#print axioms FlacVerif.C13Gen.C13G_quotients_and_remainders
#print axioms FlacVerif.C13Gen.setAt_interval
#print axioms FlacVerif.C13Gen.C13G_encode_residual_partition
#print axioms FlacVerif.C13Gen.ofErrors_eq
#print axioms FlacVerif.C13Gen.written_extend
#print axioms FlacVerif.C13Gen.C13G_encode_residual_with_prc_parameter
#print axioms FlacVerif.C13Gen.C13G_encode_residual_chain
#print axioms FlacVerif.C09Gen2.C09G2_into_stereo_channels
#print axioms FlacVerif.C09Gen2.C09G2_into_stereo_never_panics
#print axioms FlacVerif.C09Gen2.C09G2_fill_stereo_with_iter
#print axioms FlacVerif.C09Gen2.C09G2_fill_stereo_channels
#print axioms FlacVerif.C09Gen2.C09G2_fill_stereo_mid_side
#print axioms FlacVerif.C09Gen2.toSrc_eq
#print axioms FlacVerif.C09Gen2.verifySamplesGen_eq
#print axioms FlacVerif.C09Gen2.C09G2_verify_samples_meaning
#print axioms FlacVerif.C09Gen2.C09G2_verify_samples_accepts
#print axioms FlacVerif.C13GenProp.hrel_of
#print axioms FlacVerif.C13GenProp.gen_search
#print axioms FlacVerif.C13GenProp.C13G_total
#print axioms FlacVerif.C13GenProp.C13G_optimal
#print axioms FlacVerif.C13GenProp.C13G_emitted
#print axioms FlacVerif.C13GenProp.C13G_encode_residual_generated
#print axioms FlacVerif.C13GenProp.C13G_residual_optimal
#print axioms FlacVerif.C13GenProp.C09G_subframe_bound
#print axioms FlacVerif.C13GenProp.C07G_subframe_total
#print axioms FlacVerif.C13GenProp.C09G_frame_bound
#print axioms FlacVerif.C13GenProp.C13G_encoder
#print axioms FlacVerif.C13GenProp.C07G_frame_total
#print axioms FlacVerif.C13GenProp.C09G_stream_bound
#print axioms FlacVerif.Gen.Lpc.arithS_ok
#print axioms FlacVerif.Gen.Lpc.arithS_of_natAbs
#print axioms FlacVerif.Gen.Lpc.wrapS_of_inRange
#print axioms FlacVerif.Gen.Lpc.castU_of_nonneg
#print axioms FlacVerif.Gen.Lpc.addU_ok
#print axioms FlacVerif.Gen.Lpc.subU_ok
#print axioms FlacVerif.Gen.Lpc.mulU_ok
#print axioms FlacVerif.Gen.Lpc.shAmt_ok
#print axioms FlacVerif.Gen.Lpc.divU_ok
#print axioms FlacVerif.Gen.Lpc.req_ok
#print axioms FlacVerif.Gen.Lpc.sliceR_ok
#print axioms FlacVerif.Gen.Lpc.setAt_ok
#print axioms FlacVerif.Gen.Lpc.sliceFill_ok
#print axioms FlacVerif.Gen.Lpc.sliceCopy_ok
#print axioms FlacVerif.Gen.Lpc.vecResize_length
#print axioms FlacVerif.Gen.Lpc.loopM_eq_loop
#print axioms FlacVerif.Gen.Lpc.rangeL_zero
#print axioms FlacVerif.Gen.Lpc.zipWithM_nil_left
#print axioms FlacVerif.Gen.Lpc.zipWithM_cons
#print axioms FlacVerif.Gen.Lpc.zipWithM_pure
#print axioms FlacVerif.C01Gen.simdAbs_ok
#print axioms FlacVerif.C01Gen.zipMutM_pure
#print axioms FlacVerif.C10Gen.mapGet_insert_self
