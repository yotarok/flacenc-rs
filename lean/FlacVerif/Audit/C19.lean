-- GENERATED by ./check: axiom audit of the property theorems
import FlacVerif.Theorems.C19
#print axioms FlacVerif.C19_roundtrip_window
#print axioms FlacVerif.C19_roundtrip_orderSel
#print axioms FlacVerif.C19_omitted_fields_stereo
#print axioms FlacVerif.C19_omitted_fields_prc
#print axioms FlacVerif.C19_omitted_fields_fixed
#print axioms FlacVerif.C19_omitted_fields_qlpc
#print axioms FlacVerif.C19_roundtrip_stereo
#print axioms FlacVerif.C19_roundtrip_prc
#print axioms FlacVerif.C19_roundtrip_fixed
#print axioms FlacVerif.C19_roundtrip_qlpc
#print axioms FlacVerif.C19_omitted_fields_subframe
#print axioms FlacVerif.C19_roundtrip_subframe
#print axioms FlacVerif.workers_ne_zero
#print axioms FlacVerif.C19_omitted_fields
#print axioms FlacVerif.C19_roundtrip
#print axioms FlacVerif.C19_parsed_wf
#print axioms FlacVerif.C19_roundtrip_needs_wf
#print axioms FlacVerif.C19_verify_commutes
#print axioms FlacVerif.C19_empty_document
#print axioms FlacVerif.C19_empty_section
#print axioms FlacVerif.C19_omitted_orderSel
#print axioms FlacVerif.C19_omitted_window
#print axioms FlacVerif.C19_omitted_partitions
#print axioms FlacVerif.C19_omitted_alpha
#print axioms FlacVerif.C19_omitted_type
#print axioms FlacVerif.encoder_section_subframe
#print axioms FlacVerif.encoder_section_stereo
#print axioms FlacVerif.subframe_section_fixed
#print axioms FlacVerif.subframe_section_qlpc
#print axioms FlacVerif.subframe_section_prc
#print axioms FlacVerif.fixed_section_orderSel
#print axioms FlacVerif.qlpc_section_window
#print axioms FlacVerif.C19_omitted_in_stereo
#print axioms FlacVerif.C19_omitted_in_subframe
#print axioms FlacVerif.C19_omitted_in_fixed
#print axioms FlacVerif.C19_omitted_in_qlpc
#print axioms FlacVerif.C19_omitted_in_prc
#print axioms FlacVerif.C19_omitted_in_orderSel
#print axioms FlacVerif.C19_omitted_in_window
#print axioms FlacVerif.C19_verify_commutes_omitted
#print axioms FlacVerif.C19_default_documented
#print axioms FlacVerif.C19_default_roundtrip
