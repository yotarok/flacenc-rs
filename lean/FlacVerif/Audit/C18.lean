-- GENERATED by ./check: axiom audit of the property theorems
import FlacVerif.Theorems.C18
import FlacVerif.Theorems.C18Parse
import FlacVerif.Theorems.C18Gen
#print axioms FlacVerif.C18_residual_verify_iff
#print axioms FlacVerif.C18_residual_sound
#print axioms FlacVerif.C18_residual_rejects
#print axioms FlacVerif.C18_residual_complete
#print axioms FlacVerif.C18_qparams_sound
#print axioms FlacVerif.C18_qparams_rejects
#print axioms FlacVerif.C18_constant_sound
#print axioms FlacVerif.C18_verbatim_sound
#print axioms FlacVerif.C18_fixed_sound
#print axioms FlacVerif.C18_lpc_sound
#print axioms FlacVerif.C18_subframe_through_sinks
#print axioms FlacVerif.C18_WF_iff_WF'
#print axioms FlacVerif.C18_fixed_not_WF
#print axioms FlacVerif.C18_header_rejects
#print axioms FlacVerif.C18_block_size_zero
#print axioms FlacVerif.C18_header_sound
#print axioms FlacVerif.C18_header_rejects_wraparound
#print axioms FlacVerif.C18_streaminfo_iff
#print axioms FlacVerif.C18_streaminfo_sound
#print axioms FlacVerif.C18_unknown_iff
#print axioms FlacVerif.C18_residual_parse
#print axioms FlacVerif.C18_constant_parse
#print axioms FlacVerif.C18_verbatim_parse
#print axioms FlacVerif.C18_fixed_parse
#print axioms FlacVerif.C18_lpc_parse
#print axioms FlacVerif.C18_lpc_parse_chain
#print axioms FlacVerif.C18_header_HdrOk
#print axioms FlacVerif.C18_header_parse
#print axioms FlacVerif.C18_unknown_parse
#print axioms FlacVerif.C18_unknown_tag0_rejected
#print axioms FlacVerif.Repo.infoOk_of_new
#print axioms FlacVerif.C18_streaminfo_parse
#print axioms FlacVerif.C18_streaminfo_set_block_sizes_parse
#print axioms FlacVerif.C18_stream_new_parse
#print axioms FlacVerif.C18Gen.andThen_guard
#print axioms FlacVerif.C18Gen.andThen_guardC
#print axioms FlacVerif.C18Gen.andThen_assoc
#print axioms FlacVerif.C18Gen.andThen_eq_true
#print axioms FlacVerif.C18Gen.req_ok
#print axioms FlacVerif.C18Gen.forV_all
#print axioms FlacVerif.C18Gen.guardC
#print axioms FlacVerif.C18Gen.lastC
#print axioms FlacVerif.C18Gen.bindC_fromSlice
#print axioms FlacVerif.C18Gen.forV_guard
#print axioms FlacVerif.C18Gen.guardM
#print axioms FlacVerif.C18Gen.ite_or_none
#print axioms FlacVerif.C18Gen.ite_ne
#print axioms FlacVerif.C18Gen.bindC_tryIntoC
#print axioms FlacVerif.C18Gen.foldOk_add
#print axioms FlacVerif.C18Gen.forV_zip_self
#print axioms FlacVerif.C18Gen.forVS_spec
#print axioms FlacVerif.C18Gen.andThen_step
#print axioms FlacVerif.C18Gen.C18G_verify_block_size
#print axioms FlacVerif.C18Gen.C18G_verify_bps
#print axioms FlacVerif.C18Gen.pow_lt_i32
#print axioms FlacVerif.C18Gen.C18G_verify_sample_range
#print axioms FlacVerif.C18Gen.C18G_verify_sample_range_panics
#print axioms FlacVerif.C18Gen.C18G_verify_sample_range_high
#print axioms FlacVerif.C18Gen.C18G_verify_sample_range_wide
#print axioms FlacVerif.C18Gen.shl_small
#print axioms FlacVerif.C18Gen.C18G_residual_verify
#print axioms FlacVerif.C18Gen.C18G_residual_new
#print axioms FlacVerif.C18Gen.C18G_qparams_verify
#print axioms FlacVerif.C18Gen.C18G_qparams_new
#print axioms FlacVerif.C18Gen.bps_mod
#print axioms FlacVerif.C18Gen.sample_range_bps
#print axioms FlacVerif.C18Gen.forV_samples
#print axioms FlacVerif.C18Gen.C18G_constant_verify
#print axioms FlacVerif.C18Gen.C18G_constant_new
#print axioms FlacVerif.C18Gen.C18G_verbatim_verify
#print axioms FlacVerif.C18Gen.C18G_verbatim_new
#print axioms FlacVerif.C18Gen.C18G_fixed_verify
#print axioms FlacVerif.C18Gen.C18G_fixed_new
#print axioms FlacVerif.C18Gen.C18G_lpc_verify
#print axioms FlacVerif.C18Gen.C18G_lpc_new
#print axioms FlacVerif.C18Gen.C18G_channel_verify
#print axioms FlacVerif.C18Gen.fromBits_tag
#print axioms FlacVerif.C18Gen.C18G_header_new
#print axioms FlacVerif.C18Gen.C18G_header_verify
#print axioms FlacVerif.C18Gen.C18G_header_verify_panics
#print axioms FlacVerif.C18Gen.header_verify_exact
#print axioms FlacVerif.C18Gen.C18G_streaminfo_verify
#print axioms FlacVerif.C18Gen.C18G_streaminfo_new
#print axioms FlacVerif.C18Gen.C18G_unknown_new
#print axioms FlacVerif.C18Gen.C18G_blockdata_verify
#print axioms FlacVerif.C18Gen.C18G_block_verify
#print axioms FlacVerif.C18Gen.C18G_frame_new
#print axioms FlacVerif.C18Gen.C18G_set_total_samples
#print axioms FlacVerif.C18Gen.C18G_set_block_sizes
#print axioms FlacVerif.C18Gen.C18G_set_frame_sizes
#print axioms FlacVerif.C18Gen.C18G_subframe_verify
#print axioms FlacVerif.C18Gen.C18G_frame_verify
#print axioms FlacVerif.C18Gen.C18G_frame_verify_precomputed
#print axioms FlacVerif.C18Gen.C18G_stream_fixed
#print axioms FlacVerif.C18Gen.C18G_stream_variable
#print axioms FlacVerif.C18Gen.C18G_metadata_block_verify
#print axioms FlacVerif.C18Gen.stream_info_of
#print axioms FlacVerif.C18Gen.C18G_stream_verify_frames
#print axioms FlacVerif.C18Gen.C18G_stream_verify
#print axioms FlacVerif.C18Gen.C18G_stream_verify_panics
#print axioms FlacVerif.C18Gen.C18G_stream_new
