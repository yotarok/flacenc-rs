-- GENERATED by ./check: axiom audit of the property theorems
import FlacVerif.Theorems.C02
import FlacVerif.Theorems.C02Gen
import FlacVerif.Theorems.C02Hdr
import FlacVerif.Theorems.C01Strict
import FlacVerif.Theorems.C08Gen3
#print axioms FlacVerif.C02.blockSizeOfCode_spec
#print axioms FlacVerif.C02.C02_blocksize_all
#print axioms FlacVerif.C02.lookup_sampleRate
#print axioms FlacVerif.C02.rateOfCode_infoRate
#print axioms FlacVerif.C02.fromFreq_ok
#print axioms FlacVerif.C02.C02_samplerate_all
#print axioms FlacVerif.C02.C02_samplesize_all
#print axioms FlacVerif.C02.C02_channel_code
#print axioms FlacVerif.Repo.srOk_fromFreq
#print axioms FlacVerif.Repo.srOk_getD_fromFreq
#print axioms FlacVerif.C02_crc8_is_rfc
#print axioms FlacVerif.C02_crc16_is_rfc
#print axioms FlacVerif.C02_fixed_coefs_are_rfc
#print axioms FlacVerif.C02Hdr.bsOfGen_toGen
#print axioms FlacVerif.C02Hdr.bsToGen_ofGen
#print axioms FlacVerif.C02Hdr.caOfGen_toGen
#print axioms FlacVerif.C02Hdr.caToGen_ofGen
#print axioms FlacVerif.C02Hdr.from_size_arms
#print axioms FlacVerif.C02Hdr.C02H_blockSize_fromSize
#print axioms FlacVerif.C02Hdr.C02H_blockSize_fromSize_exact
#print axioms FlacVerif.C02Hdr.C02H_blockSize_fromSize_some
#print axioms FlacVerif.C02Hdr.C02H_blockSize_tag
#print axioms FlacVerif.C02Hdr.C02H_blockSize_extraBits
#print axioms FlacVerif.C02Hdr.C02H_blockSize_extraCount
#print axioms FlacVerif.C02Hdr.C02H_blockSize_blockSize
#print axioms FlacVerif.C02Hdr.C02H_blockSize_range_exact
#print axioms FlacVerif.C02Hdr.blockSize_fromSize_gen
#print axioms FlacVerif.C02Hdr.C02H_blockSize_code
#print axioms FlacVerif.C02Hdr.shl_mul_arm
#print axioms FlacVerif.C02Hdr.add_one_arm
#print axioms FlacVerif.C02Hdr.C02H_headerBlockSize
#print axioms FlacVerif.C02Hdr.C02H_sampleSizeTag
#print axioms FlacVerif.C02Hdr.C02H_sampleSizeBits
#print axioms FlacVerif.C02Hdr.ss_bits_eq
#print axioms FlacVerif.C02Hdr.C02H_sampleSize_fromTag
#print axioms FlacVerif.C02Hdr.C02H_sampleSize_bits_roundtrip
#print axioms FlacVerif.C02Hdr.flatten_boolThen
#print axioms FlacVerif.C02Hdr.orElse_ite
#print axioms FlacVerif.C02Hdr.tryInto_map
#print axioms FlacVerif.C02Hdr.orElse_none
#print axioms FlacVerif.C02Hdr.fromFreq_row
#print axioms FlacVerif.C02Hdr.C02H_sampleRate_fromFreq
#print axioms FlacVerif.C02Hdr.C02H_sampleRate_tag
#print axioms FlacVerif.C02Hdr.C02H_sampleRate_fixed_tags
#print axioms FlacVerif.C02Hdr.C02H_sampleRate_extraBits
#print axioms FlacVerif.C02Hdr.C02H_sampleRate_extraCount
#print axioms FlacVerif.C02Hdr.C02H_sampleRate_code
#print axioms FlacVerif.C02Hdr.C02H_sampleRate_fromTag_exact
#print axioms FlacVerif.C02Hdr.C02H_sampleRateCode_nodata
#print axioms FlacVerif.C02Hdr.C02H_sampleRateCode_data
#print axioms FlacVerif.C02Hdr.C02H_channel_channels
#print axioms FlacVerif.C02Hdr.C02H_channel_bpsOffset
#print axioms FlacVerif.C02Hdr.bps_offset_eq
#print axioms FlacVerif.C02Hdr.channels_eq
#print axioms FlacVerif.C02Hdr.C02H_channel_countBits
#print axioms FlacVerif.C02Hdr.C02H_channel_write
#print axioms FlacVerif.C02Hdr.C02H_channel_write_err
#print axioms FlacVerif.C02Hdr.C02H_channel_write_discrepancy
#print axioms FlacVerif.C02Hdr.C02H_channel_fromTag
#print axioms FlacVerif.C01_residual_strict
#print axioms FlacVerif.C01_residual_ofErrors
#print axioms FlacVerif.C01_search_partition
#print axioms FlacVerif.C01_residual_search
#print axioms FlacVerif.C01_diffs_fixed
#print axioms FlacVerif.C01_computeError
#print axioms FlacVerif.C01_fitsResidual64
#print axioms FlacVerif.C01_subframe_strict'
#print axioms FlacVerif.C01_subframe_strict
#print axioms FlacVerif.C01_subframe_strict_nolpc
#print axioms FlacVerif.C01_frame_strict
#print axioms FlacVerif.C01_frame_strict_nolpc
#print axioms FlacVerif.C02_utf8_strict
#print axioms FlacVerif.C01_stream_strict
#print axioms FlacVerif.C01_stream_strict_nolpc
#print axioms FlacVerif.C01StrictEx.C01_flag_needed
#print axioms FlacVerif.C01StrictEx.stereoFrame_leftSide
#print axioms FlacVerif.C08Gen3.leadingZeros_le
#print axioms FlacVerif.C08Gen3.shlU_top
#print axioms FlacVerif.C08Gen3.shrU_top
#print axioms FlacVerif.C08Gen3.shlU_top_drop
#print axioms FlacVerif.C08Gen3.tail_step
#print axioms FlacVerif.C08Gen3.tail_loop
#print axioms FlacVerif.C08Gen3.head_byte
#print axioms FlacVerif.C08Gen3.C08G3_encode_to_utf8like
#print axioms FlacVerif.C08Gen3.C08G3_utf8_cases
#print axioms FlacVerif.C08Gen3.C08G3_param
#print axioms FlacVerif.C08Gen3.C08G3_bytesize
#print axioms FlacVerif.C08Gen3.C08G3_header_write_closed
#print axioms FlacVerif.C08Gen3.C08G3_header_write_exact_closed
