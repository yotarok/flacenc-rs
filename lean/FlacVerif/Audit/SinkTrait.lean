-- axiom audit of the lemmas on the provided methods of `trait BitSink` (Lemmas/SinkTrait.lean), of `idealRun_append`
-- (Lemmas/IdealRun.lean), of the laws of the checked arithmetic of Gen/Sink.lean (Lemmas/SinkPrelude.lean) and of
-- `getElem?_bytesToBits` (Lemmas/BitStore.lean)
import FlacVerif.Lemmas.SinkTrait
import FlacVerif.Lemmas.IdealRun
import FlacVerif.Lemmas.BitStore
#print axioms FlacVerif.C12Gen.runReq_append
#print axioms FlacVerif.C12Gen.runReq_single
#print axioms FlacVerif.C12Gen.forF_calls
#print axioms FlacVerif.C12Gen.forF_map
#print axioms FlacVerif.C12Gen.whileF_zeros
#print axioms FlacVerif.C12Gen.expand_fit
#print axioms FlacVerif.C12Gen.default_twoc
#print axioms FlacVerif.C12Gen.default_bytes_aligned
#print axioms FlacVerif.C12Gen.default_zeros
#print axioms FlacVerif.C11.idealRun_append
#print axioms FlacVerif.Gen.Sink.addU_ok
#print axioms FlacVerif.Gen.Sink.subU_ok
#print axioms FlacVerif.Gen.Sink.mulU_ok
#print axioms FlacVerif.Gen.Sink.shAmt_ok
#print axioms FlacVerif.Gen.Sink.req_ok
#print axioms FlacVerif.getElem?_bytesToBits
