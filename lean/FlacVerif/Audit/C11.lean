-- GENERATED by ./check: axiom audit of the property theorems
import FlacVerif.Theorems.C11
import FlacVerif.Theorems.C11Gen
import FlacVerif.Lemmas.SinkTrait
import FlacVerif.Lemmas.IdealRun
#print axioms FlacVerif.C11.C11_word_refines
#print axioms FlacVerif.C11.C11_byte_refines
#print axioms FlacVerif.C11.C11_word_run
#print axioms FlacVerif.C11.C11_byte_run
#print axioms FlacVerif.C11.C11_sinks_agree
#print axioms FlacVerif.C11.idealRun_writes
#print axioms FlacVerif.C11.idealRun_zero_words
#print axioms FlacVerif.C11.C11_defaults_op
#print axioms FlacVerif.C11.expand_valid_length
#print axioms FlacVerif.C11.C11_defaults
#print axioms FlacVerif.C11Gen.C11G_widths
#print axioms FlacVerif.C11Gen.C11G_consts
#print axioms FlacVerif.C11Gen.neg_mod_of_dvd
#print axioms FlacVerif.C11Gen.neg_and_mask
#print axioms FlacVerif.C11Gen.C11G_paddings
#print axioms FlacVerif.C11Gen.modify_last
#print axioms FlacVerif.C11Gen.C11G_word_paddings
#print axioms FlacVerif.C11Gen.C11G_word_write_msbs_impl
#print axioms FlacVerif.C11Gen.shr_shl_of_zeros
#print axioms FlacVerif.C11Gen.one_le_shl
#print axioms FlacVerif.C11Gen.gen_mask
#print axioms FlacVerif.C11Gen.maskMsbs_eq
#print axioms FlacVerif.C11Gen.C11G_word_write_msbs
#print axioms FlacVerif.C11Gen.C11G_word_write_lsbs
#print axioms FlacVerif.C11Gen.C11G_word_write
#print axioms FlacVerif.C11Gen.C11G_word_align_to_byte
#print axioms FlacVerif.C11Gen.C11G_word_write_zeros
#print axioms FlacVerif.C11Gen.word_forO_write
#print axioms FlacVerif.C11Gen.C11G_word_write_bytes_aligned
#print axioms FlacVerif.C11Gen.C11G_word_write_twoc
#print axioms FlacVerif.C11Gen.C11G_word_step
#print axioms FlacVerif.C11Gen.bytesToBits_len
#print axioms FlacVerif.C11Gen.ideal_length_le
#print axioms FlacVerif.C11Gen.idealRun_length_le
#print axioms FlacVerif.C11Gen.run_of_step
#print axioms FlacVerif.C11Gen.C11G_word_run
#print axioms FlacVerif.C11Gen.C11G_byte_paddings
#print axioms FlacVerif.C11Gen.C11G_byte_align_to_byte
#print axioms FlacVerif.C11Gen.C11G_byte_write_bytes_aligned
#print axioms FlacVerif.C11Gen.C11G_byte_write_zeros
#print axioms FlacVerif.C11Gen.forO_eq_loop
#print axioms FlacVerif.C11Gen.leBytes_getElem?
#print axioms FlacVerif.C11Gen.byte_loop
#print axioms FlacVerif.C11Gen.byte_write_msbs_unfold
#print axioms FlacVerif.C11Gen.gen_tail
#print axioms FlacVerif.C11Gen.lastMut_none_iff
#print axioms FlacVerif.C11Gen.C11G_byte_write_msbs
#print axioms FlacVerif.C11Gen.C11G_byte_write_lsbs
#print axioms FlacVerif.C11Gen.C11G_byte_write
#print axioms FlacVerif.C11Gen.C11G_byte_write_twoc
#print axioms FlacVerif.C11Gen.C11G_byte_step
#print axioms FlacVerif.C11Gen.C11G_byte_run
#print axioms FlacVerif.C11Gen.C11G_word_inv
#print axioms FlacVerif.C11Gen.C11G_byte_inv
#print axioms FlacVerif.C11Gen.reqCall_recReq
#print axioms FlacVerif.C11Gen.runReq_recReq
#print axioms FlacVerif.C11Gen.C11G_default_write_twoc
#print axioms FlacVerif.C11Gen.C11G_default_write_bytes_aligned
#print axioms FlacVerif.C11Gen.C11G_default_write_zeros
#print axioms FlacVerif.C11Gen.C11G_new
#print axioms FlacVerif.C11Gen.C11G_accessors
#print axioms FlacVerif.C11Gen.C11G_with_capacity
#print axioms FlacVerif.C11Gen.C11G_word_write_msbs_impl_debug_assert
#print axioms FlacVerif.C11Gen.C11G_release_outside_valid
#print axioms FlacVerif.C11Gen.wtbs_unfold
#print axioms FlacVerif.C11Gen.beBytes_length
#print axioms FlacVerif.C11Gen.wtbsBody_eq
#print axioms FlacVerif.C11Gen.flatMap_beBytes_length
#print axioms FlacVerif.C11Gen.wtbs_loop
#print axioms FlacVerif.C11Gen.C11G_write_to_byte_slice
#print axioms FlacVerif.C11Gen.C11G_write_to_byte_slice_panics
#print axioms FlacVerif.C11Gen.word_beBytes_toNat
#print axioms FlacVerif.C11Gen.C11G_word_write_to_byte_slice
#print axioms FlacVerif.C11Gen.C11G_byte_write_to_byte_slice
#print axioms FlacVerif.C11Gen.C11G_storage
#print axioms FlacVerif.C12Gen.runReq_append
#print axioms FlacVerif.C12Gen.runReq_single
#print axioms FlacVerif.C12Gen.forF_calls
#print axioms FlacVerif.C12Gen.forF_map
#print axioms FlacVerif.C12Gen.whileF_zeros
#print axioms FlacVerif.C12Gen.reqCall_of_fit
#print axioms FlacVerif.C12Gen.expand_fit
#print axioms FlacVerif.C12Gen.write_twoc_eq
#print axioms FlacVerif.C12Gen.default_twoc
#print axioms FlacVerif.C12Gen.default_bytes_aligned
#print axioms FlacVerif.C12Gen.default_zeros
#print axioms FlacVerif.expand_writeZeros
#print axioms FlacVerif.C11.idealRun_append
#print axioms FlacVerif.OpsL.idealRun_take_prefix
