-- GENERATED by ./check: axiom audit of the property theorems
import FlacVerif.Theorems.C04
import FlacVerif.Theorems.C01Strict
import FlacVerif.Theorems.C03Gen
import FlacVerif.Theorems.C03GenMem
#print axioms FlacVerif.C04.fold_bounds
#print axioms FlacVerif.C04.C04_bounds
#print axioms FlacVerif.C04.C04_empty
#print axioms FlacVerif.C01_residual_strict
#print axioms FlacVerif.C01_residual_ofErrors
#print axioms FlacVerif.C01_search_partition
#print axioms FlacVerif.C01_residual_search
#print axioms FlacVerif.C01_diffs_fixed
#print axioms FlacVerif.C01_computeError
#print axioms FlacVerif.C01_fitsResidual64
#print axioms FlacVerif.C01_subframe_strict'
#print axioms FlacVerif.C01_subframe_strict
#print axioms FlacVerif.C01_subframe_strict_nolpc
#print axioms FlacVerif.C01_frame_strict
#print axioms FlacVerif.C01_frame_strict_nolpc
#print axioms FlacVerif.C02_utf8_strict
#print axioms FlacVerif.C01_stream_strict
#print axioms FlacVerif.C01_stream_strict_nolpc
#print axioms FlacVerif.C01StrictEx.C01_flag_needed
#print axioms FlacVerif.C01StrictEx.stereoFrame_leftSide
#print axioms FlacVerif.C03Gen.bindM_none
#print axioms FlacVerif.C03Gen.pureM_apply
#print axioms FlacVerif.C03Gen.req_false
#print axioms FlacVerif.C03Gen.tryM_some
#print axioms FlacVerif.C03Gen.tryM_none
#print axioms FlacVerif.C03Gen.tryRet_some
#print axioms FlacVerif.C03Gen.tryRet_none
#print axioms FlacVerif.C03Gen.bindO_some
#print axioms FlacVerif.C03Gen.reqO_true
#print axioms FlacVerif.C03Gen.reqO_false
#print axioms FlacVerif.C03Gen.C03G_with_stream_info
#print axioms FlacVerif.C03Gen.C03G_stream_new
#print axioms FlacVerif.C03Gen.C03G_lens_eq
#print axioms FlacVerif.C03Gen.C03G_lens_get
#print axioms FlacVerif.C03Gen.C03G_lens_panics
#print axioms FlacVerif.C03Gen.C03G_lens_get_set
#print axioms FlacVerif.C03Gen.C03G_lens_set_get
#print axioms FlacVerif.C03Gen.C03G_lens_set_set
#print axioms FlacVerif.C03Gen.C03G_lens_frame
#print axioms FlacVerif.C03Gen.C03G_accessors
#print axioms FlacVerif.C03Gen.C03G_frames
#print axioms FlacVerif.C03Gen.C03G_frame_block_size
#print axioms FlacVerif.C03Gen.update_frame_info_eq
#print axioms FlacVerif.C03Gen.C03G_update_frame_info
#print axioms FlacVerif.C03Gen.C03G_update_frame_info_panics_reserved
#print axioms FlacVerif.C03Gen.C03G_update_frame_info_panics_count
#print axioms FlacVerif.C03Gen.C03G_update_frame_info_panics_total
#print axioms FlacVerif.C03Gen.C03G_update_frame_info_model
#print axioms FlacVerif.C03Gen.C03G_set_md5_digest
#print axioms FlacVerif.C03Gen.C03G_set_md5_digest_panics
#print axioms FlacVerif.C03Gen.C03G_add_frame
#print axioms FlacVerif.C03Gen.C03G_add_frame_panics
#print axioms FlacVerif.C03Gen.foldInfo_cons
#print axioms FlacVerif.C03Gen.foldInfo_fields
#print axioms FlacVerif.C03Gen.foldlM_update_frame_info
#print axioms FlacVerif.C03Gen.foldlM_add_frame
#print axioms FlacVerif.C03Gen.C03G_add_frames
#print axioms FlacVerif.C03Gen.set_block_sizes_ok
#print axioms FlacVerif.C03Gen.finishInfo_foldInfo
#print axioms FlacVerif.C03Gen.C03G_assemble
#print axioms FlacVerif.C03Gen.C03G_driver_unfold
#print axioms FlacVerif.C03Gen.C03G_driver_multithread
#print axioms FlacVerif.C03Gen.C03G_driver_args
#print axioms FlacVerif.C03Gen.C20G_driver_featPar
#print axioms FlacVerif.C03Gen.encode_fixed_size_frame_multithread
#print axioms FlacVerif.C03Gen.C20G_driver_nopar_ignores_multithread
#print axioms FlacVerif.C03Gen.C20G_driver_par_forwards
#print axioms FlacVerif.C03Gen.loopM_succ
#print axioms FlacVerif.C03Gen.loopBody_stop
#print axioms FlacVerif.C03Gen.loopBody_read_err
#print axioms FlacVerif.C03Gen.loopBody_block
#print axioms FlacVerif.C03Gen.C03G_loop
#print axioms FlacVerif.C03Gen.C03G_loop_read_err
#print axioms FlacVerif.C03Gen.C03G_loop_encode_err
#print axioms FlacVerif.C03Gen.run_stream
#print axioms FlacVerif.C03Gen.epilogue_apply
#print axioms FlacVerif.C03Gen.streamInfo_new_some
#print axioms FlacVerif.C03Gen.withSize_shape
#print axioms FlacVerif.C03Gen.withSize_bs
#print axioms FlacVerif.C03Gen.driver_entry
#print axioms FlacVerif.C03Gen.C03G_driver_run
#print axioms FlacVerif.C03Gen.C03G_driver_empty
#print axioms FlacVerif.C03Gen.memOps_exhausted
#print axioms FlacVerif.C03Gen.memOps_len_hint
#print axioms FlacVerif.C03Gen.C03G_driver_mem_empty
#print axioms FlacVerif.C03Gen.chanOk_choose
#print axioms FlacVerif.C03Gen.shape_of_implHeader
#print axioms FlacVerif.C03Gen.genFrame_shape
#print axioms FlacVerif.C03Gen.encode_frame_shape
#print axioms FlacVerif.C03Gen.C03G_encoder_frame_ok
#print axioms FlacVerif.C03Gen.chanOf_fbToCoding
#print axioms FlacVerif.C03Gen.streamAfter_nil
#print axioms FlacVerif.C03Gen.streamAfter_cons
#print axioms FlacVerif.C03Gen.foldInfo_one
#print axioms FlacVerif.C03Gen.current_frame_number_succ
#print axioms FlacVerif.C03Gen.contract_frame
#print axioms FlacVerif.C03GenErr.C03G_frames_contract_pre
#print axioms FlacVerif.C03Gen.Delivers.toPre
#print axioms FlacVerif.C03Gen.Run.ofPre
#print axioms FlacVerif.C03Gen.C03G_frames_contract
#print axioms FlacVerif.C03Gen.C03G_delivers_ctx
#print axioms FlacVerif.C03Gen.C03G_driver_contract
#print axioms FlacVerif.C03Gen.C03G_driver_contract_model_success
#print axioms FlacVerif.C03GenMem.interleave_slice
#print axioms FlacVerif.C03GenMem.block_range
#print axioms FlacVerif.C03GenMem.slice_bounds
#print axioms FlacVerif.C03GenMem.read_bounds
#print axioms FlacVerif.C03GenMem.next_head
#print axioms FlacVerif.C03GenMem.verifySamples_eq
#print axioms FlacVerif.C03GenMem.mem_read
#print axioms FlacVerif.C03GenMem.mem_block
#print axioms FlacVerif.C03GenMem.mem_block_bad
#print axioms FlacVerif.C03GenMem.mem_done
#print axioms FlacVerif.C03GenErr.DeliversPre.toDelivers
#print axioms FlacVerif.C03GenErr.mem_delivers_pre
#print axioms FlacVerif.C03GenMem.mem_delivers_aux
#print axioms FlacVerif.C03GenMem.C03G_mem_delivers
#print axioms FlacVerif.C03GenMem.mem_len_hint
#print axioms FlacVerif.C03GenMem.C03G_driver_mem_success
#print axioms FlacVerif.C03GenMem.C03G_driver_mem_stream
#print axioms FlacVerif.C03GenMem.C03G_stream_strict
#print axioms FlacVerif.C03GenMem.C03G_driver_mem_value
#print axioms FlacVerif.C03GenMem.streamToGen_image
#print axioms FlacVerif.C03GenMem.C03G_stream_ops_closed
#print axioms FlacVerif.C03GenMem.C03G_stream_write_strict
