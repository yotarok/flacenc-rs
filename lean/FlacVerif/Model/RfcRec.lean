/-
M8 (first half, recursion form) — `Rfc.analyze` with its two `while` loops (which Lean compiles to
`Loop.forIn`) replaced by structurally recursive
helpers over the same fuel. Everything else is the text of `Rfc.analyze`, verbatim.
-/
import FlacVerif.Model.Rfc
namespace FlacVerif
namespace Rfc

/-- The metadata loop of `analyze`:
`while !last ∧ fuel > 0 do fuel := fuel - 1; …; rest := rest.drop (4 + len); last := …; nblocks := nblocks + 1`.
Returns the final `(rest, last, nblocks)`. -/
def skipMetadata : (fuel : Nat) → (rest : List Nat) → (last : Bool) → (nblocks : Nat) → R (List Nat × Bool × Nat)
  | 0, rest, last, nblocks => pure (rest, last, nblocks)
  | fuel + 1, rest, last, nblocks =>
    if !last then do
      if rest.length < 4 then throw "stream: truncated metadata header"
      let h := rest.getD 0 0
      if h % 128 = 127 then throw "stream: forbidden metadata block type 127"
      if h % 128 = 0 then throw "stream: second STREAMINFO block"
      let len := rest.getD 1 0 * 65536 + rest.getD 2 0 * 256 + rest.getD 3 0
      if rest.length < 4 + len then throw "stream: truncated metadata block"
      skipMetadata fuel (rest.drop (4 + len)) (decide (h ≥ 128)) (nblocks + 1)
    else pure (rest, last, nblocks)

/-- The frame loop of `analyze`:
`while !rest.isEmpty ∧ fuel > 0 do fuel := fuel - 1; let (f, t, tb) ← readFrame info idx rest restBits;
frames := f :: frames; rest := t; restBits := tb; idx := idx + 1`. Returns the final `frames`
(most recent first). -/
def readFrames (info : Info) : (fuel : Nat) → (rest : List Nat) → (restBits : Bits) → (idx : Nat) →
    (frames : List FrameRep) → R (List FrameRep)
  | 0, _, _, _, frames => pure frames
  | fuel + 1, rest, restBits, idx, frames =>
    if !rest.isEmpty then do
      let (f, t, tb) ← readFrame info idx rest restBits
      readFrames info fuel t tb (idx + 1) (f :: frames)
    else pure frames

/-- `analyze`, with the two `while` loops replaced by `skipMetadata` and `readFrames`. -/
def analyzeRec (md5 : List Nat → List Nat) (bytes : List Nat) : R Report := do
  if bytes.take 4 ≠ [0x66, 0x4C, 0x61, 0x43] then throw "stream: missing fLaC marker"
  let rest := bytes.drop 4
  -- first metadata block: STREAMINFO
  if rest.length < 4 then throw "stream: truncated metadata header"
  let h0 := rest.getD 0 0
  if h0 % 128 ≠ 0 then throw "stream: first metadata block is not STREAMINFO"
  let len0 := rest.getD 1 0 * 65536 + rest.getD 2 0 * 256 + rest.getD 3 0
  if len0 ≠ 34 then throw "stream: STREAMINFO length is not 34"
  if rest.length < 38 then throw "stream: truncated STREAMINFO"
  let sb := bytesToBits ((rest.drop 4).take 34)
  let (minBlock, sb) ← readNat 16 sb "min block size"
  let (maxBlock, sb) ← readNat 16 sb "max block size"
  let (minFrame, sb) ← readNat 24 sb "min frame size"
  let (maxFrame, sb) ← readNat 24 sb "max frame size"
  let (rate, sb) ← readNat 20 sb "sample rate"
  let (ch1, sb) ← readNat 3 sb "channels"
  let (bps1, sb) ← readNat 5 sb "bits per sample"
  let (totalSamples, sb) ← readNat 36 sb "total samples"
  let md5v := (List.range 16).map fun i => bitsToNat ((sb.drop (8 * i)).take 8)
  let info : Info := ⟨minBlock, maxBlock, minFrame, maxFrame, rate, ch1 + 1, bps1 + 1, totalSamples, md5v⟩
  if minBlock < 16 then throw "STREAMINFO: minimum block size below 16"
  if maxBlock < 16 then throw "STREAMINFO: maximum block size below 16"
  if minBlock > maxBlock then throw "STREAMINFO: minimum block size above maximum"
  if rate = 0 then throw "STREAMINFO: sample rate 0"
  if info.bps < 4 then throw "STREAMINFO: bits per sample below 4"
  if maxFrame ≠ 0 ∧ minFrame > maxFrame then throw "STREAMINFO: minimum frame size above maximum"
  -- further metadata blocks
  let (rest, last, nblocks) ← skipMetadata bytes.length (rest.drop 38) (decide (h0 ≥ 128)) 0
  if !last then throw "stream: no metadata block is flagged last"
  -- frames
  let frames ← readFrames info bytes.length rest (bytesToBits rest) 0 []
  let framesR := frames.reverse
  -- stream-level consistency
  let nfr := framesR.length
  for (f, i) in framesR.zipIdx do
    if i + 1 < nfr then
      if f.blockSize ≠ maxBlock then throw s!"stream: non-final frame {i} does not hold the fixed block size"
      if f.blockSize < minBlock then throw s!"stream: non-final frame {i} is shorter than the minimum block size"
    else
      if f.blockSize > maxBlock then throw "stream: final frame larger than the maximum block size"
    if maxFrame ≠ 0 ∧ (f.byteLen < minFrame ∨ f.byteLen > maxFrame) then
      throw s!"stream: frame {i} has {f.byteLen} bytes, outside STREAMINFO's frame size bounds"
  let sumN := (framesR.map (·.blockSize)).foldl (· + ·) 0
  if totalSamples ≠ 0 ∧ sumN ≠ totalSamples then throw "stream: total sample count differs from the frames"
  let audio : List (List Int) := (List.range info.channels).map fun c => framesR.flatMap fun f => f.channels.getD c []
  if md5v.any (· ≠ 0) then
    let k := (info.bps + 7) / 8
    let pcm := (interleave audio).flatMap (toLeBytes k)
    if md5 pcm ≠ md5v then throw "stream: MD5 signature differs from the decoded audio"
  pure ⟨info, nblocks, framesR, audio⟩

end Rfc
end FlacVerif
