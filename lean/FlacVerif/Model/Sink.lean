/-
M1 — the two in-memory bit sinks of `src/bitsink.rs`, mirrored statement by statement,
and the ideal MSB-first bit string they are meant to implement.

`none` = the Rust code panics (dev profile: arithmetic overflow / shift overflow / unwrap).
Import-free.
-/
import FlacVerif.Model.Bits
namespace FlacVerif

/-- One call on the `BitSink` trait. `w` is the operand width (8, 16, 32, 64), `v` the operand
as a natural number (`v < 2^w`), `n` a bit count. -/
inductive Op
  | alignToByte
  | writeLsbs (w v n : Nat)
  | writeMsbs (w v n : Nat)
  | write (w v : Nat)
  | writeTwoc (v : Int) (n : Nat)
  | writeZeros (n : Nat)
  | writeBytesAligned (bs : List Nat)
  deriving Repr, DecidableEq

def validWidth (w : Nat) : Bool := w == 8 || w == 16 || w == 32 || w == 64

/-- The operations the property quantifies over. -/
def Op.Valid : Op → Prop
  | .alignToByte => True
  | .writeLsbs w v n => validWidth w = true ∧ v < 2 ^ w ∧ n ≤ w
  | .writeMsbs w v n => validWidth w = true ∧ v < 2 ^ w ∧ n ≤ w
  | .write w v => validWidth w = true ∧ v < 2 ^ w
  | .writeTwoc v n => 1 ≤ n ∧ n ≤ 64 ∧ -(2 ^ 63 : Int) ≤ v ∧ v < (2 ^ 63 : Int)
  | .writeZeros _ => True
  | .writeBytesAligned bs => ∀ b ∈ bs, b < 256

instance : (op : Op) → Decidable op.Valid
  | .alignToByte => by unfold Op.Valid; infer_instance
  | .writeLsbs .. => by unfold Op.Valid; infer_instance
  | .writeMsbs .. => by unfold Op.Valid; infer_instance
  | .write .. => by unfold Op.Valid; infer_instance
  | .writeTwoc .. => by unfold Op.Valid; infer_instance
  | .writeZeros _ => by unfold Op.Valid; infer_instance
  | .writeBytesAligned _ => by unfold Op.Valid; infer_instance

/-- What an ideal MSB-first bit string appends for `op` when its current length is `len`. -/
def Op.ideal (len : Nat) : Op → Bits
  | .alignToByte => List.replicate ((8 - len % 8) % 8) false
  | .writeLsbs _ v n => natToBits n v
  | .writeMsbs w v n => (natToBits w v).take n
  | .write w v => natToBits w v
  | .writeTwoc v n => twoc n v
  | .writeZeros n => List.replicate n false
  | .writeBytesAligned bs => List.replicate ((8 - len % 8) % 8) false ++ bytesToBits bs

/-! ### checked primitive operations (Rust dev-profile semantics) -/

/-- `a - b` on `usize`; panics on underflow. -/
def chkSub (a b : Nat) : Option Nat := if b ≤ a then some (a - b) else none
/-- `v << k`; panics if `k ≥ w`. -/
def chkShl {w : Nat} (v : BitVec w) (k : Nat) : Option (BitVec w) := if k < w then some (v <<< k) else none
/-- `v >> k`; panics if `k ≥ w`. -/
def chkShr {w : Nat} (v : BitVec w) (k : Nat) : Option (BitVec w) := if k < w then some (v >>> k) else none

/-- `val &= !((T::one() << (T::BITS - n)) - T::one())` — keeps the `n` most significant bits. -/
def maskMsbs {w : Nat} (val : BitVec w) (n : Nat) : Option (BitVec w) := do
  let k ← chkSub w n
  let one ← chkShl (1#w) k
  -- `- T::one()` cannot underflow: `one << k` is non-zero for `k < w`
  some (val &&& ~~~(one - 1#w))

/-! ### `MemSink<u64>` -/

structure WordSink where
  storage : List (BitVec 64)
  len : Nat
  deriving Repr, DecidableEq

namespace WordSink

def empty : WordSink := ⟨[], 0⟩

/-- `((!bitlength).wrapping_add(1)) & 63` -/
def paddings (s : WordSink) : Nat := (64 - s.len % 64) % 64
/-- `((!bitlength).wrapping_add(1)) & 7` -/
def paddingsToByte (s : WordSink) : Nat := (8 - s.len % 8) % 8

/-- `write_msbs_impl` (bitsink.rs:398-426) on the operand already widened to `u64` and moved to
the top (`val <<= 64 - T::BITS`). `wrapping_shr/shl` reduce the shift amount mod 64. -/
def writeMsbsImpl (s : WordSink) (val : BitVec 64) (n : Nat) : WordSink :=
  let r := s.paddings
  let lastSetter := val >>> ((64 - r) % 64)
  let val' := val <<< (r % 64)
  let storage :=
    -- `if let Some(p) = self.storage.last_mut() { *p |= last_setter }`
    if r ≠ 0 then s.storage.modify (s.storage.length - 1) (· ||| lastSetter) else s.storage
  let storage := if r < n then storage ++ [val'] else storage
  ⟨storage, s.len + n⟩

/-- widening `T → u64` followed by `val <<= 64 - T::BITS`. -/
def widen {w : Nat} (v : BitVec w) : BitVec 64 := (v.setWidth 64) <<< (64 - w)

/-- `write_msbs` (bitsink.rs, fixed version: returns early on `n == 0`). -/
def writeMsbs {w : Nat} (s : WordSink) (val : BitVec w) (n : Nat) : Option WordSink :=
  if n = 0 then some s else do
  let val ← maskMsbs val n
  some (s.writeMsbsImpl (widen val) n)

/-- `write_lsbs` (fixed version: returns early on `n == 0`). -/
def writeLsbs {w : Nat} (s : WordSink) (val : BitVec w) (n : Nat) : Option WordSink :=
  if n = 0 then some s else do
  let k ← chkSub w n
  let v ← chkShl val k
  some (s.writeMsbsImpl (widen v) n)

def alignToByte (s : WordSink) : WordSink := { s with len := s.len + s.paddingsToByte }

def writeZeros (s : WordSink) (n : Nat) : WordSink :=
  let pad := s.paddings
  let n' := n - pad     -- saturating_sub
  let elems := (n' + 63) / 64
  ⟨s.storage ++ List.replicate elems 0, s.len + n⟩

def step (s : WordSink) : Op → Option WordSink
  | .alignToByte => some s.alignToByte
  | .writeLsbs w v n => s.writeLsbs (BitVec.ofNat w v) n
  | .writeMsbs w v n => s.writeMsbs (BitVec.ofNat w v) n
  | .write w v => s.writeMsbs (BitVec.ofNat w v) w
  | .writeTwoc v n => do
      -- `(val << (64 - bits_per_sample)) as u64`
      let k ← chkSub 64 n
      let sh ← chkShl (BitVec.ofInt 64 v) k
      s.writeMsbs sh n
  | .writeZeros n => some (s.writeZeros n)
  | .writeBytesAligned bs =>
      bs.foldlM (fun (s : WordSink) b => s.writeMsbs (BitVec.ofNat 8 b) 8) s.alignToByte

def bitAt (s : WordSink) (i : Nat) : Bool := (s.storage[i / 64]?.getD 0).getMsbD (i % 64)

/-- The bits written so far. -/
def abs (s : WordSink) : Bits := (List.range s.len).map s.bitAt

/-- `as_slice` seen as bytes (`write_to_byte_slice` with a destination of exactly the right size). -/
def exportBytes (s : WordSink) : List Nat :=
  (s.storage.flatMap (fun v => (List.range 8).map (fun i => (v.toNat >>> (56 - 8 * i)) % 256))).take ((s.len + 7) / 8)

end WordSink

/-! ### `MemSink<u8>` (`ByteSink`) -/

structure ByteSink where
  storage : List (BitVec 8)
  len : Nat
  deriving Repr, DecidableEq

namespace ByteSink

def empty : ByteSink := ⟨[], 0⟩

def paddings (s : ByteSink) : Nat := (8 - s.len % 8) % 8

/-- `write_msbs` of `MemSink<u8>` (bitsink.rs:329-374), little-endian target. -/
def writeMsbs {w : Nat} (s : ByteSink) (val : BitVec w) (n : Nat) : Option ByteSink :=
  if n = 0 then some s else do
  let r := s.paddings
  let len' := s.len + n
  let val ← maskMsbs val n
  if r ≠ 0 then do
    let sh ← chkSub w r
    let b ← chkShr val sh
    -- `*self.storage.last_mut().unwrap() |= b`
    if s.storage.isEmpty then none else
    let storage := s.storage.modify (s.storage.length - 1) (· ||| b.setWidth 8)
    let val ← chkShl val r
    if r ≥ n then some ⟨storage, len'⟩ else
    tailBytes storage len' val (n - r)
  else tailBytes s.storage len' val n
where
  tailBytes {w : Nat} (storage : List (BitVec 8)) (len' : Nat) (val : BitVec w) (n : Nat) : Option ByteSink := do
    let bytesToWrite := n / 8
    -- `bytes[size_of::<T>() - i - 1]` of the little-endian representation: i-th most significant byte
    let full := (List.range bytesToWrite).map (fun i => (val >>> (w - 8 * (i + 1))).setWidth 8)
    let storage := storage ++ full
    let n := n % 8
    if n > 0 then do
      let val ← chkShl val (bytesToWrite * 8)
      let sh ← chkSub w 8
      let tail ← chkShr val sh
      some ⟨storage ++ [tail.setWidth 8], len'⟩
    else some ⟨storage, len'⟩

def writeLsbs {w : Nat} (s : ByteSink) (val : BitVec w) (n : Nat) : Option ByteSink :=
  if n = 0 then some s else do
  let k ← chkSub w n
  let v ← chkShl val k
  s.writeMsbs v n

/-- `write` (bitsink.rs:304-315). -/
def write {w : Nat} (s : ByteSink) (val : BitVec w) : Option ByteSink := do
  let nlen := s.len + w
  let tail := s.paddings
  let s ← if tail > 0 then s.writeMsbs val tail else some s
  let val ← chkShl val tail
  let bytes := (List.range (w / 8)).map (fun i => (val >>> (w - 8 * (i + 1))).setWidth 8)
  some ⟨s.storage ++ bytes, nlen⟩

def alignToByte (s : ByteSink) : ByteSink := { s with len := s.len + s.paddings }

def writeBytesAligned (s : ByteSink) (bs : List Nat) : ByteSink :=
  let s := s.alignToByte
  ⟨s.storage ++ bs.map (BitVec.ofNat 8), s.len + 8 * bs.length⟩

def writeZeros (s : ByteSink) (n : Nat) : ByteSink :=
  let pad := s.paddings
  if n ≤ pad then { s with len := s.len + n } else
  let n' := n - pad
  let bytes := (n' + 7) / 8
  ⟨s.storage ++ List.replicate bytes 0, s.len + pad + n'⟩

def step (s : ByteSink) : Op → Option ByteSink
  | .alignToByte => some s.alignToByte
  | .writeLsbs w v n => s.writeLsbs (BitVec.ofNat w v) n
  | .writeMsbs w v n => s.writeMsbs (BitVec.ofNat w v) n
  | .write w v => s.write (BitVec.ofNat w v)
  | .writeTwoc v n => do
      let k ← chkSub 64 n
      let sh ← chkShl (BitVec.ofInt 64 v) k
      s.writeMsbs sh n
  | .writeZeros n => some (s.writeZeros n)
  | .writeBytesAligned bs => some (s.writeBytesAligned bs)

def bitAt (s : ByteSink) (i : Nat) : Bool := (s.storage[i / 8]?.getD 0).getMsbD (i % 8)

def abs (s : ByteSink) : Bits := (List.range s.len).map s.bitAt

def exportBytes (s : ByteSink) : List Nat := s.storage.map BitVec.toNat

end ByteSink

/-! ### A user sink that only implements the required methods

The trait's provided methods (`write_bytes_aligned`, `write_twoc`, `write_zeros`) expand into
required ones (bitsink.rs:115-122, 208-217, 261-270). -/

/-- Expansion of provided methods into required ones. -/
def Op.expand : Op → List Op
  | .writeBytesAligned bs => .alignToByte :: bs.map (fun b => .write 8 b)
  | .writeTwoc v n => [.writeMsbs 64 ((BitVec.ofInt 64 v <<< (64 - n)).toNat) n]
  | .writeZeros n => List.replicate (if n > 64 then (n - 1) / 64 else 0) (.write 64 0) ++
      [.writeMsbs 64 0 (if n > 64 then n - 64 * ((n - 1) / 64) else n)]
  | op => [op]

/-- Ideal bit string of a sequence of ops starting at length `len`. -/
def idealRun : Nat → List Op → Bits
  | _, [] => []
  | len, op :: ops => let b := op.ideal len; b ++ idealRun (len + b.length) ops

def WordSink.run (s : WordSink) (ops : List Op) : Option WordSink := ops.foldlM WordSink.step s
def ByteSink.run (s : ByteSink) (ops : List Op) : Option ByteSink := ops.foldlM ByteSink.step s

end FlacVerif
